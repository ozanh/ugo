import UgoVerif.Spec.Ast
/-
  The syntax whose compilation, outside function literals, emits no jump and patches no operand:
  no `&&`, `||`, `?:`, `if`, `for`, `for-in`, `try`, `break`/`continue` at the top level (function
  literals may contain anything).  Such code does not depend on the absolute position at which it
  is emitted (`Equi`, Proofs/CompileShift.lean).
-/
namespace UgoVerif.Ast

mutual
def jfE : Expr → Bool
  | .paren _ e => jfE e
  | .binary _ tok l r => tok != tLAnd && tok != tLOr && jfE l && jfE r
  | .unary _ _ e => jfE e
  | .array _ es => jfEs es
  | .map _ ms => jfMs ms
  | .selector _ e s => jfE e && jfE s
  | .index _ e i => jfE e && jfE i
  | .slice _ e lo hi =>
    jfE e && (match lo with | some x => jfE x | none => true) && (match hi with | some x => jfE x | none => true)
  | .call _ _ f args => jfE f && jfEs args
  | .cond _ _ _ _ => false
  | _ => true

def jfEs : List Expr → Bool
  | [] => true
  | e :: r => jfE e && jfEs r

def jfMs : List (String × Expr) → Bool
  | [] => true
  | (_, v) :: r => jfE v && jfMs r
end

def jfVals : List (Option Expr) → Bool
  | [] => true
  | v :: r => (match v with | some x => jfE x | none => true) && jfVals r

def jfSpecs : List (Option Nat × List (Pos × String) × List (Option Expr)) → Bool
  | [] => true
  | (_, _, vals) :: r => jfVals vals && jfSpecs r

mutual
def jfS : Stmt → Bool
  | .empty _ => true
  | .expr _ e => jfE e
  | .incdec _ _ _ e => jfE e
  | .assign _ _ lhs rhs => jfEs lhs && jfEs rhs
  | .block _ body => jfSs body
  | .return_ _ e => (match e with | some x => jfE x | none => true)
  | .throw _ e => (match e with | some x => jfE x | none => true)
  | .declParam _ _ => true
  | .declGlobal _ _ => true
  | .declValue _ _ specs => jfSpecs specs
  | _ => false

def jfSs : List Stmt → Bool
  | [] => true
  | s :: r => jfS s && jfSs r
end

end UgoVerif.Ast

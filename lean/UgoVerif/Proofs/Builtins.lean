import UgoVerif.Model.Builtins
/-
  C19: a builtin body is shown free of panics along its own case tree, and what each callee asks for is a
  lemma of its own here: `Call.Get` below `Len` (the read loops of the adapters and of the hand-written
  bodies stay below it), the Go library callees inside their documented domains, the arithmetic of `pad`.
-/
namespace UgoVerif.Proofs.Builtins
open UgoVerif UgoVerif.Go UgoVerif.Gen.Adapters UgoVerif.Model.Builtins

theorem get_lt {c : Call} {n : Nat} (h : n < c.len) : ∃ v, c.get n = .ok v := by
  unfold Call.get
  by_cases h1 : n < c.args.length
  · simp only [h1, if_true]
    rw [List.getElem?_eq_getElem h1]; exact ⟨_, rfl⟩
  · have h2 : n - c.args.length < c.vargs.length := by unfold Call.len at h; omega
    simp only [h1, if_false]
    rw [List.getElem?_eq_getElem h2]; exact ⟨_, rfl⟩

/-- the converse: past the argument list `Get` does panic (the panic site is real) -/
theorem get_ge {c : Call} {n : Nat} (h : c.len ≤ n) : ∃ m, c.get n = .panic m := by
  unfold Call.get
  have h1 : ¬ n < c.args.length := by unfold Call.len at h; omega
  have h2 : c.vargs.length ≤ n - c.args.length := by unfold Call.len at h; omega
  simp only [h1, if_false]
  rw [List.getElem?_eq_none h2]; exact ⟨_, rfl⟩

theorem ne_panic {α} {r : Res α} {m : String} (h : r.isPanic = false) : r ≠ .panic m := by
  rintro rfl; cases h

theorem get_ne_panic {c : Call} {n : Nat} {m : String} (h : n < c.len) : c.get n ≠ .panic m := by
  obtain ⟨v, hv⟩ := get_lt h
  rw [hv]; nofun

theorem readAll_no_panic (c : Call) (reads : List Nat) :
    (∀ i ∈ reads, i < c.len) → (readAll c reads).isPanic = false := by
  fun_induction readAll c reads <;> intro h
  any_goals rfl
  next hr ih => exact absurd hr (ne_panic (ih fun j hj => h j (by simp [hj])))
  next hx => exact absurd hx (get_ne_panic (h _ (by simp)))

theorem argPhase_no_panic (a : Adapter) (hs : adapterSafe a = true) (c : Call) :
    (argPhase a c).isPanic = false := by
  unfold adapterSafe at hs
  fun_cases argPhase a c
  · rfl
  -- every read is below the count that was checked; with no check there is no read
  next n hc hlen =>
    rw [hc] at hs
    exact readAll_no_panic c _ fun i hi => by have := List.all_eq_true.mp hs i hi; simp at this; omega
  next hc =>
    rw [hc] at hs
    rw [show a.reads = [] by simpa using hs]; rfl

theorem getRange_no_panic (c : Call) (k i : Nat) : i + k ≤ c.len → (getRange c i k).isPanic = false := by
  fun_induction getRange c i k <;> intro h
  any_goals rfl
  next hr ih => exact absurd hr (ne_panic (ih (by omega)))
  next hx => exact absurd hx (get_ne_panic (by omega))

theorem getRange_ne_panic {c : Call} {i k : Nat} {m : String} (h : i + k ≤ c.len) : getRange c i k ≠ .panic m :=
  ne_panic (getRange_no_panic c k i h)

theorem goMake_ne_panic {E : Env} {n : Int} {m : String} (h0 : 0 ≤ n) (h1 : n ≤ E.makeLimit) : goMake E n ≠ .panic m := by
  unfold goMake; rw [if_neg (by omega)]; nofun

theorem sliceTo_ne_panic {α} {xs : List α} {n : Int} {m : String} (h0 : 0 ≤ n) (h1 : n ≤ xs.length) :
    sliceTo xs n ≠ .panic m := by
  unfold sliceTo; rw [if_neg (by omega)]; nofun

theorem libGrow_ne_panic {E : Env} {n : Int} {m : String} (h0 : 0 ≤ n) (h1 : n ≤ E.makeLimit) : libGrow E n ≠ .panic m := by
  unfold libGrow; rw [if_neg (by omega), if_neg (by omega)]; nofun

theorem libRepeat_ne_panic {E : Env} {s : Bytes} {count : Int} {m : String} (hL : 4294967296 ≤ E.makeLimit)
    (h0 : 0 ≤ count) (hle : (s.length : Int) * count ≤ 4294967296) : libRepeat E s count ≠ .panic m := by
  unfold libRepeat
  rw [if_neg (by omega), if_neg (by unfold maxInt; omega), if_neg (by omega)]
  nofun

theorem goDiv_ok {a b q : Int} (h : goDiv a b = .ok q) : q = Int.tdiv a b := by
  unfold goDiv at h
  split at h
  · cases h
  · exact (Res.ok.inj h).symm

theorem goDiv_ne_panic {a b : Int} {m : String} (h : b ≠ 0) : goDiv a b ≠ .panic m := by
  unfold goDiv; rw [if_neg h]; nofun

theorem shift_len {c c' : Call} {v : Val} (h : c.shift = some (v, c')) : c'.len + 1 = c.len := by
  revert h
  fun_cases Call.shift c <;> intro h <;> cases h <;> simp +arith [Call.len, *]

theorem shift_none {c : Call} (h : c.shift = none) : c.len = 0 := by
  revert h
  fun_cases Call.shift c <;> intro h <;> cases h
  simp [Call.len, *]

theorem appendBytes_no_panic : ∀ (xs : List Val) (acc : Bytes) (n : Nat), (appendBytes acc n xs).isPanic = false
  | [], _, _ => rfl
  | v :: rest, acc, n => by
    unfold appendBytes
    cases byteOf v with
    | some b => exact appendBytes_no_panic rest _ _
    | none => rfl

theorem bytesLoop_no_panic : ∀ (xs : List Val) (acc : Bytes) (n : Nat), (bytesLoop acc n xs).isPanic = false
  | [], _, _ => rfl
  | v :: rest, acc, n => by
    unfold bytesLoop
    cases byteOf v with
    | some b => exact bytesLoop_no_panic rest _ _
    | none => rfl

theorem length_flatten_replicate {α} (s : List α) : ∀ k : Nat, (List.replicate k s).flatten.length = k * s.length
  | 0 => by simp
  | k + 1 => by
    simp [List.replicate_succ, length_flatten_replicate s k, Nat.succ_mul]; omega

theorem wrap64_id {x : Int} (h1 : minInt ≤ x) (h2 : x ≤ maxInt) : wrap64 x = x := by
  unfold wrap64; unfold minInt at h1; unfold maxInt at h2; omega

/-- The guard of `repeat` (builtins.go) and `strings.Repeat` (stdlib/strings/module.go),
    `n > 0 && count > maxAllocLen/n`, divides so as not to overflow; this is the product bound it gives. -/
theorem mul_le_of_le_div {n : Nat} {count M : Int} (hn : 0 < n)
    (h : count ≤ M / (n : Int)) : (n : Int) * count ≤ M := by
  have hn' : (0 : Int) < (n : Int) := by exact_mod_cast hn
  calc (n : Int) * count ≤ (n : Int) * (M / (n : Int)) := Int.mul_le_mul_of_nonneg_left h (Int.le_of_lt hn')
    _ ≤ M := Int.mul_ediv_self_le (Int.ne_of_gt hn')

/-- `r := (diff-len(padWith))/len(padWith) + 2` is the count `pad` (stdlib/strings/module.go) hands to
    `strings.Repeat`: it is positive, and the copies are at most `diff + 2 * L` and at least `diff` bytes. -/
theorem pad_arith (diff L q : Int) (hd0 : 0 < diff) (hL0 : 0 < L) (hq : q = Int.tdiv (diff - L) L) :
    0 < q + 2 ∧ q + 2 ≤ diff + 2 ∧ L * (q + 2) ≤ diff + 2 * L ∧ diff < L * (q + 2) + 1 := by
  by_cases hneg : diff - L < 0
  · have hx0 : 0 ≤ L - diff := by omega
    have hxl : L - diff < L := by omega
    have h1 : Int.tdiv (diff - L) L = 0 := by
      have : diff - L = -(L - diff) := by omega
      rw [this, Int.neg_tdiv, Int.tdiv_eq_ediv_of_nonneg hx0, Int.ediv_eq_zero_of_lt hx0 hxl]; rfl
    rw [h1] at hq; subst hq
    refine ⟨by omega, by omega, by omega, by omega⟩
  · have hnn : 0 ≤ diff - L := by omega
    have h1 : Int.tdiv (diff - L) L = (diff - L) / L := Int.tdiv_eq_ediv_of_nonneg hnn
    have h2 : L * ((diff - L) / L) ≤ diff - L := Int.mul_ediv_self_le (by omega)
    have h3 : diff - L < L * ((diff - L) / L) + L := Int.lt_mul_ediv_self_add hL0
    have h4 : 0 ≤ (diff - L) / L := Int.ediv_nonneg hnn (by omega)
    have h5 : (diff - L) / L ≤ diff - L := by
      have : (diff - L) / L * 1 ≤ (diff - L) / L * L := Int.mul_le_mul_of_nonneg_left (by omega) h4
      have h6 : (diff - L) / L * L = L * ((diff - L) / L) := Int.mul_comm _ _
      omega
    rw [h1] at hq; subst hq
    have hm : L * ((diff - L) / L + 2) = L * ((diff - L) / L) + 2 * L := by
      rw [Int.mul_add, Int.mul_comm L 2]
    refine ⟨by omega, by omega, by omega, by omega⟩

theorem libRepeat_len (E : Env) (hM : (E.makeLimit : Int) ≤ maxInt) (s : Bytes) (count : Int)
    (h0 : 0 ≤ count) (hs : 0 < s.length) (hle : (s.length : Int) * count ≤ E.makeLimit) :
    ∃ r, libRepeat E s count = .ok r ∧ (r.length : Int) = (s.length : Int) * count := by
  unfold libRepeat
  have h1 : ¬ count < 0 := by omega
  have h2 : ¬ (s.length : Int) * count > maxInt := by omega
  have h3 : ¬ (s.length : Int) * count > (E.makeLimit : Int) := by omega
  have h4 : s.isEmpty = false := by
    cases s with
    | nil => simp at hs
    | cons _ _ => rfl
  simp only [h1, h2, h3, if_false, h4]
  refine ⟨_, rfl, ?_⟩
  simp only [Bool.false_eq_true, if_false]
  rw [length_flatten_replicate]
  have : ((count.toNat : Nat) : Int) = count := Int.toNat_of_nonneg h0
  rw [Int.natCast_mul, this, Int.mul_comm]

/-- `hL` is room for the at most `diff + 2 * L ≤ 2^31 + 2 * B` bytes of the copies (`pad_arith`), so
    `strings.Repeat` grants them. -/
theorem pad_copies (E : Env) (B : Nat) (hL : 2 * B + 4294967296 ≤ E.makeLimit) (hM : (E.makeLimit : Int) ≤ maxInt)
    {diff q : Int} {padWith : Bytes} (hd0 : 0 < diff) (hd : diff ≤ 2147483647)
    (hw0 : 0 < padWith.length) (hw : padWith.length ≤ B)
    (hq : goDiv (wrap64 (diff - padWith.length)) padWith.length = .ok q) :
    ∃ rep, libRepeat E padWith (wrap64 (q + 2)) = .ok rep ∧ diff ≤ rep.length := by
  have hMx : (E.makeLimit : Int) ≤ 9223372036854775807 := by unfold maxInt at hM; exact hM
  rw [wrap64_id (by unfold minInt; omega) (by unfold maxInt; omega)] at hq
  obtain ⟨a1, a2, a3, a4⟩ := pad_arith diff padWith.length q hd0 (by omega) (goDiv_ok hq)
  rw [wrap64_id (by unfold minInt; omega) (by unfold maxInt; omega)]
  obtain ⟨rep, hrep, hlen⟩ := libRepeat_len E hM padWith (q + 2) (by omega) hw0 (by omega)
  exact ⟨rep, hrep, by omega⟩

theorem padCont_no_panic (E : Env) (B : Nat) (hL : 2 * B + 4294967296 ≤ E.makeLimit)
    (hM : (E.makeLimit : Int) ≤ maxInt) (s : Bytes) (padLen diff : Int) (left : Bool) (padWith : Bytes)
    (hp0 : 0 ≤ padLen) (hp : padLen ≤ 2147483647) (hd0 : 0 < diff) (hd : diff ≤ 2147483647)
    (hw0 : 0 < padWith.length) (hw : padWith.length ≤ B) :
    (padCont E s padLen diff left padWith).isPanic = false := by
  fun_cases padCont E s padLen diff left padWith
  any_goals rfl
  -- the four library calls of the body, in its order: the division, `Grow`, `Repeat`, the slice
  next hx => exact absurd hx (goDiv_ne_panic (by omega))
  next hx => exact absurd hx (libGrow_ne_panic hp0 (by omega))
  next hq _ _ _ _ hx =>
    obtain ⟨rep, h, _⟩ := pad_copies E B hL hM hd0 hd hw0 hw hq
    exact nomatch h.symm.trans hx
  next hq _ _ _ _ hr _ hx =>
    obtain ⟨rep, h, hl⟩ := pad_copies E B hL hM hd0 hd hw0 hw hq
    cases Res.ok.inj (h.symm.trans hr)
    exact absurd hx (sliceTo_ne_panic (by omega) hl)

/-- `pad` forms `diff = padLen - len(s)` only after the tests `padLen ≤ maxAllocLen` and `len(s) < padLen`:
    it does not wrap and is positive -/
theorem padCont_guarded (E : Env) (B : Nat) (hL : 2 * B + 4294967296 ≤ E.makeLimit)
    (hM : (E.makeLimit : Int) ≤ maxInt) (s : Bytes) (padLen : Int) (left : Bool) (padWith : Bytes)
    (hbig : ¬ padLen > maxAllocLen) (hle : ¬ padLen ≤ (s.length : Int))
    (hw0 : 0 < padWith.length) (hw : padWith.length ≤ B) :
    (padCont E s padLen (wrap64 (padLen - s.length)) left padWith).isPanic = false := by
  unfold maxAllocLen at hbig
  rw [wrap64_id (by unfold minInt; omega) (by unfold maxInt; omega)]
  exact padCont_no_panic E B hL hM s padLen _ left padWith (by omega) (by omega) (by omega) (by omega) hw0 hw

end UgoVerif.Proofs.Builtins

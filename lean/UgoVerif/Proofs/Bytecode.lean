import UgoVerif.Model.Bytecode
/-
  Big-endian operands: `beBytes` and `beVal` are inverse both ways, and Go's or/shift reads are `beVal`.  Over the
  widths it understands, `readOperands` is a function of the bytes (`decodeArgs`, `readOperands_eq`): its `Res` is
  an index panic exactly when the bytes run out.
-/
namespace UgoVerif.Proofs.Bytecode
open UgoVerif.Go UgoVerif.Gen.Opcodes UgoVerif.Model.Bytecode

theorem beBytes_length (w v : Nat) : (beBytes w v).length = w := by
  induction w with
  | zero => rfl
  | succ w ih => simp [beBytes, ih]

theorem foldl_be (bs : Bytes) (acc : Nat) :
    bs.foldl (fun acc b => acc * 256 + b.toNat) acc = acc * 256 ^ bs.length + beVal bs := by
  induction bs generalizing acc with
  | nil => simp [beVal]
  | cons b bs ih =>
    simp only [List.foldl_cons, beVal, List.length_cons]
    rw [ih, ih (0 * 256 + b.toNat)]
    simp [Nat.pow_succ, Nat.add_mul, Nat.mul_assoc, Nat.add_assoc, Nat.mul_comm 256]

theorem beVal_cons (b : UInt8) (bs : Bytes) : beVal (b :: bs) = b.toNat * 256 ^ bs.length + beVal bs := by
  simp only [beVal, List.foldl_cons]
  rw [foldl_be]; simp [beVal]

theorem beVal_beBytes (w v : Nat) : beVal (beBytes w v) = v % 256 ^ w := by
  induction w with
  | zero => simp [beBytes, beVal, Nat.mod_one]
  | succ w ih =>
    rw [beBytes, beVal_cons, ih, beBytes_length]
    have h1 : (UInt8.ofNat (v >>> (8 * w))).toNat = v / 256 ^ w % 256 := by
      simp [Nat.shiftRight_eq_div_pow, Nat.pow_mul]
    rw [h1, Nat.mod_pow_succ]
    rw [Nat.add_comm, Nat.mul_comm]

theorem beVal_lt (bs : Bytes) : beVal bs < 256 ^ bs.length := by
  induction bs with
  | nil => simp [beVal]
  | cons b bs ih =>
    rw [beVal_cons, List.length_cons, Nat.pow_succ]
    have := b.toNat_lt
    calc b.toNat * 256 ^ bs.length + beVal bs < b.toNat * 256 ^ bs.length + 256 ^ bs.length := by omega
      _ = (b.toNat + 1) * 256 ^ bs.length := by rw [Nat.add_mul, Nat.one_mul]
      _ ≤ 256 * 256 ^ bs.length := Nat.mul_le_mul_right _ (by omega)
      _ = 256 ^ bs.length * 256 := Nat.mul_comm _ _

theorem beVal_beBytes_lt {w v : Nat} (h : v < 256 ^ w) : beVal (beBytes w v) = v := by
  rw [beVal_beBytes, Nat.mod_eq_of_lt h]

/-- Go's `int(b) | int(a)<<8 | …` on bytes is addition: the shifted parts do not overlap -/
theorem or_shl (x y k : Nat) (h : x < 2 ^ k) : x ||| (y <<< k) = y * 2 ^ k + x := by
  rw [Nat.or_comm, ← Nat.shiftLeft_add_eq_or_of_lt h, Nat.shiftLeft_eq]

theorem or2_beVal (a b : UInt8) : b.toNat ||| a.toNat <<< 8 = beVal [a, b] := by
  have hb := b.toNat_lt
  rw [or_shl _ _ 8 (by omega)]
  simp [beVal]

theorem or4_beVal (a b c d : UInt8) :
    d.toNat ||| c.toNat <<< 8 ||| b.toNat <<< 16 ||| a.toNat <<< 24 = beVal [a, b, c, d] := by
  have ha := a.toNat_lt
  have hb := b.toNat_lt
  have hc := c.toNat_lt
  have hd := d.toNat_lt
  rw [or_shl _ _ 8 (by omega), or_shl _ _ 16 (by omega), or_shl _ _ 24 (by omega)]
  simp [beVal]
  omega

theorem foldl_be_inj : ∀ (as bs : Bytes) (x y : Nat), as.length = bs.length →
    as.foldl (fun acc b => acc * 256 + b.toNat) x = bs.foldl (fun acc b => acc * 256 + b.toNat) y →
    x = y ∧ as = bs := by
  intro as
  induction as with
  | nil =>
    intro bs x y hl h
    cases bs with
    | nil => simpa using h
    | cons b bs => simp at hl
  | cons a as ih =>
    intro bs x y hl h
    cases bs with
    | nil => simp at hl
    | cons b bs =>
      simp only [List.foldl_cons] at h
      obtain ⟨h1, h2⟩ := ih bs _ _ (by simpa using hl) h
      have ha := a.toNat_lt
      have hb := b.toNat_lt
      have : a.toNat = b.toNat := by omega
      have hab : a = b := UInt8.toNat_inj.mp this
      exact ⟨by omega, by rw [hab, h2]⟩

theorem beVal_inj (as bs : Bytes) (hl : as.length = bs.length) (h : beVal as = beVal bs) : as = bs :=
  (foldl_be_inj as bs 0 0 hl h).2


/-- every width of the list is one `ReadOperands` understands -/
def Supported (ws : List Nat) : Prop := ∀ w ∈ ws, readOperandsWidths.contains w = true

instance (ws : List Nat) : Decidable (Supported ws) := by unfold Supported; infer_instance

theorem v2_table_supported : ∀ ws ∈ opcodeOperandsTable, Supported ws := by decide

theorem v2_supported {op : Nat} {ws : List Nat} (h : opcodeOperands op = some ws) : Supported ws :=
  v2_table_supported ws (List.mem_of_getElem? h)

def decodeArgs : List Nat → Bytes → List Nat
  | [], _ => []
  | w :: ws, bs => beVal (bs.take w) :: decodeArgs ws (bs.drop w)

theorem readOperands_eq : ∀ {ws : List Nat}, Supported ws → ∀ bs : Bytes,
    readOperands ws bs = if ws.sum ≤ bs.length then .ok (decodeArgs ws bs, bs.drop ws.sum)
      else .panic "runtime error: index out of range"
  | [], _, bs => by simp [readOperands, decodeArgs]
  | w :: ws, hs, bs => by
    rw [readOperands, if_pos (hs w (by simp)), readOperands_eq (fun x hx => hs x (by simp [hx])), List.length_drop,
      List.sum_cons, List.drop_drop, decodeArgs]
    by_cases h1 : w ≤ bs.length
    · by_cases h2 : ws.sum ≤ bs.length - w
      · rw [if_pos h1, if_pos h2, if_pos (by omega)]
      · rw [if_pos h1, if_neg h2, if_neg (by omega)]
    · rw [if_neg h1, if_neg (by omega)]

theorem decodeArgs_length : ∀ (ws : List Nat) (bs : Bytes), (decodeArgs ws bs).length = ws.length
  | [], _ => rfl
  | _ :: ws, bs => by simp [decodeArgs, decodeArgs_length ws]

theorem decodeArgs_append : ∀ (ws : List Nat) (bs X : Bytes), ws.sum ≤ bs.length →
    decodeArgs ws (bs ++ X) = decodeArgs ws bs
  | [], _, _, _ => rfl
  | w :: ws, bs, X, h => by
    rw [List.sum_cons] at h
    rw [decodeArgs, decodeArgs, List.take_append_of_le_length (by omega), List.drop_append_of_le_length (by omega),
      decodeArgs_append ws _ X (by rw [List.length_drop]; omega)]

theorem decodeArgs_take_append (ws : List Nat) (bs X : Bytes) (h : ws.sum ≤ bs.length) :
    decodeArgs ws (bs.take ws.sum ++ X) = decodeArgs ws bs := by
  rw [decodeArgs_append _ _ _ (by simp [h]), ← decodeArgs_append ws (bs.take ws.sum) (bs.drop ws.sum) (by simp [h]),
    List.take_append_drop]

theorem decodeArgs_cons_beBytes {w a : Nat} (h : a < 256 ^ w) (ws : List Nat) (Y : Bytes) :
    decodeArgs (w :: ws) (beBytes w a ++ Y) = a :: decodeArgs ws Y := by
  rw [decodeArgs, List.take_left' (beBytes_length w a), List.drop_left' (beBytes_length w a), beVal_beBytes_lt h]

theorem readOperands_append {ws : List Nat} (hs : Supported ws) {ob : Bytes} (hl : ob.length = ws.sum) (X : Bytes) :
    readOperands ws (ob ++ X) = .ok (decodeArgs ws ob, X) := by
  rw [readOperands_eq hs, if_pos (by simp; omega), decodeArgs_append _ _ _ (by omega), List.drop_left' hl]

theorem readOperands_not_err (ws : List Nat) : ∀ (bs : Bytes) (e : Err), readOperands ws bs ≠ .err e := by
  induction ws with
  | nil => simp [readOperands]
  | cons w ws ih =>
    intro bs e
    rw [readOperands]
    split
    · split
      · split
        · simp
        · rename_i heq; exact absurd heq (ih _ _)
        · simp
      · simp
    · exact ih _ _

theorem beBytes_beVal (bs : Bytes) : beBytes bs.length (beVal bs) = bs :=
  beVal_inj _ _ (beBytes_length _ _) (by rw [beVal_beBytes, Nat.mod_eq_of_lt (beVal_lt bs)])

theorem encodeArgs_decodeArgs : ∀ (ws : List Nat) (bs : Bytes), ws.sum ≤ bs.length →
    encodeArgs ws (decodeArgs ws bs) = bs.take ws.sum
  | [], _, _ => rfl
  | w :: ws, bs, h => by
    rw [List.sum_cons] at h
    have hb := beBytes_beVal (bs.take w)
    rw [List.length_take, Nat.min_eq_left (by omega)] at hb
    rw [decodeArgs, encodeArgs, hb, encodeArgs_decodeArgs ws _ (by rw [List.length_drop]; omega), List.sum_cons, List.take_add]


theorem decodeAux_cons {tbl : WidthTable} (hsup : ∀ op ws, tbl op = some ws → Supported ws)
    {f : Nat} {b : UInt8} {tail : Bytes} {i : Nat} {is : List Instr}
    (h : decodeAllAux tbl (f + 1) (b :: tail) i = some is) :
    ∃ ws is', tbl b.toNat = some ws ∧ ws.sum ≤ tail.length ∧
      decodeAllAux tbl f (tail.drop ws.sum) (i + (ws.sum + 1)) = some is' ∧
      is = ⟨i, b.toNat, decodeArgs ws tail⟩ :: is' := by
  rw [decodeAllAux] at h
  cases hws : tbl b.toNat with
  | none => simp [hws] at h
  | some ws =>
    rw [hws] at h
    simp only [readOperands_eq (hsup _ _ hws)] at h
    by_cases hsum : ws.sum ≤ tail.length
    · simp only [if_pos hsum] at h
      cases hrec : decodeAllAux tbl f (tail.drop ws.sum) (i + (ws.sum + 1)) with
      | none => rw [hrec] at h; simp at h
      | some is' =>
        rw [hrec] at h; simp at h
        exact ⟨ws, is', rfl, hsum, hrec, h.symm⟩
    · simp [if_neg hsum] at h

end UgoVerif.Proofs.Bytecode

import UgoVerif.Proofs.Frame
import UgoVerif.Proofs.Hoare
import UgoVerif.Proofs.Fetch
import Lean.Elab.Tactic
/-
  Running an `M` action on a state, rewriting rules for the monad structure, and the
  invariant calculus `Keeps P m` ("m preserves the state predicate P, whether it ends
  normally, with a Go panic or outside the model").
-/
namespace UgoVerif.VM
open UgoVerif UgoVerif.Go

/-- The same term as `Proofs.ModCache.exec` (Proofs/Frame.lean); a file that opens both namespaces gets the name
    ambiguous. -/
def exec {α} (m : M α) (s : State) : Except Exc α × State := m.run.run s

@[simp] theorem exec_pure {α} (a : α) (s : State) : exec (pure a : M α) s = (.ok a, s) := rfl

theorem exec_bind {α β} (m : M α) (f : α → M β) (s : State) :
    exec (m >>= f) s = match exec m s with
      | (.ok a, s') => exec (f a) s'
      | (.error e, s') => (.error e, s') := Proofs.ModCache.exec_bind m f s

theorem exec_map {α β} (f : α → β) (m : M α) (s : State) :
    exec (f <$> m) s = match exec m s with
      | (.ok a, s') => (.ok (f a), s')
      | (.error e, s') => (.error e, s') := by
  rw [map_eq_pure_bind, exec_bind]
  rcases exec m s with ⟨r, s'⟩
  cases r <;> rfl

@[simp] theorem exec_getS (s : State) : exec getS s = (.ok s, s) := rfl
@[simp] theorem exec_get (s : State) : exec (get : M State) s = (.ok s, s) := rfl
@[simp] theorem exec_modS (f : State → State) (s : State) : exec (modS f) s = (.ok (), f s) := rfl
@[simp] theorem exec_set (s' s : State) : exec (set s' : M Unit) s = (.ok (), s') := rfl
@[simp] theorem exec_throw {α} (e : Exc) (s : State) : exec (throw e : M α) s = (.error e, s) := rfl
@[simp] theorem exec_panic {α} (m : String) (s : State) : exec (panic m : M α) s = (.error (.panic m), s) := rfl
@[simp] theorem exec_unsupported {α} (m : String) (s : State) :
    exec (unsupported m : M α) s = (.error (.unsupported m), s) := rfl

theorem exec_setSp (v : Int) (s : State) : exec (setSp v) s = (.ok (), { s with sp := v }) := rfl
theorem exec_getIp (s : State) : exec getIp s = (.ok s.ip, s) := rfl
theorem exec_setIp (v : Int) (s : State) : exec (setIp v) s = (.ok (), { s with ip := v }) := rfl
theorem exec_bumpIp (n : Int) (s : State) : exec (bumpIp n) s = (.ok (), { s with ip := s.ip + n }) := rfl
theorem exec_curFrame (s : State) : exec VM.curFrame s = (.ok (s.frames[s.curFrame]!), s) := rfl
theorem exec_setCurFrame (g : Frame → Frame) (s : State) :
    exec (VM.setCurFrame g) s = (.ok (), { s with frames := s.frames.modify s.curFrame g }) := rfl

theorem exec_noteTrace (op : Nat) (s : State) :
    exec (noteTrace op) s =
      if s.traceOn = true then
        (.ok (), { s with trace := s.trace.push (s.frameIndex, s.ip, s.sp,
            (match (s.frames[s.curFrame]!).handlers with | some hs => hs.length | none => 0), op), steps := s.steps + 1 })
      else (.ok (), { s with steps := s.steps + 1 }) := Proofs.Fetch.exec_noteTrace op s

theorem exec_noteTrace_ok (op : Nat) (s : State) :
    ∃ tr st, exec (noteTrace op) s = (.ok (), { s with trace := tr, steps := st }) := by
  rw [exec_noteTrace]
  split
  · exact ⟨_, _, rfl⟩
  · exact ⟨s.trace, _, rfl⟩

theorem exec_copyV (v : V) (s : State) :
    exec (copyV v) s = match copyVal (s.heap.size + 2) s.heap v with
      | some (v', h') => (.ok v', { s with heap := h' })
      | none => (.error (.unsupported "Copy() of a value outside the modelled subset (host object, dangling or cyclic value)"), s) := by
  simp only [copyV, exec_bind, exec_getS]
  cases copyVal (s.heap.size + 2) s.heap v with
  | none => rfl
  | some p => rfl

theorem exec_bind_reader {α β} (m : M α) [hm : Pres Unchanged m] (f : α → M β) (s : State) :
    exec (m >>= f) s = match (exec m s).1 with
      | .ok a => exec (f a) s
      | .error e => (.error e, s) := by
  rw [exec_bind]
  have : (exec m s).2 = s := hm.h s
  rcases h : exec m s with ⟨r, s'⟩
  rw [h] at this; simp only at this; subst this
  cases r <;> rfl

def Keeps {α} (P : State → Prop) (m : M α) : Prop := ∀ s, P s → P (exec m s).2

namespace Keeps
variable {P : State → Prop}

theorem pure {α} (a : α) : Keeps P (Pure.pure a : M α) := fun _ h => h
theorem throw {α} (e : Exc) : Keeps P (MonadExcept.throw e : M α) := fun _ h => h
theorem panic {α} (m : String) : Keeps P (VM.panic m : M α) := fun _ h => h
theorem unsupported {α} (m : String) : Keeps P (VM.unsupported m : M α) := fun _ h => h
theorem getS : Keeps P VM.getS := fun _ h => h
theorem get : Keeps P (MonadState.get : M State) := fun _ h => h

theorem iff_hq {α} {m : M α} : Keeps P m ↔ Hq P (fun _ => P) (fun _ => P) m := by
  refine forall_congr' fun s => imp_congr_right fun _ => ?_
  show P (exec m s).2 ↔ match exec m s with | (.ok _, s') => P s' | (.error _, s') => P s'
  rcases exec m s with ⟨r, s'⟩
  cases r <;> exact Iff.rfl

theorem bind {α β} {m : M α} {f : α → M β} (hm : Keeps P m) (hf : ∀ a, Keeps P (f a)) :
    Keeps P (m >>= f) :=
  iff_hq.2 ((iff_hq.1 hm).bind fun a => iff_hq.1 (hf a))

theorem modS {f : State → State} (hf : ∀ s, P s → P (f s)) : Keeps P (VM.modS f) := fun s h => hf s h
theorem set' {s' : State} (h : P s') : Keeps P (MonadStateOf.set s' : M Unit) := fun _ _ => h

theorem ite {α} {c : Prop} [Decidable c] {a b : M α} (ha : Keeps P a) (hb : Keeps P b) :
    Keeps P (if c then a else b) := by split <;> assumption

theorem forIn_list {α β} (l : List α) (init : β) (f : α → β → M (ForInStep β))
    (hf : ∀ a b, Keeps P (f a b)) : Keeps P (forIn l init f) :=
  forIn_list_closed (T := fun m => Keeps P m) Keeps.pure Keeps.bind l init f hf

theorem forIn_range {β} (r : Std.Legacy.Range) (init : β) (f : Nat → β → M (ForInStep β))
    (hf : ∀ a b, Keeps P (f a b)) : Keeps P (forIn r init f) := by
  rw [Std.Legacy.Range.forIn_eq_forIn_range']
  exact forIn_list _ _ _ hf

theorem elim {α} {m : M α} (h : Keeps P m) (s : State) (hs : P s) : P (exec m s).2 := h s hs
theorem of_run {α} {m : M α} (hm : Keeps P m) {s : State} {r : Except Exc α} {s' : State}
    (hs : P s) (h : m.run.run s = (r, s')) : P s' := by
  have := hm s hs
  unfold exec at this
  rw [h] at this
  exact this
theorem intro' {α} {m : M α} (h : ∀ s, P s → P (exec m s).2) : Keeps P m := h

end Keeps
attribute [irreducible] Keeps

section
variable {R : State → State → Prop} {α : Type}

theorem Pres.keeps [StepRel R] {m : M α} (hm : Pres R m) (s0 : State) : Keeps (R s0) m :=
  Keeps.intro' fun s h => StepRel.trans h (hm.h s)

/-- `Keeps P` is itself a frame condition, that of the relation "if `P` held before, it holds after" -/
@[reducible] def Carries (P : State → Prop) (s t : State) : Prop := P s → P t

instance (P : State → Prop) : StepRel (Carries P) := ⟨fun _ h => h, fun h1 h2 h => h2 (h1 h)⟩

theorem Keeps.iff_pres {P : State → Prop} {m : M α} : Keeps P m ↔ Pres (Carries P) m :=
  ⟨fun h => ⟨h.elim⟩, fun h => Keeps.intro' h.h⟩

theorem Pres.inv {P : State → Prop} (hP : ∀ s s', P s → R s s' → P s') {m : M α} (hm : Pres R m) : Keeps P m :=
  Keeps.intro' fun s h => hP _ _ h (hm.h s)

end

/-- Closes the goal with a local hypothesis `∀ …, T (f …)` applied to the right arguments:
    the facts about join points and the induction hypotheses in the walks over `do` blocks
    (`ckeeps` and its relatives for other triples). -/
elab "keeps_hyp" : tactic => do
  let g ← Lean.Elab.Tactic.getMainGoal
  g.withContext do
    for d in (← Lean.getLCtx) do
      if d.isImplementationDetail then continue
      let ok ← Lean.commitWhen do
        try
          let gs ← Lean.Meta.withReducible (g.apply d.toExpr)
          pure gs.isEmpty
        catch _ => pure false
      if ok then
        Lean.Elab.Tactic.replaceMainGoal []
        return
    throwError "keeps_hyp: no hypothesis applies"

end UgoVerif.VM

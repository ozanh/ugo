import UgoVerif.Proofs.C07Throw
namespace UgoVerif.VM
open UgoVerif UgoVerif.Go

-- `throwFuel` alone is not `Live` (it counts the handlers of dead frames too), with the `throwF` it feeds it is
macro_rules | `(tactic| live_block) => `(tactic| exact live_throwWithFuel _)
macro_rules | `(tactic| live_block) => `(tactic| refine live_throwWithFuel_bind _ _ (fun _ => ?_))

@[lives] theorem live_throwGenErr (e : OpErr) : Live (throwGenErr e) := by unfold throwGenErr; live
@[lives] theorem live_failWith (e : OpErr) : Live (failWith e) := by unfold failWith; live

theorem live_callTail (fa : Addr) (free : Option (List Addr)) (bp ip nl : Int) : Live (callTail fa free bp ip nl) := by
  apply Live.intro'; intro s fr tr h
  rw [exec_callTail, exec_callTail]
  have e1 : (wf s fr tr).frameIndex = s.frameIndex := rfl
  rw [e1]
  by_cases h1 : s.frameIndex + 1 > (frameSize : Int) - 1
  · rw [if_pos h1, if_pos h1]; exact ⟨fr, tr, rfl, h⟩
  · rw [if_neg h1, if_neg h1]
    by_cases h2 : (decide (s.frameIndex < 0) || decide (s.frameIndex ≥ (frameSize : Int))) = true
    · rw [if_pos h2, if_pos h2]; exact ⟨fr, tr, rfl, h⟩
    · rw [if_neg h2, if_neg h2]
      simp only [Bool.or_eq_true, decide_eq_true_eq, not_or, Int.not_lt, ge_iff_le, Int.not_le] at h2
      have hlink := h.link
      have hk : s.frameIndex.toNat < frameSize := by simp only [frameSize] at h2 ⊢; omega
      have hkc : s.curFrame + 1 = s.frameIndex.toNat := by omega
      have hks : s.frameIndex.toNat < s.frames.size := by rw [h.shape]; exact hk
      have hkf : s.frameIndex.toNat < fr.size := by rw [h.size]; exact hks
      have hcs : s.curFrame < s.frames.size := by rw [h.shape]; exact h.curLt
      have hcf : s.curFrame < fr.size := by rw [h.size]; exact hcs
      refine ⟨(fr.modify s.curFrame fun f => { f with ip := ip + 2 }).modify s.frameIndex.toNat (enterF fa free bp), tr, rfl, ?_⟩
      refine ⟨by simp [pushed, h.size], ?_, ?_, ?_, by simp [pushed, h.shape], hk⟩
      · show FrameLive (((s.frames.modify s.curFrame _).modify s.frameIndex.toNat (enterF fa free bp))[s.frameIndex.toNat]!)
            (((fr.modify s.curFrame _).modify s.frameIndex.toNat (enterF fa free bp))[s.frameIndex.toNat]!)
        rw [dm_at _ _ _ _ _ hks (by omega), dm_at _ _ _ _ _ hkf (by omega)]
        exact ⟨rfl, rfl, rfl, rfl, rfl⟩
      · intro j hj
        have hj' : (j : Int) + 2 ≤ s.frameIndex + 1 := hj
        show ((s.frames.modify s.curFrame _).modify s.frameIndex.toNat (enterF fa free bp))[j]! =
            ((fr.modify s.curFrame _).modify s.frameIndex.toNat (enterF fa free bp))[j]!
        by_cases hjc : s.curFrame = j
        · subst hjc
          rw [dm_c _ _ _ _ _ hcs (by omega), dm_c _ _ _ _ _ hcf (by omega)]
          have := h.cur
          rw [this.eq_with]
        · rw [dm_other _ _ _ _ _ _ hjc (by omega), dm_other _ _ _ _ _ _ hjc (by omega)]
          exact h.below j (by omega)
      · show ((s.frameIndex.toNat : Nat) : Int) + 1 = s.frameIndex + 1
        omega
macro_rules | `(tactic| live_block) => `(tactic| exact live_callTail _ _ _ _ _)

@[lives] theorem live_callCompiled (fa : Addr) (na fl : Int) : Live (callCompiled fa na fl) := by
  unfold callCompiled; live
@[lives] theorem live_callObject (c : V) (na fl : Int) : Live (callObject c na fl) := by unfold callObject; live
@[lives] theorem live_callAny (c : V) (na fl : Int) : Live (callAny c na fl) := by unfold callAny; live
@[lives] theorem live_findFinally (fuel : Nat) : ∀ upto, Live (findFinally fuel upto) := by
  induction fuel with
  | zero => intro u; unfold findFinally; live
  | succ n ih => intro u; have ih' := ih u; unfold findFinally; live
@[lives] theorem live_execConstant : Live execConstant := by unfold execConstant; live
@[lives] theorem live_execGetLocal : Live execGetLocal := by unfold execGetLocal; live
@[lives] theorem live_execSetLocal : Live execSetLocal := by unfold execSetLocal; live
@[lives] theorem live_execAndJump : Live execAndJump := by unfold execAndJump; live
@[lives] theorem live_execOrJump : Live execOrJump := by unfold execOrJump; live
@[lives] theorem live_execTrue : Live execTrue := by unfold execTrue; live
@[lives] theorem live_execFalse : Live execFalse := by unfold execFalse; live
@[lives] theorem live_execCall : Live execCall := by unfold execCall; live
@[lives] theorem live_execCallName : Live execCallName := by unfold execCallName; live
@[lives] theorem live_execGetBuiltin : Live execGetBuiltin := by unfold execGetBuiltin; live
@[lives] theorem live_execClosure : Live execClosure := by unfold execClosure; live
@[lives] theorem live_execJump : Live execJump := by unfold execJump; live
@[lives] theorem live_execJumpFalsy : Live execJumpFalsy := by unfold execJumpFalsy; live
@[lives] theorem live_execGetGlobal : Live execGetGlobal := by unfold execGetGlobal; live
@[lives] theorem live_execSetGlobal : Live execSetGlobal := by unfold execSetGlobal; live
@[lives] theorem live_execArray : Live execArray := by unfold execArray; live
@[lives] theorem live_execMap : Live execMap := by unfold execMap; live
@[lives] theorem live_execGetIndex : Live execGetIndex := by unfold execGetIndex; live
@[lives] theorem live_execSetIndex : Live execSetIndex := by unfold execSetIndex; live
@[lives] theorem live_execSliceIndex : Live execSliceIndex := by unfold execSliceIndex; live
@[lives] theorem live_execGetFree : Live execGetFree := by unfold execGetFree; live
@[lives] theorem live_execSetFree : Live execSetFree := by unfold execSetFree; live
@[lives] theorem live_execGetLocalPtr : Live execGetLocalPtr := by unfold execGetLocalPtr; live
@[lives] theorem live_execGetFreePtr : Live execGetFreePtr := by unfold execGetFreePtr; live
@[lives] theorem live_execDefineLocal : Live execDefineLocal := by unfold execDefineLocal; live
@[lives] theorem live_execNull : Live execNull := by unfold execNull; live
@[lives] theorem live_execPop : Live execPop := by unfold execPop; live
@[lives] theorem live_execIterInit : Live execIterInit := by unfold execIterInit; live
@[lives] theorem live_execLoadModule : Live execLoadModule := by unfold execLoadModule; live
@[lives] theorem live_execStoreModule : Live execStoreModule := by unfold execStoreModule; live
@[lives] theorem live_execSetupTry : Live execSetupTry := by unfold execSetupTry; live
@[lives] theorem live_execSetupCatch : Live execSetupCatch := by unfold execSetupCatch; live
@[lives] theorem live_execSetupFinally : Live execSetupFinally := by unfold execSetupFinally; live
@[lives] theorem live_execThrow : Live execThrow := by unfold execThrow; live
@[lives] theorem live_execFinalizer : Live execFinalizer := by unfold execFinalizer; live
@[lives] theorem live_execNoOp : Live execNoOp := by unfold execNoOp; live
@[lives] theorem live_execBinaryOp (F : FloatOps) : Live (execBinaryOp F) := by unfold execBinaryOp; live
@[lives] theorem live_execUnary (F : FloatOps) : Live (execUnary F) := by unfold execUnary; live
@[lives] theorem live_execEqual (F : FloatOps) (op : Nat) : Live (execEqual F op) := by unfold execEqual; live
@[lives] theorem live_execIterNext (op : Nat) : Live (execIterNext op) := by unfold execIterNext; live
@[lives] theorem live_execUnknown (op : Nat) : Live (execUnknown op) := by unfold execUnknown; live

@[lives] theorem live_retTail : Live retTail := by
  apply Live.intro'; intro s fr tr h
  rw [exec_retTail, exec_retTail]
  have e1 : (wf s fr tr).frameIndex = s.frameIndex := rfl
  rw [e1]
  by_cases h1 : (s.frameIndex == 1) = true
  · rw [if_pos h1, if_pos h1]; exact ⟨fr, tr, rfl, h⟩
  · rw [if_neg h1, if_neg h1]
    have hFR1 : FR { s with frames := s.frames.modify s.curFrame clearF } (fr.modify s.curFrame clearF) :=
      h.modify s.curFrame clearF fun _ _ e => ⟨rfl, rfl, e.bp, rfl, e.discard⟩
    by_cases h2 : (decide (s.frameIndex - 2 < 0) || decide (s.frameIndex - 2 ≥ (frameSize : Int))) = true
    · rw [if_pos h2, if_pos h2]
      exact ⟨fr.modify s.curFrame clearF, tr, rfl, hFR1⟩
    · rw [if_neg h2, if_neg h2]
      simp only [Bool.or_eq_true, decide_eq_true_eq, not_or, Int.not_lt, ge_iff_le, Int.not_le] at h2
      have hlink := h.link
      have hp : (((s.frameIndex - 2).toNat : Nat) : Int) + 2 ≤ s.frameIndex := by omega
      have hpe : (s.frames.modify s.curFrame clearF)[(s.frameIndex - 2).toNat]! =
          (fr.modify s.curFrame clearF)[(s.frameIndex - 2).toNat]! := hFR1.below _ hp
      have e2 : ((wf s fr tr).frames.modify (wf s fr tr).curFrame clearF)[(s.frameIndex - 2).toNat]! =
          (s.frames.modify s.curFrame clearF)[(s.frameIndex - 2).toNat]! := hpe.symm
      rw [e2]
      have hFR2 : FR (popped s) (fr.modify s.curFrame clearF) :=
        hFR1.down rfl (by show (((s.frameIndex - 2).toNat : Nat) : Int) + 1 = s.frameIndex - 1; omega)
          (by show s.frameIndex - 1 < s.frameIndex; omega)
      have hpop : popped (wf s fr tr) = wf (popped s) (fr.modify s.curFrame clearF) tr := by
        unfold popped wf
        simp only
        rw [show (fr.modify s.curFrame clearF)[(s.frameIndex - 2).toNat]! =
          (s.frames.modify s.curFrame clearF)[(s.frameIndex - 2).toNat]! from hpe.symm]
      rw [hpop]
      cases ((s.frames.modify s.curFrame clearF)[(s.frameIndex - 2).toNat]!).fn with
      | none => exact ⟨_, tr, rfl, hFR2⟩
      | some a => exact ⟨_, tr, rfl, hFR2⟩

@[lives] theorem live_retHead : Live retHead := by unfold retHead; live

@[lives] theorem live_execReturn : Live execReturn := by
  rw [execReturn_eq]
  exact Live.bind live_retHead (fun _ => live_retTail)

@[lives] theorem live_dispatch (F : FloatOps) (op : Nat) : Live (dispatch F op) := by
  apply dispatch_cases (P := Live) <;> intros <;> simp only [lives]

theorem live_step (F : FloatOps) : Live (step F) := by unfold step; live

theorem live_handlePanic (m : String) : Live (handlePanic m) := by unfold handlePanic; live

theorem LiveS.of_live {α} {m : M α} (hm : Live m) {s t : State} (h : LiveS s t) :
    Both LiveS (exec m s) (exec m t) := by
  obtain ⟨fr, tr, rfl, hfr⟩ := h
  obtain ⟨fr', tr', e, h'⟩ := hm.elim s fr tr hfr
  rw [e]
  exact ⟨rfl, fr', tr', rfl, h'⟩

theorem liveRel_LiveS (F : FloatOps) : LiveRel F LiveS :=
  { toLive := fun h => h.toLive
    step := fun _ _ h => LiveS.of_live (live_step F) h
    panic := fun m _ _ h => LiveS.of_live (live_handlePanic m) h
    abort := fun s t h => by
      obtain ⟨fr, tr, rfl, hfr⟩ := h
      exact ⟨fr, tr, rfl, hfr.of_eq rfl rfl rfl⟩
    ccf := fun s t h => (LiveS.of_live live_clearCurrentFrame h).2 }

end UgoVerif.VM

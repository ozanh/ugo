import UgoVerif.Proofs.VMLiveRun
/-
  `Live m`: `m` gives the same result on two states that differ only in dead frame data (frames above the
  current one, the saved `ip` of the current frame) and in the recorded trace: the situation after
  `Clear`/`SetBytecode`, where the stacks agree completely.  The second state is the first with its frames
  replaced by a `FR`-related array, so only the frame accesses need an argument.
-/
namespace UgoVerif.VM
open UgoVerif UgoVerif.Go

def Live {α} (m : M α) : Prop :=
  ∀ s fr tr, FR s fr → ∃ fr' tr', exec m (wf s fr tr) = ((exec m s).1, wf (exec m s).2 fr' tr') ∧ FR (exec m s).2 fr'

theorem FrameLive.eq_with {a b : Frame} (h : FrameLive a b) : b = { a with ip := b.ip } := by
  cases a; cases b; cases h; simp_all

theorem FrameLive.refl' (a : Frame) : FrameLive a a := ⟨rfl, rfl, rfl, rfl, rfl⟩

theorem FR.of_eq {s s' : State} {fr : Array Frame} (h : FR s fr) (e1 : s'.frames = s.frames)
    (e2 : s'.curFrame = s.curFrame) (e3 : s'.frameIndex = s.frameIndex) : FR s' fr :=
  ⟨by rw [e1]; exact h.size, by rw [e1, e2]; exact h.cur, by rw [e1, e3]; exact h.below, by rw [e2, e3]; exact h.link,
    by rw [e1]; exact h.shape, by rw [e2]; exact h.curLt⟩

theorem FR.modify {s : State} {fr : Array Frame} (h : FR s fr) (n : Nat) (g : Frame → Frame)
    (hg : ∀ a b, FrameLive a b → FrameLive (g a) (g b)) :
    FR { s with frames := s.frames.modify n g } (fr.modify n g) :=
  ⟨by simp [h.size], h.cur.modify h.size.symm n hg, fun i hi => getElem!_modify_congr h.size.symm (h.below i hi) n g,
    h.link, by simp [h.shape], h.curLt⟩

/-- making a frame below the current one the current frame (a return, or the unwinding of `throw`):
    the frames below the current one are equal on both sides -/
theorem FR.down {s s' : State} {fr : Array Frame} (h : FR s fr) (ef : s'.frames = s.frames)
    (hl : (s'.curFrame : Int) + 1 = s'.frameIndex) (hlt : s'.frameIndex < s.frameIndex) : FR s' fr := by
  have := h.link
  have := h.curLt
  refine ⟨by rw [ef]; exact h.size, ?_, fun i hi => ?_, hl, by rw [ef]; exact h.shape, by omega⟩
  · rw [ef, h.below s'.curFrame (by omega)]; exact FrameLive.refl' _
  · rw [ef]; exact h.below i (by omega)

namespace Live

theorem pure {α} (a : α) : Live (Pure.pure a : M α) := fun _ fr tr h => ⟨fr, tr, rfl, h⟩
theorem panic {α} (m : String) : Live (VM.panic m : M α) := fun _ fr tr h => ⟨fr, tr, rfl, h⟩
theorem unsupported {α} (m : String) : Live (VM.unsupported m : M α) := fun _ fr tr h => ⟨fr, tr, rfl, h⟩
theorem throw {α} (e : Exc) : Live (MonadExcept.throw e : M α) := fun _ fr tr h => ⟨fr, tr, rfl, h⟩

theorem bind {α β} {m : M α} {f : α → M β} (hm : Live m) (hf : ∀ a, Live (f a)) : Live (m >>= f) := by
  intro s fr tr h
  obtain ⟨fr1, tr1, e1, h1⟩ := hm s fr tr h
  rw [exec_bind, exec_bind, e1]
  rcases hx : exec m s with ⟨r, s1⟩
  rw [hx] at h1
  cases r with
  | error e => exact ⟨fr1, tr1, rfl, h1⟩
  | ok a => exact hf a s1 fr1 tr1 h1

theorem modS {g : State → State} (h1 : ∀ s fr tr, g (wf s fr tr) = wf (g s) fr tr)
    (h2 : ∀ s, (g s).frames = s.frames ∧ (g s).curFrame = s.curFrame ∧ (g s).frameIndex = s.frameIndex) :
    Live (VM.modS g) := by
  intro s fr tr h
  refine ⟨fr, tr, ?_, ?_⟩
  · show ((Except.ok (), g (wf s fr tr)) : Except Exc Unit × State) = _
    rw [h1]; rfl
  · obtain ⟨e1, e2, e3⟩ := h2 s
    exact h.of_eq e1 e2 e3

theorem getS_bind {β} {f : State → M β} (h1 : ∀ s fr tr, f (wf s fr tr) = f s) (h2 : ∀ s0, Live (f s0)) :
    Live (VM.getS >>= f) := by
  intro s fr tr h
  rw [exec_bind, exec_bind, exec_getS, exec_getS]
  show ∃ fr' tr', exec (f (wf s fr tr)) (wf s fr tr) = _ ∧ _
  rw [h1]
  exact h2 s s fr tr h

theorem getS_map {β} {g : State → β} (h1 : ∀ s fr tr, g (wf s fr tr) = g s) : Live (g <$> VM.getS) := by
  intro s fr tr h
  refine ⟨fr, tr, ?_, h⟩
  rw [exec_map, exec_map, exec_getS, exec_getS]
  show ((Except.ok (g (wf s fr tr)), wf s fr tr) : Except Exc β × State) = _
  rw [h1]

theorem curFrame_bind {β} {f : Frame → M β} (h1 : ∀ a ip, f { a with ip := ip } = f a) (h2 : ∀ a, Live (f a)) :
    Live (VM.curFrame >>= f) := by
  intro s fr tr h
  rw [exec_bind, exec_bind, exec_curFrame, exec_curFrame]
  show ∃ fr' tr', exec (f (fr[s.curFrame]!)) (wf s fr tr) = _ ∧ _
  rw [h.cur.eq_with, h1]
  exact h2 _ s fr tr h

theorem curFrame_map {β} {g : Frame → β} (h1 : ∀ a ip, g { a with ip := ip } = g a) : Live (g <$> VM.curFrame) := by
  intro s fr tr h
  refine ⟨fr, tr, ?_, h⟩
  rw [exec_map, exec_map, exec_curFrame, exec_curFrame]
  show ((Except.ok (g (fr[s.curFrame]!)), wf s fr tr) : Except Exc β × State) = _
  rw [h.cur.eq_with, h1]

theorem setCurFrame {g : Frame → Frame} (hg : ∀ a b, FrameLive a b → FrameLive (g a) (g b)) :
    Live (VM.setCurFrame g) := by
  intro s fr tr h
  exact ⟨fr.modify s.curFrame g, tr, rfl, h.modify s.curFrame g hg⟩

theorem ite {α} {c : Prop} [Decidable c] {a b : M α} (ha : Live a) (hb : Live b) : Live (if c then a else b) := by
  split <;> assumption

theorem forIn_list {α β} (l : List α) (init : β) (f : α → β → M (ForInStep β))
    (hf : ∀ a b, Live (f a b)) : Live (forIn l init f) :=
  forIn_list_closed (T := fun m => Live m) Live.pure Live.bind l init f hf

theorem forIn_range {β} (r : Std.Legacy.Range) (init : β) (f : Nat → β → M (ForInStep β))
    (hf : ∀ a b, Live (f a b)) : Live (forIn r init f) := by
  rw [Std.Legacy.Range.forIn_eq_forIn_range']
  exact forIn_list _ _ _ hf

theorem setCurFrame' {g : Frame → Frame} (hg : ∀ a ip, ∃ ip', g { a with ip := ip } = { g a with ip := ip' }) :
    Live (VM.setCurFrame g) := by
  apply Live.setCurFrame
  intro a b h
  rw [h.eq_with]
  obtain ⟨ip', e⟩ := hg a b.ip
  rw [e]
  exact ⟨rfl, rfl, rfl, rfl, rfl⟩

theorem intro' {α} {m : M α}
    (h : ∀ s fr tr, FR s fr → ∃ fr' tr', exec m (wf s fr tr) = ((exec m s).1, wf (exec m s).2 fr' tr') ∧ FR (exec m s).2 fr') :
    Live m := h

theorem elim {α} {m : M α} (h : Live m) (s : State) (fr : Array Frame) (tr) (hfr : FR s fr) :
    ∃ fr' tr', exec m (wf s fr tr) = ((exec m s).1, wf (exec m s).2 fr' tr') ∧ FR (exec m s).2 fr' := h s fr tr hfr

end Live
attribute [irreducible] Live

theorem Live.of_heapOnly {α} {m : M α} (h : CompSim.HeapOnly m) : Live m := by
  apply Live.intro'; intro s fr tr hfr
  have e1 := h.run (s := s) (t := wf s fr tr) rfl
  have e2 := h.loc s
  generalize exec m s = x at e1 e2 ⊢
  obtain ⟨r, s1⟩ := x
  simp only at e1 e2 ⊢
  refine ⟨fr, tr, e1.trans ?_, ?_⟩
  · rw [e2]; rfl
  · exact hfr.of_eq (by rw [e2]) (by rw [e2]) (by rw [e2])


attribute [lives] Live.pure Live.panic Live.unsupported Live.throw

/-- side condition of `Live.setCurFrame'` -/
macro "live_frame" : tactic => `(tactic|
  first
  | exact fun _ ip => ⟨ip, rfl⟩
  | exact fun _ _ => ⟨_, rfl⟩
  | (intro a ip; refine ⟨ip, ?_⟩; simp only [setLast, popHandler]; split <;> rfl))

syntax "live" : tactic
/-- leaves that the simp set cannot index: `pure`, and whole blocks that have their own lemma -/
syntax "live_block" : tactic
macro_rules | `(tactic| live_block) => `(tactic| exact Live.pure _)

set_option hygiene false in
/-- Proves `Live m` by the walk of `pres` (Frame.lean) over the `do` block `m`, with
    the simp set `lives` for the actions that have their lemma.  Reading the state or the
    current frame is `Live` when the continuation does not depend on the dead data (closed by
    `rfl`: the dead fields do not occur); otherwise a bind is split by `Live.bind`.  A heap primitive
    is a leaf by `Live.of_heapOnly`; that rule stands last, because it applies to every goal and its
    side goal is then refuted only after a search through the whole block. -/
macro_rules | `(tactic| live) => `(tactic|
  repeat (first
    | walk_jp Live by live
    | with_reducible live_block
    | ((with_reducible apply Live.getS_bind); (intro _ _ _; rfl); intro _)
    | ((with_reducible apply Live.curFrame_bind); (intro _ _; rfl); intro _)
    | ((with_reducible refine Live.bind ?_ (fun _ => ?_)); (first | simp only [lives] | skip))
    | ((with_reducible refine Live.modS ?_ ?_); (intro _ _ _; rfl); (intro _; exact ⟨rfl, rfl, rfl⟩))
    | ((with_reducible apply Live.setCurFrame'); live_frame)
    | with_reducible apply Live.ite
    | intro _
    | with_reducible apply Live.forIn_range
    | with_reducible apply Live.forIn_list
    | split
    | simp only [lives]
    | keeps_hyp
    | ((with_reducible apply Live.of_heapOnly); focus (simp only [heap_only]; done))))

@[lives] theorem live_stackGet (i : Int) : Live (stackGet i) := by unfold stackGet; live
@[lives] theorem live_stackSet (i : Int) (v : V) : Live (stackSet i v) := by unfold stackSet; live
@[lives] theorem live_getSp : Live getSp := by unfold getSp; live
@[lives] theorem live_setSp (v : Int) : Live (setSp v) := by unfold setSp; live
@[lives] theorem live_getIp : Live getIp := by unfold getIp; live
@[lives] theorem live_setIp (v : Int) : Live (setIp v) := by unfold setIp; live
@[lives] theorem live_curCode : Live curCode := by unfold curCode; live
@[lives] theorem live_instAt (i : Int) : Live (instAt i) := by unfold instAt; live

@[lives] theorem live_noteTrace (op : Nat) : Live (noteTrace op) := by
  apply Live.intro'; intro s fr tr h
  rw [exec_noteTrace, exec_noteTrace]
  have e : (wf s fr tr).traceOn = s.traceOn := rfl
  rw [e]
  by_cases ht : s.traceOn = true
  · rw [if_pos ht, if_pos ht]
    exact ⟨fr, _, rfl, h.of_eq rfl rfl rfl⟩
  · rw [if_neg ht, if_neg ht]
    exact ⟨fr, tr, rfl, h.of_eq rfl rfl rfl⟩

@[lives] theorem live_opnd1 (k : Int) : Live (opnd1 k) := by unfold opnd1; live
@[lives] theorem live_opnd2 (k : Int) : Live (opnd2 k) := by unfold opnd2; live
@[lives] theorem live_opnd4 (k : Int) : Live (opnd4 k) := by unfold opnd4; live
@[lives] theorem live_constAt (i : Nat) : Live (constAt i) := by unfold constAt; live
@[lives] theorem live_clearDown (hi lo : Int) : Live (clearDown hi lo) := by unfold clearDown; live
@[lives] theorem live_pushV (v : V) : Live (pushV v) := by unfold pushV; live
@[lives] theorem live_bumpIp (n : Int) : Live (bumpIp n) := by unfold bumpIp; live
@[lives] theorem live_jumpTarget : Live jumpTarget := by unfold jumpTarget; live
@[lives] theorem live_clearCurrentFrame : Live clearCurrentFrame := by unfold clearCurrentFrame; live
@[lives] theorem live_fnCell (a : Addr) : Live (fnCell a) := by unfold fnCell; live
@[lives] theorem live_stackSlice (lo hi : Int) : Live (stackSlice lo hi) := by unfold stackSlice; live
@[lives] theorem live_copyToStack (a : Int) (xs : List V) : Live (copyToStack a xs) := by unfold copyToStack; live
@[lives] theorem live_fillUndefined (lo : Int) (n : Nat) : Live (fillUndefined lo n) := by unfold fillUndefined; live
@[lives] theorem live_copySlots (d : Int) (xs : List V) : Live (copySlots d xs) := by unfold copySlots; live
@[lives] theorem live_popArgs (n : Nat) : Live (popArgs n) := by unfold popArgs; live
@[lives] theorem live_bindArgs (code : Code) (bp na fl : Int) : Live (bindArgs code bp na fl) := by unfold bindArgs; live
@[lives] theorem live_callBuiltin (i : Nat) (args : List V) : Live (callBuiltin i args) := Live.of_heapOnly (CompSim.ho_callBuiltin i args)

end UgoVerif.VM

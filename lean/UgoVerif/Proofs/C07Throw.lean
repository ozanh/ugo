import UgoVerif.Proofs.C07Step
import UgoVerif.Proofs.FrameOps
/-
  `throwF` (vm.go `throw` + `handleThrownError`) under the liveness relation.
  The function is tail recursive on its fuel; `throwK k` is one unfolding with the recursive
  call abstracted as `k`.  Three facts are proved about it: it is `Live` when `k` is; the
  recursive call happens at a state whose *need* (handlers + 1 of the frames up to the current
  one) is smaller; hence the result does not depend on the fuel as soon as the fuel covers the
  need — and `throwFuel` always does.
-/
namespace UgoVerif.VM
open UgoVerif UgoVerif.Go

@[lives] theorem live_landAt (ip hsp : Int) : Live (landAt ip hsp) := by unfold landAt; live
theorem live_handlePre (err : Addr) : Live (handlePre err) := by unfold handlePre; live

/-- the search visits only frames below the current one: both runs find the same frame -/
theorem FR.of_searched {s : State} {fr : Array Frame} (h : FR s fr) {n : Nat} (hn : (n : Int) + 1 ≤ s.frameIndex) :
    (searched fr n).1 = (searched s.frames n).1 ∧ FR { s with frames := (searched s.frames n).2 } (searched fr n).2 :=
  searched_rel0 (A := fun a b => FR { s with frames := a } b) n
    (fun _ _ j hj hr => by rw [hr.below j (by show (j : Int) + 2 ≤ s.frameIndex; omega)])
    (fun _ _ j _ hr _ => hr.modify j clrF fun _ _ e => ⟨rfl, rfl, e.bp, e.handlers, e.discard⟩) h

theorem live_throwPre (err : Addr) : Live (throwPre err) := by
  apply Live.intro'; intro s fr tr h
  rw [exec_throwPre, exec_throwPre]
  have ehh : hasHandler ((wf s fr tr).frames[(wf s fr tr).curFrame]!) = hasHandler (s.frames[s.curFrame]!) := by
    show hasHandler (fr[s.curFrame]!) = _
    unfold hasHandler; rw [h.cur.handlers]
  rw [ehh, show (wf s fr tr).frameIndex = s.frameIndex from rfl, show (wf s fr tr).frames = fr from rfl]
  by_cases hh : hasHandler (s.frames[s.curFrame]!) = true
  · rw [if_pos hh, if_pos hh]; exact ⟨fr, tr, rfl, h⟩
  rw [if_neg hh, if_neg hh]
  by_cases hn : (s.frameIndex - 1).toNat > frameSize
  · rw [if_pos hn, if_pos hn]; exact ⟨fr, tr, rfl, h⟩
  rw [if_neg hn, if_neg hn]
  have hlink := h.link
  obtain ⟨e, h1⟩ := h.of_searched (n := (s.frameIndex - 1).toNat) (by omega)
  rw [e]
  cases hr : (searched s.frames (s.frameIndex - 1).toNat).1 with
  | none => exact ⟨_, tr, rfl, h1⟩
  | some i =>
    have hi := (searched_some hr).1
    have hFR : FR (toFrame (searchedS s) i) _ := h1.down rfl rfl (by show (i : Int) + 1 < s.frameIndex; omega)
    have hres : resumed (wf s fr tr) i = wf (resumed s i) (searched fr (s.frameIndex - 1).toNat).2 tr := by
      show ({ toFrame (searchedS (wf s fr tr)) i with ip := (fr[i]!).ip } : State) = _
      rw [← h.below i (by omega)]; rfl
    dsimp only
    rw [← h.below i (by omega), hres]
    cases (s.frames[i]!).fn with
    | none => exact ⟨_, tr, rfl, hFR⟩
    | some a => exact ⟨_, tr, rfl, hFR.of_eq rfl rfl rfl⟩

theorem live_handleK {k : M (Option Addr)} (hk : Live k) (err : Addr) : Live (handleK k err) := by
  have := live_handlePre err
  unfold handleK; live

theorem live_throwK {k : M (Option Addr)} (hk : Live k) (err : Addr) : Live (throwK k err) := by
  have h1 := live_throwPre err
  have h2 := live_handleK hk err
  unfold throwK; live

theorem live_throwF (fuel : Nat) : ∀ err, Live (throwF fuel err) := by
  induction fuel with
  | zero => intro err; rw [throwF]; exact Live.unsupported _
  | succ n ih => intro err; rw [throwF_succ]; exact live_throwK (ih err) err

def need (s : State) : Nat := needUpTo s.frames (s.curFrame + 1)

structure Suff (n : Nat) (s : State) : Prop where
  need : need s ≤ n
  link : (s.curFrame : Int) + 1 = s.frameIndex

theorem needUpTo_mono (fr : Array Frame) {k k' : Nat} (h : k ≤ k') : needUpTo fr k ≤ needUpTo fr k' := by
  induction k' with
  | zero => have : k = 0 := by omega
            subst this; exact Nat.le_refl _
  | succ k' ih =>
    by_cases hk : k = k' + 1
    · subst hk; exact Nat.le_refl _
    · have := ih (by omega)
      simp only [needUpTo]; omega

theorem need_pos (s : State) : 1 ≤ need s := by
  unfold need; simp only [needUpTo]; omega

def Ret {α} (P : α → Prop) (m : M α) : Prop := ∀ s a s', exec m s = (.ok a, s') → P a

theorem Ret.pure {α} {P : α → Prop} {a : α} (h : P a) : Ret P (Pure.pure a : M α) := by
  intro s b s' e; cases e; exact h

theorem Ret.bind {α β} {P : β → Prop} (m : M α) {f : α → M β} (hf : ∀ a, Ret P (f a)) : Ret P (m >>= f) := by
  intro s b s' e
  rw [exec_bind] at e
  rcases hx : exec m s with ⟨r, s1⟩
  rw [hx] at e
  cases r with
  | error x => cases e
  | ok a => exact hf a s1 b s' e

theorem Ret.ite {α} {P : α → Prop} {c : Prop} [Decidable c] {a b : M α} (ha : Ret P a) (hb : Ret P b) :
    Ret P (if c then a else b) := by split <;> assumption

theorem Ret.panic {α} {P : α → Prop} (m : String) : Ret P (VM.panic m : M α) := by
  intro s a s' e; cases e

theorem Ret.jump (ip hsp : Int) : Ret (fun r : Option (Option Addr) => r = some none) (landAt ip hsp) :=
  Ret.bind _ fun _ => Ret.bind _ fun _ =>
    Ret.ite (Ret.bind _ fun _ => Ret.bind _ fun _ => Ret.pure rfl) (Ret.bind _ fun _ => Ret.pure rfl)

/-- when `handlePre` asks for a re-throw it has consumed one handler of the current frame -/
theorem handlePre_none (err : Addr) (n : Nat) (s s' : State) (e : exec (handlePre err) s = (.ok none, s'))
    (hs : Suff (n + 1) s) : Suff n s' := by
  have h := handlePre_to err s
  rw [e] at h
  cases h with
  | land h hl ip hip r t e' => cases Ret.jump _ _ _ _ _ e'
  | consumed h hl =>
    exact ⟨Nat.le_of_succ_le_succ (Nat.le_trans (Nat.le_of_eq (needUpTo_consumed hl (Nat.lt_succ_self _))) hs.need), hs.link⟩

theorem throwPre_none (err : Addr) (n : Nat) (s s' : State) (e : exec (throwPre err) s = (.ok none, s'))
    (hs : Suff n s) : Suff n s' := by
  have h := throwPre_to err s
  rw [e] at h
  cases h with
  | here => exact hs
  | found hh hn i hr a hf =>
    refine ⟨?_, rfl⟩
    show needUpTo (searched s.frames (s.frameIndex - 1).toNat).2 (i + 1) ≤ n
    rw [needUpTo_searched]
    have := needUpTo_mono s.frames (show i + 1 ≤ s.curFrame + 1 by have := hs.link; have := (searched_some hr).1; omega)
    exact Nat.le_trans this hs.need

theorem throwF_fuel (f1 : Nat) : ∀ (f2 : Nat) (err : Addr) (s : State), Suff f1 s → Suff f2 s →
    exec (throwF f1 err) s = exec (throwF f2 err) s := by
  induction f1 with
  | zero => intro f2 err s h1 _; have := need_pos s; have := h1.need; omega
  | succ f1 ih =>
    intro f2 err s h1 h2
    cases f2 with
    | zero => have := need_pos s; have := h2.need; omega
    | succ f2 =>
      rw [throwF_succ, throwF_succ]
      unfold throwK
      rw [exec_bind, exec_bind]
      rcases hx : exec (throwPre err) s with ⟨r, s1⟩
      cases r with
      | error x => rfl
      | ok o =>
        cases o with
        | some r => rfl
        | none =>
          simp only
          have a1 := throwPre_none err _ s s1 hx h1
          have a2 := throwPre_none err _ s s1 hx h2
          unfold handleK
          rw [exec_bind, exec_bind]
          rcases hy : exec (handlePre err) s1 with ⟨r2, s2⟩
          cases r2 with
          | error x => rfl
          | ok o2 =>
            cases o2 with
            | some r => rfl
            | none =>
              simp only
              exact ih f2 err s2 (handlePre_none err _ s1 s2 hy a1) (handlePre_none err _ s1 s2 hy a2)

theorem suff_fuelOf (s : State) (hl : (s.curFrame : Int) + 1 = s.frameIndex) (hc : s.curFrame < s.frames.size) :
    Suff (fuelOf s.frames) s := by
  refine ⟨?_, hl⟩
  rw [fuelOf_eq]
  have := needUpTo_mono s.frames (k := s.curFrame + 1) (k' := s.frames.size) (by omega)
  unfold need; omega

/-- `vm.throw(err)` with the fuel the model computes: both runs agree although the fuel (which
    counts the handlers of dead frames too) differs -/
theorem live_throwWithFuel (err : Addr) : Live (throwFuel >>= fun n => throwF n err) := by
  apply Live.intro'; intro s fr tr h
  rw [exec_bind, exec_bind, exec_throwFuel, exec_throwFuel]
  simp only
  show ∃ fr' tr', exec (throwF (fuelOf fr) err) (wf s fr tr) = _ ∧ _
  -- the need of both states is the same, each fuel covers it
  have hs1 : Suff (fuelOf s.frames) s := suff_fuelOf s h.link (by rw [h.shape]; exact h.curLt)
  have hs2 : Suff (fuelOf fr) (wf s fr tr) :=
    suff_fuelOf (wf s fr tr) h.link (by show s.curFrame < fr.size; rw [h.size, h.shape]; exact h.curLt)
  have hneq : need (wf s fr tr) = need s := by
    unfold need
    -- the frames below the current one are equal, the current ones have the same handlers
    refine needUpTo_congr (fr := fr) _ fun j hj => ?_
    have hj' : j < s.curFrame + 1 := hj
    by_cases hjc : j = s.curFrame
    · rw [hjc]; unfold nhl; rw [h.cur.handlers]
    · rw [h.below j (by have := h.link; omega)]
  have hs3 : Suff (fuelOf s.frames) (wf s fr tr) := ⟨by rw [hneq]; exact hs1.need, h.link⟩
  rw [throwF_fuel (fuelOf fr) (fuelOf s.frames) err (wf s fr tr) hs2 hs3]
  exact (live_throwF (fuelOf s.frames) err).elim s fr tr h

theorem live_throwWithFuel_bind {β} (err : Addr) (f : Option Addr → M β) (hf : ∀ r, Live (f r)) :
    Live (throwFuel >>= fun n => (throwF n err >>= f)) := by
  have : (throwFuel >>= fun n => (throwF n err >>= f)) = ((throwFuel >>= fun n => throwF n err) >>= f) := by
    rw [bind_assoc]
  rw [this]
  exact Live.bind (live_throwWithFuel err) hf

end UgoVerif.VM

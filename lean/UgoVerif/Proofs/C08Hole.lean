import UgoVerif.Proofs.C08Mod
/-
  C08, shared heap segment: the two-instruction window in which a shared module constant sits
  in a stack slot (`LOADMODULE` on a cache miss … `JUMPFALSY` … `STOREMODULE`, which replaces it
  by its private `Copy()`), and the step theorem for the weak boundary invariant `Bnd`.
-/
namespace UgoVerif.VM
open UgoVerif UgoVerif.Go

theorem exec_getSp' (s : State) : exec getSp s = (.ok s.sp, s) := rfl
theorem exec_setSp' (v : Int) (s : State) : exec (setSp v) s = (.ok (), { s with sp := v }) := rfl
theorem exec_bumpIp' (k : Int) (s : State) : exec (bumpIp k) s = (.ok (), { s with ip := s.ip + k }) := rfl

theorem exec_stackGet_in (i : Int) (s : State) (h : 0 ≤ i ∧ i < (stackSize : Int)) :
    exec (stackGet i) s = (.ok (s.stack[i.toNat]!), s) := Proofs.Fetch.exec_stackGet i s h

theorem exec_stackSet_in (i : Int) (v : V) (s : State) (h : 0 ≤ i ∧ i < (stackSize : Int)) :
    exec (stackSet i v) s = (.ok (), { s with stack := s.stack.set! i.toNat v }) := Proofs.Fetch.exec_stackSet i v s h

theorem exec_stackSet_out (i : Int) (v : V) (s : State) (h : ¬ (0 ≤ i ∧ i < (stackSize : Int))) :
    ∃ m, exec (stackSet i v) s = (.error (.panic m), s) := by
  unfold stackSet
  have : (i < 0 || i ≥ (stackSize : Int)) = true := by simp; omega
  simp only [this, if_true]; exact ⟨_, rfl⟩

theorem exec_pushV_in (v : V) (s : State) (h : 0 ≤ s.sp ∧ s.sp < (stackSize : Int)) :
    exec (pushV v) s = (.ok (), { s with stack := s.stack.set! s.sp.toNat v, sp := s.sp + 1 }) :=
  Proofs.Fetch.exec_pushV v s h

theorem exec_pushV_out (v : V) (s : State) (h : ¬ (0 ≤ s.sp ∧ s.sp < (stackSize : Int))) :
    ∃ m, exec (pushV v) s = (.error (.panic m), s) := by
  unfold pushV
  obtain ⟨m, hm⟩ := exec_stackSet_out s.sp v s h
  refine ⟨m, ?_⟩
  simp only [exec_bind, exec_getSp', hm]

export UgoVerif.Proofs.Fetch (fetched fetched_eq)

theorem fetched_ip (s : State) (op : Nat) : (fetched s op).ip = s.ip + 1 := by
  obtain ⟨tr, st, e⟩ := fetched_eq s op; rw [e]
theorem fetched_sp (s : State) (op : Nat) : (fetched s op).sp = s.sp := by
  obtain ⟨tr, st, e⟩ := fetched_eq s op; rw [e]
theorem fetched_consts (s : State) (op : Nat) : (fetched s op).consts = s.consts := by
  obtain ⟨tr, st, e⟩ := fetched_eq s op; rw [e]

theorem byteAt_fetched (s : State) (op : Nat) (i : Int) : byteAt (fetched s op) i = byteAt s i := by
  obtain ⟨tr, st, h⟩ := fetched_eq s op
  rw [h]; exact byteAt_congr rfl rfl rfl rfl i

theorem word2_fetched (s : State) (op : Nat) (i : Int) : word2 (fetched s op) i = word2 s i := by
  unfold word2; rw [byteAt_fetched, byteAt_fetched]

theorem step_some (F : FloatOps) (s : State) (op : Nat) (h : byteAt s (s.ip + 1) = some op) :
    exec (step F) s = exec (dispatch F op) (fetched s op) := by
  have e3 : exec (instAt (s.ip + 1)) { s with ip := s.ip + 1 } = (.ok op, { s with ip := s.ip + 1 }) :=
    Reads.ok (h ▸ reads_instAt { s with ip := s.ip + 1 } (s.ip + 1))
  have := Proofs.Fetch.step_of_byte F e3 pure
  simp only [bind_pure] at this
  exact this

theorem step_none (F : FloatOps) (s : State) (h : byteAt s (s.ip + 1) = none) :
    (exec (step F) s).2 = { s with ip := s.ip + 1 } ∧ ∀ r, (exec (step F) s).1 ≠ .ok r := by
  obtain ⟨e, he⟩ := Reads.fail (h ▸ reads_instAt { s with ip := s.ip + 1 } (s.ip + 1))
  unfold step
  simp only [exec_bind, exec_bumpIp', exec_getIp, he]
  exact ⟨trivial, fun r hr => by cases hr⟩

/-- `Inv`, except that stack slot `k` may hold any value that can be copied (a shared module
    constant on its way from LOADMODULE to STOREMODULE) -/
structure InvH (n : Nat) (h0 : Array Cell) (k : Nat) (s : State) : Prop where
  heap : HeapOK n h0 s.heap
  stack : ∀ i v, s.stack[i]? = some v → i ≠ k → PrivV n v
  hole : ∀ v, s.stack[k]? = some v → CopyOK n v
  globals : PrivV n s.globals
  modules : ∀ v ∈ s.modules.toList, PrivV n v
  frames : ∀ f ∈ s.frames.toList, ∀ fr, f.free = some fr → ∀ x ∈ fr, n ≤ x
  ssize : s.stack.size = stackSize

section
variable {n : Nat} {h0 : Array Cell}

theorem get?_set! (st : Array V) (i j : Nat) (x : V) :
    (st.set! i x)[j]? = if i = j ∧ i < st.size then some x else st[j]? := by
  rw [Array.set!_eq_setIfInBounds, Array.getElem?_setIfInBounds]
  by_cases h : i = j
  · subst h
    by_cases h2 : i < st.size
    · simp [h2]
    · simp [h2]
  · simp [h]

theorem Inv.toH {s : State} (h : Inv n h0 s) (k : Nat) : InvH n h0 k s :=
  have hm {i : Nat} {v : V} (hv : s.stack[i]? = some v) : PrivV n v :=
    h.stack v (Array.mem_toList_iff.mpr (Array.mem_of_getElem? hv))
  { h with stack := fun _ _ hv _ => hm hv, hole := fun _ hv => (hm hv).copyOK }

theorem InvH.toInv {k : Nat} {s : State} (h : InvH n h0 k s) (hk : ∀ v, s.stack[k]? = some v → PrivV n v) :
    Inv n h0 s :=
  { h with
    stack := fun v hv => by
      obtain ⟨j, hj, e⟩ := Array.mem_iff_getElem.mp (Array.mem_toList_iff.mp hv)
      have hv' : s.stack[j]? = some v := by rw [← e]; exact Array.getElem?_eq_getElem hj
      by_cases hjk : j = k
      · exact hk v (hjk ▸ hv')
      · exact h.stack j v hv' hjk }

theorem InvH.set {k : Nat} {s : State} (h : InvH n h0 k s) (i : Nat) (x : V) (hx : CopyOK n x)
    (hp : i ≠ k → PrivV n x) : InvH n h0 k { s with stack := s.stack.set! i x } :=
  { h with
    stack := fun j v hv hjk => by
      rw [get?_set!] at hv
      split at hv
      · rename_i e; cases hv; exact hp (e.1 ▸ hjk)
      · exact h.stack j v hv hjk
    hole := fun v hv => by
      rw [get?_set!] at hv
      split at hv
      · cases hv; exact hx
      · exact h.hole v hv
    ssize := (Array.size_set! ..).trans h.ssize }

/-- after LOADMODULE on a miss: `[…, c, true]`, next JUMPFALSY then STOREMODULE (complete) -/
structure PendJ (s : State) (k : Nat) : Prop where
  sp : (k : Int) + 2 = s.sp
  top : s.sp ≤ (stackSize : Int)
  flag : s.stack[k + 1]! = .bool true
  jf : byteAt s (s.ip + 1) = some OpJumpFalsy
  sm : byteAt s (s.ip + 6) = some OpStoreModule
  o1 : (byteAt s (s.ip + 7)).isSome
  o2 : (byteAt s (s.ip + 8)).isSome

/-- after the JUMPFALSY: `[…, c]`, next STOREMODULE (complete) -/
structure PendS (s : State) (k : Nat) : Prop where
  sp : (k : Int) + 1 = s.sp
  top : s.sp ≤ (stackSize : Int)
  sm : byteAt s (s.ip + 1) = some OpStoreModule
  o1 : (byteAt s (s.ip + 2)).isSome
  o2 : (byteAt s (s.ip + 3)).isSome

/-- the invariant between instructions: `Inv`, or `InvH` inside the window -/
inductive Bnd (n : Nat) (h0 : Array Cell) (s : State) : Prop
  | full : Inv n h0 s → Bnd n h0 s
  | jf (k : Nat) : InvH n h0 k s → PendJ s k → Bnd n h0 s
  | st (k : Nat) : InvH n h0 k s → PendS s k → Bnd n h0 s

theorem Bnd.heap {s : State} (h : Bnd n h0 s) : HeapOK n h0 s.heap := by
  cases h with
  | full h => exact h.heap
  | jf k h _ => exact h.heap
  | st k h _ => exact h.heap

/-- what one instruction leaves, whichever way it ends: the conclusion of `Props.C08.step_inv`, and of every
    transition below -/
def StepPost (n : Nat) (h0 : Array Cell) (r : Except Exc Ctl × State) : Prop :=
  HeapOK n h0 r.2.heap ∧ (∀ c, r.1 = .ok c → Bnd n h0 r.2) ∧
  (∀ m, r.1 = .error (.panic m) → Inv n h0 r.2 ∨ (stackSize : Int) ≤ r.2.sp)

theorem StepPost.of_inv {r : Except Exc Ctl × State} (h : Inv n h0 r.2) : StepPost n h0 r :=
  ⟨h.heap, fun _ _ => .full h, fun _ _ => .inl h⟩

end
section
variable {n : Nat} {h0 : Array Cell}

theorem exec_isFalsy_true (s : State) : exec (isFalsy (.bool true)) s = (.ok false, s) := rfl

theorem fetched_inv {s : State} (h : Inv n h0 s) (op : Nat) : Inv n h0 (fetched s op) := by
  obtain ⟨tr, st, e⟩ := fetched_eq s op
  rw [e]; exact { h with }

theorem fetched_invH {k : Nat} {s : State} (h : InvH n h0 k s) (op : Nat) : InvH n h0 k (fetched s op) := by
  obtain ⟨tr, st, e⟩ := fetched_eq s op
  rw [e]; exact { h with }

theorem dispatch_jumpFalsy (F : FloatOps) : dispatch F OpJumpFalsy = execJumpFalsy := rfl
theorem dispatch_storeModule (F : FloatOps) : dispatch F OpStoreModule = execStoreModule := rfl
theorem dispatch_loadModule (F : FloatOps) : dispatch F OpLoadModule = execLoadModule := rfl
theorem dispatch_constant (F : FloatOps) : dispatch F OpConstant = execConstant := rfl

theorem jumpFalsy_hole (F : FloatOps) (s : State) (k : Nat) (hi : InvH n h0 k s) (hp : PendJ s k) :
    StepPost n h0 (exec (step F) s) := by
  rw [step_some F s _ hp.jf, dispatch_jumpFalsy]
  obtain ⟨tr, st, e⟩ := fetched_eq s OpJumpFalsy
  have hi1 := fetched_invH hi OpJumpFalsy
  rw [e] at hi1 ⊢
  have hsp := hp.sp
  have htop := hp.top
  have hb : 0 ≤ s.sp - 1 ∧ s.sp - 1 < (stackSize : Int) := by omega
  have hk : (s.sp - 1).toNat = k + 1 := by omega
  unfold execJumpFalsy
  simp only [exec_bind, exec_getSp', exec_setSp', exec_stackGet_in _ _ hb, exec_stackSet_in _ _ _ hb, hk, hp.flag,
    exec_isFalsy_true, exec_bumpIp', exec_pure, Bool.false_eq_true, if_false]
  refine ⟨hi1.heap, fun _ _ => .st k ?_ ⟨?_, ?_, ?_, ?_, ?_⟩, nofun⟩
  · exact { hi1.set (k + 1) .nil trivial fun _ => trivial with }
  · show (k : Int) + 1 = s.sp - 1; omega
  · show s.sp - 1 ≤ _; omega
  · have h := hp.sm; rw [show s.ip + 6 = s.ip + 1 + 4 + 1 by omega] at h; exact h
  · have h := hp.o1; rw [show s.ip + 7 = s.ip + 1 + 4 + 2 by omega] at h; exact h
  · have h := hp.o2; rw [show s.ip + 8 = s.ip + 1 + 4 + 3 by omega] at h; exact h

end

section
variable {n : Nat} {h0 : Array Cell}

/-- The operand bytes are there (`PendS.o1`, `o2`) and slot `k` is in range, so no read before the copy fails with the
    hole still open. -/
theorem storeModule_hole (F : FloatOps) (s : State) (k : Nat) (hi : InvH n h0 k s) (hp : PendS s k) :
    StepPost n h0 (exec (step F) s) := by
  rw [step_some F s _ hp.sm, dispatch_storeModule]
  have hi1 := fetched_invH hi OpStoreModule
  have hsp1 := fetched_sp s OpStoreModule
  obtain ⟨midx, hw⟩ : ∃ w, word2 (fetched s OpStoreModule) ((fetched s OpStoreModule).ip + 1) = some w := by
    obtain ⟨b1, hb1⟩ := Option.isSome_iff_exists.mp hp.o1
    obtain ⟨b2, hb2⟩ := Option.isSome_iff_exists.mp hp.o2
    refine ⟨b2 ||| (b1 <<< 8), ?_⟩
    unfold word2
    rw [fetched_ip, byteAt_fetched, byteAt_fetched, show s.ip + 1 + 1 + 1 = s.ip + 3 by omega,
      show s.ip + 1 + 1 = s.ip + 2 by omega, hb1, hb2]
  generalize fetched s OpStoreModule = s1 at *
  have hsp := hp.sp
  have htop := hp.top
  have hb : 0 ≤ s1.sp - 1 ∧ s1.sp - 1 < (stackSize : Int) := by omega
  have hkk : (s1.sp - 1).toNat = k := by omega
  have hksz : k < s1.stack.size := by have := hi1.ssize; omega
  simp only [execStoreModule_eq, exec_bind, (hw ▸ reads_opnd2 s1 1).ok, exec_getSp',
    exec_stackGet_in _ _ hb, hkk]
  have hcv : CopyOK n s1.stack[k]! := by
    rw [getElem!_pos s1.stack k hksz]
    exact hi1.hole _ (Array.getElem?_eq_getElem hksz)
  rcases copyV_heapOK hi1.heap hcv with ⟨_, e⟩ | ⟨v', hp, e, hh, hv'⟩ <;> rw [e]
  · exact ⟨hi1.heap, nofun, nofun⟩
  · simp only [exec_stackSet_in _ _ _ hb, hkk]
    -- slot `k` holds the private copy: the hole is closed
    have hfull : Inv n h0 { s1 with heap := hp, stack := s1.stack.set! k v' } :=
      { (hi1.set k v' hv'.copyOK fun _ => hv').toInv fun v hv => by
          rw [get?_set!, if_pos ⟨rfl, hksz⟩] at hv; cases hv; exact hv' with
        heap := hh }
    exact .of_inv ((tr_storeRest' midx v' hv').inv hfull)

end

section
variable {n : Nat} {h0 : Array Cell}

/-- The two pushes of LOADMODULE on a miss with a constant that is not private, when `JUMPFALSY _; STOREMODULE _`
    follow (the bytes relative to the `ip` the instruction leaves, `s1.ip + 4`).  Three ends: a panic at the first push
    (`Inv`), a panic at the second (stack pointer at the end of the stack), the window with the constant in slot `sp`. -/
theorem pushRest_hole (s1 : State) (hs1 : Inv n h0 s1) (c : V) (hc : CopyOK n c)
    (hjf : byteAt s1 (s1.ip + 4 + 1) = some OpJumpFalsy) (hsm : byteAt s1 (s1.ip + 4 + 6) = some OpStoreModule)
    (ho1 : (byteAt s1 (s1.ip + 4 + 7)).isSome) (ho2 : (byteAt s1 (s1.ip + 4 + 8)).isSome) :
    StepPost n h0 (exec (pushRest c (some true) 4) s1) := by
  have e : pushRest c (some true) 4 =
      (pushV c >>= fun _ => pushV (.bool true) >>= fun _ => bumpIp 4 >>= fun _ => (pure Ctl.next : M Ctl)) := rfl
  rw [e]
  by_cases hA : 0 ≤ s1.sp ∧ s1.sp < (stackSize : Int)
  · rw [exec_bind, exec_pushV_in _ _ hA]
    simp only
    by_cases hB : s1.sp + 1 < (stackSize : Int)
    · have hB' : 0 ≤ ({ s1 with stack := s1.stack.set! s1.sp.toNat c, sp := s1.sp + 1 } : State).sp ∧
          ({ s1 with stack := s1.stack.set! s1.sp.toNat c, sp := s1.sp + 1 } : State).sp < (stackSize : Int) := by
        show 0 ≤ s1.sp + 1 ∧ s1.sp + 1 < _; omega
      rw [exec_bind, exec_pushV_in _ _ hB']
      simp only [exec_bind, exec_bumpIp', exec_pure]
      -- the end state differs from `s1` in `stack`, `sp`, `ip`, none of which `byteAt` reads: the byte hypotheses are
      -- those of `PendJ` as they stand
      refine ⟨hs1.heap, fun _ _ => .jf s1.sp.toNat ?_ ⟨?_, ?_, ?_, hjf, hsm, ho1, ho2⟩, nofun⟩
      · exact { ((hs1.toH s1.sp.toNat).set _ c hc fun e => absurd rfl e).set (s1.sp + 1).toNat (.bool true) trivial
          fun _ => trivial with }
      · show ((s1.sp.toNat : Nat) : Int) + 2 = s1.sp + 1 + 1; omega
      · show s1.sp + 1 + 1 ≤ _; omega
      · show ((s1.stack.set! s1.sp.toNat c).set! (s1.sp + 1).toNat (.bool true))[s1.sp.toNat + 1]! = _
        have : (s1.sp + 1).toNat = s1.sp.toNat + 1 := by omega
        rw [this]
        apply Array.getElem!_set!_self
        rw [Array.size_set!, hs1.ssize]
        have : (stackSize : Int) = ((stackSize : Nat) : Int) := rfl
        omega
    · obtain ⟨m, hm⟩ := exec_pushV_out (.bool true)
        ({ s1 with stack := s1.stack.set! s1.sp.toNat c, sp := s1.sp + 1 } : State)
        (by show ¬ (0 ≤ s1.sp + 1 ∧ s1.sp + 1 < _); omega)
      rw [exec_bind, hm]
      exact ⟨hs1.heap, nofun, fun _ _ => .inr (by show _ ≤ s1.sp + 1; omega)⟩
  · obtain ⟨m, hm⟩ := exec_pushV_out c s1 hA
    rw [exec_bind, hm]
    exact .of_inv hs1

/-- the cache lookup of LOADMODULE -/
def loadBranch (cidx midx size : Nat) (o : Option V) : M Ctl :=
  match o with
  | none => panic s!"runtime error: index out of range [{midx}] with length {size}"
  | some .nil => constAt cidx >>= fun c => pushRest c (some true) 4
  | some v => pushRest v (some false) 4

theorem execLoadModule_eq : execLoadModule =
    (opnd2 1 >>= fun cidx => opnd2 3 >>= fun midx => getS >>= fun s =>
      loadBranch cidx midx s.modules.size s.modules[midx]?) := rfl

end

/-- What is assumed of the instruction about to be executed in `s`:
    * CONSTANT loads a constant that is private (a scalar, string, function, …: not an array or
      map of the shared segment);
    * a LOADMODULE whose constant is NOT private (a builtin-module map) loads something that can
      be copied and is followed by `JUMPFALSY …; STOREMODULE m` (the code `compileImportExpr`
      emits for a builtin module), the STOREMODULE being complete. -/
def PatternAt (n : Nat) (s : State) : Prop :=
  (byteAt s (s.ip + 1) = some OpConstant →
    ∀ c v, word2 s (s.ip + 2) = some c → s.consts[c]? = some v → PrivV n v) ∧
  (byteAt s (s.ip + 1) = some OpLoadModule →
    ∀ c v, word2 s (s.ip + 2) = some c → s.consts[c]? = some v → ¬ PrivV n v →
      CopyOK n v ∧ byteAt s (s.ip + 6) = some OpJumpFalsy ∧ byteAt s (s.ip + 11) = some OpStoreModule ∧
      (byteAt s (s.ip + 12)).isSome ∧ (byteAt s (s.ip + 13)).isSome)

section
variable {n : Nat} {h0 : Array Cell}

theorem loadModule_full (F : FloatOps) (s : State) (hs : Inv n h0 s) (hop : byteAt s (s.ip + 1) = some OpLoadModule)
    (hpat : PatternAt n s) : StepPost n h0 (exec (step F) s) := by
  rw [step_some F s _ hop, dispatch_loadModule]
  have hs1 := fetched_inv hs OpLoadModule
  have hip1 := fetched_ip s OpLoadModule
  have hco := fetched_consts s OpLoadModule
  have hbt := byteAt_fetched s OpLoadModule
  have hwt : ∀ i, word2 (fetched s OpLoadModule) i = word2 s i := word2_fetched s _
  generalize fetched s OpLoadModule = s1 at *
  have herr : ∀ e, StepPost n h0 (.error e, s1) := fun _ => .of_inv hs1
  rw [execLoadModule_eq]
  refine (reads_opnd2 s1 1).bind_post _ (P := StepPost n h0) herr fun cidx h1 => ?_
  refine (reads_opnd2 s1 3).bind_post _ (P := StepPost n h0) herr fun midx _ => ?_
  simp only [exec_bind, exec_getS]
  unfold loadBranch
  split
  · exact .of_inv hs1
  · refine (reads_constAt s1 cidx).bind_post _ (P := StepPost n h0) herr fun c h3 => ?_
    by_cases hc : PrivV n c
    · exact .of_inv ((tr_pushRest c hc _ _).inv hs1)
    · -- the window opens: the pattern gives what follows the LOADMODULE
      rw [hwt, hip1, show s.ip + 1 + 1 = s.ip + 2 by omega] at h1
      obtain ⟨hcc, p1, p2, p3, p4⟩ := hpat.2 hop cidx c h1 (hco ▸ h3) hc
      have hb : ∀ j : Int, byteAt s1 (s1.ip + 4 + j) = byteAt s (s.ip + (5 + j)) := fun j => by
        rw [hbt, hip1]; congr 1; omega
      exact pushRest_hole s1 hs1 c hcc ((hb 1).trans p1) ((hb 6).trans p2) (by rw [hb 7]; exact p3)
        (by rw [hb 8]; exact p4)
  · rename_i v _ hm
    exact .of_inv ((tr_pushRest v (hs1.modules v (Array.mem_toList_iff.mpr (Array.mem_of_getElem? hm))) _ _).inv hs1)

/-- A panic leaves `Inv`, or the stack pointer beyond the stack (the second push of LOADMODULE): a state from which
    `handlePanic` does not resume. -/
theorem step_bnd (F : FloatOps) (s : State) (hb : Bnd n h0 s) (hpat : PatternAt n s) :
    StepPost n h0 (exec (step F) s) := by
  cases hb with
  | full hs =>
    cases hop : byteAt s (s.ip + 1) with
    | none =>
      obtain ⟨e1, e2⟩ := step_none F s hop
      refine StepPost.of_inv ?_
      rw [e1]; exact { hs with }
    | some op =>
      by_cases hc : op = OpConstant
      · subst hc
        rw [step_some F s _ hop, dispatch_constant]
        refine StepPost.of_inv (execConstant_inv _ (fetched_inv hs _) ?_)
        intro c v hw hv
        rw [word2_fetched, fetched_ip, show s.ip + 1 + 1 = s.ip + 2 by omega] at hw
        rw [fetched_consts] at hv
        exact hpat.1 hop c v hw hv
      · by_cases hl : op = OpLoadModule
        · subst hl; exact loadModule_full F s hs hop hpat
        · rw [step_some F s _ hop]
          exact StepPost.of_inv ((tr_dispatch F op hc hl).inv (fetched_inv hs op))
  | jf k hi hp => exact jumpFalsy_hole F s k hi hp
  | st k hi hp => exact storeModule_hole F s k hi hp

end

end UgoVerif.VM

import UgoVerif.Proofs.VMImmut
/-
  C08, shared heap segment: the invariant `Inv n h0` ("VM state `s` holds no reference to a
  mutable cell of the shared segment `[0, n)`, and the segment still equals `h0`"), the result
  carrying invariant calculus `Tr` (a `Keeps` that also passes a predicate of the returned
  value to the continuation), with the type-directed predicate `good` as the default for results.
-/
namespace UgoVerif.VM
open UgoVerif UgoVerif.Go

/-- `v` is not a reference to a mutable cell (array, map, `*ObjectPtr`, iterator) of the shared
    segment `[0, n)`.  References to function and error cells are unrestricted: those cells are
    never written (`function_cells_immutable`; no model primitive overwrites an error cell). -/
def PrivV (n : Nat) : V → Prop
  | .arr a _ _ => n ≤ a
  | .map a => n ≤ a
  | .box a => n ≤ a
  | .iter a => n ≤ a
  | _ => True

/-- what `Copy()` may be applied to: a value that is private, or an (immutable-by-convention)
    array / map / function / error of the shared segment — never a shared box or iterator,
    which `Copy()` would hand out unchanged -/
def CopyOK (n : Nat) : V → Prop
  | .box a => n ≤ a
  | .iter a => n ≤ a
  | _ => True

theorem PrivV.copyOK {n : Nat} {v : V} (h : PrivV n v) : CopyOK n v := by
  cases v <;> simp_all [PrivV, CopyOK]

def GoodIterK (n : Nat) : IterK → Prop
  | .arr a _ _ => n ≤ a
  | .map a _ => n ≤ a
  | _ => True

/-- the cell at address `a`: a private cell (`n ≤ a`) holds private values only; a cell of the
    shared segment holds values that may be copied; free-variable lists of functions (shared or
    not) point to private boxes only (the function constants of a Bytecode have `Free = nil`) -/
def CellOK (n : Nat) (a : Nat) : Cell → Prop
  | .arr xs => ∀ x ∈ xs.toList, CopyOK n x ∧ (n ≤ a → PrivV n x)
  | .map kvs => ∀ p ∈ kvs, CopyOK n p.2 ∧ (n ≤ a → PrivV n p.2)
  | .box v => n ≤ a → PrivV n v
  | .fn _ free => ∀ fr, free = some fr → ∀ x ∈ fr, n ≤ x
  | .iter k _ => n ≤ a → GoodIterK n k
  | _ => True

structure HeapOK (n : Nat) (h0 : Array Cell) (h : Array Cell) : Prop where
  size : n ≤ h.size
  low : ∀ a, a < n → h[a]? = h0[a]?
  cells : ∀ a c, h[a]? = some c → CellOK n a c

def CellsOK (n : Nat) (h : Array Cell) : Prop := n ≤ h.size ∧ ∀ a c, h[a]? = some c → CellOK n a c

theorem CellsOK.push {n : Nat} {h : Array Cell} (hh : CellsOK n h) (c : Cell) (hc : CellOK n h.size c) :
    CellsOK n (h.push c) := by
  refine ⟨by simp; exact Nat.le_succ_of_le hh.1, ?_⟩
  intro a c' hc'
  rw [Array.getElem?_push] at hc'
  split at hc'
  · rename_i e; subst e; simp at hc'; subst hc'; exact hc
  · exact hh.2 a c' hc'

theorem HeapOK.cellsOK {n : Nat} {h0 h : Array Cell} (hh : HeapOK n h0 h) : CellsOK n h := ⟨hh.size, hh.cells⟩

/-- no root of the VM (any stack slot, the globals, the module cache, the free-variable list of any frame) and no
    private cell refers to a mutable shared cell -/
structure Inv (n : Nat) (h0 : Array Cell) (s : State) : Prop where
  heap : HeapOK n h0 s.heap
  stack : ∀ v ∈ s.stack.toList, PrivV n v
  globals : PrivV n s.globals
  modules : ∀ v ∈ s.modules.toList, PrivV n v
  frames : ∀ f ∈ s.frames.toList, ∀ fr, f.free = some fr → ∀ x ∈ fr, n ≤ x
  /-- the stack is the fixed Go array `[StackSize]Object` -/
  ssize : s.stack.size = stackSize

class Good (α : Type) where
  good : Nat → α → Prop
export Good (good)

instance : Good V := ⟨PrivV⟩
instance : Good Frame := ⟨fun n f => ∀ fr, f.free = some fr → ∀ x ∈ fr, n ≤ x⟩
instance : Good IterK := ⟨GoodIterK⟩
instance (priority := high) goodAddrs : Good (List Nat) := ⟨fun n l => ∀ x ∈ l, n ≤ x⟩
instance (priority := high) goodBytes : Good (List UInt8) := ⟨fun _ _ => True⟩
instance {α} [Good α] : Good (List α) := ⟨fun n l => ∀ x ∈ l, good n x⟩
instance {α} [Good α] : Good (Option α) := ⟨fun n o => ∀ x, o = some x → good n x⟩
instance {α β} [Good α] [Good β] : Good (α × β) := ⟨fun n p => good n p.1 ∧ good n p.2⟩
instance {α β} [Good α] [Good β] : Good (MProd α β) := ⟨fun n p => good n p.1 ∧ good n p.2⟩
instance {α} [Good α] : Good (ForInStep α) :=
  ⟨fun n r => match r with | .yield b => good n b | .done b => good n b⟩
instance {α} [Good α] : Good (Except OpErr α) := ⟨fun n r => ∀ a, r = .ok a → good n a⟩
instance : Good Unit := ⟨fun _ _ => True⟩
instance : Good Nat := ⟨fun _ _ => True⟩
instance : Good Int := ⟨fun _ _ => True⟩
instance : Good Bool := ⟨fun _ _ => True⟩
instance : Good String := ⟨fun _ _ => True⟩
instance : Good UInt8 := ⟨fun _ _ => True⟩
instance : Good Ctl := ⟨fun _ _ => True⟩
instance : Good Code := ⟨fun _ _ => True⟩
instance : Good Handler := ⟨fun _ _ => True⟩
instance : Good OpErr := ⟨fun _ _ => True⟩
instance : Good VmErr := ⟨fun _ _ => True⟩
instance : Good State := ⟨fun _ _ => True⟩
instance : Good Cell := ⟨fun _ _ => True⟩

@[simp] theorem good_V (n : Nat) (v : V) : good n v = PrivV n v := rfl
@[simp] theorem good_Frame (n : Nat) (f : Frame) : good n f = (∀ fr, f.free = some fr → ∀ x ∈ fr, n ≤ x) := rfl
@[simp] theorem good_IterK (n : Nat) (k : IterK) : good n k = GoodIterK n k := rfl
@[simp] theorem good_addrs (n : Nat) (l : List Nat) : good n l = (∀ x ∈ l, n ≤ x) := rfl
@[simp] theorem good_bytes (n : Nat) (l : List UInt8) : good n l = True := rfl
@[simp] theorem good_listV (n : Nat) (l : List V) : good n l = (∀ x ∈ l, PrivV n x) := rfl
@[simp] theorem good_kvs (n : Nat) (l : List (Bytes × V)) : good n l = (∀ p ∈ l, good n p) := rfl
@[simp] theorem good_option {α} [Good α] (n : Nat) (o : Option α) : good n o = (∀ x, o = some x → good n x) := rfl
@[simp] theorem good_prod {α β} [Good α] [Good β] (n : Nat) (p : α × β) : good n p = (good n p.1 ∧ good n p.2) := rfl
@[simp] theorem good_mprod {α β} [Good α] [Good β] (n : Nat) (p : MProd α β) :
    good n p = (good n p.1 ∧ good n p.2) := rfl
@[simp] theorem good_yield {α} [Good α] (n : Nat) (b : α) : good n (ForInStep.yield b) = good n b := rfl
@[simp] theorem good_done {α} [Good α] (n : Nat) (b : α) : good n (ForInStep.done b) = good n b := rfl
@[simp] theorem good_except {α} [Good α] (n : Nat) (r : Except OpErr α) :
    good n r = (∀ a, r = .ok a → good n a) := rfl
@[simp] theorem good_unit (n : Nat) (u : Unit) : good n u = True := rfl
@[simp] theorem good_nat (n : Nat) (u : Nat) : good n u = True := rfl
@[simp] theorem good_int (n : Nat) (u : Int) : good n u = True := rfl
@[simp] theorem good_bool (n : Nat) (u : Bool) : good n u = True := rfl
@[simp] theorem good_string (n : Nat) (u : String) : good n u = True := rfl
@[simp] theorem good_uint8 (n : Nat) (u : UInt8) : good n u = True := rfl
@[simp] theorem good_ctl (n : Nat) (u : Ctl) : good n u = True := rfl
@[simp] theorem good_code (n : Nat) (u : Code) : good n u = True := rfl
@[simp] theorem good_handler (n : Nat) (u : Handler) : good n u = True := rfl
@[simp] theorem good_operr (n : Nat) (u : OpErr) : good n u = True := rfl
@[simp] theorem good_vmerr (n : Nat) (u : VmErr) : good n u = True := rfl
@[simp] theorem good_state (n : Nat) (u : State) : good n u = True := rfl
@[simp] theorem good_cell (n : Nat) (u : Cell) : good n u = True := rfl

theorem good_ok {α} [Good α] (n : Nat) (a : α) : good n (Except.ok a : Except OpErr α) = good n a := by
  simp only [good_except, Except.ok.injEq, forall_eq']
theorem good_error {α} [Good α] (n : Nat) (e : OpErr) : good n (Except.error e : Except OpErr α) = True :=
  eq_true nofun
theorem good_some {α} [Good α] (n : Nat) (a : α) : good n (some a) = good n a := by
  simp only [good_option, Option.some.injEq, forall_eq']
theorem good_none {α} [Good α] (n : Nat) : good n (none : Option α) = True := eq_true nofun

attribute [good_simp] good_ok good_error good_some good_none good_prod good_mprod good_yield good_done good_V good_unit
  good_nat good_int good_bool good_string good_uint8 good_ctl good_code good_handler good_operr good_vmerr good_state
  good_cell good_bytes PrivV CellOK GoodIterK true_and and_true implies_true

def Tr (n : Nat) (h0 : Array Cell) {α} (Q : α → Prop) (m : M α) : Prop :=
  ∀ s, Inv n h0 s → Inv n h0 (exec m s).2 ∧ ∀ a, (exec m s).1 = .ok a → Q a

namespace Tr
variable {n : Nat} {h0 : Array Cell}

theorem iff_hq {α} {Q : α → Prop} {m : M α} :
    Tr n h0 Q m ↔ Hq (Inv n h0) (fun a s => Inv n h0 s ∧ Q a) (fun _ => Inv n h0) m := by
  refine forall_congr' fun s => imp_congr_right fun _ => ?_
  show _ ↔ match exec m s with | (.ok a, s') => Inv n h0 s' ∧ Q a | (.error _, s') => Inv n h0 s'
  rcases exec m s with ⟨r, s'⟩
  cases r with
  | ok a => exact ⟨fun h => ⟨h.1, h.2 a rfl⟩, fun h => ⟨h.1, fun b hb => by cases hb; exact h.2⟩⟩
  | error e => exact ⟨fun h => h.1, fun h => ⟨h, nofun⟩⟩

theorem pure {α} {Q : α → Prop} (a : α) (h : Q a) : Tr n h0 Q (Pure.pure a : M α) :=
  iff_hq.2 (Hq.pure fun _ hs => ⟨hs, h⟩)

theorem throw {α} {Q : α → Prop} (e : Exc) : Tr n h0 Q (MonadExcept.throw e : M α) :=
  iff_hq.2 (Hq.throw fun _ hs => hs)

theorem panic {α} {Q : α → Prop} (m : String) : Tr n h0 Q (VM.panic m : M α) := throw _
theorem unsupported {α} {Q : α → Prop} (m : String) : Tr n h0 Q (VM.unsupported m : M α) := throw _

theorem bind {α β} {Q : α → Prop} {R : β → Prop} {m : M α} {f : α → M β}
    (hm : Tr n h0 Q m) (hf : ∀ a, Q a → Tr n h0 R (f a)) : Tr n h0 R (m >>= f) :=
  iff_hq.2 ((iff_hq.1 hm).bind fun a => Hq.assume fun _ hs => (iff_hq.1 (hf a hs.2)).pre fun _ e => e ▸ hs.1)

theorem bind_good {α β} [Good α] {R : β → Prop} {m : M α} {f : α → M β}
    (hm : Tr n h0 (good n) m) (hf : ∀ a, good n a → Tr n h0 R (f a)) : Tr n h0 R (m >>= f) := bind hm hf

theorem ite {α} {Q : α → Prop} {c : Prop} [Decidable c] {a b : M α} (ha : c → Tr n h0 Q a) (hb : ¬ c → Tr n h0 Q b) :
    Tr n h0 Q (if c then a else b) := by
  split
  · exact ha ‹_›
  · exact hb ‹_›

theorem getS : Tr n h0 (fun s => Inv n h0 s) VM.getS := by
  intro s hs; exact ⟨hs, fun b hb => by simp at hb; subst hb; exact hs⟩

theorem get : Tr n h0 (fun s => Inv n h0 s) (MonadState.get : M State) := getS

theorem modS {f : State → State} (hf : ∀ s, Inv n h0 s → Inv n h0 (f s)) :
    Tr n h0 (good n) (VM.modS f) := fun s hs => ⟨hf s hs, fun _ _ => trivial⟩

theorem set' {s' : State} (h : Inv n h0 s') : Tr n h0 (good n) (MonadStateOf.set s' : M Unit) :=
  fun _ _ => ⟨h, fun _ _ => trivial⟩

theorem of_keeps {α} {m : M α} (h : Keeps (Inv n h0) m) : Tr n h0 (fun _ => True) m :=
  fun s hs => ⟨h.elim s hs, fun _ _ => trivial⟩

theorem keeps {α} {Q : α → Prop} {m : M α} (h : Tr n h0 Q m) : Keeps (Inv n h0) m :=
  Keeps.intro' fun s hs => (h s hs).1

theorem forIn_list_good {α β} [Good β] (l : List α) (init : β) (f : α → β → M (ForInStep β)) (hinit : good n init)
    (hf : ∀ a, a ∈ l → ∀ b, good n b → Tr n h0 (good n) (f a b)) : Tr n h0 (good n) (forIn l init f) := by
  induction l generalizing init with
  | nil => exact Tr.pure _ hinit
  | cons a as ih =>
    rw [List.forIn_cons]
    refine Tr.bind (hf a (by simp) init hinit) ?_
    intro x hx
    cases x with
    | done b => exact Tr.pure _ hx
    | yield b => exact ih b hx (fun a ha => hf a (by simp [ha]))

theorem forIn_range_good {β} [Good β] (r : Std.Legacy.Range) (init : β) (f : Nat → β → M (ForInStep β))
    (hinit : good n init) (hf : ∀ a b, good n b → Tr n h0 (good n) (f a b)) : Tr n h0 (good n) (forIn r init f) := by
  rw [Std.Legacy.Range.forIn_eq_forIn_range']
  exact forIn_list_good _ _ _ hinit (fun a _ => hf a)

theorem post {α} {Q Q' : α → Prop} {m : M α} (h : Tr n h0 Q m) (hq : ∀ a, Q a → Q' a) : Tr n h0 Q' m :=
  fun s hs => ⟨(h s hs).1, fun a ha => hq a ((h s hs).2 a ha)⟩

theorem inv {α} {Q : α → Prop} {m : M α} (h : Tr n h0 Q m) {s : State} (hs : Inv n h0 s) : Inv n h0 (exec m s).2 :=
  (h s hs).1

theorem intro' {α} {Q : α → Prop} {m : M α}
    (h : ∀ s, Inv n h0 s → Inv n h0 (exec m s).2 ∧ ∀ a, (exec m s).1 = .ok a → Q a) : Tr n h0 Q m := h

end Tr
attribute [irreducible] Tr
attribute [tr] Tr.panic Tr.unsupported

end UgoVerif.VM

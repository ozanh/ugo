import UgoVerif.Proofs.C08Step
/-
  C08, shared heap segment: the instructions that touch constants which may be shared maps
  (CONSTANT, LOADMODULE, STOREMODULE), instruction fetch as a pure function of the state
  (`byteAt`), and `dispatch` for all other opcodes.
-/
namespace UgoVerif.VM
open UgoVerif UgoVerif.Go

/-- byte `i` of `code` (what `vm.curInsts[i]` reads; `none`: index out of range) -/
def codeByte (code : Code) (i : Int) : Option Nat :=
  if i < 0 || i ≥ (code.insts.size : Int) then none else some (code.insts[i.toNat]!).toNat

def curCodeOf (s : State) : Option Code :=
  match (s.frames[s.curFrame]!).fn with
  | none => none
  | some a =>
    match s.heap[a]? with
    | some (.fn c _) => some (s.codes[c]!)
    | _ => none

def byteAt (s : State) (i : Int) : Option Nat :=
  match curCodeOf s with
  | some code => codeByte code i
  | none => none

/-- big-endian 16-bit operand at `i` -/
def word2 (s : State) (i : Int) : Option Nat :=
  match byteAt s (i + 1), byteAt s i with
  | some lo, some hi => some (lo ||| (hi <<< 8))
  | _, _ => none

/-- the read `m` returns `o` in `s`: the value `a` when `o = some a`, an abnormal end when `o = none`; `s` stays.
    `curCodeOf`, `byteAt`, `word2` are what `curCode`, `instAt`, `opnd2` return in this sense. -/
def Reads {α} (m : M α) (s : State) (o : Option α) : Prop := ∃ r, exec m s = (r, s) ∧ r.toOption = o

theorem Reads.ok {α} {m : M α} {s : State} {a : α} (h : Reads m s (some a)) : exec m s = (.ok a, s) := by
  obtain ⟨r, e, hr⟩ := h
  cases r <;> cases hr
  exact e

theorem Reads.fail {α} {m : M α} {s : State} (h : Reads m s none) : ∃ e, exec m s = (.error e, s) := by
  obtain ⟨r, e, hr⟩ := h
  cases r <;> cases hr
  exact ⟨_, e⟩

theorem Reads.bind_post {α β} {m : M α} {s : State} {o : Option α} (h : Reads m s o) (f : α → M β)
    {P : Except Exc β × State → Prop} (herr : ∀ e, P (.error e, s)) (hok : ∀ a, o = some a → P (exec (f a) s)) :
    P (exec (m >>= f) s) := by
  obtain ⟨r, e, rfl⟩ := h
  rw [exec_bind, e]
  cases r with
  | error x => exact herr x
  | ok a => exact hok a rfl

theorem reads_curCode (s : State) : Reads curCode s (curCodeOf s) := by
  unfold Reads curCodeOf
  rw [show exec curCode s = _ from Proofs.Fetch.exec_curCode s]
  cases (s.frames[s.curFrame]!).fn with
  | none => exact ⟨_, rfl, rfl⟩
  | some a =>
    dsimp only
    cases s.heap[a]? with
    | none => exact ⟨_, rfl, rfl⟩
    | some c => cases c <;> exact ⟨_, rfl, rfl⟩

theorem reads_instAt (s : State) (i : Int) : Reads (instAt i) s (byteAt s i) := by
  obtain ⟨r, e, h⟩ := reads_curCode s
  simp only [Reads, instAt, exec_bind, e, byteAt, ← h]
  cases r with
  | error x => exact ⟨_, rfl, rfl⟩
  | ok code => dsimp only [Except.toOption, codeByte]; split <;> exact ⟨_, rfl, rfl⟩

theorem byteAt_congr {s t : State} (h1 : t.frames = s.frames) (h2 : t.curFrame = s.curFrame) (h3 : t.heap = s.heap)
    (h4 : t.codes = s.codes) (i : Int) : byteAt t i = byteAt s i := by
  unfold byteAt curCodeOf; rw [h1, h2, h3, h4]

theorem reads_opnd2 (s : State) (k : Int) : Reads (opnd2 k) s (word2 s (s.ip + k)) := by
  obtain ⟨r1, e1, h1⟩ := reads_instAt s (s.ip + k + 1)
  obtain ⟨r2, e2, h2⟩ := reads_instAt s (s.ip + k)
  simp only [Reads, opnd2, exec_bind, exec_getIp, e1, word2, ← h1, ← h2]
  cases r1 with
  | error x => exact ⟨_, rfl, rfl⟩
  | ok lo =>
    simp only [e2]
    cases r2 <;> exact ⟨_, rfl, rfl⟩

theorem reads_constAt (s : State) (i : Nat) : Reads (constAt i) s s.consts[i]? := by
  unfold Reads
  rw [show exec (constAt i) s = _ from Proofs.Fetch.exec_constAt i s]
  cases s.consts[i]? <;> exact ⟨_, rfl, rfl⟩

section
variable {n : Nat} {h0 : Array Cell}

instance (priority := high) tr_setModule (midx : Nat) (v : V) :
    TrIf n h0 (modS fun s => { s with modules := s.modules.set! midx v }) (good n) (PrivV n v) :=
  ⟨fun hv => Tr.modS fun _ h => { h with modules := all_set! h.modules midx v hv }⟩

@[tr] theorem tr_execStoreModule : Tr n h0 (good n) execStoreModule := by
  unfold execStoreModule; trs
  all_goals exact PrivV.copyOK (by assumption)

/-- what STOREMODULE does once slot `sp - 1` holds `value = v.Copy()` -/
def storeRest' (midx : Nat) (value : V) : M Ctl := do
  let s ← getS
  if midx ≥ s.modules.size then
    panic s!"runtime error: index out of range [{midx}] with length {s.modules.size}"
  modS fun s => { s with modules := s.modules.set! midx value }
  bumpIp 2; return .next

theorem execStoreModule_eq : execStoreModule =
    (opnd2 1 >>= fun midx => getSp >>= fun sp => stackGet (sp - 1) >>= fun value => copyV value >>= fun value =>
      stackSet (sp - 1) value >>= fun _ => storeRest' midx value) := rfl

theorem tr_storeRest' (midx : Nat) (v : V) (hv : PrivV n v) : Tr n h0 (good n) (storeRest' midx v) := by
  unfold storeRest'; trs

/-- what CONSTANT / LOADMODULE do once the value to push is known -/
def pushRest (v : V) (flag? : Option Bool) (w : Int) : M Ctl := do
  pushV v
  match flag? with
  | some b => pushV (.bool b)
  | none => pure ()
  bumpIp w; return .next

theorem tr_pushRest (v : V) (hv : PrivV n v) (flag? : Option Bool) (w : Int) :
    Tr n h0 (good n) (pushRest v flag? w) := by
  unfold pushRest; trs

theorem execConstant_eq : execConstant = (opnd2 1 >>= fun c => constAt c >>= fun v => pushRest v none 2) := rfl

theorem execConstant_inv (s : State) (hs : Inv n h0 s)
    (hc : ∀ c v, word2 s (s.ip + 1) = some c → s.consts[c]? = some v → PrivV n v) :
    Inv n h0 (exec execConstant s).2 := by
  rw [execConstant_eq]
  refine (reads_opnd2 s 1).bind_post _ (P := fun r => Inv n h0 r.2) (fun _ => hs) fun c h1 => ?_
  refine (reads_constAt s c).bind_post _ (P := fun r => Inv n h0 r.2) (fun _ => hs) fun v h2 => ?_
  exact (tr_pushRest v (hc c v h1 h2) none 2).inv hs

theorem tr_dispatch (F : FloatOps) (op : Nat) (h1 : op ≠ OpConstant) (h2 : op ≠ OpLoadModule) :
    Tr n h0 (good n) (dispatch F op) := by
  apply dispatch_cases (P := Tr n h0 (good n)) <;> intros <;> first
    | (simp only [tr]; done)
    | exact absurd ‹_› h1
    | exact absurd ‹_› h2

end

end UgoVerif.VM

import UgoVerif.Proofs.C08Prims
/-
  C08, shared heap segment: `Tr` lemmas for the value operations, the error path and calls
  (VM/Base.lean, VM/Step.lean up to `callAny`).
-/
namespace UgoVerif.VM
open UgoVerif UgoVerif.Go

@[simp] theorem free_setLast (f : Frame) (g : Handler → Handler) : (setLast f g).free = f.free := by
  unfold setLast; split <;> rfl
@[simp] theorem free_popHandler (f : Frame) : (popHandler f).free = f.free := by
  unfold popHandler; split <;> rfl

section
variable {n : Nat}

theorem good_take {α} [Good α] {l : List α} (h : good n l) (k : Nat) : good n (l.take k) :=
  fun x hx => h x (List.mem_of_mem_take hx)
theorem good_drop {α} [Good α] {l : List α} (h : good n l) (k : Nat) : good n (l.drop k) :=
  fun x hx => h x (List.mem_of_mem_drop hx)
theorem good_append {α} [Good α] (l₁ l₂ : List α) : good n (l₁ ++ l₂) = (good n l₁ ∧ good n l₂) :=
  propext ⟨fun h => ⟨fun x hx => h x (List.mem_append_left _ hx), fun x hx => h x (List.mem_append_right _ hx)⟩,
    fun h x hx => (List.mem_append.mp hx).elim (h.1 x) (h.2 x)⟩
theorem good_cons {α} [Good α] (a : α) (l : List α) : good n (a :: l) = (good n a ∧ good n l) :=
  propext ⟨fun h => ⟨h a (List.mem_cons_self ..), fun x hx => h x (List.mem_cons_of_mem _ hx)⟩,
    fun h x hx => (List.mem_cons.mp hx).elim (fun e => e ▸ h.1) (h.2 x)⟩
theorem good_nil {α} [Good α] : good n ([] : List α) = True := eq_true nofun
attribute [good_simp] good_append good_cons good_nil
theorem good_replicate {α} [Good α] (k : Nat) {a : α} (h : good n a) : good n (List.replicate k a) :=
  fun _ hx => (List.eq_of_mem_replicate hx) ▸ h

theorem good_get! {xs : List V} (h : good n xs) (i : Nat) : PrivV n xs[i]! := all_get! (privV_default n) h i

theorem good_ofScalarVal {x : Val} {v : V} (h : ofScalarVal x = some v) : good n (Except.ok v : Except OpErr V) := by
  rw [good_ok]
  cases x <;> simp [ofScalarVal] at h <;> subst h <;> trivial

theorem lookupKV_mem {k : Bytes} {kvs : List (Bytes × V)} {v : V} (h : lookupKV k kvs = some v) :
    ∃ k', (k', v) ∈ kvs := by
  fun_induction lookupKV k kvs with
  | case1 => cases h
  | case2 k' v' r hk => cases h; exact ⟨k', List.mem_cons_self⟩
  | case3 k' v' r hk ih => exact (ih h).imp fun _ => List.mem_cons_of_mem _

theorem good_lookupKV {k : Bytes} {kvs : List (Bytes × V)} {v : V} (h : good n kvs) (hl : lookupKV k kvs = some v) :
    PrivV n v :=
  have ⟨_, hk⟩ := lookupKV_mem hl
  (h _ hk).2

theorem mem_insertKV {k : Bytes} {v : V} {kvs : List (Bytes × V)} {p : Bytes × V} (h : p ∈ insertKV k v kvs) :
    p ∈ kvs ∨ p = (k, v) := by
  fun_induction insertKV k v kvs with
  | case1 => exact .inr (List.mem_singleton.mp h)
  | case2 k' v' r hk => exact (List.mem_cons.mp h).symm.imp (List.mem_cons_of_mem _) id
  | case3 k' v' r hk ih =>
    rcases List.mem_cons.mp h with h | h
    · exact .inl (h ▸ List.mem_cons_self)
    · exact (ih h).imp (List.mem_cons_of_mem _) id

theorem good_insertKV {k : Bytes} {v : V} {b : List (Bytes × V)} (hb : good n b) (hv : PrivV n v) :
    good n (insertKV k v b) := by
  intro p hp
  rcases mem_insertKV hp with h | h
  · exact hb p h
  · subst h; exact ⟨trivial, hv⟩

/-- a private value may sit in any cell -/
theorem PrivV.elem {a : Nat} {x : V} (h : PrivV n x) : CopyOK n x ∧ (n ≤ a → PrivV n x) := ⟨h.copyOK, fun _ => h⟩

theorem cellOK_arr_of {xs : List V} (h : good n xs) (a : Nat) : CellOK n a (.arr xs.toArray) :=
  fun x hx => (h x (by simpa using hx)).elem

theorem cellOK_map_of {kvs : List (Bytes × V)} (h : good n kvs) (a : Nat) : CellOK n a (.map kvs) :=
  fun p hp => (h p hp).2.elem

theorem cellOK_fn {c : Nat} {free : List Addr} (h : good n free) (a : Nat) : CellOK n a (.fn c (some free)) :=
  fun _ e => Option.some.inj e ▸ h

theorem CellOK.box {a : Nat} {v : V} (h : CellOK n a (.box v)) (ha : n ≤ a) : PrivV n v := h ha

theorem good_snoc {l : List Addr} {a : Addr} (hl : good n l) (ha : n ≤ a) : good n (l ++ [a]) :=
  fun x hx => (List.mem_append.mp hx).elim (hl x) fun h => List.eq_of_mem_singleton h ▸ ha

theorem free_le {f : Frame} {fr : List Addr} {i : Nat} {a : Addr} (hf : good n f) (h1 : f.free = some fr)
    (h2 : fr[i]? = some a) : n ≤ a := hf fr h1 a (List.mem_of_getElem? h2)

end

section
variable {n : Nat} {h0 : Array Cell}

@[tr] theorem tr_setCurFrame_setLast (g : Handler → Handler) :
    Tr n h0 (good n) (setCurFrame fun f => setLast f g) :=
  (tr_setCurFrame _).tr fun f h => by rwa [good_Frame, free_setLast]
@[tr] theorem tr_setCurFrame_popHandler : Tr n h0 (good n) (setCurFrame popHandler) :=
  (tr_setCurFrame _).tr fun f h => by rwa [good_Frame, free_popHandler]
@[tr] theorem tr_clearCurrentFrame : Tr n h0 (good n) clearCurrentFrame := (tr_setCurFrame _).tr fun _ _ _ => nofun

@[tr] theorem tr_clearDown (hi lo : Int) : Tr n h0 (good n) (clearDown hi lo) := by unfold clearDown; trs

@[tr] theorem tr_searchFrames (k : Nat) : Tr n h0 (good n) (searchFrames k) := by
  induction k with
  | zero => exact Tr.pure _ nofun
  | succ k ih =>
    unfold searchFrames; trs [ih]
    all_goals exact fun _ h => h.modFrame _ _ fun _ _ _ => nofun

instance tr_pushV (v : V) : TrIf n h0 (pushV v) (good n) (PrivV n v) :=
  ⟨fun hv => tr_getSp.bind fun _ _ => ((tr_stackSet _ _).tr hv).bind fun _ _ => tr_setSp _⟩
@[tr] theorem tr_bumpIp (k : Int) : Tr n h0 (good n) (bumpIp k) := tr_getIp.bind fun _ _ => tr_setIp _
@[tr] theorem tr_jumpTarget : Tr n h0 (good n) jumpTarget := (tr_opnd4 1).bind fun _ _ => Tr.pure _ trivial
@[tr] theorem tr_fnCell (a : Addr) : Tr n h0 (good n) (fnCell a) := by unfold fnCell; trs

@[tr] theorem tr_stackSlice (lo hi : Int) : Tr n h0 (good n) (stackSlice lo hi) := by
  unfold stackSlice; trs
  rename_i s hs
  exact good_take (good_drop hs.stack _) _

instance tr_newArray (xs : List V) : TrIf n h0 (newArray xs) (good n) (good n xs) :=
  ⟨fun hx => ((tr_alloc _).tr fun a _ => cellOK_arr_of hx a).bind fun _ ha => Tr.pure _ ha⟩

instance tr_copyToStack (at_ : Int) (xs : List V) : TrIf n h0 (copyToStack at_ xs) (good n) (good n xs) where
  tr hx := by
    unfold copyToStack; trs
    all_goals exact hx _ ‹_›
@[tr] theorem tr_fillUndefined (lo : Int) (k : Nat) : Tr n h0 (good n) (fillUndefined lo k) := by unfold fillUndefined; trs
instance tr_copySlots (d : Int) (xs : List V) : TrIf n h0 (copySlots d xs) (good n) (good n xs) where
  tr hx := by
    unfold copySlots; trs
    exact hx _ ‹_›
instance tr_enterFrame (fi : Nat) (fa : Addr) (fr : Option (List Addr)) (bp : Int) :
    TrIf n h0 (enterFrame fi fa fr bp) (good n) (good n fr) :=
  ⟨fun hfr => Tr.modS fun _ h => { h.modFrame _ _ fun _ _ => hfr with }⟩
@[tr] theorem tr_popArgs (k : Nat) : Tr n h0 (good n) (popArgs k) := by unfold popArgs; trs

@[tr] theorem tr_mkErr (a b : String) (c : Option Addr) : Tr n h0 (good n) (mkErr a b c) := tr_alloc_err _ _ _
@[tr] theorem tr_rtErrOfOpErr (e : OpErr) : Tr n h0 (good n) (rtErrOfOpErr e) := by unfold rtErrOfOpErr; trs

theorem tr_throwF_handle (fuel : Nat) (h : ∀ e, Tr n h0 (good n) (throwF fuel e)) (err : Addr) :
    Tr n h0 (good n) (throwF.handle fuel err) := by
  unfold throwF.handle; trs [h]
@[tr] theorem tr_throwF (fuel : Nat) : ∀ err, Tr n h0 (good n) (throwF fuel err) := by
  induction fuel with
  | zero => intro _; unfold throwF; exact Tr.unsupported _
  | succ k ih =>
    intro err
    unfold throwF; trs [tr_throwF_handle k ih]
@[tr] theorem tr_throwFuel : Tr n h0 (good n) throwFuel := Tr.getS.bind fun _ _ => Tr.pure _ trivial
@[tr] theorem tr_throwGenErr (e : OpErr) : Tr n h0 (good n) (throwGenErr e) := by unfold throwGenErr; trs
@[tr] theorem tr_failWith (e : OpErr) : Tr n h0 (good n) (failWith e) := by unfold failWith; trs
@[tr] theorem tr_findFinally (fuel : Nat) : ∀ upto, Tr n h0 (good n) (findFinally fuel upto) := by
  induction fuel with
  | zero => intro _; unfold findFinally; exact Tr.unsupported _
  | succ k ih => intro u; unfold findFinally; trs [ih]

@[tr] theorem tr_vString (v : V) : Tr n h0 (good n) (vString v) := by unfold vString; trs
@[tr] theorem tr_isFalsy (v : V) : Tr n h0 (good n) (isFalsy v) := by
  unfold isFalsy; split
  case h_11 a => exact (tr_mapEntries a).bind fun _ _ => Tr.pure _ trivial
  all_goals trs
@[tr] theorem tr_vEqual (F : FloatOps) (l r : V) : Tr n h0 (good n) (vEqual F l r) := by unfold vEqual; trs

instance tr_vBinaryOp (F : FloatOps) (tok : Tok) (l r : V) : TrIf n h0 (vBinaryOp F tok l r) (good n) (PrivV n l ∧ PrivV n r) where
  tr := fun ⟨hl, hr⟩ => by
    unfold vBinaryOp; trs
    all_goals first
      | exact good_ofScalarVal ‹_›
      | exact fun a _ => cellOK_arr_of (by rw [good_append, good_cons]; exact ⟨‹_›, hr, nofun⟩) a
      | exact fun a _ => cellOK_arr_of (by rw [good_append]; exact ⟨‹_›, ‹_›⟩) a
instance tr_vUnary (F : FloatOps) (tok : Tok) (r : V) : TrIf n h0 (vUnary F tok r) (good n) (PrivV n r) where
  tr hr := by
    unfold vUnary; trs
    all_goals exact good_ofScalarVal ‹_›
instance tr_vIndexGet (t i : V) : TrIf n h0 (vIndexGet t i) (good n) (PrivV n t) where
  tr ht := by
    unfold vIndexGet; trs
    · rw [good_ok]; exact good_get! ‹_› _
    · rw [good_ok]; exact good_lookupKV ‹_› ‹_›
instance tr_vIndexSet (t i v : V) : TrIf n h0 (vIndexSet t i v) (good n) (PrivV n t ∧ PrivV n v) where
  tr := fun ⟨ht, hv⟩ => by
    unfold vIndexSet; trs
    · exact all_set! (P := fun x => CopyOK n x ∧ (n ≤ _ → PrivV n x)) ‹_› _ _ hv.elem
    · exact cellOK_map_of (good_insertKV ‹_› hv) _

@[tr] theorem tr_bindArgs (code : Code) (bp na fl : Int) : Tr n h0 (good n) (bindArgs code bp na fl) := by
  unfold bindArgs; trs
  all_goals first
    | exact good_take (by rw [good_append]; exact ⟨‹_›, ‹_›⟩) _
    | exact good_drop (by rw [good_append]; exact ⟨‹_›, ‹_›⟩) _
    | (simp_all only [good_simp]; done)
@[tr] theorem tr_callCompiled (fa : Addr) (na fl : Int) : Tr n h0 (good n) (callCompiled fa na fl) := by
  unfold callCompiled; trs
  all_goals (simp_all only [good_simp]; done)
instance tr_callBuiltin (i : Nat) (args : List V) : TrIf n h0 (callBuiltin i args) (good n) (good n args) where
  tr hargs := by
    unfold callBuiltin; trs
    all_goals first
      | (rw [good_append]; exact ⟨‹_›, good_replicate _ trivial⟩)
      | (rw [good_cons] at hargs ⊢; exact ⟨hargs.2 _ (List.mem_singleton_self _), good_replicate _ trivial⟩)
      | (simp_all only [good_simp]; done)
@[tr] theorem tr_callObject (c : V) (na fl : Int) : Tr n h0 (good n) (callObject c na fl) := by
  unfold callObject; trs
  all_goals (simp_all only [good_simp]; done)
@[tr] theorem tr_callAny (c : V) (na fl : Int) : Tr n h0 (good n) (callAny c na fl) := by unfold callAny; trs

end
end UgoVerif.VM

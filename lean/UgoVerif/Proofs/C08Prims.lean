import UgoVerif.Proofs.C08Inv
import UgoVerif.Proofs.Copy
/-
  C08, shared heap segment: the `Tr` lemmas of the primitives of VM/Base.lean and of `Copy()`, as the tables the
  walk `trs` reads.
-/
namespace UgoVerif.VM
open UgoVerif UgoVerif.Go

section
variable {n : Nat} {h0 : Array Cell}

theorem privV_default (n : Nat) : PrivV n (default : V) := trivial

theorem all_get! {α} [Inhabited α] {P : α → Prop} (hd : P default) {l : List α} (h : ∀ x ∈ l, P x) (i : Nat) :
    P l[i]! := by
  by_cases hi : i < l.length
  · rw [getElem!_pos l i hi]; exact h _ (List.getElem_mem hi)
  · rw [getElem!_neg l i hi]; exact hd

theorem all_get!' {α} [Inhabited α] {P : α → Prop} (hd : P default) {a : Array α} (h : ∀ x ∈ a.toList, P x)
    (i : Nat) : P a[i]! := Array.getElem!_toList (xs := a) ▸ all_get! hd h i

theorem all_set! {P : V → Prop} {st : Array V} (h : ∀ v ∈ st.toList, P v) (i : Nat) (x : V) (hx : P x) :
    ∀ v ∈ (st.set! i x).toList, P v := by
  intro v hv
  rw [Array.set!_eq_setIfInBounds, Array.toList_setIfInBounds] at hv
  rcases List.mem_or_eq_of_mem_set hv with h1 | h1
  · exact h v h1
  · subst h1; exact hx

theorem all_modify {α} {P : α → Prop} {l : List α} (h : ∀ a ∈ l, P a) (i : Nat) {g : α → α} (hg : ∀ a, P a → P (g a)) :
    ∀ a ∈ l.modify i g, P a := by
  intro a ha
  rw [List.mem_iff_getElem] at ha
  obtain ⟨k, hk, rfl⟩ := ha
  rw [List.length_modify] at hk
  rw [List.getElem_modify]
  split
  · exact hg _ (h _ (List.getElem_mem hk))
  · exact h _ (List.getElem_mem hk)

theorem Inv.modFrame {s : State} (h : Inv n h0 s) (i : Nat) (g : Frame → Frame)
    (hg : ∀ f : Frame, good n f → good n (g f)) :
    Inv n h0 { s with frames := s.frames.modify i g } :=
  { h with frames := fun f hf => all_modify (P := good n) h.frames i hg f (Array.toList_modify ▸ hf) }

open UgoVerif.Proofs.Copy in
theorem HeapOK.ext {h h' : Array Cell} (hh : HeapOK n h0 h) (he : Ext h h') (hc : CellsOK n h') : HeapOK n h0 h' :=
  ⟨hc.1, fun a ha => by rw [he.2 a (Nat.lt_of_lt_of_le ha hh.size)]; exact hh.low a ha, hc.2⟩

theorem HeapOK.push {h : Array Cell} (hh : HeapOK n h0 h) (c : Cell) (hc : CellOK n h.size c) :
    HeapOK n h0 (h.push c) := hh.ext (.push h c) (hh.cellsOK.push c hc)

theorem HeapOK.set {h : Array Cell} (hh : HeapOK n h0 h) (a : Nat) (c : Cell) (ha : n ≤ a) (hc : CellOK n a c) :
    HeapOK n h0 (h.set! a c) := by
  rw [Array.set!_eq_setIfInBounds]
  refine ⟨by simpa using hh.size, ?_, ?_⟩
  · intro a' ha'
    rw [Array.getElem?_setIfInBounds]
    have : a ≠ a' := by omega
    simp [this]; exact hh.low a' ha'
  · intro a' c' hc'
    rw [Array.getElem?_setIfInBounds] at hc'
    split at hc'
    · rename_i e; subst e
      split at hc'
      · simp at hc'; subst hc'; exact hc
      · cases hc'
    · exact hh.cells a' c' hc'

/-! Lemmas tagged `tr` have no hypotheses and state the type-directed result predicate `good n`.  Any other
lemma of an action, with a side condition on the arguments or a result predicate that depends on more
than the type (`getS`, `heapGet`, `constAt`, `alloc`), is an entry of the table `TrIf` (the device: head comment of
Proofs/WalkAttr.lean). -/

class TrIf (n : Nat) (h0 : Array Cell) {α} (m : M α) (Q : outParam (α → Prop)) (C : outParam Prop) : Prop where
  tr : C → Tr n h0 Q m

instance : TrIf n h0 getS (Inv n h0) True := ⟨fun _ => Tr.getS⟩
instance (f : State → State) : TrIf n h0 (modS f) (good n) (∀ s, Inv n h0 s → Inv n h0 (f s)) := ⟨Tr.modS⟩

@[tr] theorem tr_stackGet (i : Int) : Tr n h0 (good n) (stackGet i) :=
  Tr.getS.bind fun _ hs => Tr.ite (fun _ => Tr.panic _) fun _ => Tr.pure _ (all_get!' (privV_default n) hs.stack _)

instance tr_stackSet (i : Int) (v : V) : TrIf n h0 (stackSet i v) (good n) (PrivV n v) :=
  ⟨fun hv => Tr.ite (fun _ => Tr.panic _) fun _ => Tr.modS fun _ h =>
    { h with stack := all_set! h.stack _ _ hv, ssize := (Array.size_set! ..).trans h.ssize }⟩

@[tr] theorem tr_getSp : Tr n h0 (good n) getSp := Tr.getS.bind fun _ _ => Tr.pure _ trivial
@[tr] theorem tr_setSp (v : Int) : Tr n h0 (good n) (setSp v) := Tr.modS fun _ h => { h with }
@[tr] theorem tr_getIp : Tr n h0 (good n) getIp := Tr.getS.bind fun _ _ => Tr.pure _ trivial
@[tr] theorem tr_setIp (v : Int) : Tr n h0 (good n) (setIp v) := Tr.modS fun _ h => { h with }

@[tr] theorem tr_curFrame : Tr n h0 (good n) curFrame := Tr.getS.bind fun _ hs => Tr.pure _ (all_get!' (P := good n) (fun _ h => nomatch h) hs.frames _)

instance tr_setCurFrame (g : Frame → Frame) :
    TrIf n h0 (setCurFrame g) (good n) (∀ f : Frame, good n f → good n (g f)) :=
  ⟨fun hg => Tr.modS fun _ h => h.modFrame _ g hg⟩

theorem tr_heapGet (a : Addr) : Tr n h0 (CellOK n a) (heapGet a) :=
  Tr.getS.bind fun s hs => by
    split
    · exact Tr.pure _ (hs.heap.cells a _ ‹_›)
    · exact Tr.unsupported _

instance (a : Addr) : TrIf n h0 (heapGet a) (CellOK n a) True := ⟨fun _ => tr_heapGet a⟩

theorem tr_heapSet (a : Addr) (c : Cell) (ha : n ≤ a) (hc : CellOK n a c) : Tr n h0 (good n) (heapSet a c) :=
  Tr.modS fun _ h => { h with heap := h.heap.set a c ha hc }

instance tr_heapUpd (a : Addr) (c : Cell) : TrIf n h0 (heapUpd a c) (good n) (n ≤ a ∧ CellOK n a c) :=
  ⟨fun h => (tr_heapGet a).bind fun _ _ => Tr.ite (fun _ => tr_heapSet a c h.1 h.2) fun _ => Tr.unsupported _⟩

instance tr_boxSet (a : Addr) (v : V) : TrIf n h0 (boxSet a v) (good n) (n ≤ a ∧ PrivV n v) where
  tr h := (tr_heapGet a).bind fun _ _ => by
    split
    · exact tr_heapSet a _ h.1 fun _ => h.2
    · exact Tr.unsupported _

/-- allocation appends: the new address is private -/
instance tr_alloc (c : Cell) : TrIf n h0 (alloc c) (fun a => n ≤ a) (∀ a, n ≤ a → CellOK n a c) where
  tr hc := Tr.intro' fun s hs => by
    have e : exec (alloc c) s = (.ok s.heap.size, { s with heap := s.heap.push c }) := rfl
    rw [e]
    exact ⟨{ hs with heap := hs.heap.push c (hc _ hs.heap.size) }, fun a ha => by cases ha; exact hs.heap.size⟩

@[tr] theorem tr_alloc_rterr (e : Option Addr) : Tr n h0 (good n) (alloc (.rterr e)) :=
  ((tr_alloc (.rterr e)).tr fun _ _ => trivial).post fun _ _ => trivial
@[tr] theorem tr_alloc_err (a b : Bytes) (c : Option Addr) : Tr n h0 (good n) (alloc (.err a b c)) :=
  ((tr_alloc (.err a b c)).tr fun _ _ => trivial).post fun _ _ => trivial

theorem tr_noteTrace (op : Nat) : Tr n h0 (good n) (noteTrace op) :=
  Tr.getS.bind fun _ hs => Tr.ite (fun _ => Tr.set' { hs with })
    fun _ => Tr.set' { hs with }

/-- constants are NOT known to be private (a builtin-module constant is a shared map) -/
instance tr_constAt (i : Nat) : TrIf n h0 (constAt i) (fun _ => True) True where
  tr _ := Tr.getS.bind fun _ _ => by
    split
    · exact Tr.pure _ trivial
    · exact Tr.panic _

instance tr_arrElems (a : Addr) (off len : Nat) : TrIf n h0 (arrElems a off len) (good n) (n ≤ a) where
  tr ha := (tr_heapGet a).bind fun c hc => by
    split
    · exact Tr.pure _ fun x hx => (hc x (List.mem_of_mem_drop (List.mem_of_mem_take hx))).2 ha
    · exact Tr.unsupported _

theorem tr_mapEntries (a : Addr) : Tr n h0 (fun kvs => n ≤ a → ∀ p ∈ kvs, PrivV n p.2) (mapEntries a) :=
  (tr_heapGet a).bind fun c hc => by
    split
    · exact Tr.pure _ fun ha p hp => (hc p hp).2 ha
    · exact Tr.unsupported _

instance (a : Addr) : TrIf n h0 (mapEntries a) (good n) (n ≤ a) :=
  ⟨fun ha => (tr_mapEntries a).post fun _ h p hp => ⟨trivial, h ha p hp⟩⟩

attribute [tr] tr_noteTrace

/-! `Copy()` (VM/Copy.lean) of a value that is private or a shared array / map / function / error returns a PRIVATE
  value, appends private cells only and leaves every existing cell — in particular the shared segment — as it is. -/
section Copy
open UgoVerif.Proofs.Copy

set_option linter.unnecessarySimpa false in
theorem privRule (n : Nat) : CopyRule (CellsOK n) (CopyOK n) (fun _ v => PrivV n v) where
  mono _ q := q
  arrElems hi _ hx x hm := (hi.2 _ _ hx x hm).1
  mapElems hi _ hx p hm := (hi.2 _ _ hx p hm).1
  arr hi q := ⟨hi.push _ fun x hx => have := q x (by simpa using hx); ⟨this.copyOK, fun _ => this⟩, hi.1⟩
  map hi q := ⟨hi.push _ fun p hp => ⟨(q p hp).copyOK, fun _ => q p hp⟩, hi.1⟩
  fn {_ a _ _} hi hf := ⟨hi.push _ (hi.2 a _ hf), trivial⟩
  err hi := ⟨hi.push _ trivial, trivial⟩
  rterr hi _ := ⟨hi.push _ trivial, trivial⟩
  leaf {h v} _ hv hc := by cases v <;> simp [Copier] at hc <;> simpa [PrivV, CopyOK] using hv

theorem copyVal_good (n fuel : Nat) (h : Array Cell) (v v' : V) (h' : Array Cell) (hh : CellsOK n h) (hv : CopyOK n v)
    (hc : copyVal fuel h v = some (v', h')) : Ext h h' ∧ CellsOK n h' ∧ PrivV n v' :=
  have r := copyVal_rule (privRule n) fuel h v v' h' hh hv hc
  ⟨r.1.1, r.2⟩

/-- the `Copy()` of OpStoreModule, for a value that may be a shared module constant; it needs the heap part of the
    invariant only, so it serves under `Inv` and inside the window (`InvH`) -/
theorem copyV_heapOK {s : State} (hh : HeapOK n h0 s.heap) {v : V} (hv : CopyOK n v) :
    (∃ m, exec (copyV v) s = (.error (.unsupported m), s)) ∨
    ∃ v' hp, exec (copyV v) s = (.ok v', { s with heap := hp }) ∧ HeapOK n h0 hp ∧ PrivV n v' := by
  rw [exec_copyV]
  cases hx : copyVal (s.heap.size + 2) s.heap v with
  | none => exact .inl ⟨_, rfl⟩
  | some p =>
    obtain ⟨e, c, pv⟩ := copyVal_good n _ s.heap v p.1 p.2 hh.cellsOK hv hx
    exact .inr ⟨p.1, p.2, rfl, hh.ext e c, pv⟩

instance tr_copyV (v : V) : TrIf n h0 (copyV v) (good n) (CopyOK n v) where
  tr hv := Tr.intro' fun s hs => by
    rcases copyV_heapOK hs.heap hv with ⟨_, e⟩ | ⟨v', hp, e, hh, pv⟩ <;> rw [e]
    · exact ⟨hs, nofun⟩
    · exact ⟨{ hs with heap := hh }, fun w hw => by cases hw; exact pv⟩

end Copy

/-- side conditions: a frame update that leaves `free` alone, a state update that leaves the fields
    read by `Inv` alone; otherwise the goal is rewritten by `good_simp` and closed by a hypothesis.
    Where a `match` has taken a value apart the hypotheses need `good_simp` too: that is done in the
    theorem concerned (`simp_all only [good_simp]`), it is dear on a large context. -/
syntax "good_tac" : tactic
macro_rules | `(tactic| good_tac) => `(tactic| first
  | exact trivial
  | assumption
  | exact fun _ h => h
  | exact fun _ h => { h with }
  | (simp only [good_simp]; first | done | assumption))

/-- Walks through a `do` block.  At `x ← m; rest` with `m` a call of a function of the model, the lemma of `m` is
    looked up in the simp set `tr` (extended by `hs`: induction hypotheses), then among the instances of `TrIf`;
    `rest` goes on with `good n x`, or `Q x`.  A compound `m` (`if`, `match`, loop) is walked through with result
    predicate `good n`.  `pure a` leaves the goal `Q a`; all side conditions go to `good_tac` at the end.  For a goal
    that is not a bind the table is consulted after the structural rules: `simp` on a goal that is not a call walks
    through the whole block.  Side goals are left alone (`guard_target`).
    A join point is proved once, as by `walk_jp` of Proofs/WalkAttr.lean, with two differences that `Tr` asks for:
    the lemma of `jp` is for `good` arguments (`∀ a, good n a → Tr n h0 (good n) (jp a)`), and it is a goal of this
    loop, not a `have` closed on the spot, since the walk may leave side conditions for the caller.  A `let` of a
    value is unfolded. -/
syntax "trs" ("[" Lean.Parser.Tactic.simpLemma,* "]")? : tactic
set_option hygiene false in
macro_rules
  | `(tactic| trs) => `(tactic| trs [])
  | `(tactic| trs [$hs,*]) => `(tactic|
  ((try dsimp -zeta only); repeat' (guard_target =~ Tr _ _ _ _; first
    | ((first | lift_lets | skip); intro jp__; first
       | (refine (fun hjp__ => ?_) (?_ : ∀ a__, good n a__ → Tr n h0 (good n) (jp__ a__));
          clear_value jp__; rotate_left; (intro a__ _; dsimp -zeta only [jp__]); rotate_right)
       | (refine (fun hjp__ => ?_) (?_ : ∀ a__ b__, good n a__ → good n b__ → Tr n h0 (good n) (jp__ a__ b__));
          clear_value jp__; rotate_left; (intro a__ b__ _ _; dsimp -zeta only [jp__]); rotate_right)
       | ((try dsimp -zeta only [jp__]); try clear jp__))
    | (with_reducible apply Tr.bind_good; rotate_left; intro _ _; rotate_right; focus (simp only [tr, $hs,*]; done))
    | (with_reducible refine Tr.bind (TrIf.tr ?_) ?_; rotate_left; intro _ _; rotate_right;
       try first | exact trivial | and_intros)
    | (with_reducible apply Tr.bind_good; rotate_left; intro _ _; rotate_right)
    | with_reducible refine Tr.pure _ ?_
    | (with_reducible apply Tr.ite <;> intro _)
    | (with_reducible apply Tr.forIn_range_good; rotate_left; intro _ _ _; rotate_right)
    | (with_reducible apply Tr.forIn_list_good; rotate_left; intro _ _ _ _; rotate_right)
    | split
    | (simp only [tr, $hs,*]; done)
    | (refine TrIf.tr ?_; try first | exact trivial | and_intros)
    | apply_assumption
    | dsimp only);
   all_goals (try good_tac)))

@[tr] theorem tr_curCode : Tr n h0 (good n) curCode := by unfold curCode; trs
@[tr] theorem tr_instAt (i : Int) : Tr n h0 (good n) (instAt i) := by unfold instAt; trs
@[tr] theorem tr_opnd1 (k : Int) : Tr n h0 (good n) (opnd1 k) := by unfold opnd1; trs
@[tr] theorem tr_opnd2 (k : Int) : Tr n h0 (good n) (opnd2 k) := by unfold opnd2; trs
@[tr] theorem tr_opnd4 (k : Int) : Tr n h0 (good n) (opnd4 k) := by unfold opnd4; trs
end
end UgoVerif.VM

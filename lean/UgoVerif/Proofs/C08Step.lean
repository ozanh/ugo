import UgoVerif.Proofs.C08Ops
/-
  C08, shared heap segment: every opcode function preserves `Inv` (CONSTANT, LOADMODULE and
  STOREMODULE, which handle the constants that may be shared maps, are in Proofs/C08Mod.lean).
-/
namespace UgoVerif.VM
open UgoVerif UgoVerif.Go

section
variable {n : Nat} {h0 : Array Cell}

@[tr] theorem tr_execGetLocal : Tr n h0 (good n) execGetLocal := by
  unfold execGetLocal; trs
  all_goals simp_all only [good_simp]
@[tr] theorem tr_execSetLocal : Tr n h0 (good n) execSetLocal := by unfold execSetLocal; trs
@[tr] theorem tr_execAndJump : Tr n h0 (good n) execAndJump := by unfold execAndJump; trs
@[tr] theorem tr_execOrJump : Tr n h0 (good n) execOrJump := by unfold execOrJump; trs
@[tr] theorem tr_execTrue : Tr n h0 (good n) execTrue := by unfold execTrue; trs
@[tr] theorem tr_execFalse : Tr n h0 (good n) execFalse := by unfold execFalse; trs
@[tr] theorem tr_execCall : Tr n h0 (good n) execCall := by unfold execCall; trs
@[tr] theorem tr_execCallName : Tr n h0 (good n) execCallName := by
  unfold execCallName; trs
  all_goals simp_all only [good_simp]
@[tr] theorem tr_execReturn : Tr n h0 (good n) execReturn := by unfold execReturn; trs
@[tr] theorem tr_execGetBuiltin : Tr n h0 (good n) execGetBuiltin := by unfold execGetBuiltin; trs
@[tr] theorem tr_execClosure : Tr n h0 (good n) execClosure := by
  unfold execClosure; trs
  all_goals first
    | exact fun _ h => (List.not_mem_nil h).elim
    | exact good_snoc ‹_› ‹_›
    | exact fun a _ => cellOK_fn ‹_› a
    | (simp_all only [good_simp]; done)
@[tr] theorem tr_execJump : Tr n h0 (good n) execJump := by unfold execJump; trs
@[tr] theorem tr_execJumpFalsy : Tr n h0 (good n) execJumpFalsy := by unfold execJumpFalsy; trs
@[tr] theorem tr_execGetGlobal : Tr n h0 (good n) execGetGlobal := by
  unfold execGetGlobal; trs
  all_goals first | exact Inv.globals ‹_› | (simp_all only [good_simp]; done)
@[tr] theorem tr_execSetGlobal : Tr n h0 (good n) execSetGlobal := by
  unfold execSetGlobal; trs
  all_goals first | exact Inv.globals ‹_› | (simp_all only [good_simp]; done)
@[tr] theorem tr_execArray : Tr n h0 (good n) execArray := by unfold execArray; trs
@[tr] theorem tr_execMap : Tr n h0 (good n) execMap := by
  unfold execMap; trs
  · exact good_insertKV ‹_› ‹_›
  · exact fun a _ => cellOK_map_of ‹_› a
@[tr] theorem tr_execGetIndex : Tr n h0 (good n) execGetIndex := by
  unfold execGetIndex; trs
  all_goals simp_all only [good_simp]
@[tr] theorem tr_execSetIndex : Tr n h0 (good n) execSetIndex := by unfold execSetIndex; trs
@[tr] theorem tr_execSliceIndex : Tr n h0 (good n) execSliceIndex := by
  unfold execSliceIndex; trs
  all_goals (split <;> good_tac)
@[tr] theorem tr_execGetFree : Tr n h0 (good n) execGetFree := by
  unfold execGetFree; trs
  exact CellOK.box ‹_› (free_le ‹_› ‹_› ‹_›)
@[tr] theorem tr_execSetFree : Tr n h0 (good n) execSetFree := by
  unfold execSetFree; trs
  exact free_le ‹_› ‹_› ‹_›
@[tr] theorem tr_execGetLocalPtr : Tr n h0 (good n) execGetLocalPtr := by
  unfold execGetLocalPtr; trs
  all_goals simp_all only [good_simp]
@[tr] theorem tr_execGetFreePtr : Tr n h0 (good n) execGetFreePtr := by
  unfold execGetFreePtr; trs
  exact free_le ‹_› ‹_› ‹_›
@[tr] theorem tr_execDefineLocal : Tr n h0 (good n) execDefineLocal := by unfold execDefineLocal; trs
@[tr] theorem tr_execNull : Tr n h0 (good n) execNull := by unfold execNull; trs
@[tr] theorem tr_execPop : Tr n h0 (good n) execPop := by unfold execPop; trs
@[tr] theorem tr_execIterInit : Tr n h0 (good n) execIterInit := by
  unfold execIterInit; trs
  exact fun _ _ _ => (good_some n _).mp ‹_›
@[tr] theorem tr_execSetupTry : Tr n h0 (good n) execSetupTry := by unfold execSetupTry; trs
@[tr] theorem tr_execSetupCatch : Tr n h0 (good n) execSetupCatch := by unfold execSetupCatch; trs
@[tr] theorem tr_execSetupFinally : Tr n h0 (good n) execSetupFinally := by unfold execSetupFinally; trs
@[tr] theorem tr_execThrow : Tr n h0 (good n) execThrow := by unfold execThrow; trs
@[tr] theorem tr_execFinalizer : Tr n h0 (good n) execFinalizer := by unfold execFinalizer; trs
@[tr] theorem tr_execNoOp : Tr n h0 (good n) execNoOp := by unfold execNoOp; trs
@[tr] theorem tr_execBinaryOp (F : FloatOps) : Tr n h0 (good n) (execBinaryOp F) := by
  unfold execBinaryOp; trs
  all_goals simp_all only [good_simp]
@[tr] theorem tr_execUnary (F : FloatOps) : Tr n h0 (good n) (execUnary F) := by
  unfold execUnary; trs
  all_goals simp_all only [good_simp]
@[tr] theorem tr_execEqual (F : FloatOps) (op : Nat) : Tr n h0 (good n) (execEqual F op) := by unfold execEqual; trs
@[tr] theorem tr_execIterNext (op : Nat) : Tr n h0 (good n) (execIterNext op) := by
  unfold execIterNext; trs
  all_goals first
    | exact good_get! ‹_› _
    | exact good_lookupKV ‹_› ‹_›
    | (simp_all only [good_simp]; done)
@[tr] theorem tr_execUnknown (op : Nat) : Tr n h0 (good n) (execUnknown op) := by unfold execUnknown; trs

end
end UgoVerif.VM

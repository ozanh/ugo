import UgoVerif.Proofs.C08Hole
/-
  C08, shared heap segment: N VMs over ONE shared heap segment.  The world model, the static
  bytecode hypothesis `ModulePattern`, and the invariant of an interleaved run.
-/
namespace UgoVerif.VM
open UgoVerif UgoVerif.Go

section
variable {n : Nat} {h0 : Array Cell}

theorem tr_handlePanic (m : String) : Tr n h0 (good n) (handlePanic m) := by unfold handlePanic; trs

/-- `handlePanic` with the stack pointer beyond the stack (`vm.sp >= stackSize`): the error is
    recorded, nothing else happens — `run` does not resume -/
theorem handlePanic_overflow (m : String) (s : State) (h : (stackSize : Int) ≤ s.sp) :
    (exec (handlePanic m) s).2.heap = s.heap ∧ (exec (handlePanic m) s).2.err.isNone = false ∧
    (exec (handlePanic m) s).2.codes = s.codes ∧ (exec (handlePanic m) s).2.consts = s.consts := by
  unfold handlePanic
  have : ¬ (decide (s.sp < (stackSize : Int)) && decide (s.frameIndex ≤ (frameSize : Int)) && s.err.isNone) = true := by
    simp; intro h1; omega
  simp only [exec_bind, exec_getS, this, if_false, Bool.false_eq_true]
  exact ⟨rfl, rfl, rfl, rfl⟩

end

structure VMst where
  st : State
  live : Bool

/-- one turn of a VM: one instruction; a Go panic is followed by the recovery path of `run`
    (`handlePanic`, as in `runFrom.go`); the VM stops when `loop` returns, when the run leaves the
    modelled subset, or when the panic is not recovered -/
def stepV (F : FloatOps) (v : VMst) : VMst :=
  if v.live then
    match exec (step F) v.st with
    | (.ok .next, s) => ⟨s, true⟩
    | (.ok .ret, s) => ⟨s, false⟩
    | (.error (.unsupported _), s) => ⟨s, false⟩
    | (.error (.panic m), s) =>
      if s.noPanic then
        match exec (handlePanic m) s with
        | (.ok (), s') => ⟨s', s'.err.isNone⟩
        | (.error _, s') => ⟨s', false⟩
      else ⟨s, false⟩
  else v

def soloV (F : FloatOps) : Nat → VMst → VMst
  | 0, v => v
  | k+1, v => soloV F k (stepV F v)

/-- big-endian 16-bit operand at `i` of `code` -/
def cword2 (code : Code) (i : Int) : Option Nat :=
  match codeByte code (i + 1), codeByte code i with
  | some lo, some hi => some (lo ||| (hi <<< 8))
  | _, _ => none

/-- Hypothesis about the Bytecode, NOT proved for compiler output — `compileImportExpr` is outside the compile model;
    it is what that function emits, and the `concurrent` stream scans every generated Bytecode for it: at every byte
    position `p` of every function
    * `CONSTANT c`: constant `c` is private — not an array / map of the shared segment;
    * `LOADMODULE c m` with a constant that is not private (the Map of a builtin module): the
      constant can be copied and the next instructions are `JUMPFALSY _; STOREMODULE _`. -/
def ModulePattern (n : Nat) (codes : Array Code) (consts : Array V) : Prop :=
  ∀ (ci : Nat) (p : Int),
    (codeByte codes[ci]! p = some OpConstant →
      ∀ c v, cword2 codes[ci]! (p + 1) = some c → consts[c]? = some v → PrivV n v) ∧
    (codeByte codes[ci]! p = some OpLoadModule →
      ∀ c v, cword2 codes[ci]! (p + 1) = some c → consts[c]? = some v → ¬ PrivV n v →
        CopyOK n v ∧ codeByte codes[ci]! (p + 5) = some OpJumpFalsy ∧ codeByte codes[ci]! (p + 10) = some OpStoreModule ∧
        (codeByte codes[ci]! (p + 11)).isSome ∧ (codeByte codes[ci]! (p + 12)).isSome)

instance (n : Nat) : DecidablePred (PrivV n) := fun v => by cases v <;> unfold PrivV <;> infer_instance
instance (n : Nat) : DecidablePred (CopyOK n) := fun v => by cases v <;> unfold CopyOK <;> infer_instance

/-- what `ModulePattern` says of position `p` of one function, in a form that can be evaluated -/
def PatternPos (n : Nat) (code : Code) (consts : Array V) (p : Int) : Prop :=
  (codeByte code p = some OpConstant → ∀ c ∈ cword2 code (p + 1), ∀ v ∈ consts[c]?, PrivV n v) ∧
  (codeByte code p = some OpLoadModule → ∀ c ∈ cword2 code (p + 1), ∀ v ∈ consts[c]?, ¬ PrivV n v →
    CopyOK n v ∧ codeByte code (p + 5) = some OpJumpFalsy ∧ codeByte code (p + 10) = some OpStoreModule ∧
    (codeByte code (p + 11)).isSome ∧ (codeByte code (p + 12)).isSome)

instance (n : Nat) (code : Code) (consts : Array V) (p : Int) : Decidable (PatternPos n code consts p) := by
  unfold PatternPos; infer_instance

/-- Only the positions inside the instruction arrays of `codes` hold a byte, so the pattern is a finite
    check: for a concrete Bytecode the hypothesis is closed by `decide`. -/
theorem ModulePattern.of_bounded {n : Nat} {codes : Array Code} {consts : Array V}
    (h : ∀ ci, ci < codes.size → ∀ p : Nat, p < (codes[ci]!).insts.size → PatternPos n codes[ci]! consts p) :
    ModulePattern n codes consts := by
  intro ci p
  by_cases hp : ci < codes.size ∧ 0 ≤ p ∧ p < (codes[ci]!).insts.size
  · have := h ci hp.1 p.toNat (by omega)
    rw [Int.toNat_of_nonneg hp.2.1] at this
    exact ⟨fun hb c v hc hv => this.1 hb c hc v hv, fun hb c v hc hv => this.2 hb c hc v hv⟩
  · have : codeByte codes[ci]! p = none := by
      unfold codeByte
      rw [if_pos]
      rcases Nat.lt_or_ge ci codes.size with hc | hc
      · simp; omega
      · rw [getElem!_neg codes ci (by omega)]
        simp; exact (show ((default : Code).insts.size : Int) = 0 from rfl) ▸ (by omega)
    rw [this]
    exact ⟨nofun, nofun⟩

theorem patternAt_of_static {n : Nat} {s : State} (h : ModulePattern n s.codes s.consts) : PatternAt n s := by
  unfold PatternAt
  cases hc : curCodeOf s with
  | none =>
    have : ∀ i, byteAt s i = none := fun i => by unfold byteAt; rw [hc]
    constructor <;> (intro h1; rw [this] at h1; cases h1)
  | some code =>
    have hb : ∀ i, byteAt s i = codeByte code i := fun i => by unfold byteAt; rw [hc]
    have hw : ∀ i, word2 s i = cword2 code i := fun i => by
      unfold word2 cword2; simp only [hb]
      cases codeByte code (i + 1) <;> cases codeByte code i <;> rfl
    obtain ⟨ci, rfl⟩ : ∃ ci, code = s.codes[ci]! := by
      unfold curCodeOf at hc
      split at hc
      · cases hc
      · split at hc
        · rename_i c _ _; simp at hc; exact ⟨c, hc.symm⟩
        · cases hc
    simp only [hb, hw]
    simpa only [Int.add_assoc, Int.reduceAdd] using h ci (s.ip + 1)

structure VMok (sh : Array Cell) (codes : Array Code) (consts : Array V) (v : VMst) : Prop where
  heap : HeapOK sh.size sh v.st.heap
  run : v.live = true → Bnd sh.size sh v.st ∧ v.st.codes = codes ∧ v.st.consts = consts

theorem stepV_ok (F : FloatOps) {sh : Array Cell} {codes : Array Code} {consts : Array V}
    (hpat : ModulePattern sh.size codes consts) {v : VMst} (hv : VMok sh codes consts v) :
    VMok sh codes consts (stepV F v) := by
  unfold stepV
  split
  next hl =>
    obtain ⟨hb, hc1, hc2⟩ := hv.run hl
    obtain ⟨p1, p2, p3⟩ := step_bnd F v.st hb (patternAt_of_static (by rw [hc1, hc2]; exact hpat))
    have hk := (keeps_step (codes := codes) (consts := consts) (mainFn := v.st.mainFn) (nm := v.st.numModules) F).elim
      v.st ⟨hc1, hc2, rfl, rfl⟩
    split <;> rename_i heq <;> rw [heq] at p1 p2 p3 hk
    · exact ⟨p1, fun _ => ⟨p2 _ rfl, hk.1, hk.2.1⟩⟩
    · exact ⟨p1, nofun⟩
    · exact ⟨p1, nofun⟩
    · rename_i m s
      split
      · have hk2 := (keeps_handlePanic (codes := codes) (consts := consts) (mainFn := s.mainFn) (nm := s.numModules) m).elim
          s ⟨hk.1, hk.2.1, rfl, rfl⟩
        rcases p3 m rfl with hi | hov
        · have hh := (tr_handlePanic m).inv hi
          split <;> rename_i heq2 <;> rw [heq2] at hh hk2
          · exact ⟨hh.heap, fun _ => ⟨.full hh, hk2.1, hk2.2.1⟩⟩
          · exact ⟨hh.heap, nofun⟩
        · obtain ⟨q1, q2, -, -⟩ := handlePanic_overflow m s hov
          split <;> rename_i heq2 <;> rw [heq2] at q1 q2
          · exact ⟨q1 ▸ p1, fun h => by rw [q2] at h; cases h⟩
          · exact ⟨q1 ▸ p1, nofun⟩
      · exact ⟨p1, nofun⟩
  next => exact hv
/-- The heap of the world: ONE shared initial segment (the cells reachable from the constants
    of the Bytecode: function cells, the maps / arrays of builtin modules) and, per VM, the
    private cells it allocated.  Addresses `< shared.size` denote shared cells in every VM,
    addresses `≥ shared.size` are private to the VM that uses them (allocation appends). -/
structure SWorld where
  shared : Array Cell
  vms : List VMst

/-- the heap VM state `s` sees: the CURRENT shared segment followed by its private cells -/
def view (sh : Array Cell) (s : State) : State :=
  { s with heap := sh ++ s.heap.extract sh.size s.heap.size }

/-- VM `i` takes one turn on the shared memory: it sees the current shared segment, and whatever
    it leaves at the shared addresses is what every VM sees afterwards -/
def wstep (F : FloatOps) (i : Nat) (w : SWorld) : SWorld :=
  match w.vms[i]? with
  | none => w
  | some v =>
    let v' := stepV F { v with st := view w.shared v.st }
    { shared := v'.st.heap.extract 0 w.shared.size, vms := w.vms.set i v' }

/-- an interleaving: a schedule of VM indices -/
def wrun (F : FloatOps) (sched : List Nat) (w : SWorld) : SWorld := sched.foldl (fun w i => wstep F i w) w

theorem extract_shared {sh h : Array Cell} (hh : HeapOK sh.size sh h) : h.extract 0 sh.size = sh := by
  apply Array.ext_getElem?
  intro a
  simp only [Array.getElem?_extract]
  have hle := hh.size
  by_cases ha : a < sh.size
  · rw [if_pos (by simp; omega)]; simpa using hh.low a ha
  · rw [if_neg (by simp; omega)]
    rw [Array.getElem?_eq_none (by omega)]

theorem view_id {sh : Array Cell} {s : State} (h : HeapOK sh.size sh s.heap) : view sh s = s := by
  have : sh ++ s.heap.extract sh.size s.heap.size = s.heap := by
    conv => lhs; arg 1; rw [← extract_shared h]
    rw [Array.extract_append_extract, Nat.min_eq_left (Nat.zero_le _), Nat.max_eq_right h.size, Array.extract_size]
  unfold view; rw [this]

theorem modify_eq_set {α} {l : List α} {i : Nat} {v : α} (h : l[i]? = some v) (f : α → α) :
    l.modify i f = l.set i (f v) := by
  apply List.ext_getElem?
  intro k
  rw [List.getElem?_modify, List.getElem?_set]
  by_cases hik : i = k
  · subst hik
    obtain ⟨hlt, e⟩ := List.getElem?_eq_some_iff.mp h
    simp [hlt, e]
  · simp [hik]

theorem modify_none {α} {l : List α} {i : Nat} (h : l[i]? = none) (f : α → α) : l.modify i f = l :=
  List.modify_eq_self (List.getElem?_eq_none_iff.mp h)

def WorldOK (codes : Array Code) (consts : Array V) (w : SWorld) : Prop :=
  ∀ v ∈ w.vms, VMok w.shared codes consts v

/-- under the invariant a turn of VM `i` is `stepV` on its own state and leaves the shared
    segment — and hence every other VM's view — exactly as it was -/
theorem wstep_eq (F : FloatOps) {codes : Array Code} {consts : Array V} (i : Nat) {w : SWorld}
    (hpat : ModulePattern w.shared.size codes consts) (hw : WorldOK codes consts w) :
    wstep F i w = { shared := w.shared, vms := w.vms.modify i (stepV F) } ∧
    WorldOK codes consts (wstep F i w) := by
  have e : wstep F i w = { shared := w.shared, vms := w.vms.modify i (stepV F) } := by
    unfold wstep
    cases hv : w.vms[i]? with
    | none => simp only; rw [modify_none hv]
    | some v =>
      simp only
      have hok := hw v (List.mem_of_getElem? hv)
      rw [show ({ v with st := view w.shared v.st } : VMst) = v by rw [view_id hok.heap],
        extract_shared (stepV_ok F hpat hok).heap, modify_eq_set hv]
  refine ⟨e, ?_⟩
  rw [e]
  exact all_modify hw i fun _ => stepV_ok F hpat

/-- Under any schedule member `j` ends where its own turns take it: `g k` is "`k` turns of `f`" in the sense of its
    two recursion equations (`solo` and `soloV` satisfy them by `rfl`). -/
theorem modify_fold_get {α} (f : α → α) (g : Nat → α → α) (g0 : ∀ a, g 0 a = a) (gs : ∀ k a, g (k + 1) a = g k (f a))
    (sched : List Nat) (j : Nat) :
    ∀ l : List α, (sched.foldl (fun v i => v.modify i f) l)[j]? = (l[j]?).map (g (sched.count j)) := by
  induction sched with
  | nil => intro l; simp [show g 0 = id from funext g0]
  | cons i rest ih =>
    intro l
    rw [List.foldl_cons, ih, List.getElem?_modify]
    by_cases h : i = j
    · subst h
      simp only [if_true, List.count_cons_self, Option.map_eq_map, Option.map_map]
      exact congrArg (fun h => (l[i]?).map h) (funext fun a => (gs _ a).symm)
    · simp [h]

theorem wrun_eq (F : FloatOps) {codes : Array Code} {consts : Array V} (sched : List Nat) :
    ∀ w : SWorld, ModulePattern w.shared.size codes consts → WorldOK codes consts w →
      wrun F sched w = { shared := w.shared, vms := sched.foldl (fun v i => v.modify i (stepV F)) w.vms } ∧
      WorldOK codes consts (wrun F sched w) := by
  induction sched with
  | nil => intro w _ hw; exact ⟨rfl, hw⟩
  | cons i rest ih =>
    intro w hpat hw
    obtain ⟨e, hw'⟩ := wstep_eq F i hpat hw
    show wrun F rest (wstep F i w) = _ ∧ WorldOK codes consts (wrun F rest (wstep F i w))
    rw [e] at hw' ⊢
    exact ih _ hpat hw'

end UgoVerif.VM

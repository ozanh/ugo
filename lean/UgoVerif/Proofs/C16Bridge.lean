import UgoVerif.Proofs.SrcMapCov
import UgoVerif.Model.Eval
import UgoVerif.Model.Trace
/-
  The links between the models of C16: the source map of a compile-model function read as the `SourceMap` of the
  position model (`smOf`), where `SourcePos` at an offset that has its own entry answers that entry without a
  search (`sourcePos_entry`); and the code memory of the VM state a compiled bytecode is loaded into
  (`Model/Eval.setBytecode`): one code per function constant, in order, then the main function (`load_codes`).
-/
namespace UgoVerif.Proofs.C16
open UgoVerif UgoVerif.Go UgoVerif.Model UgoVerif.Compile UgoVerif.VM UgoVerif.Eval

/-- `CompiledFunction.SourceMap` of a compile-model function -/
def smOf (f : CFn) : SourceMap := f.sourceMap.map fun kv => ((kv.1 : Int), (kv.2 : Int))

theorem smLookup_map : ∀ (m : List (Nat × Nat)) (k : Nat),
    smLookup (m.map fun kv => ((kv.1 : Int), (kv.2 : Int))) (k : Int) = (smGet m k).map Int.ofNat
  | [], _ => rfl
  | (k', v) :: r, k => by
    simp only [List.map_cons, smLookup, smGet]
    by_cases h : k' = k
    · simp [h]
    · have : ¬ ((k' : Int) = (k : Int)) := by omega
      simp only [this, h, if_false]
      exact smLookup_map r k

theorem sourcePos_entry (f : CFn) (k v : Nat) (h : smGet f.sourceMap k = some v) :
    sourcePos (smOf f) (k : Int) = (v : Int) := by
  have hl := smLookup_map f.sourceMap k
  rw [h] at hl
  simp only [sourcePos, smOf]
  rw [if_pos (by omega)]
  cases k with
  | zero =>
    simp only [Int.toNat_natCast, sourcePosN]
    have : ((0 : Nat) : Int) = 0 := rfl
    rw [this] at hl
    rw [hl]; rfl
  | succ n =>
    simp only [Int.toNat_natCast, sourcePosN]
    have : ((n + 1 : Nat) : Int) = (n : Int) + 1 := by omega
    rw [this] at hl
    rw [hl]; rfl

def fnsOf : List Const → List CFn
  | [] => []
  | .fn f :: r => f :: fnsOf r
  | .val _ :: r => fnsOf r

theorem mem_fnsOf {f : CFn} : ∀ {cs : List Const}, f ∈ fnsOf cs → Const.fn f ∈ cs
  | [], h => by simp [fnsOf] at h
  | .fn g :: r, h => by
    simp only [fnsOf, List.mem_cons] at h
    rcases h with h | h
    · subst h; simp
    · exact List.mem_cons_of_mem _ (mem_fnsOf h)
  | .val _ :: r, h => by
    simp only [fnsOf] at h
    exact List.mem_cons_of_mem _ (mem_fnsOf h)

/-- the compiled functions of a bytecode in the order the loader numbers their codes: the function
    constants, then the main function -/
def fnList (bc : Compile.Bytecode) : List CFn := fnsOf bc.constants.toList ++ [bc.main]

def allocFns (vm : State) (fns : List CFn) : State := fns.foldl (fun vm f => (allocFn vm f).2) vm

theorem materialize_state : ∀ (cs : List Const) (acc : Array V × State),
    (cs.foldl (fun (acc : Array V × State) c =>
      match c with
      | .val v => (acc.1.push (scalarOfCVal v), acc.2)
      | .fn f => let (v, vm') := allocFn acc.2 f; (acc.1.push v, vm')) acc).2 = allocFns acc.2 (fnsOf cs)
  | [], _ => rfl
  | .val _ :: r, _ => by
    simp only [List.foldl_cons, fnsOf]
    rw [materialize_state r]
  | .fn _ :: r, _ => by
    simp only [List.foldl_cons, fnsOf]
    rw [materialize_state r]
    rfl

/-- the VM a compiled bytecode is loaded into (`NewVM(bc)` = `SetBytecode` on a new VM; `Props/C04.load_compiled` shows the
    serializer's loader builds the same state): the functions of `fnList bc` allocated on a new VM, then the fields
    `SetBytecode` assigns -/
theorem load_state (bc : Compile.Bytecode) : ∃ cs ma,
    Eval.setBytecode (newState #[] #[] #[] 0 0) bc.main 0 bc.constants #[] =
      { allocFns (newState #[] #[] #[] 0 0) (fnList bc) with
        consts := cs, mainFn := ma, numModules := 0, modules := #[], steps := 0, trace := #[] } := by
  have e : allocFns (newState #[] #[] #[] 0 0) (fnList bc) =
      (allocFn (materialize (newState #[] #[] #[] 0 0) bc.constants.toList).2 bc.main).2 := by
    rw [fnList, allocFns, List.foldl_append]
    exact congrArg (fun vm => (allocFn vm bc.main).2) (materialize_state bc.constants.toList (#[], _)).symm
  rw [e]
  exact ⟨_, _, rfl⟩

theorem allocFns_codes : ∀ (fns : List CFn) (vm : State),
    (allocFns vm fns).codes.toList = vm.codes.toList ++ fns.map codeOfCFn
  | [], _ => by simp [allocFns]
  | f :: r, vm => by
    rw [allocFns, List.foldl_cons, ← allocFns, allocFns_codes r]
    simp [allocFn]

theorem allocFns_frames : ∀ (fns : List CFn) (vm : State), (allocFns vm fns).frames = vm.frames
  | [], _ => rfl
  | f :: r, vm => by
    rw [allocFns, List.foldl_cons, ← allocFns, allocFns_frames r]
    rfl

theorem load_codes (bc : Compile.Bytecode) :
    (Eval.setBytecode (newState #[] #[] #[] 0 0) bc.main 0 bc.constants #[]).codes.toList
      = (fnList bc).map codeOfCFn := by
  obtain ⟨cs, ma, e⟩ := load_state bc
  rw [e]
  exact (allocFns_codes (fnList bc) _).trans (by simp [newState])

theorem load_frames_eq (bc : Compile.Bytecode) :
    (Eval.setBytecode (newState #[] #[] #[] 0 0) bc.main 0 bc.constants #[]).frames = emptyFrames := by
  obtain ⟨cs, ma, e⟩ := load_state bc
  rw [e]
  exact allocFns_frames (fnList bc) _

theorem load_frames (bc : Compile.Bytecode) :
    (Eval.setBytecode (newState #[] #[] #[] 0 0) bc.main 0 bc.constants #[]).frames.size = frameSize := by
  rw [load_frames_eq]
  simp [emptyFrames]

theorem code_of_fns_lt {fns : List CFn} {codes : Array Code} (hcodes : codes.toList = fns.map codeOfCFn) {c : Nat}
    (hc : c < codes.size) : ∃ g, fns[c]? = some g ∧ g ∈ fns ∧ codes[c]! = codeOfCFn g := by
  have h1 : codes.toList[c]? = some (codes[c]!) := by
    rw [Array.getElem?_toList, getElem!_pos codes c hc]
    simp [hc]
  rw [hcodes, List.getElem?_map] at h1
  cases hg : fns[c]? with
  | none => rw [hg] at h1; cases h1
  | some g =>
    rw [hg] at h1
    simp only [Option.map_some, Option.some.injEq] at h1
    exact ⟨g, rfl, List.mem_of_getElem? hg, h1.symm⟩

theorem forall_fnList {P : CFn → Prop} {bc : Compile.Bytecode} (hm : P bc.main)
    (hc : ∀ g, Const.fn g ∈ bc.constants.toList → P g) : ∀ g ∈ fnList bc, P g := by
  intro g hg
  simp only [fnList, List.mem_append, List.mem_singleton] at hg
  rcases hg with hg | rfl
  · exact hc g (mem_fnsOf hg)
  · exact hm

theorem fnList_cov (lab : Nat → Nat) (builtins : List (String × Nat)) (disabled : List String) (file : List Ast.Stmt)
    (hl : Ast.labSs lab file = true) (bc : Compile.Bytecode) (h : compileFile builtins disabled file = .ok bc) :
    ∀ f ∈ fnList bc, FnCov lab f :=
  forall_fnList (compileFile_cov lab builtins disabled file hl bc h).1 (compileFile_cov lab builtins disabled file hl bc h).2

end UgoVerif.Proofs.C16

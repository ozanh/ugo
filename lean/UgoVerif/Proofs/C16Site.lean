import UgoVerif.Proofs.C16Bridge
import UgoVerif.Proofs.VMCallSite
/-
  C16: what `throw` reads off a VM state, and what it finds there when the code memory holds
  compiler output (`FnCov`) and the frame stack satisfies the call-site invariant (`CallSites`).
-/
namespace UgoVerif.Proofs.C16
open UgoVerif UgoVerif.Go UgoVerif.Model UgoVerif.Compile UgoVerif.VM UgoVerif.Eval

/-- `G` of the call-site invariant: the offset is an instruction start of the code -/
abbrev AtStart : Code → Nat → Prop := fun code p => Bd code.insts p

/-- code number of the function of a frame (`frame.fn`, a `*CompiledFunction` on the heap) -/
def codeIdx (s : State) (f : Frame) : Option Nat :=
  match f.fn with
  | some fa => match s.heap[fa]? with
    | some (.fn c _) => some c
    | _ => none
  | none => none

/-- the compile-model function a frame runs, when the code memory is `fns.map codeOfCFn` -/
def frameFn (fns : List CFn) (s : State) (f : Frame) : Option CFn := (codeIdx s f).bind (fns[·]?)

/-- the frame as `throw` / `getFrameSourcePos` see it -/
def tframeOf (fns : List CFn) (s : State) (f : Frame) : TFrame :=
  { fn := (frameFn fns s f).map smOf, ip := f.ip, hasHandler := hasHandler f }

/-- the frames below the current one, innermost first (`index := frameIndex - 2 … 0`) -/
def callersOf (fns : List CFn) (s : State) : List TFrame :=
  (List.range s.curFrame).reverse.map fun i => tframeOf fns s (s.frames[i]!)

def recorded (fns : List CFn) (s : State) (f : Frame) (k : Int) : Int :=
  match frameFn fns s f with
  | some g => (((smGet g.sourceMap k.toNat).getD 0 : Nat) : Int)
  | none => 0

theorem code_of_fns {fns : List CFn} {s : State} (hcodes : s.codes.toList = fns.map codeOfCFn) {c : Nat}
    (hne : (s.codes[c]!).insts.size ≠ 0) : ∃ g, fns[c]? = some g ∧ g ∈ fns ∧ s.codes[c]! = codeOfCFn g := by
  have hc : c < s.codes.size := by
    rcases Nat.lt_or_ge c s.codes.size with h | h
    · exact h
    · exfalso; apply hne
      rw [getElem!_neg s.codes c (by omega)]
      rfl
  exact code_of_fns_lt hcodes hc

/-- **a caller frame reports the line of its call**: the frame is suspended at a CALL / CALLNAME
    whose opcode byte is at the instruction start `p = frame.ip - 2`; `getFrameSourcePos` looks
    `frame.ip + 1 = p + 3` up, which is the start of the next instruction and has its own entry,
    and that entry carries the label of the entry recorded for the call instruction. -/
theorem caller_reports (lab : Nat → Nat) {fns : List CFn} {s : State} (hcodes : s.codes.toList = fns.map codeOfCFn)
    (hcov : ∀ g ∈ fns, FnCov lab g) {f : Frame} (hc : CallAt AtStart s f (f.ip - 2)) :
    ∃ g v v', frameFn fns s f = some g ∧ smGet g.sourceMap (f.ip - 2).toNat = some v ∧
      smGet g.sourceMap (f.ip + 1).toNat = some v' ∧ lab v = lab v' ∧
      getFrameSourcePos (tframeOf fns s f) = (v' : Int) := by
  obtain ⟨fa, c, fr, hfn, hheap, h0, hlt, hop, hbd⟩ := hc
  obtain ⟨g, hg, hmem, hcode⟩ := code_of_fns hcodes (c := c) (by omega)
  have hidx : codeIdx s f = some c := by simp [codeIdx, hfn, hheap]
  have hff : frameFn fns s f = some g := by simp [frameFn, hidx, hg]
  have hins : (s.codes[c]!).insts = g.insts := by rw [hcode]; rfl
  rw [hins] at hlt hop
  have hbd' : Bd g.insts (f.ip - 2).toNat := by
    have : Bd (s.codes[c]!).insts (f.ip - 2).toNat := hbd
    rwa [hins] at this
  have hps : (f.ip - 2).toNat < g.insts.size := by omega
  have hcall : isCallAt g.insts (f.ip - 2).toNat = true := by
    have hget : g.insts[(f.ip - 2).toNat]? = some (g.insts[(f.ip - 2).toNat]!) := by
      rw [getElem!_pos g.insts _ hps]; simp [hps]
    simp only [isCallAt, hget]
    rcases hop with h | h <;> simp [h, Compile.OpCall, Compile.OpCallName, VM.OpCall, VM.OpCallName] at *
  obtain ⟨_, v, v', hv, hv', hlab⟩ := (hcov g hmem).call _ hbd' hcall
  have he : (f.ip - 2).toNat + 3 = (f.ip + 1).toNat := by omega
  rw [he] at hv'
  refine ⟨g, v, v', hff, hv, hv', hlab, ?_⟩
  simp only [getFrameSourcePos, tframeOf, hff, Option.map_some]
  have hk : (((f.ip + 1).toNat : Nat) : Int) = f.ip + 1 := by omega
  rw [← hk]
  exact sourcePos_entry g _ _ hv'

/-- **the failing instruction reports its own entry** -/
theorem current_reports (lab : Nat → Nat) {fns : List CFn} {s : State} (hcodes : s.codes.toList = fns.map codeOfCFn)
    (hcov : ∀ g ∈ fns, FnCov lab g) {f : Frame} {fa c : Nat} {fr : Option (List Addr)} (hfn : f.fn = some fa)
    (hheap : s.heap[fa]? = some (Cell.fn c fr)) (h0 : 0 ≤ s.ip) (hbd : Bd (s.codes[c]!).insts s.ip.toNat) :
    ∃ g v, frameFn fns s f = some g ∧ smGet g.sourceMap s.ip.toNat = some v ∧
      getSourcePos ((frameFn fns s f).map smOf) s.ip = (v : Int) := by
  obtain ⟨g, hg, hmem, hcode⟩ := code_of_fns hcodes (c := c) (by have := hbd.2; omega)
  have hidx : codeIdx s f = some c := by simp [codeIdx, hfn, hheap]
  have hff : frameFn fns s f = some g := by simp [frameFn, hidx, hg]
  have hins : (s.codes[c]!).insts = g.insts := by rw [hcode]; rfl
  rw [hins] at hbd
  obtain ⟨v, hv⟩ := (hcov g hmem).entry _ hbd
  refine ⟨g, v, hff, hv, ?_⟩
  simp only [getSourcePos, hff, Option.map_some]
  have hk : ((s.ip.toNat : Nat) : Int) = s.ip := by omega
  rw [← hk]
  exact sourcePos_entry g _ _ hv

theorem boundary_codes (F : FloatOps) {s0 s : State} (hb : Boundary F s0 s) : s.codes = s0.codes :=
  (boundary_keeps F (B := HasBC s0.codes s0.consts s0.mainFn s0.numModules) ⟨rfl, rfl, rfl, rfl⟩
    (fun s _ h => (keeps_step F).elim s h) (fun msg => keeps_handlePanic msg) s hb).1

theorem prologue_codes (g : V) (args : List V) (s : State) : (exec (prologue g args) s).2.codes = s.codes :=
  ((keeps_prologue (codes := s.codes) (consts := _) (mainFn := _) (nm := _) g args).elim s ⟨rfl, rfl, rfl, rfl⟩).1

end UgoVerif.Proofs.C16

import UgoVerif.Proofs.VMExec
/-
  Call argument binding in the VM model (vm.go xOpCallCompiled, no spread): what `bindArgs`, `fillUndefined`
  and `callCompiled` do on a well-shaped stack.  Part of property C02 (namespace `UgoVerif.Props.C02`), kept
  below the property file because the Invoker proofs (C14) rest on it too.
-/
set_option linter.unusedVariables false
namespace UgoVerif.Props.C02
open UgoVerif UgoVerif.Go UgoVerif.VM UgoVerif.Proofs.ModCache UgoVerif.Proofs.VMExec

def fillLocals (st : Array V) (bp : Int) (numParams numLocals : Nat) : Array V :=
  (List.range' 0 (numLocals - numParams)).foldl (fun st (k : Nat) => st.set! (bp + (numParams : Int) + (k : Int)).toNat .undefined) st

theorem fillLocals_get? (st : Array V) (bp : Int) (np nl j : Nat) (hbp : 0 ≤ bp) :
    (fillLocals st bp np nl)[j]? =
      if (bp.toNat + np ≤ j ∧ j < bp.toNat + nl) ∧ j < st.size then some .undefined else st[j]? := by
  unfold fillLocals
  rw [foldl_set_get? st .undefined (fun k => (bp + (np : Int) + (k : Int)).toNat)]
  have : (∃ k ∈ List.range' 0 (nl - np), (bp + (np : Int) + (k : Int)).toNat = j) ↔ (bp.toNat + np ≤ j ∧ j < bp.toNat + nl) := by
    constructor
    · rintro ⟨k, hk, rfl⟩
      simp [List.mem_range'] at hk
      omega
    · intro ⟨h1, h2⟩
      refine ⟨j - (bp.toNat + np), ?_, ?_⟩
      · simp [List.mem_range']; omega
      · omega
  simp only [this]

theorem fillLocals_param (st : Array V) (bp : Int) (np nl i : Nat) (hbp : 0 ≤ bp) (hi : i < np) :
    (fillLocals st bp np nl)[(bp + i).toNat]! = st[(bp + i).toNat]! := by
  have h := fillLocals_get? st bp np nl (bp + i).toNat hbp
  have hn : ¬ (bp.toNat + np ≤ (bp + (i : Int)).toNat) := by omega
  simp only [hn, false_and, if_false] at h
  simp [getElem!_def, h]

theorem fillLocals_local (st : Array V) (bp : Int) (np nl i : Nat) (hbp : 0 ≤ bp) (h1 : np ≤ i) (h2 : i < nl)
    (hs : (bp + i).toNat < st.size) :
    (fillLocals st bp np nl)[(bp + i).toNat]! = .undefined := by
  have h := fillLocals_get? st bp np nl (bp + i).toNat hbp
  have hy : (bp.toNat + np ≤ (bp + (i : Int)).toNat ∧ (bp + (i : Int)).toNat < bp.toNat + nl) ∧ (bp + (i : Int)).toNat < st.size := by
    refine ⟨⟨by omega, by omega⟩, hs⟩
  simp only [hy, and_self, if_true] at h
  simp [getElem!_def, h]

theorem exec_fillUndefined (lo : Int) (n : Nat) (s : State) (hb : ∀ k, k < n → 0 ≤ lo + (k : Int) ∧ lo + (k : Int) < (stackSize : Int)) :
    exec (fillUndefined lo n) s =
      (.ok (), { s with stack := (List.range' 0 n).foldl (fun st (k : Nat) => st.set! (lo + (k : Int)).toNat .undefined) s.stack }) := by
  unfold fillUndefined
  simp only [exec_bind]
  rw [exec_range_stackSet .undefined n s (fun k => lo + (k : Int)) hb]
  rfl

theorem exec_callCompiled_of_bind (fa : Addr) (numArgs flags : Int) (s t : State) (code : Code) (free : Option (List Addr))
    (hcell : exec (fnCell fa) s = (.ok (code, free), s))
    (hbind : exec (bindArgs code (s.sp - numArgs) numArgs flags) s = (.ok (.ok ()), t))
    (hself : (t.frames[t.curFrame]!).fn ≠ some fa)
    (hfi : 0 ≤ t.frameIndex ∧ t.frameIndex + 1 ≤ (frameSize : Int) - 1)
    (hbp : 0 ≤ s.sp - numArgs) (hroom : s.sp - numArgs + code.numLocals ≤ (stackSize : Int)) :
    exec (callCompiled fa numArgs flags) s = (.ok (.ok ()),
      { t with stack := fillLocals t.stack (s.sp - numArgs) code.numParams code.numLocals,
               frameIndex := t.frameIndex + 1,
               frames := (t.frames.modify t.curFrame fun f => { f with ip := t.ip + 2 }).modify t.frameIndex.toNat fun f =>
                  { f with fn := some fa, free := free, handlers := none, bp := s.sp - numArgs, discard := false },
               curFrame := t.frameIndex.toNat, sp := s.sp - numArgs + code.numLocals, ip := -1 }) := by
  unfold callCompiled
  simp only [exec_bind, hcell, exec_getSp, hbind]
  have hloop := exec_fillUndefined (s.sp - numArgs + (code.numParams : Int)) ((code.numLocals : Int) - code.numParams).toNat t
      (by intro k hk; constructor <;> omega)
  rw [hloop]
  have hne : ((t.frames[t.curFrame]!).fn == some fa) = false := by simpa using hself
  simp only [exec_curFrame, exec_getIp, hne, Bool.false_eq_true, ↓reduceIte]
  have h1 : ¬ (t.frameIndex < 0) := by omega
  have h1' : ¬ (t.frameIndex ≥ (frameSize : Int)) := by omega
  have h2 : ¬ (t.frameIndex + 1 > (frameSize : Int) - 1) := by omega
  simp [exec_bind, exec_getS, exec_modS, exec_setSp, exec_setCurFrame, enterFrame, h1, h1', h2, fillLocals]
  rfl

theorem exec_callCompiled_of_bindErr {fa : Addr} {numArgs flags : Int} {s : State} {code : Code} {free : Option (List Addr)} {e : OpErr}
    (hcell : exec (fnCell fa) s = (.ok (code, free), s))
    (hbind : exec (bindArgs code (s.sp - numArgs) numArgs flags) s = (.ok (.error e), s)) :
    exec (callCompiled fa numArgs flags) s = (.ok (.error e), s) := by
  unfold callCompiled
  simp only [exec_bind, hcell, exec_getSp, hbind, exec_pure]

/-- fixed arity, wrong number of arguments: WrongNumberOfArgumentsError, nothing else happens -/
theorem callCompiled_fixed_arity_error (fa : Addr) (numArgs : Int) (s : State) (code : Code) (free : Option (List Addr))
    (hcell : exec (fnCell fa) s = (.ok (code, free), s))
    (hnv : code.variadic = false) (hargs : numArgs ≠ code.numParams) :
    exec (callCompiled fa numArgs 0) s =
      (.ok (.error (.named "WrongNumberOfArgumentsError" (wantEq code.numParams numArgs))), s) :=
  exec_callCompiled_of_bindErr hcell (by unfold bindArgs; simp [hnv, hargs, exec_pure])

/-- fixed arity, right number of arguments, not a self tail call: a new frame is entered whose base
    pointer is the first argument — the arguments ARE the parameters, in order, untouched — the
    remaining locals are undefined, and the caller's frame remembers where to continue. -/
theorem callCompiled_fixed (fa : Addr) (numArgs : Int) (s : State) (code : Code) (free : Option (List Addr))
    (hcell : exec (fnCell fa) s = (.ok (code, free), s))
    (hnv : code.variadic = false) (hargs : numArgs = code.numParams)
    (hself : (s.frames[s.curFrame]!).fn ≠ some fa)
    (hfi : 0 ≤ s.frameIndex ∧ s.frameIndex + 1 ≤ (frameSize : Int) - 1)
    (hbp : 0 ≤ s.sp - numArgs) (hroom : s.sp - numArgs + code.numLocals ≤ (stackSize : Int))
    (hnl : code.numParams ≤ code.numLocals) :
    exec (callCompiled fa numArgs 0) s = (.ok (.ok ()),
      { s with stack := fillLocals s.stack (s.sp - numArgs) code.numParams code.numLocals,
               frameIndex := s.frameIndex + 1,
               frames := (s.frames.modify s.curFrame fun f => { f with ip := s.ip + 2 }).modify s.frameIndex.toNat fun f =>
                  { f with fn := some fa, free := free, handlers := none, bp := s.sp - numArgs, discard := false },
               curFrame := s.frameIndex.toNat, sp := s.sp - numArgs + code.numLocals, ip := -1 }) := by
  have hbind : exec (bindArgs code (s.sp - numArgs) numArgs 0) s = (.ok (.ok ()), s) := by
    unfold bindArgs
    simp [hnv, hargs, exec_pure]
  exact exec_callCompiled_of_bind fa numArgs 0 s s code free hcell hbind hself hfi hbp hroom

/-- variadic callee, too few arguments: WrongNumberOfArgumentsError -/
theorem callCompiled_variadic_arity_error (fa : Addr) (numArgs : Int) (s : State) (code : Code) (free : Option (List Addr))
    (hcell : exec (fnCell fa) s = (.ok (code, free), s))
    (hv : code.variadic = true) (hargs : numArgs < (code.numParams : Int) - 1) :
    exec (callCompiled fa numArgs 0) s =
      (.ok (.error (.named "WrongNumberOfArgumentsError" (wantGE ((code.numParams : Int) - 1) numArgs))), s) :=
  exec_callCompiled_of_bindErr hcell (by unfold bindArgs; simp [hv, hargs, exec_pure])

/-- variadic callee with at least the fixed parameters supplied (no spread), not a self tail call:
    the fixed parameters are the first arguments, untouched; ALL remaining arguments, in order,
    become a fresh array stored in the variadic parameter's slot; the other locals are undefined. -/
theorem callCompiled_variadic (fa : Addr) (numArgs : Int) (s : State) (code : Code) (free : Option (List Addr))
    (hcell : exec (fnCell fa) s = (.ok (code, free), s))
    (hv : code.variadic = true) (hnp : 1 ≤ code.numParams) (hargs : (code.numParams : Int) - 1 ≤ numArgs)
    (hself : (s.frames[s.curFrame]!).fn ≠ some fa)
    (hfi : 0 ≤ s.frameIndex ∧ s.frameIndex + 1 ≤ (frameSize : Int) - 1)
    (hbp : 0 ≤ s.sp - numArgs) (hsp : s.sp ≤ (stackSize : Int))
    (hroom : s.sp - numArgs + code.numLocals ≤ (stackSize : Int))
    (hnl : code.numParams ≤ code.numLocals) :
    let bp := s.sp - numArgs
    let rest := (s.stack.toList.drop (bp + code.numParams - 1).toNat).take (numArgs - ((code.numParams : Int) - 1)).toNat
    exec (callCompiled fa numArgs 0) s = (.ok (.ok ()),
      { s with heap := s.heap.push (.arr rest.toArray),
               stack := fillLocals (s.stack.set! (bp + code.numParams - 1).toNat (.arr s.heap.size 0 rest.length)) bp code.numParams code.numLocals,
               frameIndex := s.frameIndex + 1,
               frames := (s.frames.modify s.curFrame fun f => { f with ip := s.ip + 2 }).modify s.frameIndex.toNat fun f =>
                  { f with fn := some fa, free := free, handlers := none, bp := bp, discard := false },
               curFrame := s.frameIndex.toNat, sp := bp + code.numLocals, ip := -1 }) := by
  intro bp rest
  have hbind : exec (bindArgs code (s.sp - numArgs) numArgs 0) s = (.ok (.ok ()),
      { s with heap := s.heap.push (.arr rest.toArray),
               stack := s.stack.set! (bp + code.numParams - 1).toNat (.arr s.heap.size 0 rest.length) }) := by
    unfold bindArgs
    have hlt : ¬ (numArgs < (code.numParams : Int) - 1) := by omega
    simp only [hv, Bool.not_true, Bool.false_eq_true, ↓reduceIte, hlt,
      beq_self_eq_true]
    by_cases heq : numArgs = (code.numParams : Int) - 1
    · have hset := fun (v : V) (t : State) => exec_stackSet s.sp v t (by constructor <;> omega)
      have hrest : rest = [] := by
        show List.take _ _ = []
        have : (numArgs - ((code.numParams : Int) - 1)).toNat = 0 := by omega
        rw [this]; simp
      have e1 : (s.sp - ((code.numParams : Int) - 1) + code.numParams - 1).toNat = s.sp.toNat := by omega
      have e0 : s.sp - ((code.numParams : Int) - 1) + ((code.numParams : Int) - 1) = s.sp := by omega
      simp only [heq, beq_self_eq_true, ↓reduceIte, exec_bind, exec_newArray, e0]
      simp only [hset, exec_pure, hrest, bp, heq, e1]
    · have hslice := fun (t : State) => exec_stackSlice (s.sp - numArgs + code.numParams - 1) (s.sp - numArgs + numArgs) t
          (by refine ⟨?_, ?_, ?_⟩ <;> omega)
      have hset := fun (v : V) (t : State) => exec_stackSet (s.sp - numArgs + code.numParams - 1) v t (by constructor <;> omega)
      have hb : (numArgs == (code.numParams : Int) - 1) = false := by simpa using heq
      have e2 : s.sp - numArgs + numArgs - (s.sp - numArgs + ↑code.numParams - 1) = numArgs - ((code.numParams : Int) - 1) := by omega
      simp only [hb, Bool.false_eq_true, ↓reduceIte, exec_bind, hslice, exec_newArray]
      have e3 : s.sp - (s.sp - numArgs + ↑code.numParams - 1) = numArgs - ((code.numParams : Int) - 1) := by omega
      simp [hset, exec_pure, bp, rest, e3]
  exact exec_callCompiled_of_bind fa numArgs 0 s _ code free hcell hbind hself hfi hbp hroom

/-- the arguments of a call as they lie on the operand stack: `stack[sp-numArgs : sp]` -/
def argsOnStack (s : State) (numArgs : Int) : List V :=
  (s.stack.toList.drop (s.sp - numArgs).toNat).take numArgs.toNat

/-- the array the variadic parameter receives is exactly "all remaining arguments" of the
    reference rule `Sem.bindArgs`: the arguments after the first `numParams - 1` -/
theorem rest_eq_drop_args (s : State) (numArgs : Int) (np : Nat) (hnp : 1 ≤ np) (hbp : 0 ≤ s.sp - numArgs)
    (hargs : (np : Int) - 1 ≤ numArgs) :
    (s.stack.toList.drop (s.sp - numArgs + np - 1).toNat).take (numArgs - ((np : Int) - 1)).toNat
      = (argsOnStack s numArgs).drop (np - 1) := by
  unfold argsOnStack
  rw [List.drop_take, List.drop_drop]
  congr 2 <;> omega

end UgoVerif.Props.C02

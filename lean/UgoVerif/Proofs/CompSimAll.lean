import UgoVerif.Proofs.CompSimCtl
/-
  C02, compile ⊑ Sem, statement slice — every statement (list) of the fragment `StmtF`:
  induction over the size of the statement, using the lemmas of CompSimStmts / CompSimCtl.
-/
namespace UgoVerif.CompSim
open UgoVerif UgoVerif.Go UgoVerif.Ast UgoVerif.VM UgoVerif.Proofs.ModCache UgoVerif.Proofs.VMExec
open UgoVerif.Compile (compileStmt compileStmts)

/-- For every statement (list) of the fragment: the parser shape the compile model's invariant theorem asks for (`okS`),
    and the judgement `GoodCF` with a flag that claims the end of the code reachable where `fallS` / `fallL` does. -/
structure AllS (F : FloatOps) (n : Nat) : Prop where
  stmt : ∀ st, sizeOf st < n → ∀ B, StmtF B st = true → okS st = true ∧
    ∃ k, GoodCF F B (defsOf B st) (needS st) (compileStmt st) (fun fuel env => Sem.execStmt F fuel env st) k ∧
      (fallS st = true → k ≠ .no)
  els : ∀ e, sizeOf e < n → ∀ B, ElseF B e = true → okS e = true ∧
    ∃ k, GoodBF F B (needS e) (compileStmt e) (fun fuel env => Sem.execStmt F fuel env e) k
  stmts : ∀ ss, sizeOf ss < n → ∀ B, StmtsF B ss = true → okSs ss = true ∧
    ∃ k, GoodCF F B (defsL B ss) (needL ss) (compileStmts ss) (fun fuel env => Sem.execList F fuel env ss) k ∧
      (fallL ss = true → k ≠ .no)

theorem good_initNone (F : FloatOps) (B : List String) (nd : Nat) : GoodCF F B B nd (pure ()) (initSem F none) .thru :=
  (good_none F B nd).toCF

theorem condF_of_exprF {B : List String} {c : Expr} (h : ExprF (bnd B) c = true) (hnb : isBoolLit c = false) :
    condF B c = true := by
  simp [condF, h, hnb]

/-- `StmtF B st = true`, by the form of `st` -/
inductive StmtV (B : List String) : Stmt → Prop
  | empty (pos) : StmtV B (.empty pos)
  | expr (pos e) : ExprF (bnd B) e = true → StmtV B (.expr pos e)
  | block (pos body) : StmtsF B body = true → StmtV B (.block pos body)
  | return0 (pos) : StmtV B (.return_ pos none)
  | return1 (pos e) : ExprF (bnd B) e = true → StmtV B (.return_ pos (some e))
  | if_ (pos c bp body els) : condF B c = true → StmtsF B body = true → (∀ e, els = some e → ElseF B e = true) →
      StmtV B (.if_ pos none c bp body els)
  | ifInit (pos i c bp body els) : StmtF B i = true → ExprF (bnd (defsOf B i)) c = true → isBoolLit c = false →
      StmtsF (defsOf B i) body = true → (∀ e, els = some e → ElseF (defsOf B i) e = true) →
      StmtV B (.if_ pos (some i) c bp body els)
  | define (pos p x r) : ExprF (bnd B) r = true → x ≠ "_" → StmtV B (.assign pos tDefine [.ident p x] [r])
  | assign (pos p x r) : ExprF (bnd B) r = true → x ∈ B → StmtV B (.assign pos tAssign [.ident p x] [r])
  | compound (pos tok op p x r) : ExprF (bnd B) r = true → x ∈ B → Compile.compoundOp tok = some op → tok ≠ tDefine →
      StmtV B (.assign pos tok [.ident p x] [r])
  | var (pos specs) : specs.isEmpty = false → specsF B specs = true → StmtV B (.declValue pos tVar specs)
  | incdec (pos tok tp p x) : x ∈ B → StmtV B (.incdec pos tok tp (.ident p x))

theorem stmtF_view {B : List String} {st : Stmt} (h : StmtF B st = true) : StmtV B st := by
  revert h
  cases B, st using StmtF.fun_cases_unfolding with
  | case1 _ pos => exact fun _ => .empty pos
  | case2 B pos e => exact .expr pos e
  | case3 B pos tok tp e =>
    intro h
    cases e with
    | ident p x => exact .incdec pos tok tp p x (by simpa [incF] using h)
    | _ => cases h
  | case4 B pos tok p x r =>
    intro h
    rw [Bool.and_eq_true] at h
    obtain ⟨hr, hk⟩ := h
    by_cases hd : tok = tDefine
    · subst hd
      exact .define pos p x r hr (by simpa using hk)
    · by_cases ha : tok = tAssign
      · subst ha
        exact .assign pos p x r hr (by simpa [show tAssign ≠ tDefine by decide] using hk)
      · simp only [beq_iff_eq, hd, ha, if_false, Bool.and_eq_true] at hk
        obtain ⟨op, hop⟩ := Option.isSome_iff_exists.mp hk.1
        exact .compound pos tok op p x r hr (by simpa using hk.2) hop hd
  | case5 B pos tok specs =>
    intro h
    simp only [declF, Bool.and_eq_true, Bool.not_eq_true'] at h
    have ht : tok = tVar := by simpa using h.1.1
    subst ht
    exact .var pos specs h.1.2 h.2
  | case6 B pos body => exact .block pos body
  | case7 B pos c bp body =>
    intro h
    simp only [Bool.and_eq_true] at h
    exact .if_ pos c bp body none h.1 h.2 (fun _ h => nomatch h)
  | case8 B pos c bp body e =>
    intro h
    simp only [Bool.and_eq_true] at h
    exact .if_ pos c bp body (some e) h.1.1 h.1.2 (fun e h' => by cases h'; exact h.2)
  | case9 B pos i c bp body =>
    intro h
    simp only [Bool.and_eq_true, Bool.not_eq_true'] at h
    exact .ifInit pos i c bp body none h.1.1 h.1.2.1 h.1.2.2 h.2 (fun _ h => nomatch h)
  | case10 B pos i c bp body e =>
    intro h
    simp only [Bool.and_eq_true, Bool.not_eq_true'] at h
    exact .ifInit pos i c bp body (some e) h.1.1.1 h.1.1.2.1 h.1.1.2.2 h.1.2 (fun e h' => by cases h'; exact h.2)
  | case11 _ pos => exact fun _ => .return0 pos
  | case12 B pos e => exact .return1 pos e
  | case13 => exact fun h => nomatch h
theorem elseF_stmtF {B : List String} {e : Stmt} (h : ElseF B e = true) : StmtF B e = true := by
  cases e with
  | block pos body => exact h
  | if_ pos init c bp body els => cases init <;> cases els <;> first | exact h | cases h
  | _ => cases h

theorem FallK.seq_ne_no {k1 k2 : FallK} (h1 : k1 ≠ .no) (h2 : k2 ≠ .no) : k1.seq k2 ≠ .no := by
  cases k2 with
  | no => exact (h2 rfl).elim
  | thru => exact h1
  | ends => exact fun h => nomatch h

theorem okSpecs_of_specsF : ∀ (specs : List Spec) (B : List String), specsF B specs = true → okSpecs specs = true
  | [], _, _ => by simp [okSpecs]
  | sp :: rest, B, h => by
    have h' := specsF_cons h
    have ih := okSpecs_of_specsF rest _ h'.2
    rcases specF_inv h'.1 with ⟨iota, ipos, x, e, rfl, hF, hx⟩ | ⟨iota, ipos, x, rfl, hx⟩
    · have oke := okE_of_exprF _ e hF
      simp [okSpecs, okVals, oke, ih]
    · simp [okSpecs, okVals, ih]

theorem okE_of_condF {B : List String} {c : Expr} (h : condF B c = true) : okE c = true := by
  by_cases ht : isTrueLit c = true
  · obtain ⟨p, rfl⟩ := isTrueLit_inv ht
    simp [okE]
  · by_cases hf : isFalseLit c = true
    · obtain ⟨p, rfl⟩ := isFalseLit_inv hf
      simp [okE]
    · exact okE_of_exprF _ c (condF_split h ht hf).1

theorem le_max_mid (a b c : Nat) : b ≤ max a (max b c) := Nat.le_trans (Nat.le_max_left b c) (Nat.le_max_right a _)
theorem le_max_last (a b c : Nat) : c ≤ max a (max b c) := Nat.le_trans (Nat.le_max_right b c) (Nat.le_max_right a _)

theorem step_stmts {F : FloatOps} {n : Nat} (ih : AllS F n) : ∀ ss, sizeOf ss < n + 1 → ∀ B, StmtsF B ss = true →
    okSs ss = true ∧
    ∃ k, GoodCF F B (defsL B ss) (needL ss) (compileStmts ss) (fun fuel env => Sem.execList F fuel env ss) k ∧
      (fallL ss = true → k ≠ .no)
  | [], _, B, _ => ⟨by simp [okSs], .thru, good_nil F B, fun _ h => nomatch h⟩
  | s :: r, hsz, B, h => by
    have h' := stmtsF_cons h
    obtain ⟨ok1, k1, g1, f1⟩ := ih.stmt s (by sz) B h'.1
    obtain ⟨ok2, k2, g2, f2⟩ := ih.stmts r (by sz) _ h'.2
    refine ⟨by simp [okSs, ok1, ok2], k1.seq k2,
      good_cons F B _ _ _ s r k1 k2 (Compile.good_compileStmt s ok1) (g1.mono (Nat.le_max_left ..)) (g2.mono (Nat.le_max_right ..)),
      fun hf => ?_⟩
    rw [fallL_cons, Bool.and_eq_true] at hf
    exact FallK.seq_ne_no (f1 hf.1) (f2 hf.2)

/-- `if` without init statement.  With the literal `true` as condition the flag is the body's, otherwise a jump
    of the `if` reaches the end. -/
theorem step_if {F : FloatOps} {n : Nat} (ih : AllS F n) (B : List String) (pos bp : Pos) (c : Expr) (body : List Stmt)
    (els : Option Stmt) (hsz : sizeOf body < n) (hsze : ∀ e, els = some e → sizeOf e < n) (hc : condF B c = true)
    (hb : StmtsF B body = true) (he : ∀ e, els = some e → ElseF B e = true) :
    okS (.if_ pos none c bp body els) = true ∧
    ∃ k, GoodBF F B (needS (.if_ pos none c bp body els)) (compileStmt (.if_ pos none c bp body els))
        (fun fuel env => Sem.execStmt F fuel env (.if_ pos none c bp body els)) k ∧
      (fallS (.if_ pos none c bp body els) = true → k ≠ .no) := by
  obtain ⟨okb, kT, gb, fb⟩ := ih.stmts body hsz B hb
  have okc := okE_of_condF hc
  have hT := good_blockOf F B _ _ body kT gb
  have gT : Compile.Good (Compile.blockOf body (compileStmts body)) := Compile.good_blockOf (Compile.good_compileStmts body okb)
  have hk : fallS (.if_ pos none c bp body els) = true → FallK.thru.seq (if isTrueLit c = true then kT else .ends) ≠ .no := by
    intro hf
    rw [fallS_if] at hf
    by_cases ht : isTrueLit c = true
    · rw [if_pos ht]
      exact FallK.seq_ne_no (fun h => nomatch h) (fb (by simpa [ht] using hf))
    · rw [if_neg ht]
      exact fun h => nomatch h
  cases els with
  | none =>
    exact ⟨by simp [okS, okc, okb], _, good_if F B B pos bp none c body none _ .thru kT .no hc
      (Nat.le_max_left ..) (good_initNone F B _) (Compile.GoodP.pure trivial) (hT.mono (Nat.le_max_right ..)) gT (fun _ h => nomatch h), hk⟩
  | some e =>
    obtain ⟨oke, kE, ge⟩ := ih.els e (hsze e rfl) B (he e rfl)
    exact ⟨by simp [okS, okc, okb, oke], _, good_if F B B pos bp none c body (some e) _
      .thru kT kE hc (Nat.le_max_left ..) (good_initNone F B _) (Compile.GoodP.pure trivial) (hT.mono (le_max_mid ..)) gT
      (fun e' h => by cases h; exact ge.mono (le_max_last ..)), hk⟩

theorem step_else {F : FloatOps} {n : Nat} (ih : AllS F n) (e : Stmt) (hsz : sizeOf e < n + 1) (B : List String)
    (h : ElseF B e = true) :
    okS e = true ∧ ∃ k, GoodBF F B (needS e) (compileStmt e) (fun fuel env => Sem.execStmt F fuel env e) k := by
  cases stmtF_view (elseF_stmtF h) with
  | block pos body hb =>
    obtain ⟨okb, k, gb, _⟩ := ih.stmts body (by sz) B hb
    exact ⟨by simpa [okS] using okb, k, good_blockStmt F B _ _ pos body k gb⟩
  | if_ pos c bp body els hc hb he =>
    obtain ⟨ok, k, g, _⟩ := step_if ih B pos bp c body els (by sz) (fun e h => by subst h; sz) hc hb he
    exact ⟨ok, k, g⟩
  | ifInit pos i c bp body els => cases els <;> cases h
  | _ => cases h

theorem step_stmt {F : FloatOps} {n : Nat} (ih : AllS F n) (st : Stmt) (hsz : sizeOf st < n + 1) (B : List String)
    (h : StmtF B st = true) :
    okS st = true ∧
    ∃ k, GoodCF F B (defsOf B st) (needS st) (compileStmt st) (fun fuel env => Sem.execStmt F fuel env st) k ∧
      (fallS st = true → k ≠ .no) := by
  have noFall : ∀ pos e, fallS (.return_ pos e) = true → FallK.no ≠ .no := fun pos e hf => by
    rw [fallS_return] at hf; cases hf
  cases stmtF_view h with
  | empty pos => exact ⟨by simp [okS], .thru, good_empty F B pos, fun _ h => nomatch h⟩
  | expr pos e he =>
    exact ⟨by simpa [okS] using okE_of_exprF _ e he, .ends, good_exprStmt F B pos e he, fun _ h => nomatch h⟩
  | block pos body hb =>
    obtain ⟨okb, k, gb, fb⟩ := ih.stmts body (by sz) B hb
    exact ⟨by simpa [okS] using okb, k, (good_blockStmt F B _ _ pos body k gb).toCF, fun hf => fb (by rwa [fallS_block] at hf)⟩
  | return0 pos => exact ⟨by simp [okS], .no, good_return0 F B pos, noFall pos none⟩
  | return1 pos e he =>
    exact ⟨by simpa [okS] using okE_of_exprF _ e he, .no, good_return1 F B pos e he, noFall pos (some e)⟩
  | if_ pos c bp body els hc hb he =>
    obtain ⟨ok, k, g, f⟩ := step_if ih B pos bp c body els (by sz) (fun e h => by subst h; sz) hc hb he
    exact ⟨ok, k, g.toCF, f⟩
  | ifInit pos i c bp body els hi hFc hnb hb he =>
    obtain ⟨oki, kI, gi, _⟩ := ih.stmt i (by sz) B hi
    obtain ⟨okb, kT, gb, _⟩ := ih.stmts body (by sz) _ hb
    have okc := okE_of_exprF _ c hFc
    have hT := good_blockOf F (defsOf B i) _ _ body kT gb
    have gT : Compile.Good (Compile.blockOf body (compileStmts body)) := Compile.good_blockOf (Compile.good_compileStmts body okb)
    have gI := Compile.good_compileStmt i oki
    -- the condition is not a literal: the JUMPFALSY / JUMP of the `if` reaches the end, whatever `init` does
    have ht : ¬ isTrueLit c = true := by
      intro ht
      obtain ⟨p, rfl⟩ := isTrueLit_inv ht
      cases hnb
    have hk : kI.seq (if isTrueLit c = true then kT else .ends) ≠ .no := by
      rw [if_neg ht]
      exact fun h => nomatch h
    cases els with
    | none =>
      exact ⟨by simp [okS, oki, okc, okb], _,
        (good_if F B _ pos bp (some i) c body none _ kI kT .no (condF_of_exprF hFc hnb)
          (le_max_mid ..) (gi.mono (Nat.le_max_left ..)) gI (hT.mono (le_max_last ..)) gT (fun _ h => nomatch h)).toCF, fun _ => hk⟩
    | some e =>
      obtain ⟨oke, kE, ge⟩ := ih.els e (by sz) _ (he e rfl)
      exact ⟨by simp [okS, oki, okc, okb, oke], _,
        (good_if F B _ pos bp (some i) c body (some e) _ kI kT kE
          (condF_of_exprF hFc hnb) (le_max_mid ..) (gi.mono (Nat.le_max_left ..)) gI
          (hT.mono (Nat.le_trans (le_max_mid ..) (Nat.le_max_right ..))) gT
          (fun e' h => by cases h; exact ge.mono (Nat.le_trans (le_max_last ..) (Nat.le_max_right ..)))).toCF, fun _ => hk⟩
  | define pos p x r hr hx =>
    have e1 : defsOf B (.assign pos tDefine [.ident p x] [r]) = x :: B := by simp [defsOf]
    rw [e1]
    exact ⟨by simp [okS, okEs, okE, okE_of_exprF _ r hr], .ends, good_define F B pos p x r hr hx, fun _ h => nomatch h⟩
  | assign pos p x r hr hx =>
    have e1 : defsOf B (.assign pos tAssign [.ident p x] [r]) = B := by simp [defsOf, show tAssign ≠ tDefine by decide]
    rw [e1]
    exact ⟨by simp [okS, okEs, okE, okE_of_exprF _ r hr], .ends, good_assign F B pos p x r hr hx, fun _ h => nomatch h⟩
  | compound pos tok op p x r hr hx hop hd =>
    have e1 : defsOf B (.assign pos tok [.ident p x] [r]) = B := by simp [defsOf, hd]
    rw [e1]
    exact ⟨by simp [okS, okEs, okE, okE_of_exprF _ r hr], .ends, good_compound F B pos p x r tok op hr hx hop, fun _ h => nomatch h⟩
  | var pos specs hne hs =>
    exact ⟨by simpa [okS] using okSpecs_of_specsF specs B hs, .ends, good_varGroup F B pos specs hne hs, fun _ h => nomatch h⟩
  | incdec pos tok tp p x hx => exact ⟨by simp [okS, okE], .ends, good_incdec F B pos tok tp p x hx, fun _ h => nomatch h⟩

theorem allS (F : FloatOps) : ∀ n, AllS F n
  | 0 => ⟨fun _ h => by omega, fun _ h => by omega, fun _ h => by omega⟩
  | n + 1 =>
    have ih := allS F n
    ⟨step_stmt ih, step_else ih, step_stmts ih⟩

/-- every statement list of the fragment: parser shape, simulation, and a flag for the end of its code -/
theorem all_stmts (F : FloatOps) (ss : List Stmt) (B : List String) (h : StmtsF B ss = true) :
    okSs ss = true ∧
    ∃ k, GoodCF F B (defsL B ss) (needL ss) (compileStmts ss) (fun fuel env => Sem.execList F fuel env ss) k ∧
      (fallL ss = true → k ≠ .no) :=
  (allS F (sizeOf ss + 1)).stmts ss (Nat.lt_succ_self _) B h

theorem good_stmt (F : FloatOps) (st : Stmt) (B : List String) (h : StmtF B st = true) :
    GoodC F B (defsOf B st) (needS st) (compileStmt st) (fun fuel env => Sem.execStmt F fuel env st) := by
  obtain ⟨_, _, g, _⟩ := (allS F (sizeOf st + 1)).stmt st (Nat.lt_succ_self _) B h
  exact g.toC

theorem good_stmts (F : FloatOps) (ss : List Stmt) (B : List String) (h : StmtsF B ss = true) :
    GoodC F B (defsL B ss) (needL ss) (compileStmts ss) (fun fuel env => Sem.execList F fuel env ss) := by
  obtain ⟨_, _, g, _⟩ := all_stmts F ss B h
  exact g.toC

end UgoVerif.CompSim

import UgoVerif.Proofs.CompileMono
/-
  C02, compile ⊑ Sem — the compiler side: inversion of successful runs of the
  compile model (`runCM m cs = (.ok a, cs')`) for the primitives the fragment uses: `emit`
  (which bytes are appended), `changeOperand` (which bytes are patched), `addConstant` (the index
  names a constant equal to the literal — for floats bit for bit), `resolve` of a name that is a
  local of the current function.
-/
namespace UgoVerif.CompSim
open UgoVerif UgoVerif.Go UgoVerif.Ast UgoVerif.Compile

/-! ### monad -/

theorem bind_inv {α β} {m : CM α} {f : α → CM β} {cs cs' : CState} {b : β}
    (h : runCM (m >>= f) cs = (.ok b, cs')) :
    ∃ a cs1, runCM m cs = (.ok a, cs1) ∧ runCM (f a) cs1 = (.ok b, cs') := by
  rw [runCM_bind] at h
  cases hr : runCM m cs with
  | mk r cs1 =>
    rw [hr] at h
    cases r with
    | ok a => exact ⟨a, cs1, rfl, h⟩
    | error e => simp at h

theorem pure_inv {α} {a b : α} {cs cs' : CState} (h : runCM (pure a : CM α) cs = (.ok b, cs')) : b = a ∧ cs' = cs := by
  rw [runCM_pure] at h
  simp only [Prod.mk.injEq, Except.ok.injEq] at h
  exact ⟨h.1.symm, h.2.symm⟩

/-! ### emit / changeOperand -/

/-- a successful `emit`: the opcode is one of the table, the bytes appended are its byte and as many operand bytes as
    the table says -/
theorem emit_inv {pos : Pos} {op : Nat} {args : List Int} {cs cs' : CState} {p : Nat}
    (h : runCM (emit pos op args) cs = (.ok p, cs')) :
    op < numOpcodes ∧ ∃ rest, makeInstruction op args = .ok (UInt8.ofNat op :: rest) ∧ rest.length = opWidth op ∧
      p = cs.insts.size ∧
      cs' = { cs with insts := cs.insts ++ (UInt8.ofNat op :: rest).toArray,
                      sourceMap := setSourceMap cs.sourceMap cs.insts.size pos } := by
  apply Post.of_satE ?_ _ _ h
  exact SatE.emit (fun _ _ => trivial) fun hop rest hm hl => ⟨hop, rest, hm, hl, rfl, rfl⟩

theorem emit__inv {pos : Pos} {op : Nat} {args : List Int} {cs cs' : CState}
    (h : runCM (emit_ pos op args) cs = (.ok (), cs')) :
    op < numOpcodes ∧ ∃ rest, makeInstruction op args = .ok (UInt8.ofNat op :: rest) ∧ rest.length = opWidth op ∧
      cs' = { cs with insts := cs.insts ++ (UInt8.ofNat op :: rest).toArray,
                      sourceMap := setSourceMap cs.sourceMap cs.insts.size pos } := by
  unfold emit_ at h
  obtain ⟨p, cs1, h1, h2⟩ := bind_inv h
  obtain ⟨_, rfl⟩ := pure_inv h2
  obtain ⟨hop, rest, hm, hl, _, hc⟩ := emit_inv h1
  exact ⟨hop, rest, hm, hl, hc⟩

theorem changeOperand_inv {p : Nat} {args : List Int} {cs cs' : CState}
    (h : runCM (changeOperand p args) cs = (.ok (), cs')) :
    ∃ (op : UInt8) (rest : List UInt8), cs.insts[p]? = some op ∧ makeInstruction op.toNat args = .ok (op :: rest) ∧
      rest.length = opWidth op.toNat ∧ cs' = { cs with insts := patch cs.insts p (op :: rest) } := by
  generalize () = u at h
  apply Post.of_satE ?_ _ _ h
  exact SatE.changeOperand (fun _ _ => trivial) fun op rest hop hm hl => ⟨op, rest, hop, hm, hl, rfl⟩

theorem curPos_inv {cs cs' : CState} {p : Nat} (h : runCM curPos cs = (.ok p, cs')) : p = cs.insts.size ∧ cs' = cs := by
  unfold curPos at h
  simp only [runCM_bind, runCM_get, runCM_pure, Prod.mk.injEq, Except.ok.injEq] at h
  exact ⟨h.1.symm, h.2.symm⟩

/-! ### the constant pool -/

theorem addConstant_inv {k : CVal} {cs cs' : CState} {i : Nat} (h : runCM (addConstant k) cs = (.ok i, cs')) :
    cs' = { cs with constants := cs'.constants } ∧ IsPre cs.constants cs'.constants ∧ cs'.constants[i]? = some (.val k) := by
  apply Post.of_satE ?_ _ _ h
  exact SatE.addConstant k (fun _ hj => ⟨rfl, IsPre.refl _, (findConst_spec hj).2⟩) fun _ => ⟨rfl, IsPre.push _ _, by simp⟩

theorem IsPre.get {a b : Array Const} (h : IsPre a b) {i : Nat} {c : Const} (hi : a[i]? = some c) : b[i]? = some c := by
  obtain ⟨ext, rfl⟩ := h
  rw [Array.getElem?_append_left (Array.getElem?_eq_some_iff.mp hi).1]; exact hi

/-! ### symbols: locals of the current function -/

/-- the local slot the compiler resolves `n` to in state `cs`, if `n` is a local of the current
    function (found in the function's own table or one of its block tables) -/
def localIdx (cs : CState) (n : String) : Option Nat :=
  match (resolveIn cs.builtins (rootDisabled cs.tables) n cs.tables).1 with
  | some sym => if sym.scope = .local_ ∧ 0 ≤ sym.index then some sym.index.toNat else none
  | none => none

theorem resolveIn_local (bs : List (String × Nat)) (d : List String) (n : String) (ts : List Table) :
    ∀ (sym : Symbol) (ts' : List Table), resolveIn bs d n ts = (some sym, ts') → sym.scope = .local_ → ts' = ts := by
  -- a symbol found with scope LOCAL was found in a table or handed down unchanged: no table is written
  refine resolveIn_ind (motive := fun ts res => ∀ sym ts', res = (some sym, ts') → sym.scope = .local_ → ts' = ts)
    ?_ ?_ ?_ ?_ ?_ ?_ ?_ ts
  · exact fun _ _ h => nomatch h
  · exact fun _ _ _ _ h _ => (Prod.mk.inj h).2.symm
  · exact fun _ _ _ _ _ h hs => by cases (Prod.mk.inj h).1; cases hs
  · exact fun _ _ _ h => nomatch h
  · exact fun _ _ _ _ _ h => nomatch h
  · exact fun _ _ _ _ _ _ _ _ _ h hs => by cases (Prod.mk.inj h).1; cases hs
  · exact fun _ _ ih _ _ _ h hs => by
      obtain ⟨h1, h2⟩ := Prod.mk.inj h
      cases h1
      rw [← h2, ih _ _ rfl hs]

theorem resolve_local {cs : CState} {n : String} {i : Nat} (h : localIdx cs n = some i) :
    ∃ sym, runCM (resolve n) cs = (.ok (some sym), cs) ∧ sym.scope = .local_ ∧ sym.index = (i : Int) := by
  unfold localIdx at h
  cases hr : resolveIn cs.builtins (rootDisabled cs.tables) n cs.tables with
  | mk r ts =>
    rw [hr] at h
    cases r with
    | none => simp at h
    | some sym =>
      simp only at h
      split at h
      · rename_i hc
        simp only [Option.some.injEq] at h
        have hts := resolveIn_local _ _ _ _ _ _ hr hc.1
        refine ⟨sym, ?_, hc.1, by omega⟩
        rw [runCM_resolve, hr, hts]
      · simp at h

/-! ### shape of a successful compile of an expression of the fragment -/

/-- only the instruction stream (appended to; patches stay behind the old end), the source map and
    the constant pool (appended to) change -/
structure Shape (cs cs' : CState) : Prop where
  eq : cs' = { cs with insts := cs'.insts, sourceMap := cs'.sourceMap, constants := cs'.constants }
  pre : Pre cs.insts cs'.insts
  cpre : IsPre cs.constants cs'.constants

theorem Shape.refl (cs : CState) : Shape cs cs := ⟨rfl, Pre.refl _, IsPre.refl _⟩

theorem Shape.trans {a b c : CState} (h1 : Shape a b) (h2 : Shape b c) : Shape a c :=
  ⟨by have e2 := h2.eq; rw [h1.eq] at e2; exact e2, h1.pre.trans h2.pre, h1.cpre.trans h2.cpre⟩

theorem Shape.localIdx {cs cs' : CState} (h : Shape cs cs') : localIdx cs' = localIdx cs := by
  funext n
  rw [h.eq]
  rfl

theorem Shape.tables {cs cs' : CState} (h : Shape cs cs') : cs'.tables = cs.tables := by rw [h.eq]

theorem Shape.of_emit {pos : Pos} {op : Nat} {args : List Int} {cs cs' : CState} {p : Nat}
    (h : runCM (emit pos op args) cs = (.ok p, cs')) : Shape cs cs' := by
  obtain ⟨_, rest, _, _, _, rfl⟩ := emit_inv h
  exact ⟨rfl, Pre.append _ _, IsPre.refl _⟩

theorem Shape.of_emit_ {pos : Pos} {op : Nat} {args : List Int} {cs cs' : CState}
    (h : runCM (emit_ pos op args) cs = (.ok (), cs')) : Shape cs cs' := by
  obtain ⟨_, rest, _, _, rfl⟩ := emit__inv h
  exact ⟨rfl, Pre.append _ _, IsPre.refl _⟩

theorem Shape.of_addConstant {k : CVal} {cs cs' : CState} {i : Nat} (h : runCM (addConstant k) cs = (.ok i, cs')) :
    Shape cs cs' := by
  obtain ⟨e, hp, _⟩ := addConstant_inv h
  refine ⟨?_, ?_, hp⟩
  · conv => lhs; rw [e]
    rw [e]
  · rw [e]; exact Pre.refl _

theorem getElem?_of_pre {a b : Array UInt8} (h : Pre a b) {k : Nat} {x : UInt8} (hx : a[k]? = some x) : b[k]? = some x := by
  rw [h.2 k (Array.getElem?_eq_some_iff.mp hx).1]; exact hx

end UgoVerif.CompSim

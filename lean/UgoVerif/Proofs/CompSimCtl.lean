import UgoVerif.Proofs.CompSimStmts
/-
  The statement forms made of parts: blocks (`Fork(true)` … `Parent` of the compiler against scope push / pop of the
  reference semantics), statement lists, `if`, `var` groups.  Each is stated under ONE stack bound `nd` for the parts
  and the whole, since each part starts with the `sp` of the start state; `mono` takes a part there.  The jump forms
  of `if` are proved once over an abstract head (`HeadOK`): a condition with its JUMPFALSY, or the JUMP of the
  literal `false`.
-/
namespace UgoVerif.CompSim
open UgoVerif UgoVerif.Go UgoVerif.Ast UgoVerif.VM UgoVerif.Proofs.ModCache UgoVerif.Proofs.VMExec
open UgoVerif.Compile (CState runCM compileExpr compileStmt compileStmts IsPre Pre Table nextIndex)
open UgoVerif.Compile (Walk Inv InsAt)

theorem fork_inv {cs cs1 : CState} {t0 : Table} {r0 : List Table} (htr : cs.tables = t0 :: r0)
    (h : runCM (Compile.forkTable true) cs = (.ok (), cs1)) :
    ∃ nt : Table, nt.block = true ∧ nt.store = [] ∧ nt.numDefinition = 0 ∧ nt.frees = [] ∧ nt.numParams = 0 ∧
      { cs with tables := nt :: cs.tables } = cs1 := by
  rw [Compile.runCM_forkTable true htr] at h
  simp only [Prod.mk.injEq, true_and] at h
  exact ⟨_, rfl, rfl, rfl, rfl, rfl, h⟩

/-- The tables after a block are those before it up to `maxDefinition`: every variable in scope keeps its slot; the slots
    of the block's own variables are free again (`nextIndex` is back), their pairs leave `binds`. -/
theorem good_withBlock (F : FloatOps) (B B1 : List String) (nd : Nat) (act : Compile.CM Unit)
    (sem sem' : Nat → Sem.Env → Sem.SM (Sem.Comp × Sem.Env)) (k : FallK) (h : GoodCF F B B1 nd act sem k)
    (hrun : ∀ fuel env ss t c env' ss' t', exec ((sem' fuel env).run ss) t = (.ok ((c, env'), ss'), t') →
       env = env' ∧ ∃ fuel' envX, exec ((sem fuel' ([] :: env)).run ss) t = (.ok ((c, envX), ss'), t')) :
    GoodBF F B nd (Compile.withBlock act) sem' k := by
  intro cs cs' hc hcov hok
  obtain ⟨t0, r0, htr⟩ := tables_cons_of_ok hok
  unfold Compile.withBlock at hc
  obtain ⟨_, cs1, hfork0, hc⟩ := bind_inv hc
  obtain ⟨nt, hnb, hns, hnn, hnf, hnp, hfork⟩ := fork_inv htr hfork0
  obtain ⟨_, cs2, hact, hc⟩ := bind_inv hc
  obtain ⟨tp, cs3, hpop, hc⟩ := bind_inv hc
  obtain ⟨_, rfl⟩ := pure_inv hc
  have ht1 : cs1.tables = nt :: cs.tables := by rw [← hfork]
  have hl1 : localIdx cs1 = localIdx cs := by
    funext n
    rw [localIdx_eq, localIdx_eq, ht1, locOf_fork n nt cs.tables hns hnb]
  have hni1 : nextIndex cs1.tables = nextIndex cs.tables := by rw [ht1, nextIndex_fork nt _ hnn hnb]
  have hok1 : CsOK cs1 :=
    ⟨by rw [ht1, hasFn_fork nt _ hnb]; exact hok.fn, by rw [← hfork]; exact hok.tci,
     by rw [hni1, ht1, fnMax_fork nt _ hnb]; exact hok.ni⟩
  obtain ⟨⟨hse1, hok2, _, hsim⟩, hfalls⟩ := h cs1 cs2 hact (by rw [hl1]; exact hcov) hok1
  have hte := hse1.tabs
  rw [ht1] at hte
  obtain ⟨h', r', hts2, hb', _, _, htl⟩ := hte.cons_inv
  rw [Compile.runCM_popTable hts2] at hpop
  simp only [Prod.mk.injEq, Except.ok.injEq] at hpop
  obtain ⟨_, rfl⟩ := hpop
  have hi1 : cs1.insts = cs.insts := by rw [← hfork]
  have hc1 : cs1.constants = cs.constants := by rw [← hfork]
  have hfm2 : fnMax cs2.tables = fnMax r' := by rw [hts2]; simp [fnMax, hb', hnb]
  have hse : StEff cs { cs2 with tables := r' } := by
    refine ⟨?_, by rw [← hi1]; exact hse1.pre, by rw [← hc1]; exact hse1.cpre, TEff.of_tl hok.ne htl⟩
    conv => lhs; rw [hse1.eq]
    rw [← hfork]
  have hok' : CsOK { cs2 with tables := r' } :=
    ⟨by show hasFn r' = true; rw [htl.hasFn]; exact hok.fn, hok2.tci,
     by show nextIndex r' ≤ fnMax r'; rw [htl.nextIndex]; exact Nat.le_trans hok.ni htl.fnMax⟩
  refine ⟨⟨hse, hok', htl, ?_⟩, fun hinv => by
    have := hfalls (by rw [← hfork]; exact inv_fork hinv nt hns hnf hnp hnb)
    rw [hi1] at this
    exact this⟩
  intro fuel K code bp L env binds s t ss ss' c env' t' hK hcode hvm hip hsp hL hst hdy hsem
  obtain ⟨rfl, fuel', envX, hrun'⟩ := hrun fuel env ss t c env' ss' t' hsem
  have hst1 : Static (localIdx cs1) (nextIndex cs1.tables) ([] :: env) binds := by
    rw [hl1, hni1]
    exact ⟨fun n i hi => by rw [lookupEnv_nil_cons]; exact hst.look n i hi, hst.lt, hst.inj⟩
  obtain ⟨rfl, out⟩ := hsim fuel' K code bp L ([] :: env) binds s t ss ss' c envX t' hK (by rw [hi1]; exact hcode) hvm
    (by rw [hi1]; exact hip) hsp (by rw [hfm2]; exact hL) hst1 hdy hrun'
  refine ⟨rfl, ?_⟩
  cases c with
  | normal =>
    obtain ⟨binds', s', hr, hf, hip', hsp', hsub, hst2, hdy2⟩ := out
    refine ⟨binds, s', hr, hf, hip', hsp', fun _ h => h, ?_, hdy2.sub hsub⟩
    have hl' : localIdx { cs2 with tables := r' } = localIdx cs := localIdx_of_tl (cs := cs) (cs' := { cs2 with tables := r' }) htl
    rw [hl']
    show Static (localIdx cs) (nextIndex r') env binds
    rw [htl.nextIndex]
    exact hst
  | _ => exact out

theorem execList_zero (F : FloatOps) (env : Sem.Env) (ss : List Stmt) :
    Sem.execList F 0 env ss = Sem.liftM (unsupported "sem: fuel") := by
  cases ss <;> rfl

theorem execList_nil (F : FloatOps) (fuel : Nat) (env : Sem.Env) :
    Sem.execList F (fuel + 1) env [] = pure (.normal, env) := rfl

theorem execList_cons (F : FloatOps) (fuel : Nat) (env : Sem.Env) (s : Stmt) (r : List Stmt) :
    Sem.execList F (fuel + 1) env (s :: r) = (do
      let (c, env') ← Sem.execStmt F fuel env s
      match c with
      | .normal => Sem.execList F fuel env' r
      | c => pure (c, env')) := rfl

theorem execBlock_zero (F : FloatOps) (env : Sem.Env) (ss : List Stmt) :
    Sem.execBlock F 0 env ss = Sem.liftM (unsupported "sem: fuel") := rfl

theorem execBlock_succ (F : FloatOps) (fuel : Nat) (env : Sem.Env) (ss : List Stmt) :
    Sem.execBlock F (fuel + 1) env ss = (do
      let (c, _) ← Sem.execList F fuel ([] :: env) ss
      pure (c, env)) := rfl

theorem good_blockOf (F : FloatOps) (B B1 : List String) (nd : Nat) (body : List Stmt) (k : FallK)
    (h : GoodCF F B B1 nd (compileStmts body) (fun fuel env => Sem.execList F fuel env body) k) :
    GoodBF F B nd (Compile.blockOf body (compileStmts body)) (fun fuel env => Sem.execBlock F fuel env body) k := by
  have hrunB : ∀ fuel env ss t c env' ss' t',
      exec ((Sem.execBlock F fuel env body).run ss) t = (.ok ((c, env'), ss'), t') →
      env = env' ∧ ∃ fuel' envX, exec ((Sem.execList F fuel' ([] :: env) body).run ss) t = (.ok ((c, envX), ss'), t') := by
    intro fuel env ss t c env' ss' t' hsem
    cases fuel with
    | zero => rw [execBlock_zero] at hsem; exact (sm_unsupported_ne hsem).elim
    | succ fuel =>
      rw [execBlock_succ] at hsem
      obtain ⟨⟨c1, envX⟩, ss1, t1, h1, h2⟩ := sm_bind_inv hsem
      obtain ⟨rfl, rfl, rfl, rfl⟩ := sm_pure_pair h2
      exact ⟨rfl, fuel, envX, h1⟩
  unfold Compile.blockOf
  cases body with
  | nil =>
    simp only [List.isEmpty_nil, if_true]
    intro cs cs' hc hcov hok
    -- no code: the flag is that of the empty list
    refine ⟨(good_skip F B nd _ ?_ cs cs' hc hcov hok).1,
      (h cs cs' (by rw [Compile.compileStmts_nil]; exact hc) hcov hok).2⟩
    intro fuel env ss t c env' ss' t' hsem
    obtain ⟨rfl, fuel', envX, h1⟩ := hrunB fuel env ss t c env' ss' t' hsem
    cases fuel' with
    | zero => rw [execList_zero] at h1; exact (sm_unsupported_ne h1).elim
    | succ fuel' =>
      rw [execList_nil] at h1
      obtain ⟨rfl, rfl, rfl, rfl⟩ := sm_pure_pair h1
      exact ⟨rfl, rfl, rfl, rfl⟩
  | cons s r =>
    simp only [List.isEmpty_cons, Bool.false_eq_true, if_false]
    exact good_withBlock F B B1 nd _ _ _ k h hrunB

theorem good_seq (F : FloatOps) (B B1 B2 : List String) (nd : Nat) (act1 act2 : Compile.CM Unit)
    (sem1 sem2 : Nat → Sem.Env → Sem.SM (Sem.Comp × Sem.Env))
    (k1 k2 : FallK) (g1 : Compile.Good act1) (h1 : GoodCF F B B1 nd act1 sem1 k1) (h2 : GoodCF F B1 B2 nd act2 sem2 k2) :
    GoodCF F B B2 nd (act1 >>= fun _ => act2) (fun fuel env => do
      let (c, env') ← sem1 fuel env
      match c with
      | .normal => sem2 fuel env'
      | c => pure (c, env')) (k1.seq k2) := by
  intro cs cs' hc hcov hok
  obtain ⟨_, cs1, hc1, hc2⟩ := bind_inv hc
  obtain ⟨⟨hse1, hok1, hcov1, hsim1⟩, e1⟩ := h1 cs cs1 hc1 hcov hok
  obtain ⟨⟨hse2, hok2, hcov2, hsim2⟩, e2⟩ := h2 cs1 cs' hc2 hcov1 hok1
  refine ⟨⟨hse1.trans hse2, hok2, hcov2, ?_⟩, fun hinv =>
    FallK.seq_holds (e1 hinv) (e2 (good_run g1 hinv hc1).1) hse2.pre (Nat.le_refl _) hse1.pre.1⟩
  intro fuel K code bp L env binds s t ss ss' c env' t' hK hcode hvm hip hsp hL hst hdy hsem
  dsimp only at hsem
  obtain ⟨⟨c1, env1⟩, ss1, t1, hs1, hsem⟩ := sm_bind_inv hsem
  obtain ⟨rfl, out1⟩ := hsim1 fuel K code bp L env binds s t ss ss1 c1 env1 t1 (Compile.IsPre.trans hse2.cpre hK)
    (hcode.sub hse2.pre (Nat.le_refl _)) hvm hip hsp (Nat.le_trans hse2.tabs.fnMax hL) hst hdy hs1
  cases c1 with
  | normal =>
    simp only at hsem
    obtain ⟨binds1, s1, hr1, hf1, hip1, hsp1, hsub1, hst1, hdy1⟩ := out1
    obtain ⟨rfl, out2⟩ := hsim2 fuel K code bp L env1 binds1 s1 t1 ss ss' c env' t' hK
      (hcode.sub (Pre.refl _) hse1.pre.1) (hvm.of_frm hf1 hsp1) hip1 (by rw [hsp1]; exact hsp) hL hst1 hdy1 hsem
    exact ⟨rfl, OutS.via hr1 hf1 hsp1 hsub1 out2⟩
  | ret v =>
    simp only at hsem
    obtain ⟨rfl, rfl, rfl, rfl⟩ := sm_pure_pair hsem
    exact ⟨rfl, out1.abrupt (by simp)⟩
  | thr a =>
    simp only at hsem
    obtain ⟨rfl, rfl, rfl, rfl⟩ := sm_pure_pair hsem
    exact ⟨rfl, out1.abrupt (by simp)⟩
  | _ => exact out1.elim

theorem good_nil (F : FloatOps) (B : List String) :
    GoodCF F B B 0 (compileStmts []) (fun fuel env => Sem.execList F fuel env []) .thru := by
  rw [Compile.compileStmts_nil]
  refine (good_skip F B _ _ ?_).toCF
  intro fuel env ss t c env' ss' t' hsem
  cases fuel with
  | zero => rw [execList_zero] at hsem; exact (sm_unsupported_ne hsem).elim
  | succ fuel =>
    rw [execList_nil] at hsem
    obtain ⟨rfl, rfl, rfl, rfl⟩ := sm_pure_pair hsem
    exact ⟨rfl, rfl, rfl, rfl⟩

theorem stmtsF_cons {B : List String} {s : Stmt} {r : List Stmt} (h : StmtsF B (s :: r) = true) :
    StmtF B s = true ∧ StmtsF (defsOf B s) r = true := by
  have : StmtsF B (s :: r) = (StmtF B s && StmtsF (defsOf B s) r) := rfl
  rw [this, Bool.and_eq_true] at h; exact h

theorem good_cons (F : FloatOps) (B B1 B2 : List String) (nd : Nat) (st : Stmt) (r : List Stmt) (k1 k2 : FallK)
    (g1 : Compile.Good (compileStmt st))
    (h1 : GoodCF F B B1 nd (compileStmt st) (fun fuel env => Sem.execStmt F fuel env st) k1)
    (h2 : GoodCF F B1 B2 nd (compileStmts r) (fun fuel env => Sem.execList F fuel env r) k2) :
    GoodCF F B B2 nd (compileStmts (st :: r)) (fun fuel env => Sem.execList F fuel env (st :: r)) (k1.seq k2) := by
  rw [Compile.compileStmts_cons]
  refine (good_seq F B B1 B2 _ _ _ _ _ k1 k2 g1 h1 h2).resem ?_
  intro fuel env ss t r ss' t' hsem
  cases fuel with
  | zero => rw [execList_zero] at hsem; exact (sm_unsupported_ne hsem).elim
  | succ fuel => rw [execList_cons] at hsem; exact ⟨fuel, hsem⟩

theorem OutS.then_jump {F : FloatOps} {K : Array Compile.Const} {code : Code} {q q' bp L : Nat} {σ' : String → Option Nat}
    {N' : Nat} {binds : List (Nat × Addr)} {s t' : State} {env' : Sem.Env} {c : Sem.Comp}
    (h : OutS F code q bp L σ' N' binds s t' env' c) (hvm : VMOk K code bp (bp + L) s)
    (hj : InsAt code.insts q Compile.OpJump 4 q') : OutS F code q' bp L σ' N' binds s t' env' c := by
  cases c with
  | normal =>
    obtain ⟨binds', s3, hr3, hf3, hip3, hsp3, hsub3, hst3, hdy3⟩ := h
    have hvm3 := hvm.of_frm hf3 hsp3
    obtain ⟨s4, h4, hip4, hsp4, hst4⟩ := step_jump F hvm3.abort hvm3.code hip3 hj 0
    exact ⟨binds', s4, hr3.trans h4.reach, hf3.trans ⟨h4.same, h4.heap, by rw [hst4], fun j _ _ => by rw [hst4]⟩ (by omega), hip4,
      by omega, hsub3, hst3, by rw [h4.heap, hst4]; exact hdy3.cell, hdy3.rel.of_eq h4.heap⟩
  | _ => exact h

/-- What the code of an `if` has in front of its branches: `actH`, then a jump instruction `op` whose target `tgt` is filled in
    later.  `X` is what runs behind the jump, `Y` what runs at `tgt`. -/
def HeadOK (F : FloatOps) (B : List String) (nH : Nat) (actH : Compile.CM Unit) (op : Nat)
    (semH : Nat → Sem.Env → Sem.SM (Sem.Comp × Sem.Env) → Sem.SM (Sem.Comp × Sem.Env) → Sem.SM (Sem.Comp × Sem.Env)) : Prop :=
  ∀ cs cs1 : CState, runCM actH cs = (.ok (), cs1) → Cov B (localIdx cs) → CsOK cs →
    Shape cs cs1 ∧ (Inv cs → Inv cs1) ∧
    ∀ {K : Array Compile.Const} {code : Code} {bp L N q tgt N' b : Nat} {env : Sem.Env} {σ' : String → Option Nat}
      {binds : List (Nat × Addr)} {s t : State} {fuel : Nat} {X Y : Sem.SM (Sem.Comp × Sem.Env)} {ss ss' : Sem.SemSt}
      {cc : Sem.Comp} {env' : Sem.Env} {t' : State},
      IsPre cs1.constants K → CodeHas code cs1.insts cs.insts.size → InsAt code.insts cs1.insts.size op 4 tgt →
      VMOk K code bp (bp + L) s → s.ip + 1 = (cs.insts.size : Int) → s.sp + nH ≤ 2048 → (b : Int) = s.sp →
      Static (localIdx cs) N env binds → Dyn binds t s bp → N ≤ L →
      exec ((semH fuel env X Y).run ss) t = (.ok ((cc, env'), ss'), t') →
      (ss = ss' ∧ OutS F code q bp L σ' N' binds s t' env' cc) ∨
      ∃ (fl : Bool) (s2 : State), Str F b s s2 ∧ s2.sp = s.sp ∧
        s2.ip + 1 = (if fl then (tgt : Int) else (cs1.insts.size : Int) + 5) ∧
        exec ((if fl then Y else X).run ss) t = (.ok ((cc, env'), ss'), t')

theorem headOK_cond (F : FloatOps) (B : List String) (c : Expr) (hFc : ExprF (bnd B) c = true) (nd : Nat) (hnd : need c ≤ nd) :
    HeadOK F B nd (compileExpr c) Compile.OpJumpFalsy (fun fuel env X Y => do
      match (← Sem.evalExpr F fuel env c) with
      | .thr a => pure (.thr a, env)
      | .val cv => if !(← Sem.liftM (isFalsy cv)) then X else Y) := by
  intro cs cs1 hcc hcov hok
  have hFc' := exprF_of_cov hcov hFc
  refine ⟨(good_all F _ c hFc' cs cs1 rfl hcc).1, fun hinv => (good_expr_run hFc hinv hcc).1, ?_⟩
  intro K code bp L N q tgt N' b env σ' binds s t fuel X Y ss ss' cc env' t' hK hcode hj hvm hip hsp hb hst hdy hN hsem
  have hnc := need_pos c
  rcases eval_step F hcc hFc' hK hcode hvm hip (by omega) hb hst hdy hN hsem with h | ⟨cv, s1, hsc, h1, hvm1, hsem⟩
  · exact .inl h
  obtain ⟨fl, ss2, t2, hfl, hsem⟩ := sm_bind_inv hsem
  obtain ⟨rfl, hfl'⟩ := sm_liftM_inv hfl
  obtain ⟨rfl, hall⟩ := pure_all (Proofs.OptimSem.isFalsy_pure hsc.os) hfl'
  obtain ⟨s2, h12, hip2, hsp2⟩ := step_jumpFalsy F hvm1.abort hvm1.code h1.ip hj h1.sp (by omega) fl
    (by rw [h1.get]; exact hall)
  refine .inr ⟨fl, s2, h1.str.trans h12, hsp2.trans hb, hip2, ?_⟩
  cases fl <;> simpa using hsem

/-- the literal `false` as condition -/
theorem headOK_jump (F : FloatOps) (B : List String) (nd : Nat) : HeadOK F B nd (pure ()) Compile.OpJump (fun _ _ _ Y => Y) := by
  intro cs cs1 hc hcov hok
  obtain ⟨_, rfl⟩ := pure_inv hc
  refine ⟨Shape.refl _, id, ?_⟩
  intro K code bp L N q tgt N' b env σ' binds s t fuel X Y ss ss' cc env' t' hK hcode hj hvm hip hsp hb hst hdy hN hsem
  obtain ⟨s2, h2, hip2, hsp2, -⟩ := step_jump F hvm.abort hvm.code hip hj b
  exact .inr ⟨true, s2, h2, hsp2, hip2, hsem⟩

theorem good_ifelse (F : FloatOps) (B : List String) (pos : Pos) (nd op : Nat) (actH actT actE : Compile.CM Unit)
    (semH : Nat → Sem.Env → Sem.SM (Sem.Comp × Sem.Env) → Sem.SM (Sem.Comp × Sem.Env) → Sem.SM (Sem.Comp × Sem.Env))
    (semT semE : Nat → Sem.Env → Sem.SM (Sem.Comp × Sem.Env)) (kT kE : FallK)
    (hop : op < Compile.numOpcodes) (hjo : Compile.isJumpOp op = true)
    (hH : HeadOK F B nd actH op semH) (hT : GoodBF F B nd actT semT kT) (hE : GoodBF F B nd actE semE kE)
    (gT : Compile.Good actT) :
    GoodBF F B nd
      (do
        actH
        let j ← Compile.emit pos op [0]
        actT
        let j2 ← Compile.emit pos Compile.OpJump [0]
        Compile.changeOperand j [(← Compile.curPos)]
        actE
        Compile.changeOperand j2 [(← Compile.curPos)])
      (fun fuel env => semH fuel env (semT fuel env) (semE fuel env)) .ends := by
  intro cs cs' hc hcov hok
  obtain ⟨_, cs1, hcc, hc⟩ := bind_inv hc
  obtain ⟨j1, cs2, hj1, hc⟩ := bind_inv hc
  obtain ⟨_, cs3, hct, hc⟩ := bind_inv hc
  obtain ⟨j2, cs4', hj2, hc⟩ := bind_inv hc
  obtain ⟨x1, cs4, hx1, hc⟩ := bind_inv hc
  obtain ⟨rfl, rfl⟩ := curPos_inv hx1
  obtain ⟨_, cs5, hp1, hc⟩ := bind_inv hc
  obtain ⟨_, cs6', hcf, hc⟩ := bind_inv hc
  obtain ⟨x2, cs6, hx2, hc⟩ := bind_inv hc
  obtain ⟨rfl, rfl⟩ := curPos_inv hx2
  obtain ⟨shc, invH, simH⟩ := hH cs cs1 hcc hcov hok
  have sh2 := shc.trans (Shape.of_emit hj1)
  obtain ⟨⟨seT, hok3, htlT, simT⟩, -⟩ := hT cs2 cs3 hct (by rw [sh2.localIdx]; exact hcov) (hok.of_shape sh2)
  have she2 := Shape.of_emit hj2
  obtain ⟨-, hsz2, hP1⟩ := hole_inv (Compile.isJumpOp_widths hjo) hj1 (seT.pre.trans she2.pre).1
    (fun k _ hk => (seT.pre.trans she2.pre).2 k hk) hp1
  have hl5 : localIdx cs5 = localIdx cs := by rw [hP1.localIdx, she2.localIdx, localIdx_of_tl htlT, sh2.localIdx]
  obtain ⟨⟨seE, hok6, htlE, simE⟩, -⟩ := hE cs5 cs6 hcf (by rw [hl5]; exact hcov) ((hok3.of_shape she2).patched hP1)
  obtain ⟨hsz4, hP2, pieces⟩ := two_holes hj1 seT.pre hj2 hsz2 hP1 seE.pre hc
  have hsz1 : cs.insts.size ≤ cs1.insts.size := shc.pre.1
  have hsz3 : cs2.insts.size ≤ cs3.insts.size := seT.pre.1
  have hsz5 := hP1.size
  have hsz6 : cs5.insts.size ≤ cs6.insts.size := seE.pre.1
  have hsz' := hP2.size
  have se4 : StEff cs cs4 := ((StEff.of_shape sh2 hok.ne).trans seT).trans (StEff.of_shape she2 hok3.ne)
  have hse : StEff cs cs' := ((se4.patched hP1 hsz1).trans seE).patched hP2 (by omega)
  have ht5 : cs5.tables = cs3.tables := by rw [hP1.tables, she2.tables]
  have htl : Tl cs.tables cs'.tables := by
    rw [hP2.tables, ← sh2.tables]
    exact htlT.trans (by rw [← ht5]; exact htlE)
  refine ⟨⟨hse, hok6.patched hP2, htl, ?_⟩, fun hinv => ?_⟩
  · intro fuel K code bp L env binds s t ss ss' cc env' t' hK hcode hvm hip hsp hL hst hdy hsem
    dsimp only at hsem
    have hN := nextIndex_le_of hok hse hL
    have hK6 : IsPre cs6.constants K := by rw [← hP2.constants]; exact hK
    have hK4 : IsPre cs4.constants K := by rw [← hP1.constants]; exact seE.cpre.trans hK6
    obtain ⟨hcc', hcj1, hct', hcj2, hcf'⟩ := pieces hcode hsz1
    have hni2 : nextIndex cs2.tables = nextIndex cs.tables := by rw [sh2.tables]
    have hni5 : nextIndex cs5.tables = nextIndex cs.tables := by rw [ht5, htlT.nextIndex, hni2]
    obtain ⟨b, hb, -⟩ := hvm.base
    rcases simH (((Shape.of_emit hj1).cpre.trans seT.cpre).trans (she2.cpre.trans hK4)) hcc' hcj1 hvm hip
      hsp hb hst hdy hN hsem with h | ⟨fl, s2, h2, hsp2, hip2, hsem⟩
    · exact h
    · obtain ⟨hvm2, hdy2, hf2⟩ := after_str hvm hdy hst.lt hN hb h2 hsp2
      rw [← hsp2] at hsp
      cases fl with
      | true =>
        obtain ⟨rfl, oe⟩ := simE fuel K code bp L env binds s2 t ss ss' cc env' t' hK6 hcf' hvm2 (by simp at hip2; omega)
          hsp (by rw [← hP2.tables]; exact hL) (by rw [hl5, hni5]; exact hst) hdy2 hsem
        refine ⟨rfl, OutS.via h2.reach hf2 hsp2 (fun _ h => h) ?_⟩
        rw [hsz', hP2.localIdx, hP2.tables]
        exact oe
      | false =>
        obtain ⟨rfl, ot⟩ := simT fuel K code bp L env binds s2 t ss ss' cc env' t' (she2.cpre.trans hK4) hct' hvm2
          (by simp at hip2; omega) hsp
          (by have h1 := seE.tabs.fnMax; rw [ht5] at h1; rw [hP2.tables] at hL; omega)
          (by rw [sh2.localIdx, hni2]; exact hst) hdy2 hsem
        refine ⟨rfl, OutS.via h2.reach hf2 hsp2 (fun _ h => h) ?_⟩
        rw [hsz', localIdx_of_tl htl, htl.nextIndex, ← sh2.localIdx, ← localIdx_of_tl htlT, ← hni2, ← htlT.nextIndex]
        exact ot.then_jump hvm2 hcj2
  · -- the JUMP behind the then part stands at an instruction boundary of the final stream and targets its end
    have g1 := invH hinv
    have g2 := good_run (good_emit_jump pos op hop hjo) g1 hj1
    have g3 := good_run gT g2.1 hct
    have w6 : Walk cs6.insts 0 cs3.insts.size :=
      (hP1.walk (g3.1.walk.pre she2.pre) (g1.walk.pre (((Shape.of_emit hj1).pre.trans seT.pre).trans she2.pre))).pre seE.pre
    have hj := hP2.jump
    rw [← hP2.size] at hj
    exact .of_jump (hP2.walk w6 w6) (by omega) hj (by decide) (by omega)

theorem good_ifnoelse (F : FloatOps) (B : List String) (pos : Pos) (nd op : Nat) (actH actT : Compile.CM Unit)
    (semH : Nat → Sem.Env → Sem.SM (Sem.Comp × Sem.Env) → Sem.SM (Sem.Comp × Sem.Env) → Sem.SM (Sem.Comp × Sem.Env))
    (semT : Nat → Sem.Env → Sem.SM (Sem.Comp × Sem.Env)) (kT : FallK)
    (hop : op < Compile.numOpcodes) (hjo : Compile.isJumpOp op = true)
    (hH : HeadOK F B nd actH op semH) (hT : GoodBF F B nd actT semT kT) :
    GoodBF F B nd
      (do
        actH
        let j ← Compile.emit pos op [0]
        actT
        Compile.changeOperand j [(← Compile.curPos)])
      (fun fuel env => semH fuel env (semT fuel env) (pure (.normal, env))) .ends := by
  intro cs cs' hc hcov hok
  obtain ⟨_, cs1, hcc, hc⟩ := bind_inv hc
  obtain ⟨j1, cs2, hj1, hc⟩ := bind_inv hc
  obtain ⟨_, cs3', hct, hc⟩ := bind_inv hc
  obtain ⟨x1, cs3, hx1, hc⟩ := bind_inv hc
  obtain ⟨rfl, rfl⟩ := curPos_inv hx1
  obtain ⟨shc, invH, simH⟩ := hH cs cs1 hcc hcov hok
  have sh2 := shc.trans (Shape.of_emit hj1)
  obtain ⟨⟨seT, hok3, htlT, simT⟩, -⟩ := hT cs2 cs3 hct (by rw [sh2.localIdx]; exact hcov) (hok.of_shape sh2)
  obtain ⟨hsz2, hP, pieces⟩ := one_hole (Compile.isJumpOp_widths hjo) hj1 seT.pre hc
  have hsz1 : cs.insts.size ≤ cs1.insts.size := shc.pre.1
  have hsz3 : cs2.insts.size ≤ cs3.insts.size := seT.pre.1
  have hsz' := hP.size
  have hse : StEff cs cs' := ((StEff.of_shape sh2 hok.ne).trans seT).patched hP hsz1
  have htl : Tl cs.tables cs'.tables := by rw [hP.tables, ← sh2.tables]; exact htlT
  refine ⟨⟨hse, hok3.patched hP, htl, ?_⟩, fun hinv => ?_⟩
  · intro fuel K code bp L env binds s t ss ss' cc env' t' hK hcode hvm hip hsp hL hst hdy hsem
    dsimp only at hsem
    have hN := nextIndex_le_of hok hse hL
    have hK3 : IsPre cs3.constants K := by rw [← hP.constants]; exact hK
    obtain ⟨hcc', hcj, hct'⟩ := pieces hcode hsz1
    have hni2 : nextIndex cs2.tables = nextIndex cs.tables := by rw [sh2.tables]
    obtain ⟨b, hb, -⟩ := hvm.base
    rcases simH (((Shape.of_emit hj1).cpre.trans seT.cpre).trans hK3) hcc' hcj hvm hip hsp hb hst hdy hN
      hsem with h | ⟨fl, s2, h2, hsp2, hip2, hsem⟩
    · exact h
    · cases fl with
      | true =>
        obtain ⟨rfl, rfl, rfl, rfl⟩ := sm_pure_pair hsem
        refine ⟨rfl, ?_⟩
        rw [localIdx_of_tl htl, htl.nextIndex]
        exact OutS.normal_str h2 hb hvm (by rw [hsz']; simpa using hip2) hsp2 hst hdy hN
      | false =>
        obtain ⟨hvm2, hdy2, hf2⟩ := after_str hvm hdy hst.lt hN hb h2 hsp2
        obtain ⟨rfl, ot⟩ := simT fuel K code bp L env binds s2 t ss ss' cc env' t' hK3 hct' hvm2 (by simp at hip2; omega)
          (by rw [hsp2]; exact hsp) (by rw [← hP.tables]; exact hL) (by rw [sh2.localIdx, hni2]; exact hst) hdy2 hsem
        refine ⟨rfl, OutS.via h2.reach hf2 hsp2 (fun _ h => h) ?_⟩
        rw [hsz', hP.localIdx, hP.tables]
        exact ot
  · -- the head's jump stands at an instruction boundary of the final stream and targets its end
    have w1 : Walk cs3.insts 0 cs1.insts.size := (invH hinv).walk.pre ((Shape.of_emit hj1).pre.trans seT.pre)
    have hj := hP.jump
    rw [← hP.size] at hj
    exact .of_jump (hP.walk w1 w1) hsz1 hj hjo (by omega)

theorem execStmt_block (F : FloatOps) (fuel : Nat) (env : Sem.Env) (pos : Pos) (body : List Stmt) :
    Sem.execStmt F (fuel + 1) env (.block pos body) = Sem.execBlock F fuel env body := rfl

theorem good_blockStmt (F : FloatOps) (B B1 : List String) (nd : Nat) (pos : Pos) (body : List Stmt) (k : FallK)
    (h : GoodCF F B B1 nd (compileStmts body) (fun fuel env => Sem.execList F fuel env body) k) :
    GoodBF F B nd (compileStmt (.block pos body)) (fun fuel env => Sem.execStmt F fuel env (.block pos body)) k := by
  rw [Compile.compileStmt_eq]
  simp only
  refine (good_blockOf F B B1 nd body k h).resem ?_
  intro fuel env ss t r ss' t' hsem
  cases fuel with
  | zero => exact (execStmt_zero' hsem).elim
  | succ fuel => rw [execStmt_block] at hsem; exact ⟨fuel, hsem⟩

/-! The reference semantics of `if init; c { body } else e`, cut the way the code is: the init
    statement, then the condition with the branch it selects.  Unlike `execStmt` these keep the
    environment they end in; the statement drops it with the scope of `init`. -/

def initSem (F : FloatOps) (init : Option Stmt) (fuel : Nat) (env : Sem.Env) : Sem.SM (Sem.Comp × Sem.Env) :=
  match init with
  | some i => Sem.execStmt F fuel env i
  | none => pure (.normal, env)

def elseSem (F : FloatOps) (els : Option Stmt) (fuel : Nat) (env : Sem.Env) : Sem.SM (Sem.Comp × Sem.Env) :=
  match els with
  | some e => Sem.execStmt F fuel env e
  | none => pure (.normal, env)

def condSem (F : FloatOps) (c : Expr) (body : List Stmt) (els : Option Stmt) (fuel : Nat) (env : Sem.Env) :
    Sem.SM (Sem.Comp × Sem.Env) := do
  match (← Sem.evalExpr F fuel env c) with
  | .thr a => pure (.thr a, env)
  | .val cv => if !(← Sem.liftM (isFalsy cv)) then Sem.execBlock F fuel env body else elseSem F els fuel env

theorem execStmt_if (F : FloatOps) (fuel : Nat) (env : Sem.Env) (pos : Pos) (init : Option Stmt) (bp : Pos) (c : Expr)
    (body : List Stmt) (else_ : Option Stmt) :
    Sem.execStmt F (fuel + 1) env (.if_ pos init c bp body else_) = (do
      let (c0, env1) ← initSem F init fuel ([] :: env)
      match c0 with
      | .normal =>
        match (← Sem.evalExpr F fuel env1 c) with
        | .thr a => pure (.thr a, env)
        | .val cv =>
          if !(← Sem.liftM (isFalsy cv)) then do
            let (c, _) ← Sem.execBlock F fuel env1 body
            pure (c, env)
          else
            match else_ with
            | some e => do let (c, _) ← Sem.execStmt F fuel env1 e; pure (c, env)
            | none => pure (.normal, env)
      | c => pure (c, env)) := by
  cases init <;> rfl

theorem execStmt_if_flat (F : FloatOps) (pos : Pos) (init : Option Stmt) (bp : Pos) (c : Expr) (body : List Stmt)
    (els : Option Stmt) (fuel : Nat) (env : Sem.Env) :
    Sem.execStmt F (fuel + 1) env (.if_ pos init c bp body els) = (do
      let (c', _) ← (do
        let (c0, env1) ← initSem F init fuel ([] :: env)
        match c0 with
        | .normal => condSem F c body els fuel env1
        | c0 => pure (c0, env1) : Sem.SM (Sem.Comp × Sem.Env))
      pure (c', env)) := by
  rw [execStmt_if, bind_assoc]
  congr 1
  funext p
  obtain ⟨c0, env1⟩ := p
  cases c0 with
  | normal =>
    simp only [condSem, bind_assoc]
    congr 1
    funext rc
    cases rc with
    | thr a => simp only [pure_bind]
    | val cv =>
      simp only [bind_assoc]
      congr 1
      funext fl
      cases fl with
      | false => rfl
      | true => cases els <;> rfl
  | _ => simp only [pure_bind]

theorem if_run (F : FloatOps) (pos : Pos) (init : Option Stmt) (bp : Pos) (c : Expr) (body : List Stmt) (els : Option Stmt)
    (fuel : Nat) (env : Sem.Env) (ss : Sem.SemSt) (t : State) (c' : Sem.Comp) (env' : Sem.Env) (ss' : Sem.SemSt) (t' : State)
    (hsem : exec ((Sem.execStmt F fuel env (.if_ pos init c bp body els)).run ss) t = (.ok ((c', env'), ss'), t')) :
    env = env' ∧ ∃ fuel' envX, exec ((do
      let (c0, env1) ← initSem F init fuel' ([] :: env)
      match c0 with
      | .normal => condSem F c body els fuel' env1
      | c0 => pure (c0, env1) : Sem.SM (Sem.Comp × Sem.Env)).run ss) t = (.ok ((c', envX), ss'), t') := by
  cases fuel with
  | zero => exact (execStmt_zero' hsem).elim
  | succ fuel =>
    rw [execStmt_if_flat] at hsem
    obtain ⟨⟨c1, envX⟩, ss1, t1, h1, h2⟩ := sm_bind_inv hsem
    obtain ⟨rfl, rfl, rfl, rfl⟩ := sm_pure_pair h2
    exact ⟨rfl, fuel, envX, h1⟩

theorem condSem_bool (F : FloatOps) (p : Pos) (b : Bool) (body : List Stmt) (els : Option Stmt) (g : Nat) (env : Sem.Env) :
    condSem F (.bool p b) body els (g + 1) env =
      (match b with
       | true => Sem.execBlock F (g + 1) env body
       | false => elseSem F els (g + 1) env) := by
  have h1 : Sem.evalExpr F (g + 1) env (.bool p b) = pure (.val (.bool b)) := rfl
  have h2 : Sem.liftM (isFalsy (.bool b)) = (pure (!b) : Sem.SM Bool) := by cases b <;> rfl
  unfold condSem
  rw [h1, pure_bind]
  simp only
  rw [h2, pure_bind]
  cases b <;> rfl

theorem condSem_lit (F : FloatOps) (p : Pos) (b : Bool) {body : List Stmt} {els : Option Stmt} {fuel : Nat} {env : Sem.Env}
    {ss ss' : Sem.SemSt} {t t' : State} {r : Sem.Comp × Sem.Env}
    (h : exec ((condSem F (.bool p b) body els fuel env).run ss) t = (.ok (r, ss'), t')) :
    exec ((match b with
      | true => Sem.execBlock F fuel env body
      | false => elseSem F els fuel env).run ss) t = (.ok (r, ss'), t') := by
  cases fuel with
  | zero =>
    unfold condSem at h
    obtain ⟨rc, ss1, t1, hev, h⟩ := sm_bind_inv h
    exact (sm_unsupported_ne (show exec ((Sem.liftM (unsupported "sem: fuel")).run ss) t = _ from hev)).elim
  | succ g => rw [← condSem_bool]; exact h

theorem isTrueLit_inv {c : Expr} (h : isTrueLit c = true) : ∃ p, c = .bool p true := by
  cases c with
  | bool p b =>
    cases b with
    | true => exact ⟨p, rfl⟩
    | false => simp [isTrueLit] at h
  | _ => simp [isTrueLit] at h

theorem isFalseLit_inv {c : Expr} (h : isFalseLit c = true) : ∃ p, c = .bool p false := by
  cases c with
  | bool p b =>
    cases b with
    | false => exact ⟨p, rfl⟩
    | true => simp [isFalseLit] at h
  | _ => simp [isFalseLit] at h

theorem condF_split {B : List String} {c : Expr} (h : condF B c = true) (ht : ¬ isTrueLit c = true)
    (hf : ¬ isFalseLit c = true) : ExprF (bnd B) c = true ∧ isBoolLit c = false := by
  have h2 : (ExprF (bnd B) c && !isBoolLit c) = true := by simpa [condF, ht, hf] using h
  simpa [Bool.and_eq_true] using h2

theorem compileStmt_if (pos bp : Pos) (init : Option Stmt) (c : Expr) (body : List Stmt) (els : Option Stmt)
    (hnb : isBoolLit c = false) :
    compileStmt (.if_ pos init c bp body els) = Compile.withBlock (do
      (match init with | some i => compileStmt i | none => pure ())
      compileExpr c
      let j ← Compile.emit pos Compile.OpJumpFalsy [0]
      Compile.blockOf body (compileStmts body)
      match els with
      | some e => do
        let j2 ← Compile.emit pos Compile.OpJump [0]
        Compile.changeOperand j [(← Compile.curPos)]
        compileStmt e
        Compile.changeOperand j2 [(← Compile.curPos)]
      | none => Compile.changeOperand j [(← Compile.curPos)]) := by
  rw [Compile.compileStmt_eq]
  cases c <;> first | rfl | simp [isBoolLit] at hnb

theorem compileStmt_ifTrue (pos bp p : Pos) (init : Option Stmt) (body : List Stmt) (els : Option Stmt) :
    compileStmt (.if_ pos init (.bool p true) bp body els) = Compile.withBlock (do
      (match init with | some i => compileStmt i | none => pure ())
      Compile.blockOf body (compileStmts body)) := by
  rw [Compile.compileStmt_eq]
  rfl

theorem compileStmt_ifFalse (pos bp p : Pos) (init : Option Stmt) (body : List Stmt) (els : Option Stmt) :
    compileStmt (.if_ pos init (.bool p false) bp body els) = Compile.withBlock (do
      (match init with | some i => compileStmt i | none => pure ())
      let j ← Compile.emit pos Compile.OpJump [0]
      match els with
      | some e => do
        let j2 ← Compile.emit pos Compile.OpJump [0]
        Compile.changeOperand j [(← Compile.curPos)]
        compileStmt e
        Compile.changeOperand j2 [(← Compile.curPos)]
      | none => Compile.changeOperand j [(← Compile.curPos)]) := by
  rw [Compile.compileStmt_eq]
  rfl

/-- The flag: the body's when the condition is the literal `true` (only the body is compiled), `ends` otherwise (a jump of the
    `if` targets the end). -/
theorem good_if (F : FloatOps) (B B1 : List String) (pos bp : Pos) (init : Option Stmt) (c : Expr) (body : List Stmt)
    (els : Option Stmt) (nd : Nat) (kI kT kE : FallK) (hc : condF B1 c = true) (hnc : need c ≤ nd)
    (hI : GoodCF F B B1 nd (match init with | some i => compileStmt i | none => pure ()) (initSem F init) kI)
    (gI : Compile.Good (match init with | some i => compileStmt i | none => pure ()))
    (hT : GoodBF F B1 nd (Compile.blockOf body (compileStmts body)) (fun fuel env => Sem.execBlock F fuel env body) kT)
    (gT : Compile.Good (Compile.blockOf body (compileStmts body)))
    (hE : ∀ e, els = some e → GoodBF F B1 nd (compileStmt e) (fun fuel env => Sem.execStmt F fuel env e) kE) :
    GoodBF F B nd (compileStmt (.if_ pos init c bp body els))
      (fun fuel env => Sem.execStmt F fuel env (.if_ pos init c bp body els))
      (kI.seq (if isTrueLit c = true then kT else .ends)) := by
  -- the code behind the init statement (`actC`) against `condSem`
  have key : ∀ (actC : Compile.CM Unit) (kC : FallK),
      compileStmt (.if_ pos init c bp body els) =
        Compile.withBlock ((match init with | some i => compileStmt i | none => pure ()) >>= fun _ => actC) →
      GoodBF F B1 nd actC (condSem F c body els) kC →
      GoodBF F B nd (compileStmt (.if_ pos init c bp body els))
        (fun fuel env => Sem.execStmt F fuel env (.if_ pos init c bp body els)) (kI.seq kC) := by
    intro actC kC hact hC
    rw [hact]
    exact good_withBlock F B B1 _ _ _ _ _ (good_seq F B B1 B1 _ _ _ _ _ kI kC gI hI hC.toCF) (if_run F pos init bp c body els)
  by_cases ht : isTrueLit c = true
  · rw [if_pos ht]
    obtain ⟨p, rfl⟩ := isTrueLit_inv ht
    exact key _ kT (compileStmt_ifTrue pos bp p init body els)
      (hT.resem fun fuel env ss t r ss' t' h => ⟨fuel, condSem_lit F p true h⟩)
  · rw [if_neg ht]
    by_cases hf : isFalseLit c = true
    · obtain ⟨p, rfl⟩ := isFalseLit_inv hf
      have hact := compileStmt_ifFalse pos bp p init body els
      cases els with
      | none =>
        exact key _ .ends (by rw [hact]; simp only [pure_bind])
          ((good_ifnoelse F B1 pos _ _ _ _ _ _ .thru (by decide) (by decide) (headOK_jump F B1 _) (good_none F B1 _)).resem
            fun fuel env ss t r ss' t' h => ⟨fuel, condSem_lit F p false h⟩)
      | some e =>
        exact key _ .ends (by rw [hact]; simp only [pure_bind])
          ((good_ifelse F B1 pos _ _ _ _ _ _ _ _ .thru kE (by decide) (by decide) (headOK_jump F B1 _) (good_none F B1 _) (hE e rfl)
            (Compile.GoodP.pure trivial)).resem fun fuel env ss t r ss' t' h => ⟨fuel, condSem_lit F p false h⟩)
    · obtain ⟨hFc, hnb⟩ := condF_split hc ht hf
      have hact := compileStmt_if pos bp init c body els hnb
      have hH := headOK_cond F B1 c hFc nd hnc
      cases els with
      | none => exact key _ .ends hact (good_ifnoelse F B1 pos _ _ _ _ _ _ kT (by decide) (by decide) hH hT)
      | some e => exact key _ .ends hact (good_ifelse F B1 pos _ _ _ _ _ _ _ _ kT kE (by decide) (by decide) hH hT (hE e rfl) gT)

theorem specF_inv {B : List String} {sp : Spec} (h : specF B sp = true) :
    (∃ iota ipos x e, sp = (iota, [(ipos, x)], [some e]) ∧ ExprF (bnd B) e = true ∧ x ≠ "_") ∨
    (∃ iota ipos x, sp = (iota, [(ipos, x)], []) ∧ x ≠ "_") := by
  unfold specF at h
  split at h
  · simp only [Bool.and_eq_true] at h
    exact .inl ⟨_, _, _, _, rfl, h.1, by simpa using h.2⟩
  · exact .inr ⟨_, _, _, rfl, by simpa using h⟩
  · cases h

theorem specsF_cons {B : List String} {sp : Spec} {rest : List Spec} (h : specsF B (sp :: rest) = true) :
    specF B sp = true ∧ specsF (defsSpec B sp) rest = true := by
  have : specsF B (sp :: rest) = (specF B sp && specsF (defsSpec B sp) rest) := rfl
  rw [this, Bool.and_eq_true] at h; exact h

theorem compileValueSpecs_nil (pos : Pos) (tok : Nat) (last : Option (Compile.CM Unit × Compile.VSum)) :
    Compile.compileValueSpecs pos tok [] last = pure () := by
  unfold Compile.compileValueSpecs; rfl

theorem compileValueSpecs_var1 (pos : Pos) (iota : Option Nat) (ipos : Pos) (x : String) (e : Expr) (rest : List Spec)
    (last : Option (Compile.CM Unit × Compile.VSum)) :
    Compile.compileValueSpecs pos tVar ((iota, [(ipos, x)], [some e]) :: rest) last =
      ((do compileExpr e; Compile.compileDefine pos x false tVar) >>= fun _ =>
        Compile.compileValueSpecs pos tVar rest (some (compileExpr e, Compile.vsumOf e))) := by
  conv => lhs; unfold Compile.compileValueSpecs
  unfold Compile.compileValueIdents
  unfold Compile.compileValueIdents
  simp [Compile.compileValueIdent, tVar, tConst, Gen.tok_Var, Gen.tok_Const]

theorem compileValueSpecs_var0 (pos : Pos) (iota : Option Nat) (ipos : Pos) (x : String) (rest : List Spec)
    (last : Option (Compile.CM Unit × Compile.VSum)) :
    Compile.compileValueSpecs pos tVar ((iota, [(ipos, x)], []) :: rest) last =
      ((do compileExpr (.undef ipos); Compile.compileDefine pos x false tVar) >>= fun _ =>
        Compile.compileValueSpecs pos tVar rest last) := by
  rw [compileExpr_undef]
  conv => lhs; unfold Compile.compileValueSpecs
  unfold Compile.compileValueIdents
  unfold Compile.compileIdentsNoValue
  unfold Compile.compileIdentsNoValue
  simp [Compile.compileValueIdent, tVar, tConst, Gen.tok_Var, Gen.tok_Const]

theorem specs_split (F : FloatOps) (sp : Spec) (rest : List Spec) (lastE lastE2 : Option Expr)
    (hlast : ∀ f env ss t env1 last1 ss1 t1, exec ((Sem.execIdents F f env tVar sp.1 sp.2.1 sp.2.2 lastE).run ss) t =
      (.ok ((.normal, env1, last1), ss1), t1) → last1 = lastE2)
    (fuel : Nat) (env : Sem.Env) (ss : Sem.SemSt) (t : State) (r : Sem.Comp × Sem.Env) (ss' : Sem.SemSt) (t' : State)
    (hsem : exec ((Sem.execValueSpecs F fuel env tVar (sp :: rest) lastE).run ss) t = (.ok (r, ss'), t')) :
    ∃ fuel', exec ((do
      let (c, env') ← specSem F sp lastE fuel' env
      match c with
      | .normal => Sem.execValueSpecs F fuel' env' tVar rest lastE2
      | c => pure (c, env') : Sem.SM (Sem.Comp × Sem.Env)).run ss) t = (.ok (r, ss'), t') := by
  obtain ⟨iota, ids, vals⟩ := sp
  cases fuel with
  | zero => rw [execValueSpecs_zero] at hsem; exact (sm_unsupported_ne hsem).elim
  | succ f =>
    rw [execValueSpecs_cons] at hsem
    obtain ⟨⟨c1, env1, last1⟩, ss1, t1, hid, hsem⟩ := sm_bind_inv hsem
    refine ⟨f, ?_⟩
    unfold specSem
    rw [bind_assoc, sm_bind_run hid, pure_bind]
    cases c1 with
    | normal => rw [← hlast f env ss t env1 last1 ss1 t1 hid]; exact hsem
    | _ => exact hsem

/-- Both forms of a specification are a name `x` and the expression `e` it stands for (`undefined` without a value). -/
theorem spec_inv {B : List String} {sp : Spec} (h : specF B sp = true) (F : FloatOps) (pos : Pos) (rest : List Spec)
    (last : Option (Compile.CM Unit × Compile.VSum)) (lastE : Option Expr) :
    ∃ iota ipos x e vals last' lastE', sp = (iota, [(ipos, x)], vals) ∧ ExprF (bnd B) e = true ∧ x ≠ "_" ∧
      needSpec sp = need e + 1 ∧
      Compile.compileValueSpecs pos tVar (sp :: rest) last =
        ((do compileExpr e; Compile.compileDefine pos x false tVar) >>= fun _ =>
          Compile.compileValueSpecs pos tVar rest last') ∧
      SpecEq F x e iota ipos vals lastE lastE' := by
  rcases specF_inv h with ⟨iota, ipos, x, e, rfl, hF, hx⟩ | ⟨iota, ipos, x, rfl, hx⟩
  · exact ⟨iota, ipos, x, e, _, _, _, rfl, hF, hx, rfl, compileValueSpecs_var1 .., specEq_value F x e iota ipos lastE⟩
  · exact ⟨iota, ipos, x, .undef ipos, _, _, _, rfl, rfl, hx, rfl, compileValueSpecs_var0 ..,
      specEq_noValue F x iota ipos lastE⟩

/-- every specification ends in DEFINELOCAL -/
def specsK : List Spec → FallK
  | [] => .thru
  | _ :: _ => .ends

theorem good_specs (F : FloatOps) (pos : Pos) : ∀ (specs : List Spec) (B : List String), specsF B specs = true →
    ∀ (last : Option (Compile.CM Unit × Compile.VSum)) (lastE : Option Expr),
    GoodCF F B (defsSpecs B specs) (needSpecs specs) (Compile.compileValueSpecs pos tVar specs last)
      (fun fuel env => Sem.execValueSpecs F fuel env tVar specs lastE) (specsK specs)
  | [], B, _, last, lastE => by
    rw [compileValueSpecs_nil]
    refine (good_skip F B _ _ ?_).toCF
    intro fuel env ss t c env' ss' t' hsem
    cases fuel with
    | zero => rw [execValueSpecs_zero] at hsem; exact (sm_unsupported_ne hsem).elim
    | succ fuel =>
      rw [execValueSpecs_nil] at hsem
      obtain ⟨rfl, rfl, rfl, rfl⟩ := sm_pure_pair hsem
      exact ⟨rfl, rfl, rfl, rfl⟩
  | sp :: rest, B, h, last, lastE => by
    have h' := specsF_cons h
    obtain ⟨iota, ipos, x, e, vals, last', lastE', rfl, hF, hx, hneed, hact, heq⟩ := spec_inv h'.1 F pos rest last lastE
    have ih := good_specs F pos rest (x :: B) h'.2 last' lastE'
    have h1 : GoodCF F B (x :: B) (need e + 1) (do compileExpr e; Compile.compileDefine pos x false tVar)
        (specSem F (iota, [(ipos, x)], vals) lastE) .ends :=
      good_defineCore F B pos x e hF hx _ fun fuel env ss t c env' ss' t' h => by
        obtain ⟨⟨c1, env1, last1⟩, ss1, t1, hid, hp⟩ := sm_bind_inv h
        obtain ⟨rfl, rfl, rfl, rfl⟩ := sm_pure_pair hp
        exact (declRun_spec F heq hid).1
    have gd : Compile.Good (do compileExpr e; Compile.compileDefine pos x false tVar) :=
      Compile.GoodP.bind (P := fun _ => True) (R := fun _ => True)
        (Compile.good_compileExpr e (okE_of_exprF _ e hF))
        (fun _ _ => Compile.good_compileDefine pos x false tVar)
    have hs := good_seq F B (x :: B) _ _ _ _ _ _ .ends (specsK rest) gd (h1.mono (Nat.le_max_left _ (needSpecs rest)))
      (ih.mono (Nat.le_max_right (need e + 1) _))
    have hk : FallK.seq .ends (specsK rest) = .ends := by cases rest <;> rfl
    have hn : needSpecs ((iota, [(ipos, x)], vals) :: rest) = max (need e + 1) (needSpecs rest) := by rw [← hneed]; rfl
    rw [hk] at hs
    rw [hact, hn]
    refine hs.resem ?_
    intro fuel env ss t r ss' t' hsem
    exact specs_split F _ rest lastE lastE' (fun f env ss t env1 last1 ss1 t1 h => (declRun_spec F heq h).2 rfl)
      fuel env ss t r ss' t' hsem

theorem compileStmt_varGroup (pos : Pos) (sp : Spec) (rest : List Spec) :
    compileStmt (.declValue pos tVar (sp :: rest)) = Compile.compileValueSpecs pos tVar (sp :: rest) none := by
  rw [Compile.compileStmt_eq]
  simp [tVar, tConst, Gen.tok_Var, Gen.tok_Const]

theorem good_varGroup (F : FloatOps) (B : List String) (pos : Pos) (specs : List Spec) (hne : specs.isEmpty = false)
    (h : specsF B specs = true) :
    GoodCF F B (defsSpecs B specs) (needSpecs specs) (compileStmt (.declValue pos tVar specs))
      (fun fuel env => Sem.execStmt F fuel env (.declValue pos tVar specs)) .ends := by
  cases specs with
  | nil => simp at hne
  | cons sp rest =>
    rw [compileStmt_varGroup]
    refine (good_specs F pos (sp :: rest) B h none none).resem ?_
    intro fuel env ss t r ss' t' hsem
    cases fuel with
    | zero => exact (execStmt_zero' hsem).elim
    | succ fuel => rw [execStmt_var] at hsem; exact ⟨fuel, hsem⟩

theorem good_varDecl (F : FloatOps) (B : List String) (pos ipos : Pos) (iota : Option Nat) (x : String) (e : Expr)
    (hF : ExprF (bnd B) e = true) (hx : x ≠ "_") :
    GoodC F B (x :: B) (need e + 1) (compileStmt (.declValue pos tVar [(iota, [(ipos, x)], [some e])]))
      (fun fuel env => Sem.execStmt F fuel env (.declValue pos tVar [(iota, [(ipos, x)], [some e])])) := by
  have hs : specsF B [(iota, [(ipos, x)], [some e])] = true := by simp [specsF, specF, hF, hx]
  exact (good_varGroup F B pos _ rfl hs).toC.mono (by simp [needSpecs, needSpec])

theorem good_varDecl0 (F : FloatOps) (B : List String) (pos ipos : Pos) (iota : Option Nat) (x : String)
    (hx : x ≠ "_") :
    GoodC F B (x :: B) 2 (compileStmt (.declValue pos tVar [(iota, [(ipos, x)], [])]))
      (fun fuel env => Sem.execStmt F fuel env (.declValue pos tVar [(iota, [(ipos, x)], [])])) := by
  have hs : specsF B [(iota, [(ipos, x)], [])] = true := by simp [specsF, specF, hx]
  exact (good_varGroup F B pos _ rfl hs).toC.mono (by simp [needSpecs, needSpec])

theorem fall_varDecl (F : FloatOps) (B : List String) (pos ipos : Pos) (iota : Option Nat) (x : String) (e : Expr)
    (hF : ExprF (bnd B) e = true) (hx : x ≠ "_") :
    FallS B (.declValue pos tVar [(iota, [(ipos, x)], [some e])]) :=
  (good_varGroup F B pos _ rfl (by simp [specsF, specF, hF, hx])).toFallS fun _ h => nomatch h

theorem fall_varDecl0 (F : FloatOps) (B : List String) (pos ipos : Pos) (iota : Option Nat) (x : String)
    (hx : x ≠ "_") : FallS B (.declValue pos tVar [(iota, [(ipos, x)], [])]) :=
  (good_varGroup F B pos _ rfl (by simp [specsF, specF, hx])).toFallS fun _ h => nomatch h

end UgoVerif.CompSim

import UgoVerif.Proofs.CompSimCompile
import UgoVerif.Proofs.CompSimFrag
import UgoVerif.Proofs.CompSimVM
import UgoVerif.Proofs.CompSimScalar
import UgoVerif.Model.Eval
/-
  The simulation for expressions of the fragment `ExprF`: induction over the expression, one lemma per
  compile case, the judgement (`Good` / `SimAt`) over an explicit stack base so that sub-expressions
  compose (`OutAt`).  The one place where the compiler's stream is read the way the VM decodes it is a
  forward jump patched later (`Patched`, `hole_inv`).
-/
namespace UgoVerif.CompSim
open UgoVerif.Proofs.OptimSem (OpRes ScalarOp isFalsy_pure vUnary_op vBinaryOp_op vEqual_pure)
open UgoVerif UgoVerif.Go UgoVerif.Ast UgoVerif.VM UgoVerif.Proofs.ModCache UgoVerif.Proofs.VMExec
open UgoVerif.Compile (CState runCM compileExpr IsPre Pre patch InsAt)

section
open UgoVerif.Compile

/-- `cs'` is `cs` with the instruction at `p` overwritten by `op tgt`, of the same width -/
structure Patched (cs cs' : CState) (p op tgt : Nat) : Prop where
  eq : cs' = { cs with insts := cs'.insts }
  size : cs'.insts.size = cs.insts.size
  lt : ∀ k, k < p → cs'.insts[k]? = cs.insts[k]?
  ge : ∀ k, p + 5 ≤ k → cs'.insts[k]? = cs.insts[k]?
  jump : InsAt cs'.insts p op 4 tgt
  walk : ∀ {j}, Walk cs.insts 0 j → Walk cs.insts 0 p → Walk cs'.insts 0 j

theorem Patched.tables {cs cs' : CState} {p op tgt : Nat} (h : Patched cs cs' p op tgt) : cs'.tables = cs.tables := by
  rw [h.eq]
theorem Patched.constants {cs cs' : CState} {p op tgt : Nat} (h : Patched cs cs' p op tgt) :
    cs'.constants = cs.constants := by rw [h.eq]
theorem Patched.localIdx {cs cs' : CState} {p op tgt : Nat} (h : Patched cs cs' p op tgt) : localIdx cs' = localIdx cs := by
  rw [h.eq]; rfl

theorem Patched.pre {cs cs' : CState} {p op tgt : Nat} (h : Patched cs cs' p op tgt) {a : Array UInt8}
    (ha : Pre a cs.insts) (hp : a.size ≤ p) : Pre a cs'.insts :=
  ⟨by rw [h.size]; exact ha.1, fun k hk => by rw [h.lt k (by omega), ha.2 k hk]⟩

theorem Shape.patched {cs0 cs cs' : CState} {p op tgt : Nat} (h : Shape cs0 cs) (hp : Patched cs cs' p op tgt)
    (hle : cs0.insts.size ≤ p) : Shape cs0 cs' :=
  ⟨by have e := h.eq; rw [hp.eq]; conv => lhs; rw [e], hp.pre h.pre hle, by rw [hp.constants]; exact h.cpre⟩

/-- The hole `emit op [0]` leaves at `cs1` is filled by a later `changeOperand` on a stream `csA`
    that still has the emitted instruction: the opcode found there is `op`, the operand fits. -/
theorem hole_inv {pos : Pos} {op : Nat} (hw : operandWidths op = [4]) {cs1 cs2 csA csB : CState}
    {j tgt : Nat} (hj : runCM (emit pos op [0]) cs1 = (.ok j, cs2)) (hsz : cs2.insts.size ≤ csA.insts.size)
    (hk : ∀ k, cs1.insts.size ≤ k → k < cs2.insts.size → csA.insts[k]? = cs2.insts[k]?)
    (hp : runCM (changeOperand j [(tgt : Int)]) csA = (.ok (), csB)) :
    j = cs1.insts.size ∧ cs2.insts.size = cs1.insts.size + 5 ∧ Patched csA csB cs1.insts.size op tgt := by
  have hw4 : opWidth op = 4 := by simp [opWidth, hw]
  obtain ⟨hop, restj, _, hlj, rfl, e2⟩ := emit_inv hj
  have hto : (UInt8.ofNat op).toNat = op := toNat_ofNat_op hop
  obtain ⟨opb, rest, hopb, hbs, hl, e5⟩ := changeOperand_inv hp
  have hsz2 : cs2.insts.size = cs1.insts.size + 5 := by rw [e2]; simp [hlj, hw4]
  have hop1 : csA.insts[cs1.insts.size]? = some (UInt8.ofNat op) := by
    rw [hk _ (Nat.le_refl _) (by omega), e2]; exact InstAt.append _ _ 0 (Nat.succ_pos _)
  rw [hop1] at hopb
  cases hopb
  rw [hto] at hbs hl
  rw [hw4] at hl
  have hins : csB.insts = patch csA.insts cs1.insts.size (UInt8.ofNat op :: rest) := by rw [e5]
  have hle : cs1.insts.size + 5 ≤ csA.insts.size := by omega
  have hlen : (UInt8.ofNat op :: rest).length = 5 := by rw [List.length_cons, hl]
  refine ⟨rfl, hsz2, by rw [hins]; exact e5, by rw [hins, size_patch], fun k hk => by rw [hins, patch_get_lt _ _ _ _ hk],
    fun k hk => by rw [hins, patch_get_ge _ _ _ _ (by rw [hlen]; exact hk)], ?_, fun hwj hwp => ?_⟩
  · exact InsAt.of_inst hw hop hbs fun k hk => by rw [hins]; exact patch_get_mid _ _ _ _ hk (by rw [hlen]; exact hle)
  · rw [hins]; exact Walk.patch_inst hwj hwp hop1 (by rw [hto, hw4]; exact hl)

end

/-- the final code has the bytes of `insts` on `[p, insts.size)` -/
def CodeHas (code : Code) (insts : Array UInt8) (p : Nat) : Prop :=
  ∀ i, p ≤ i → i < insts.size → code.insts[i]? = insts[i]?

/-- One forward jump: `emit op [0]` (the hole, at the end of `cs1`), code up to `cs3`, the hole filled with the end (`cs'`). -/
theorem one_hole {pos : Pos} {op j : Nat} (hw : Compile.operandWidths op = [4]) {cs1 cs2 cs3 cs' : CState}
    (hj : runCM (Compile.emit pos op [0]) cs1 = (.ok j, cs2)) (h23 : Pre cs2.insts cs3.insts)
    (hp : runCM (Compile.changeOperand j [(cs3.insts.size : Int)]) cs3 = (.ok (), cs')) :
    cs2.insts.size = cs1.insts.size + 5 ∧ Patched cs3 cs' cs1.insts.size op cs3.insts.size ∧
    ∀ {code : Code} {p0 : Nat}, CodeHas code cs'.insts p0 → p0 ≤ cs1.insts.size →
      CodeHas code cs1.insts p0 ∧ InsAt code.insts cs1.insts.size op 4 cs3.insts.size ∧ CodeHas code cs3.insts cs2.insts.size := by
  obtain ⟨-, hsz2, hP⟩ := hole_inv hw hj h23.1 (fun k _ hk => h23.2 k hk) hp
  have hsz3 := h23.1
  have hsz' := hP.size
  refine ⟨hsz2, hP, fun {code p0} hcode hp0 => ⟨?_, ?_, ?_⟩⟩
  · intro i h1 h2
    rw [hcode i h1 (by omega), hP.lt i h2, ((Shape.of_emit hj).pre.trans h23).2 i h2]
  · exact hP.jump.congr fun k hk => hcode _ (by omega) (by omega)
  · intro i h1 h2
    rw [hcode i (by omega) (by omega), hP.ge i (by omega)]

/-- Two interleaved forward jumps, as a two-armed conditional has them: `emit op [0]` (the first hole, at the end of `cs1`), code up
    to `cs3`, `emit JUMP [0]` (the second hole, at the end of `cs3`), the first hole filled with the position behind it (`cs5`), code up
    to `cs6`, the second hole filled with the end (`cs'`). -/
theorem two_holes {pos pos' : Pos} {op j1 j2 : Nat} {cs1 cs2 cs3 cs4 cs5 cs6 cs' : CState}
    (hj1 : runCM (Compile.emit pos op [0]) cs1 = (.ok j1, cs2)) (h23 : Pre cs2.insts cs3.insts)
    (hj2 : runCM (Compile.emit pos' Compile.OpJump [0]) cs3 = (.ok j2, cs4)) (hsz2 : cs2.insts.size = cs1.insts.size + 5)
    (hP1 : Patched cs4 cs5 cs1.insts.size op cs4.insts.size) (h56 : Pre cs5.insts cs6.insts)
    (hp : runCM (Compile.changeOperand j2 [(cs6.insts.size : Int)]) cs6 = (.ok (), cs')) :
    cs4.insts.size = cs3.insts.size + 5 ∧ Patched cs6 cs' cs3.insts.size Compile.OpJump cs6.insts.size ∧
    ∀ {code : Code} {p0 : Nat}, CodeHas code cs'.insts p0 → p0 ≤ cs1.insts.size →
      CodeHas code cs1.insts p0 ∧ InsAt code.insts cs1.insts.size op 4 cs4.insts.size ∧ CodeHas code cs3.insts cs2.insts.size ∧
      InsAt code.insts cs3.insts.size Compile.OpJump 4 cs6.insts.size ∧ CodeHas code cs6.insts cs5.insts.size := by
  have hsz3 := h23.1
  have hsz5 := hP1.size
  have hsz6 := h56.1
  have she2 := Shape.of_emit hj2
  have hsz4' := she2.pre.1
  obtain ⟨-, hsz4, hP2⟩ := hole_inv (op := Compile.OpJump) rfl hj2 (by omega)
    (fun k h1 h2 => by rw [h56.2 k (by omega), hP1.ge k (by omega)]) hp
  have hsz' := hP2.size
  refine ⟨hsz4, hP2, fun {code p0} hcode hp0 => ⟨?_, ?_, ?_, ?_, ?_⟩⟩
  · intro i h1 h2
    rw [hcode i h1 (by omega), hP2.lt i (by omega), h56.2 i (by omega), hP1.lt i h2,
      (((Shape.of_emit hj1).pre.trans h23).trans she2.pre).2 i h2]
  · exact hP1.jump.congr fun k hk => by rw [hcode _ (by omega) (by omega), hP2.lt _ (by omega), h56.2 _ (by omega)]
  · intro i h1 h2
    rw [hcode i (by omega) (by omega), hP2.lt i h2, h56.2 i (by omega), hP1.ge i (by omega), she2.pre.2 i h2]
  · exact hP2.jump.congr fun k hk => hcode _ (by omega) (by omega)
  · intro i h1 h2
    rw [hcode i (by omega) (by omega), hP2.ge i (by omega)]

theorem emit_inst {pos : Pos} {op : Nat} {args : List Int} {cs cs' : CState}
    (hc : runCM (Compile.emit_ pos op args) cs = (.ok (), cs')) :
    op < Compile.numOpcodes ∧ ∃ bs, Compile.makeInstruction op args = .ok bs ∧ cs'.insts.size = cs.insts.size + (1 + Compile.opWidth op) ∧
      ∀ {code : Code} {p : Nat}, CodeHas code cs'.insts p → p ≤ cs.insts.size → Compile.InstAt code.insts cs.insts.size bs := by
  obtain ⟨hop, rest, hm, hl, e2⟩ := emit__inv hc
  have hsz : cs'.insts.size = cs.insts.size + (1 + Compile.opWidth op) := by rw [e2, ← hl]; simp; omega
  refine ⟨hop, _, hm, hsz, fun hcode hp k hk => ?_⟩
  rw [List.length_cons, hl] at hk
  rw [hcode _ (by omega) (by omega), e2]
  exact Compile.InstAt.append _ _ k (by rw [List.length_cons, hl]; exact hk)

theorem emit0_code {pos : Pos} {op : Nat} {cs cs' : CState} (hw : Compile.operandWidths op = [])
    (hc : runCM (Compile.emit_ pos op []) cs = (.ok (), cs')) :
    cs'.insts.size = cs.insts.size + 1 ∧
      ∀ {code : Code} {p : Nat}, CodeHas code cs'.insts p → p ≤ cs.insts.size → InsAt code.insts cs.insts.size op 0 0 := by
  obtain ⟨hop, bs, hbs, hsz, hat⟩ := emit_inst hc
  exact ⟨by rw [hsz]; simp [Compile.opWidth, hw], fun hcode hp => .of_inst0 hw hop hbs (hat hcode hp)⟩

theorem emit_code {pos : Pos} {op w x : Nat} {cs cs' : CState} (hw : Compile.operandWidths op = [w])
    (hc : runCM (Compile.emit_ pos op [(x : Int)]) cs = (.ok (), cs')) :
    cs'.insts.size = cs.insts.size + (1 + w) ∧
      ∀ {code : Code} {p : Nat}, CodeHas code cs'.insts p → p ≤ cs.insts.size → InsAt code.insts cs.insts.size op w x := by
  obtain ⟨hop, bs, hbs, hsz, hat⟩ := emit_inst hc
  exact ⟨by rw [hsz]; simp [Compile.opWidth, hw], fun hcode hp => .of_inst hw hop hbs (hat hcode hp)⟩

/-- the VM's constants are the runtime objects of the compiler's constant pool -/
def ConstsOK (K : Array Compile.Const) (consts : Array V) : Prop :=
  ∀ (i : Nat) (cv : Compile.CVal), K[i]? = some (.val cv) → consts[i]? = some (Eval.scalarOfCVal cv)

/-- every variable of `σ` lives in a box on the heap of the reference semantics (state `t`) and in
    the local slot the compiler gave it on the VM's stack (state `s`), with the same value, a scalar
    (so the slot is not captured: it holds no `*ObjectPtr`) -/
def LocalsOK (σ : String → Option Nat) (env : Sem.Env) (t s : State) (bp lo : Nat) : Prop :=
  ∀ (n : String) (i : Nat), σ n = some i →
    ∃ (a : Addr) (v : V), Sem.lookupEnv n env = some a ∧ t.heap[a]? = some (.box v) ∧ bp + i < lo ∧
      s.stack[bp + i]! = v ∧ Scalar v

structure VMOk (K : Array Compile.Const) (code : Code) (bp lo : Nat) (s : State) : Prop where
  abort : s.abort = false
  size : s.stack.size = 2048
  code : CodeAt s code
  bp : (s.frames[s.curFrame]!).bp = (bp : Int)
  consts : ConstsOK K s.consts
  lo : (lo : Int) ≤ s.sp

theorem VMOk.of_same {K : Array Compile.Const} {code : Code} {bp lo : Nat} {s s' : State} (hvm : VMOk K code bp lo s)
    (hs : Same s s') (hh : s'.heap = s.heap) (hsz : s'.stack.size = s.stack.size) (hlo : (lo : Int) ≤ s'.sp) :
    VMOk K code bp lo s' :=
  ⟨by rw [hs.abort]; exact hvm.abort, by rw [hsz]; exact hvm.size, hvm.code.of_same hs hh,
   by rw [hs.frames, hs.curFrame]; exact hvm.bp, by rw [hs.consts]; exact hvm.consts, hlo⟩

theorem carry {F : FloatOps} {K : Array Compile.Const} {code : Code} {bp lo : Nat} {σ : String → Option Nat} {env : Sem.Env}
    {t s s' : State} (hvm : VMOk K code bp lo s) (hloc : LocalsOK σ env t s bp lo)
    {n : Nat} (h : Str F n s s') (hn : lo ≤ n) (hsp : (lo : Int) ≤ s'.sp) :
    VMOk K code bp lo s' ∧ LocalsOK σ env t s' bp lo := by
  refine ⟨hvm.of_same h.same h.heap h.agree.1 hsp, ?_⟩
  intro nm i hi
  obtain ⟨a, v, h1, h2, h3, h4, h5⟩ := hloc nm i hi
  exact ⟨a, v, h1, h2, h3, by rw [h.agree.2 _ (by omega)]; exact h4, h5⟩

/-- the VM part of a value outcome: `v` is pushed, `ip` stands at the end `q` of the expression's
    code, the VM heap and everything below `sp` is as before -/
def OutV (F : FloatOps) (s : State) (q : Nat) (v : V) : Prop :=
  ∃ s', Reach F s s' ∧ Same s s' ∧ s'.heap = s.heap ∧ s'.ip + 1 = (q : Int) ∧ s'.sp = s.sp + 1 ∧
      AgreeBelow s.sp.toNat s.stack s'.stack ∧ s'.stack[s.sp.toNat]! = v

/-- what the VM does when the reference semantics, started in `t`, returns `r` in state `t1`: a
    value is a scalar, the reference state is unchanged and the VM pushes the value (`OutV`); an
    error takes the VM to `failWith oe` with the VM heap unchanged, `oe` is a `named` error and the
    reference semantics' thrown object is what `rtErrOfOpErr oe` makes on its own heap `t` -/
def Outcome (F : FloatOps) (s t t1 : State) (q : Nat) : Sem.ER → Prop
  | .val v => t = t1 ∧ Scalar v ∧ OutV F s q v
  | .thr a => ∃ (u : State) (oe : OpErr), ReachFail F s oe u ∧ (∃ n m, oe = .named n m) ∧ Same s u ∧ u.heap = s.heap ∧
      AgreeBelow s.sp.toNat s.stack u.stack ∧ s.sp ≤ u.sp ∧ exec (rtErrOfOpErr oe) t = (.ok a, t1)

/-- `Outcome F s …` measures everything against `s.sp`; sub-expressions start at different `sp`, so composing them needs a
    base that stays put: `OutAt F b s …` is `Outcome` with the base `b` in place of `s.sp`, and composes by `OutAt.via`. -/
def OutAt (F : FloatOps) (b : Nat) (s t t1 : State) (q : Nat) : Sem.ER → Prop
  | .val v => t = t1 ∧ Scalar v ∧ ∃ s', ValAt F b s s' q v
  | .thr a => ∃ (u : State) (oe : OpErr), ErrAt F b s oe u ∧ (∃ n m, oe = .named n m) ∧ exec (rtErrOfOpErr oe) t = (.ok a, t1)

theorem OutAt.via {F : FloatOps} {b : Nat} {s s1 t t1 : State} {q : Nat} {r : Sem.ER} (h : Str F b s s1)
    (o : OutAt F b s1 t t1 q r) : OutAt F b s t t1 q r := by
  cases r with
  | val v =>
    obtain ⟨ht, hsv, s2, o⟩ := o
    exact ⟨ht, hsv, s2, o.after h⟩
  | thr a =>
    obtain ⟨u, oe, e, hnm, hrt⟩ := o
    exact ⟨u, oe, ⟨ReachFail.of_reach h.reach e.fail, h.same.trans e.same, e.heap.trans h.heap, h.agree.trans e.agree, e.sp⟩,
      hnm, hrt⟩

theorem OutAt.thr_mono {F : FloatOps} {b b' : Nat} {s t t1 : State} {q q' : Nat} {a : Addr} (hb : b' ≤ b)
    (o : OutAt F b s t t1 q (.thr a)) : OutAt F b' s t t1 q' (.thr a) := by
  obtain ⟨u, oe, e, hnm, hrt⟩ := o
  exact ⟨u, oe, ⟨e.fail, e.same, e.heap, e.agree.mono hb, by have := e.sp; omega⟩, hnm, hrt⟩

theorem Outcome.of_at {F : FloatOps} {b : Nat} {s t t1 : State} {q : Nat} {r : Sem.ER} (hb : (b : Int) = s.sp)
    (o : OutAt F b s t t1 q r) : Outcome F s t t1 q r := by
  have e : s.sp.toNat = b := by omega
  rw [← e] at o
  cases r with
  | val v =>
    obtain ⟨ht, hsv, s', o⟩ := o
    exact ⟨ht, hsv, s', o.str.reach, o.str.same, o.str.heap, o.ip, by have := o.sp; omega, o.str.agree, o.get⟩
  | thr a =>
    obtain ⟨u, oe, e, hnm, hrt⟩ := o
    exact ⟨u, oe, e.fail, hnm, e.same, e.heap, e.agree, by have := e.sp; omega, hrt⟩

def Pushes (F : FloatOps) (act : Compile.CM Unit) (v : V) : Prop :=
  ∀ cs cs' : CState, runCM act cs = (.ok (), cs') →
    Shape cs cs' ∧ ∀ {K : Array Compile.Const} {code : Code} {bp lo b : Nat} {s : State},
      IsPre cs'.constants K → CodeHas code cs'.insts cs.insts.size → VMOk K code bp lo s →
      s.ip + 1 = (cs.insts.size : Int) → s.sp = (b : Int) → b < 2048 → ∃ s', ValAt F b s s' cs'.insts.size v

theorem pushes_emitConstant (F : FloatOps) (pos : Pos) (k : Compile.CVal) :
    Pushes F (Compile.emitConstant pos k) (Eval.scalarOfCVal k) := by
  intro cs cs' hc
  unfold Compile.emitConstant at hc
  obtain ⟨i, cs1, h1, h2⟩ := bind_inv hc
  have sh1 := Shape.of_addConstant h1
  have sh2 := Shape.of_emit_ h2
  refine ⟨sh1.trans sh2, ?_⟩
  intro K code bp lo b s hK hcode hvm hip hsp hb
  obtain ⟨e1, _, hki⟩ := addConstant_inv h1
  obtain ⟨hsz, hat⟩ := emit_code (op := Compile.OpConstant) (w := 2) rfl h2
  have hins1 : cs1.insts = cs.insts := by rw [e1]
  rw [hins1] at hsz hat
  have hkc : s.consts[i]? = some (Eval.scalarOfCVal k) := by
    apply hvm.consts
    exact IsPre.get hK (IsPre.get sh2.cpre hki)
  rw [hsz]
  exact step_const F hvm.abort hvm.size hvm.code hip (hat hcode (Nat.le_refl _)) _ hkc hsp hb

theorem pushes_push0 (F : FloatOps) (pos : Pos) (op : Nat) (v : V)
    (hop : (op = 21 ∧ v = .undefined) ∨ (op = 41 ∧ v = .bool true) ∨ (op = 42 ∧ v = .bool false)) :
    Pushes F (Compile.emit_ pos op []) v := by
  intro cs cs' hc
  refine ⟨Shape.of_emit_ hc, ?_⟩
  intro K code bp lo b s _ hcode hvm hip hsp hb
  obtain ⟨hsz, hat⟩ := emit0_code (by rcases hop with ⟨rfl, _⟩ | ⟨rfl, _⟩ | ⟨rfl, _⟩ <;> rfl) hc
  rw [hsz]
  exact step_push0 F hvm.abort hvm.size hvm.code hip (hat hcode (Nat.le_refl _)) v hop hsp hb

theorem exec_bind_inv {α β} {m : M α} {f : α → M β} {s s' : State} {b : β}
    (h : exec (m >>= f) s = (.ok b, s')) : ∃ a s1, exec m s = (.ok a, s1) ∧ exec (f a) s1 = (.ok b, s') := by
  rw [exec_bind] at h
  cases hr : exec m s with
  | mk r s1 =>
    rw [hr] at h
    cases r with
    | ok a => exact ⟨a, s1, rfl, h⟩
    | error e => simp at h

theorem exec_pure_inv {α} {a b : α} {s s' : State} (h : exec (pure a : M α) s = (.ok b, s')) : b = a ∧ s' = s := by
  rw [exec_pure] at h
  simp only [Prod.mk.injEq, Except.ok.injEq] at h
  exact ⟨h.1.symm, h.2.symm⟩

theorem raise_inv {oe : OpErr} {tx t1 : State} {r : Sem.ER} (h : exec (raiseF oe) tx = (.ok r, t1)) :
    ∃ a, r = .thr a ∧ exec (rtErrOfOpErr oe) tx = (.ok a, t1) := by
  unfold raiseF at h
  obtain ⟨a, t0, h1, h2⟩ := exec_bind_inv h
  obtain ⟨rfl, rfl⟩ := exec_pure_inv h2
  exact ⟨a, rfl, h1⟩

theorem scalar_ofCVal (k : Compile.CVal) : Scalar (Eval.scalarOfCVal k) := by
  cases k <;> trivial

theorem CodeHas.sub {code : Code} {X Y : Array UInt8} {p p' : Nat} (h : CodeHas code X p) (hp : Pre Y X) (hle : p ≤ p') :
    CodeHas code Y p' := by
  intro i h1 h2
  rw [h i (by omega) (by have := hp.1; omega), hp.2 i h2]

/-- The sub-expression `m` runs over the values of the whole expression that are on the stack already, hence over a base
    `b' ≥ b`; its error is an error of the whole by `thr_mono`. -/
theorem OutAt.first {F : FloatOps} {K : Array Compile.Const} {code : Code} {bp lo b b' : Nat} {σ : String → Option Nat}
    {env : Sem.Env} {s t t1 : State} {q q' : Nat} {r : Sem.ER} {m : M Sem.ER} {k : V → M Sem.ER}
    (hvm : VMOk K code bp lo s) (hloc : LocalsOK σ env t s bp lo) (hlo : lo ≤ b) (hbb : b ≤ b')
    (hsem : exec (m >>= fun rx => match rx with | .thr a => pure (.thr a) | .val v => k v) t = (.ok r, t1))
    (simx : ∀ rx tx, exec m t = (.ok rx, tx) → OutAt F b' s t tx q rx)
    (hval : ∀ v s1, Scalar v → exec (k v) t = (.ok r, t1) → ValAt F b' s s1 q v →
      VMOk K code bp lo s1 → LocalsOK σ env t s1 bp lo → OutAt F b s1 t t1 q' r) : OutAt F b s t t1 q' r := by
  obtain ⟨rx, tx, hex, hsem⟩ := exec_bind_inv hsem
  have ox := simx rx tx hex
  cases rx with
  | thr a =>
    obtain ⟨rfl, rfl⟩ := exec_pure_inv hsem
    exact ox.thr_mono hbb
  | val v =>
    obtain ⟨rfl, hsv, s1, h1⟩ := ox
    obtain ⟨hvm1, hloc1⟩ := carry hvm hloc h1.str (by omega) (by have := h1.sp; omega)
    exact (hval v s1 hsv hsem h1 hvm1 hloc1).via (h1.str.mono hbb)

/-- An operator instruction.  `hstep` is given what `m` returns on every state: the reference semantics runs the operator on
    `t`, the VM on its own state. -/
theorem OutAt.of_op {F : FloatOps} {b : Nat} {s t t1 : State} {q : Nat} {r : Sem.ER} {m : M (Except OpErr V)} (hm : ScalarOp m)
    (hsem : exec (do match (← m) with | .ok v => pure (Sem.ER.val v) | .error e => raiseF e) t = (.ok r, t1))
    (hstep : ∀ y, (∀ w, exec m w = (.ok y, w)) →
      match y with
      | .ok v => ∃ s', ValAt F b s s' q v
      | .error oe => ∃ u, ErrAt F b s oe u) : OutAt F b s t t1 q r := by
  obtain ⟨y, ty, hey, hsem⟩ := exec_bind_inv hsem
  have hres : OpRes y := hm.res.h _ _ _ hey
  obtain ⟨rfl, hall⟩ := pure_all hm.pure hey
  have hstep := hstep y hall
  cases y with
  | ok v =>
    obtain ⟨s2, h2⟩ := hstep
    obtain ⟨rfl, rfl⟩ := exec_pure_inv hsem
    exact ⟨rfl, hres, s2, h2⟩
  | error oe =>
    obtain ⟨u, hf⟩ := hstep
    obtain ⟨a, rfl, hrt⟩ := raise_inv hsem
    exact ⟨u, oe, hf, hres, hrt⟩

def SimAt (F : FloatOps) (σ : String → Option Nat) (e : Expr) (cs cs' : CState) : Prop :=
  ∀ {K : Array Compile.Const} {code : Code} {bp lo b : Nat} {env : Sem.Env} {s t : State} {fuel : Nat}
    {r : Sem.ER} {t1 : State},
    IsPre cs'.constants K → CodeHas code cs'.insts cs.insts.size → VMOk K code bp lo s →
    s.ip + 1 = (cs.insts.size : Int) → (b : Int) = s.sp → b + need e ≤ 2048 →
    LocalsOK σ env t s bp lo → exec (evalF F fuel env e) t = (.ok r, t1) →
    OutAt F b s t t1 cs'.insts.size r

/-- the judgement of the induction: `σ` is what the names resolve to, in every compile state the expression passes through -/
def Good (F : FloatOps) (σ : String → Option Nat) (e : Expr) : Prop :=
  ∀ cs cs' : CState, localIdx cs = σ → runCM (compileExpr e) cs = (.ok (), cs') → Shape cs cs' ∧ SimAt F σ e cs cs'

theorem evalF_fuel {F : FloatOps} {fuel : Nat} {env : Sem.Env} {e : Expr} {t t1 : State} {r : Sem.ER}
    (h : exec (evalF F fuel env e) t = (.ok r, t1)) : ∃ k, fuel = k + 1 := by
  cases fuel with
  | succ k => exact ⟨k, rfl⟩
  | zero =>
    unfold evalF at h
    simp [VM.unsupported, exec, ExceptT.run, throw, throwThe, MonadExceptOf.throw, ExceptT.mk, StateT.run, pure, StateT.pure] at h

theorem good_lit (F : FloatOps) {e : Expr} {act : Compile.CM Unit} {v : V} (hce : compileExpr e = act) (hp : Pushes F act v)
    (hsv : Scalar v) (hev : ∀ fuel env, evalF F (fuel + 1) env e = pure (.val v)) (hn : need e = 1)
    (σ : String → Option Nat) : Good F σ e := by
  intro cs cs' _ hc
  obtain ⟨sh, hsim⟩ := hp cs cs' (hce ▸ hc)
  refine ⟨sh, ?_⟩
  intro K code bp lo b env s t fuel r t1 hK hcode hvm hip hb hsp hloc hsem
  obtain ⟨fuel, rfl⟩ := evalF_fuel hsem
  rw [hev] at hsem
  obtain ⟨rfl, rfl⟩ := exec_pure_inv hsem
  exact ⟨rfl, hsv, hsim hK hcode hvm hip hb.symm (by omega)⟩

variable {σ : String → Option Nat}

theorem good_ident (F : FloatOps) (pos : Pos) (name : String) (hF : (σ name).isSome) : Good F σ (.ident pos name) := by
  intro cs cs' hσ hc
  subst hσ
  cases hi : localIdx cs name with
  | none => simp [hi] at hF
  | some i =>
    obtain ⟨sym, hres, hscope, hidx⟩ := resolve_local hi
    rw [compileExpr] at hc
    unfold Compile.compileIdent at hc
    obtain ⟨r0, cs0, h0, hc⟩ := bind_inv hc
    rw [hres] at h0
    simp only [Prod.mk.injEq, Except.ok.injEq] at h0
    obtain ⟨rfl, rfl⟩ := h0
    simp only [hscope] at hc
    refine ⟨Shape.of_emit_ hc, ?_⟩
    intro K code bp lo b env s t fuel r t1 hK hcode hvm hip hb hsp hloc hsem
    rw [hidx] at hc
    obtain ⟨hsz, hat⟩ := emit_code (op := Compile.OpGetLocal) (w := 1) rfl hc
    obtain ⟨fuel, rfl⟩ := evalF_fuel hsem
    obtain ⟨a, v, hl, hbox, hlt, hst, hnb⟩ := hloc name i hi
    simp only [evalF, hl] at hsem
    obtain ⟨v', t', hrb, hsem⟩ := exec_bind_inv hsem
    obtain ⟨rfl, rfl⟩ := exec_pure_inv hsem
    unfold readBoxF at hrb
    rw [exec_bind, exec_heapGet_some _ _ _ hbox] at hrb
    obtain ⟨rfl, rfl⟩ := exec_pure_inv hrb
    have hlo := hvm.lo
    have hstep := step_getLocal F hvm.abort hvm.size hvm.code hip (hat hcode (Nat.le_refl _)) bp hvm.bp (by omega)
      (by rw [hst]; exact hnb.not_box) hb.symm (by have := need_pos (.ident pos name); omega)
    rw [hst, ← hsz] at hstep
    exact ⟨rfl, hnb, hstep⟩

theorem good_paren (F : FloatOps) (pos : Pos) (x : Expr) (ihx : Good F σ x) : Good F σ (.paren pos x) := by
  intro cs cs' hσ hc
  rw [compileExpr] at hc
  obtain ⟨shx, simx⟩ := ihx cs cs' hσ hc
  refine ⟨shx, ?_⟩
  intro K code bp lo b env s t fuel r t1 hK hcode hvm hip hb hsp hloc hsem
  obtain ⟨fuel, rfl⟩ := evalF_fuel hsem
  simp only [evalF] at hsem
  simp only [need] at hsp
  exact simx hK hcode hvm hip hb hsp hloc hsem

theorem good_unary (F : FloatOps) (pos : Pos) (tok : Nat) (x : Expr) (ihx : Good F σ x) :
    Good F σ (.unary pos tok x) := by
  intro cs cs' hσ hc
  rw [compileExpr] at hc
  obtain ⟨_, cs1, hx, hc⟩ := bind_inv hc
  obtain ⟨shx, simx⟩ := ihx cs cs1 hσ hx
  split at hc
  · have she := Shape.of_emit_ hc
    refine ⟨shx.trans she, ?_⟩
    intro K code bp lo b env s t fuel r t1 hK hcode hvm hip hb hsp hloc hsem
    obtain ⟨hsz, hat⟩ := emit_code (op := Compile.OpUnary) (w := 1) rfl hc
    obtain ⟨fuel, rfl⟩ := evalF_fuel hsem
    simp only [evalF] at hsem
    simp only [need] at hsp
    have hlo := hvm.lo
    refine OutAt.first hvm hloc (by omega) (Nat.le_refl b) hsem (fun rx tx hex => simx (Compile.IsPre.trans she.cpre hK)
      (hcode.sub she.pre (Nat.le_refl _)) hvm hip hb hsp hloc hex) ?_
    intro v s1 hsv hsem h1 hvm1 hloc1
    have hnx := need_pos x
    rw [hsz]
    exact OutAt.of_op (vUnary_op F (tokOfNat tok) hsv.os) hsem fun y hall =>
      step_unary F hvm1.abort hvm1.size hvm1.code h1.ip (hat hcode shx.pre.1) h1.sp (by omega) y (by rw [h1.get]; exact hall)
  · simp [Compile.cerr, Compile.runCM_throw] at hc


/-- the operator instruction behind the two operands, which lie in the slots `b`, `b + 1` on top of the stack -/
def TailSim (F : FloatOps) (cs2 cs' : CState) (op : V → V → M Sem.ER) : Prop :=
  ∀ {K : Array Compile.Const} {code : Code} {bp lo b : Nat} {s2 ty : State} {lv rv : V} {r : Sem.ER} {t1 : State},
    CodeHas code cs'.insts cs2.insts.size → VMOk K code bp lo s2 → s2.ip + 1 = (cs2.insts.size : Int) →
    s2.sp = (b : Int) + 2 → b + 1 < 2048 → s2.stack[b]! = lv → s2.stack[b + 1]! = rv →
    Scalar lv → Scalar rv → exec (op lv rv) ty = (.ok r, t1) → OutAt F b s2 ty t1 cs'.insts.size r

theorem tail_arith (F : FloatOps) (pos : Pos) (tok : Nat) (cs2 cs' : CState)
    (hc : runCM (Compile.emit_ pos Compile.OpBinaryOp [(tok : Int)]) cs2 = (.ok (), cs')) :
    TailSim F cs2 cs' (fun lv rv => do
      match (← vBinaryOp F (tokOfNat tok) lv rv) with
      | .ok v => pure (Sem.ER.val v)
      | .error e => raiseF e) := by
  intro K code bp lo b s2 ty lv rv r t1 hcode hvm hip hsp hb hl hr hsl hsr hsem
  obtain ⟨hsz, hat⟩ := emit_code (op := Compile.OpBinaryOp) (w := 1) rfl hc
  rw [hsz]
  exact OutAt.of_op (vBinaryOp_op F (tokOfNat tok) hsl.os hsr.os) hsem fun y hall =>
    step_binop F hvm.abort hvm.size hvm.code hip (hat hcode (Nat.le_refl _)) hsp hb y (by rw [hl, hr]; exact hall)

theorem tail_equal (F : FloatOps) (pos : Pos) (op : Nat) (neg : Bool)
    (hop : (op = 10 ∧ neg = false) ∨ (op = 11 ∧ neg = true)) (cs2 cs' : CState)
    (hc : runCM (Compile.emit_ pos op []) cs2 = (.ok (), cs')) :
    TailSim F cs2 cs' (fun lv rv => do let b ← vEqual F lv rv; pure (Sem.ER.val (.bool (if neg then !b else b)))) := by
  intro K code bp lo b s2 ty lv rv r t1 hcode hvm hip hsp hb hl hr hsl hsr hsem
  obtain ⟨hsz, hat⟩ := emit0_code (by rcases hop with ⟨rfl, _⟩ | ⟨rfl, _⟩ <;> rfl) hc
  obtain ⟨eq, tyy, hey, hsem⟩ := exec_bind_inv hsem
  obtain ⟨rfl, hall⟩ := pure_all (vEqual_pure F hsl.os hsr.os) hey
  obtain ⟨s3, h3⟩ := step_equal F hvm.abort hvm.size hvm.code hip (hat hcode (Nat.le_refl _))
    (hop.imp And.left And.left) hsp hb eq (by rw [hl, hr]; exact hall)
  obtain ⟨rfl, rfl⟩ := exec_pure_inv hsem
  have hval : (if op = 10 then eq else !eq) = (if neg then !eq else eq) := by
    rcases hop with ⟨rfl, rfl⟩ | ⟨rfl, rfl⟩
    · rfl
    · rfl
  exact ⟨rfl, trivial, s3, h3.str, by rw [h3.ip, hsz], h3.sp, by rw [h3.get, hval]⟩

theorem good_binary_strict (F : FloatOps) (pos : Pos) (tok : Nat) (l r : Expr) (ihl : Good F σ l)
    (ihr : Good F σ r) (h1 : (tok == tLAnd) = false) (h2 : (tok == tLOr) = false) : Good F σ (.binary pos tok l r) := by
  intro cs cs' hσ hc
  rw [compileExpr] at hc
  simp only [h1, h2, Bool.or_self, Bool.false_eq_true, if_false] at hc
  obtain ⟨_, cs1, hl, hc⟩ := bind_inv hc
  obtain ⟨_, cs2, hr, hc⟩ := bind_inv hc
  obtain ⟨shl, siml⟩ := ihl cs cs1 hσ hl
  obtain ⟨shr, simr⟩ := ihr cs1 cs2 (by rw [shl.localIdx]; exact hσ) hr
  have htail : Shape cs2 cs' ∧ TailSim F cs2 cs' (fun lv rv =>
      if tok == tEqual then (do pure (Sem.ER.val (.bool (← vEqual F lv rv))))
      else if tok == tNotEqual then (do pure (Sem.ER.val (.bool (!(← vEqual F lv rv)))))
      else (do
        match (← vBinaryOp F (tokOfNat tok) lv rv) with
        | .ok v => pure (Sem.ER.val v)
        | .error e => raiseF e)) := by
    split at hc
    · rename_i heq
      simp only [heq, if_true]
      exact ⟨Shape.of_emit_ hc, tail_equal F pos 10 false (.inl ⟨rfl, rfl⟩) cs2 cs' hc⟩
    · rename_i heq
      split at hc
      · rename_i hne
        simp only [heq, hne, if_true, Bool.false_eq_true, if_false]
        exact ⟨Shape.of_emit_ hc, tail_equal F pos 11 true (.inr ⟨rfl, rfl⟩) cs2 cs' hc⟩
      · rename_i hne
        split at hc
        · simp [Compile.cerr, Compile.runCM_throw] at hc
        · simp only [heq, hne, Bool.false_eq_true, if_false]
          exact ⟨Shape.of_emit_ hc, tail_arith F pos tok cs2 cs' hc⟩
  obtain ⟨sht, simt⟩ := htail
  refine ⟨(shl.trans shr).trans sht, ?_⟩
  intro K code bp lo b env s t fuel rr t1 hK hcode hvm hip hb hsp hloc hsem
  obtain ⟨fuel, rfl⟩ := evalF_fuel hsem
  simp only [evalF, h1, h2, Bool.false_eq_true, if_false] at hsem
  obtain ⟨hspl, hspr, hb1⟩ := need_binary hsp
  have hlo : lo ≤ b := by have := hvm.lo; omega
  refine OutAt.first hvm hloc hlo (Nat.le_refl b) hsem (fun rl tl hel => siml (Compile.IsPre.trans (shr.trans sht).cpre hK)
    (hcode.sub (shr.trans sht).pre (Nat.le_refl _)) hvm hip hb hspl hloc hel) ?_
  intro lv s1 hsl hsem h1 hvm1 hloc1
  refine OutAt.first hvm1 hloc1 hlo (Nat.le_add_right b 1) hsem (fun rr2 tr her => simr (Compile.IsPre.trans sht.cpre hK)
    (hcode.sub sht.pre shl.pre.1) hvm1 h1.ip (by rw [h1.sp]; rfl) hspr hloc1 her) ?_
  intro rv s2 hsr hsem h2 hvm2 hloc2
  exact simt (hcode.sub (Pre.refl _) (Nat.le_trans shl.pre.1 shr.pre.1)) hvm2 h2.ip (by rw [h2.sp]; push_cast; omega) hb1
    (by rw [h2.str.agree.2 _ (Nat.lt_succ_self _), h1.get]) h2.get hsl hsr hsem


theorem good_binary_sc (F : FloatOps) (pos : Pos) (tok : Nat) (l r : Expr) (ihl : Good F σ l)
    (ihr : Good F σ r) (hsc : (tok == tLAnd || tok == tLOr) = true) : Good F σ (.binary pos tok l r) := by
  intro cs cs' hσ hc
  rw [compileExpr] at hc
  simp only [hsc, if_true] at hc
  obtain ⟨_, cs1, hl, hc⟩ := bind_inv hc
  obtain ⟨jp, cs2, hj, hc⟩ := bind_inv hc
  obtain ⟨_, cs3', hr, hc⟩ := bind_inv hc
  obtain ⟨x, cs3, hx, hc⟩ := bind_inv hc
  obtain ⟨rfl, rfl⟩ := curPos_inv hx
  obtain ⟨shl, siml⟩ := ihl cs cs1 hσ hl
  have she := Shape.of_emit hj
  obtain ⟨shr, simr⟩ := ihr cs2 cs3 (by rw [she.localIdx, shl.localIdx]; exact hσ) hr
  let isAnd : Bool := tok == tLAnd
  have hopn : (if (tok == tLAnd) = true then Compile.OpAndJump else Compile.OpOrJump) = (if isAnd then 14 else 15) := by
    show (if (tok == tLAnd) = true then 14 else 15) = _; rfl
  rw [hopn] at hj
  obtain ⟨hsz2, hP, pieces⟩ := one_hole (op := if isAnd then 14 else 15) (by cases isAnd <;> rfl)
    hj shr.pre hc
  have hsz1 : cs.insts.size ≤ cs1.insts.size := shl.pre.1
  have hsz3 : cs2.insts.size ≤ cs3.insts.size := shr.pre.1
  have hsz' := hP.size
  refine ⟨((shl.trans she).trans shr).patched hP hsz1, ?_⟩
  intro K code bp lo b env s t fuel rr t1 hK hcode hvm hip hb hsp hloc hsem
  have hK3 : IsPre cs3.constants K := by rw [← hP.constants]; exact hK
  obtain ⟨hcl, hcj, hcr⟩ := pieces hcode hsz1
  obtain ⟨fuel, rfl⟩ := evalF_fuel hsem
  simp only [evalF] at hsem
  obtain ⟨hspl, hspr, hb1⟩ := need_binary hsp
  have hlo : lo ≤ b := by have := hvm.lo; omega
  refine OutAt.first hvm hloc hlo (Nat.le_refl b) hsem (fun rl tl hel => siml (Compile.IsPre.trans (she.trans shr).cpre hK3) hcl hvm hip hb
    hspl hloc hel) ?_
  intro lv s1 hsl hsem h1 hvm1 hloc1
  -- both forms evaluate `isFalsy lv` first
  have hsem' : ∃ fl tf, exec (isFalsy lv) t = (.ok fl, tf) ∧
      exec (if (fl == isAnd) = true then pure (Sem.ER.val lv) else evalF F fuel env r) tf = (.ok rr, t1) := by
    by_cases ha : (tok == tLAnd) = true
    · have hia : isAnd = true := ha
      simp only [ha, if_true] at hsem
      obtain ⟨fl, tf, h1, h2⟩ := exec_bind_inv hsem
      refine ⟨fl, tf, h1, ?_⟩
      rw [hia]
      cases fl <;> simpa using h2
    · have hia : isAnd = false := Bool.eq_false_iff.mpr ha
      have ho : (tok == tLOr) = true := by simpa [ha] using hsc
      simp only [ha, ho, Bool.false_eq_true, if_false, if_true] at hsem
      obtain ⟨fl, tf, h1, h2⟩ := exec_bind_inv hsem
      refine ⟨fl, tf, h1, ?_⟩
      rw [hia]
      cases fl <;> simpa using h2
  obtain ⟨fl, tf, hfl, hsem⟩ := hsem'
  obtain ⟨rfl, hall⟩ := pure_all (isFalsy_pure hsl.os) hfl
  have hcase := step_andOrJump F hvm1.abort hvm1.code h1.ip hcj (by cases isAnd <;> simp) h1.sp (Nat.lt_of_succ_lt hb1) fl
    (by rw [h1.get]; exact hall)
  have hb14 : ((if isAnd then 14 else 15) == 14) = isAnd := by cases isAnd <;> rfl
  rw [hb14] at hcase
  by_cases hjmp : (fl == isAnd) = true
  · -- the jump is taken: the left value is the result
    simp only [hjmp, if_true] at hcase hsem
    obtain ⟨rfl, rfl⟩ := exec_pure_inv hsem
    obtain ⟨s2, h2⟩ := hcase
    exact ⟨rfl, hsl, s2, h2.str, by rw [hsz']; exact h2.ip, h2.sp, by rw [h2.get, h1.get]⟩
  · -- no jump: the left value is popped, the right operand is the result
    simp only [hjmp, Bool.false_eq_true, if_false] at hcase hsem
    obtain ⟨s2, h12, hip2, hsp2⟩ := hcase
    obtain ⟨hvm2, hloc2⟩ := carry hvm1 hloc1 h12 hlo (by rw [hsp2]; exact Int.ofNat_le.mpr hlo)
    rw [hsz']
    exact (simr hK3 hcr hvm2 (by rw [hip2, hsz2]; push_cast; rfl) hsp2.symm (by omega) hloc2 hsem).via h12


theorem exec_isFalsy_bool (b : Bool) (t : State) : exec (isFalsy (.bool b)) t = (.ok (!b), t) := rfl

/-- `c ? t : f` with a condition that is not a boolean literal -/
theorem good_cond_gen (F : FloatOps) (pos : Pos) (c t f : Expr) (ihc : Good F σ c) (iht : Good F σ t)
    (ihf : Good F σ f) (cs cs' : CState) (hσ : localIdx cs = σ)
    (hc : runCM (do
      compileExpr c
      let j1 ← Compile.emit pos Compile.OpJumpFalsy [0]
      compileExpr t
      let j2 ← Compile.emit pos Compile.OpJump [0]
      Compile.changeOperand j1 [(← Compile.curPos)]
      compileExpr f
      Compile.changeOperand j2 [(← Compile.curPos)]) cs = (.ok (), cs')) :
    Shape cs cs' ∧ SimAt F σ (.cond pos c t f) cs cs' := by
  obtain ⟨_, cs1, hcc, hc⟩ := bind_inv hc
  obtain ⟨j1, cs2, hj1, hc⟩ := bind_inv hc
  obtain ⟨_, cs3, hct, hc⟩ := bind_inv hc
  obtain ⟨j2, cs4', hj2, hc⟩ := bind_inv hc
  obtain ⟨x1, cs4, hx1, hc⟩ := bind_inv hc
  obtain ⟨rfl, rfl⟩ := curPos_inv hx1
  obtain ⟨_, cs5, hp1, hc⟩ := bind_inv hc
  obtain ⟨_, cs6', hcf, hc⟩ := bind_inv hc
  obtain ⟨x2, cs6, hx2, hc⟩ := bind_inv hc
  obtain ⟨rfl, rfl⟩ := curPos_inv hx2
  obtain ⟨shc, simc⟩ := ihc cs cs1 hσ hcc
  have she1 := Shape.of_emit hj1
  obtain ⟨sht, simt⟩ := iht cs2 cs3 (by rw [she1.localIdx, shc.localIdx]; exact hσ) hct
  have she2 := Shape.of_emit hj2
  obtain ⟨-, hsz2, hP1⟩ := hole_inv (op := Compile.OpJumpFalsy) rfl hj1 (sht.trans she2).pre.1
    (fun k _ hk => (sht.trans she2).pre.2 k hk) hp1
  have sh5 : Shape cs cs5 := (((shc.trans she1).trans sht).trans she2).patched hP1 shc.pre.1
  obtain ⟨shf, simf⟩ := ihf cs5 cs6 (by rw [sh5.localIdx]; exact hσ) hcf
  obtain ⟨hsz4, hP2, pieces⟩ := two_holes hj1 sht.pre hj2 hsz2 hP1 shf.pre hc
  have hsz1 : cs.insts.size ≤ cs1.insts.size := shc.pre.1
  have hsz3 : cs2.insts.size ≤ cs3.insts.size := sht.pre.1
  have hsz5 := hP1.size
  have hsz6 : cs5.insts.size ≤ cs6.insts.size := shf.pre.1
  have hsz' := hP2.size
  refine ⟨(sh5.trans shf).patched hP2 (by omega), ?_⟩
  intro K code bp lo b env s tt fuel rr t1 hK hcode hvm hip hb hsp hloc hsem
  have hK6 : IsPre cs6.constants K := by rw [← hP2.constants]; exact hK
  have hK4 : IsPre cs4.constants K := by rw [← hP1.constants]; exact shf.cpre.trans hK6
  obtain ⟨hcc', hcj1, hct', hcj2, hcf'⟩ := pieces hcode hsz1
  obtain ⟨fuel, rfl⟩ := evalF_fuel hsem
  simp only [evalF] at hsem
  obtain ⟨hspc, hspt, hspf, hb0⟩ := need_cond hsp
  have hlo : lo ≤ b := by have := hvm.lo; omega
  refine OutAt.first hvm hloc hlo (Nat.le_refl b) hsem (fun rc tc hec => simc (((she1.trans sht).trans she2).cpre.trans hK4)
    hcc' hvm hip hb hspc hloc hec) ?_
  intro cv s1 hsc hsem h1 hvm1 hloc1
  obtain ⟨fl, tf, hfl, hsem⟩ := exec_bind_inv hsem
  obtain ⟨rfl, hall⟩ := pure_all (isFalsy_pure hsc.os) hfl
  obtain ⟨s2, h12, hip2, hsp2⟩ := step_jumpFalsy F hvm1.abort hvm1.code h1.ip hcj1 h1.sp hb0 fl
    (by rw [h1.get]; exact hall)
  obtain ⟨hvm2, hloc2⟩ := carry hvm1 hloc1 h12 hlo (by rw [hsp2]; exact Int.ofNat_le.mpr hlo)
  refine OutAt.via h12 ?_
  cases fl with
  | true =>
    simp only [if_true] at hip2 hsem
    rw [hsz']
    exact simf hK6 hcf' hvm2 (by rw [hip2, hsz5]) hsp2.symm hspf hloc2 hsem
  | false =>
    simp only [Bool.false_eq_true, if_false] at hip2 hsem
    have ot := simt (she2.cpre.trans hK4) hct' hvm2 (by rw [hip2, hsz2]; push_cast; rfl) hsp2.symm hspt hloc2 hsem
    cases rr with
    | thr a => exact ot
    | val v =>
      -- the value of `t`, then the JUMP over the code of `f`
      obtain ⟨ht1, hsv, s3, h3⟩ := ot
      obtain ⟨s4, h34, hip4, hsp4, hst4⟩ := step_jump F (by rw [h3.str.same.abort]; exact hvm2.abort)
        (hvm2.code.of_same h3.str.same h3.str.heap) h3.ip hcj2 b
      exact ⟨ht1, hsv, s4, h3.str.trans h34, by omega, by rw [hsp4, h3.sp], by rw [hst4, h3.get]⟩


theorem good_cond (F : FloatOps) (pos : Pos) (c t f : Expr) (ihc : Good F σ c) (iht : Good F σ t)
    (ihf : Good F σ f) : Good F σ (.cond pos c t f) := by
  intro cs cs' hσ hc
  by_cases hb : ∃ p b, c = Expr.bool p b
  · -- a boolean literal as condition: only the chosen branch is compiled
    obtain ⟨p, b, rfl⟩ := hb
    rw [compileExpr] at hc
    have hsim : ∀ (x : Expr), Good F σ x → runCM (compileExpr x) cs = (.ok (), cs') →
        (∀ fuel env, (if (!b) = true then evalF F fuel env f else evalF F fuel env t) = evalF F fuel env x) →
        need x ≤ max (need t) (need f) →
        Shape cs cs' ∧ SimAt F σ (.cond pos (.bool p b) t f) cs cs' := by
      intro x ihx hcx hev hnx
      obtain ⟨shx, simx⟩ := ihx cs cs' hσ hcx
      refine ⟨shx, ?_⟩
      intro K code bp lo b' env s tt fuel rr t1 hK hcode hvm hip hb hsp hloc hsem
      obtain ⟨fuel, rfl⟩ := evalF_fuel hsem
      simp only [evalF] at hsem
      simp only [need] at hsp
      obtain ⟨rc, tc, hec, hsem2⟩ := exec_bind_inv hsem
      clear hsem
      obtain ⟨fuel, rfl⟩ := evalF_fuel hec
      simp only [evalF] at hec
      obtain ⟨rfl, rfl⟩ := exec_pure_inv hec
      obtain ⟨fl, tf, hfl, hsem⟩ := exec_bind_inv hsem2
      rw [exec_isFalsy_bool] at hfl
      simp only [Prod.mk.injEq, Except.ok.injEq] at hfl
      obtain ⟨rfl, rfl⟩ := hfl
      rw [hev] at hsem
      exact simx hK hcode hvm hip hb (by omega) hloc hsem
    cases b with
    | true =>
      simp only [if_true] at hc
      exact hsim t iht hc (fun _ _ => by simp) (Nat.le_max_left _ _)
    | false =>
      simp only [Bool.false_eq_true, if_false] at hc
      exact hsim f ihf hc (fun _ _ => by simp) (Nat.le_max_right _ _)
  · rw [compileExpr] at hc
    · exact good_cond_gen F pos c t f ihc iht ihf cs cs' hσ hc
    · intro p b h; exact hb ⟨p, b, h⟩

theorem good_all (F : FloatOps) (σ : String → Option Nat) : ∀ e : Expr, ExprF σ e = true → Good F σ e
  | .int pos v, _ => good_lit F (by rw [compileExpr]) (pushes_emitConstant F pos (.int v)) (scalar_ofCVal _)
      (fun _ _ => by simp only [evalF]; rfl) rfl σ
  | .uint pos v, _ => good_lit F (by rw [compileExpr]) (pushes_emitConstant F pos (.uint v)) (scalar_ofCVal _)
      (fun _ _ => by simp only [evalF]; rfl) rfl σ
  | .float pos v, _ => good_lit F (by rw [compileExpr]) (pushes_emitConstant F pos (.float v)) (scalar_ofCVal _)
      (fun _ _ => by simp only [evalF]; rfl) rfl σ
  | .char pos v, _ => good_lit F (by rw [compileExpr]) (pushes_emitConstant F pos (.char v)) (scalar_ofCVal _)
      (fun _ _ => by simp only [evalF]; rfl) rfl σ
  | .str pos v, _ => good_lit F (by rw [compileExpr]) (pushes_emitConstant F pos (.str v)) (scalar_ofCVal _)
      (fun _ _ => by simp only [evalF]; rfl) rfl σ
  | .bool pos true, _ => good_lit F (by rw [compileExpr]; rfl) (pushes_push0 F pos 41 (.bool true) (.inr (.inl ⟨rfl, rfl⟩))) trivial
      (fun _ _ => by simp only [evalF]) rfl σ
  | .bool pos false, _ => good_lit F (by rw [compileExpr]; rfl) (pushes_push0 F pos 42 (.bool false) (.inr (.inr ⟨rfl, rfl⟩))) trivial
      (fun _ _ => by simp only [evalF]) rfl σ
  | .undef pos, _ => good_lit F (by rw [compileExpr]; rfl) (pushes_push0 F pos 21 .undefined (.inl ⟨rfl, rfl⟩)) trivial
      (fun _ _ => by simp only [evalF]) rfl σ
  | .ident pos name, hF => good_ident F pos name (by simpa only [ExprF] using hF)
  | .paren pos x, hF => good_paren F pos x (good_all F σ x (by simpa only [ExprF] using hF))
  | .unary pos tok x, hF => good_unary F pos tok x (good_all F σ x (by simpa only [ExprF] using hF))
  | .binary pos tok l r, hF => by
    simp only [ExprF, Bool.and_eq_true] at hF
    by_cases hsc : (tok == tLAnd || tok == tLOr) = true
    · exact good_binary_sc F pos tok l r (good_all F σ l hF.1) (good_all F σ r hF.2) hsc
    · have h : (tok == tLAnd) = false ∧ (tok == tLOr) = false := by
        simpa [Bool.or_eq_true, not_or] using hsc
      exact good_binary_strict F pos tok l r (good_all F σ l hF.1) (good_all F σ r hF.2) h.1 h.2
  | .cond pos c t f, hF => by
    simp only [ExprF, Bool.and_eq_true] at hF
    exact good_cond F pos c t f (good_all F σ c hF.1.1) (good_all F σ t hF.1.2) (good_all F σ f hF.2)
  | .array .., hF | .map .., hF | .index .., hF | .selector .., hF | .slice .., hF | .call .., hF | .func .., hF
  | .import_ .., hF => by simp [ExprF] at hF

end UgoVerif.CompSim

import UgoVerif.Proofs.CompSimInv
import UgoVerif.Proofs.CompileScan
import UgoVerif.Proofs.CompileEnc
/-
  C02, compile ⊑ Sem, statement slice — the fall-off-the-end RETURN of `Bytecode()`, and the judgement
  the induction over the statements proves.

  `Bytecode()` (`Compile.finishFn`) scans the stream and appends `RETURN 0` unless the last
  instruction is a RETURN and no jump targets the end.  For scripts of the fragment `StmtF`:
  whenever the reference semantics completes the statement list normally, the syntactic predicate
  `fallL` holds (`normal_fall`, in CompSimProg), and `fallL` implies that the end of the stream the compile model
  produces is reachable for the scan (`Falls`: the stream is empty, or its last instruction is not
  a RETURN, or a jump instruction at a boundary targets the end) — hence the RETURN is appended
  (`appended_of_fall`, in CompSimProg).  Instruction boundaries come from the compile model's invariant (`Compile.Inv`,
  `Walk`), the scan's meaning from `scanFn_spec` (`LastAt` / `PendOK`).

  `GoodCF` / `GoodBF` say both things about one run of a compile action: the code simulates the reference
  computation (`GoodC`), and what it contributes to the reachability of the end of the stream (`FallK`).
-/
namespace UgoVerif.CompSim
open UgoVerif UgoVerif.Go UgoVerif.Ast UgoVerif.VM UgoVerif.Proofs.ModCache UgoVerif.Proofs.VMExec
open UgoVerif.Compile (CState runCM compileExpr compileStmt Pre Table)
open UgoVerif.Compile (Walk Inv Rel isJumpOp readBE opWidth)

/-- `Falls`: the stretch `[i, j)` of `a` is empty, or (`FallsJ`) the instruction that ends at `j` is not a
    RETURN, or a jump instruction of the stretch targets `j` -/
def FallsJ (a : Array UInt8) (i j : Nat) : Prop :=
  ∃ q b, Walk a 0 q ∧ i ≤ q ∧ a[q]? = some b ∧
    ((b.toNat ≠ Compile.OpReturn ∧ q + 1 + opWidth b.toNat = j) ∨
     (isJumpOp b.toNat = true ∧ q + 5 ≤ j ∧ readBE a (q + 1) 4 = j))

def Falls (a : Array UInt8) (i j : Nat) : Prop := i = j ∨ FallsJ a i j

theorem FallsJ.mono {a : Array UInt8} {i i' j : Nat} (h : FallsJ a i j) (hi : i' ≤ i) : FallsJ a i' j := by
  obtain ⟨q, b, hw, hq, hb, h⟩ := h
  exact ⟨q, b, hw, by omega, hb, h⟩

theorem Falls.pre {a a' : Array UInt8} {i j : Nat} (h : Falls a i j) (hp : Pre a a') (hj : j ≤ a.size) :
    Falls a' i j := by
  rcases h with h | ⟨q, b, hw, hi, hb, h⟩
  · exact .inl h
  · refine .inr ⟨q, b, hw.pre hp, hi, getElem?_of_pre hp hb, ?_⟩
    rcases h with h | ⟨h1, h2, h3⟩
    · exact .inl h
    · refine .inr ⟨h1, h2, ?_⟩
      rw [Compile.readBE_congr (a := a) (fun k hk => hp.2 _ (by omega))]
      exact h3

/-- on a stream whose end is reachable the scan of `Bytecode()` does not end with (RETURN, no pending
    jump): the RETURN is appended -/
theorem falls_scan {a : Array UInt8} (hw : Walk a 0 a.size) (hf : Falls a 0 a.size) {l : Nat} {P : List Nat}
    (hs : Compile.scanFn a (a.size + 1) 0 0 [] = some (l, P)) : l ≠ Compile.OpReturn ∨ P ≠ [] := by
  obtain ⟨hpend, hlast⟩ := Compile.scanFn_spec (a := a) (a.size + 1) 0 0 [] l P (.refl 0) hw (by omega)
    (fun q t _ hq _ => absurd hq (Nat.not_lt_zero _)) (.inl rfl) hs
  by_cases hl : l = Compile.OpReturn
  · right
    intro hP
    subst hP
    subst hl
    rcases hf with h0 | ⟨q, b, hwq, _, hb, h⟩
    · rcases hlast with ⟨_, hl0⟩ | ⟨q', b', _, _, _, hq'⟩
      · exact absurd hl0 (by decide)
      · omega
    · rcases h with ⟨hne, hend⟩ | ⟨hj, hq5, hrd⟩
      · rcases hlast with ⟨hz, _⟩ | ⟨q', b', hwq', hb', hbl, hq'⟩
        · omega
        · -- both instructions end at the end of the stream: they are the same one
          rcases Nat.lt_trichotomy q q' with h | rfl | h
          · have := (hwq.next hwq' hb h).le; omega
          · exact hne (Option.some.inj (hb.symm.trans hb') ▸ hbl)
          · have := (hwq'.next hwq hb' h).le; rw [hbl] at this; omega
      · have := hpend q a.size ⟨⟨hwq, by omega⟩, b, hb, hj, hrd⟩ (by omega) (Nat.le_refl _)
        simp at this
  · exact .inl hl

theorem good_run {α} {m : Compile.CM α} (h : Compile.Good m) {cs cs1 : CState} {a : α} (hi : Inv cs)
    (hr : runCM m cs = (.ok a, cs1)) : Inv cs1 ∧ Rel cs cs1 := by
  have h1 := (h cs hi).ok hr
  exact ⟨h1.1, h1.2.1⟩

/-- along the cases of `ExprF`: the seven literals, `paren`, `ident`, `unary`, `binary`, `cond`, the rest -/
theorem okE_of_exprF (σ : String → Option Nat) (e : Expr) : ExprF σ e = true → okE e = true := by
  fun_induction ExprF σ e with
  | case1 | case2 | case3 | case4 | case5 | case6 | case7 | case9 => exact fun _ => rfl
  | case8 _ e ih => simp only [okE]; exact ih
  | case10 _ _ e ih => simp only [okE]; exact ih
  | case11 _ _ l r ihl ihr =>
    simp only [okE, Bool.and_eq_true]
    exact fun h => ⟨ihl h.1, ihr h.2⟩
  | case12 _ c t f ihc iht ihf =>
    simp only [okE, Bool.and_eq_true]
    exact fun h => ⟨⟨ihc h.1.1, iht h.1.2⟩, ihf h.2⟩
  | case13 => exact fun h => nomatch h

theorem good_expr_run {σ : String → Option Nat} {e : Expr} (hF : ExprF σ e = true) {cs cs1 : CState} (hi : Inv cs)
    (hr : runCM (compileExpr e) cs = (.ok (), cs1)) : Inv cs1 ∧ Rel cs cs1 :=
  good_run (Compile.good_compileExpr e (okE_of_exprF σ e hF)) hi hr

theorem inv_fork {s : CState} (hs : Inv s) (tn : Table)
    (h1 : tn.store = []) (h2 : tn.frees = []) (h3 : tn.numParams = 0) (hb : tn.block = true) :
    Inv { s with tables := tn :: s.tables } := by
  refine hs.of_tables (s' := { s with tables := tn :: s.tables }) (by simp) ?_ ?_ rfl rfl
  · exact Compile.chain_fork hs.chain hs.ne tn h1 h2 h3
  · have e : Compile.limsOf ({ s with tables := tn :: s.tables } : CState) = Compile.limsOf s :=
      Compile.limsOf_tables (s := s) (s' := { s with tables := tn :: s.tables }) rfl
        (Compile.fmd_cons_block hb) (Compile.fnf_cons_block hb)
    rw [e]; exact Compile.Lims.le_refl _

/-- code that ends in an emitted instruction other than RETURN -/
theorem fallsJ_emit_last {pos : Pos} {op : Nat} {args : List Int} {csA csB : CState}
    (hw : Walk csA.insts 0 csA.insts.size) (hem : runCM (Compile.emit_ pos op args) csA = (.ok (), csB))
    (hne : op ≠ Compile.OpReturn) (i : Nat) (hi : i ≤ csA.insts.size) :
    FallsJ csB.insts i csB.insts.size := by
  obtain ⟨hop, rest, _, hl, rfl⟩ := emit__inv hem
  have hto := Compile.toNat_ofNat_op hop
  refine ⟨csA.insts.size, UInt8.ofNat op, hw.pre (Compile.Pre.append _ _), hi, ?_, .inl ⟨by rw [hto]; exact hne, ?_⟩⟩
  · simp
  · show csA.insts.size + 1 + opWidth (UInt8.ofNat op).toNat = (csA.insts ++ (UInt8.ofNat op :: rest).toArray).size
    rw [hto]; simp [hl]; omega

theorem good_emit_jump (pos : Pos) (op : Nat) (hop : op < Compile.numOpcodes) (hj : isJumpOp op = true) :
    Compile.Good (Compile.emit pos op [0]) :=
  Compile.good_emit hop ⟨fun _ => rfl, fun h => by subst h; exact absurd hj (by decide), Compile.jumpy_plain (.inl hj)⟩

/-- a jump instruction at a boundary of the stretch that targets the end of the stream -/
theorem FallsJ.of_jump {a : Array UInt8} {i p op : Nat} (hw : Walk a 0 p) (hi : i ≤ p) (hj : Compile.InsAt a p op 4 a.size)
    (hop : isJumpOp op = true) (h5 : p + 5 ≤ a.size) : FallsJ a i a.size :=
  ⟨p, a[p]!, hw, hi, Compile.getElem?_of_lt a (by omega), .inr ⟨by rw [hj.2.1]; exact hop, h5, hj.2.2⟩⟩

/-- the property of the code of a statement / a statement list -/
def FallS (B : List String) (st : Stmt) : Prop :=
  ∀ cs cs' : CState, runCM (compileStmt st) cs = (.ok (), cs') → Cov B (localIdx cs) → CsOK cs → Inv cs →
    fallS st = true → Falls cs'.insts cs.insts.size cs'.insts.size


theorem FallsJ.pre {a a' : Array UInt8} {i j : Nat} (h : FallsJ a i j) (hp : Pre a a') (hj : j ≤ a.size) : FallsJ a' i j := by
  rcases Falls.pre (.inr h) hp hj with rfl | h'
  · obtain ⟨q, b, _, hq, _, h1 | ⟨_, h2, _⟩⟩ := h <;> omega
  · exact h'

/-- What the code of a compile action contributes to "the end of the stream is reachable for the scan":
    `no`: nothing is claimed (`return`); `thru`: the end of the code is reachable if its start is (`Falls`:
    no code at all, or as `ends`); `ends`: the last instruction of the code, or a jump of it, reaches its end
    (`FallsJ`), whatever stands before it — the JUMPFALSY of `if init; c { … }` does, also behind an `init` that returns. -/
inductive FallK | no | thru | ends

def FallK.holds : FallK → Array UInt8 → Nat → Nat → Prop
  | .no, _, _, _ => True
  | .thru, a, i, j => Falls a i j
  | .ends, a, i, j => FallsJ a i j

/-- two pieces of code one after the other -/
def FallK.seq : FallK → FallK → FallK
  | _, .ends => .ends
  | k, .thru => k
  | _, .no => .no

theorem FallK.holds.falls {k : FallK} {a : Array UInt8} {i j : Nat} (h : k.holds a i j) (hk : k ≠ .no) : Falls a i j := by
  cases k with
  | no => exact (hk rfl).elim
  | thru => exact h
  | ends => exact .inr h

theorem FallK.seq_holds {k1 k2 : FallK} {a a' : Array UInt8} {i j l : Nat} (h1 : k1.holds a i j) (h2 : k2.holds a' j l)
    (hp : Pre a a') (hj : j ≤ a.size) (hij : i ≤ j) : (k1.seq k2).holds a' i l := by
  cases k2 with
  | no => trivial
  | ends => exact FallsJ.mono h2 hij
  | thru =>
    rcases h2 with rfl | h2
    · cases k1 with
      | no => trivial
      | thru => exact Falls.pre h1 hp hj
      | ends => exact FallsJ.pre h1 hp hj
    · cases k1 with
      | no => trivial
      | thru => exact .inr (h2.mono hij)
      | ends => exact h2.mono hij

/-! ### the judgement about a compile action -/

/-- `GoodC`, and from a compiler state with instruction boundaries (`Inv`) what `k` says of the emitted stretch -/
def GoodCF (F : FloatOps) (B B' : List String) (nd : Nat) (act : Compile.CM Unit)
    (sem : Nat → Sem.Env → Sem.SM (Sem.Comp × Sem.Env)) (k : FallK) : Prop :=
  ∀ cs cs' : CState, runCM act cs = (.ok (), cs') → Cov B (localIdx cs) → CsOK cs →
    (StEff cs cs' ∧ CsOK cs' ∧ Cov B' (localIdx cs') ∧ ∀ fuel, SimRun F nd cs cs' (sem fuel)) ∧
    (Inv cs → k.holds cs'.insts cs.insts.size cs'.insts.size)

/-- … for an action that moreover leaves the symbol tables as they were (up to `maxDefinition`): blocks -/
def GoodBF (F : FloatOps) (B : List String) (nd : Nat) (act : Compile.CM Unit)
    (sem : Nat → Sem.Env → Sem.SM (Sem.Comp × Sem.Env)) (k : FallK) : Prop :=
  ∀ cs cs' : CState, runCM act cs = (.ok (), cs') → Cov B (localIdx cs) → CsOK cs →
    (StEff cs cs' ∧ CsOK cs' ∧ Tl cs.tables cs'.tables ∧ ∀ fuel, SimRun F nd cs cs' (sem fuel)) ∧
    (Inv cs → k.holds cs'.insts cs.insts.size cs'.insts.size)

section
variable {F : FloatOps} {B B' : List String} {nd nd' : Nat} {act : Compile.CM Unit}
  {sem sem' : Nat → Sem.Env → Sem.SM (Sem.Comp × Sem.Env)} {k : FallK}

theorem GoodCF.toC (h : GoodCF F B B' nd act sem k) : GoodC F B B' nd act sem :=
  fun cs cs' hc hcov hok => (h cs cs' hc hcov hok).1

theorem GoodCF.toFallS {st : Stmt} (h : GoodCF F B B' nd (compileStmt st) sem k) (hk : fallS st = true → k ≠ .no) :
    FallS B st :=
  fun cs cs' hc hcov hok hinv hf => ((h cs cs' hc hcov hok).2 hinv).falls (hk hf)

theorem GoodBF.toCF (h : GoodBF F B nd act sem k) : GoodCF F B B nd act sem k := by
  intro cs cs' hc hcov hok
  obtain ⟨⟨h1, h2, h3, h4⟩, h5⟩ := h cs cs' hc hcov hok
  exact ⟨⟨h1, h2, by rw [localIdx_of_tl h3]; exact hcov, h4⟩, h5⟩

theorem GoodCF.mono (h : GoodCF F B B' nd act sem k) (hle : nd ≤ nd') : GoodCF F B B' nd' act sem k := by
  intro cs cs' hc hcov hok
  obtain ⟨⟨h1, h2, h3, h4⟩, h5⟩ := h cs cs' hc hcov hok
  exact ⟨⟨h1, h2, h3, fun fuel => (h4 fuel).mono hle⟩, h5⟩

theorem GoodBF.mono (h : GoodBF F B nd act sem k) (hle : nd ≤ nd') : GoodBF F B nd' act sem k := by
  intro cs cs' hc hcov hok
  obtain ⟨⟨h1, h2, h3, h4⟩, h5⟩ := h cs cs' hc hcov hok
  exact ⟨⟨h1, h2, h3, fun fuel => (h4 fuel).mono hle⟩, h5⟩

/-- the same code against another presentation of the same reference computation -/
theorem GoodCF.resem (h : GoodCF F B B' nd act sem k)
    (hrun : ∀ fuel env ss t r ss' t', exec ((sem' fuel env).run ss) t = (.ok (r, ss'), t') →
      ∃ fuel', exec ((sem fuel' env).run ss) t = (.ok (r, ss'), t')) : GoodCF F B B' nd act sem' k := by
  intro cs cs' hc hcov hok
  obtain ⟨⟨h1, h2, h3, h4⟩, h5⟩ := h cs cs' hc hcov hok
  exact ⟨⟨h1, h2, h3, SimRun.resem h4 hrun⟩, h5⟩

theorem GoodBF.resem (h : GoodBF F B nd act sem k)
    (hrun : ∀ fuel env ss t r ss' t', exec ((sem' fuel env).run ss) t = (.ok (r, ss'), t') →
      ∃ fuel', exec ((sem fuel' env).run ss) t = (.ok (r, ss'), t')) : GoodBF F B nd act sem' k := by
  intro cs cs' hc hcov hok
  obtain ⟨⟨h1, h2, h3, h4⟩, h5⟩ := h cs cs' hc hcov hok
  exact ⟨⟨h1, h2, h3, SimRun.resem h4 hrun⟩, h5⟩

end

end UgoVerif.CompSim

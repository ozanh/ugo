import UgoVerif.Spec.Sem
import UgoVerif.Model.Compile
import UgoVerif.Proofs.VMExec
/-
  `ExprF σ e`: `e` is built from literals, parentheses, unary and binary operators, `&&`/`||`,
  `?:` and identifiers that the symbol environment `σ` (name ↦ local slot) knows.
  `evalF` is `Sem.evalExpr` written for this fragment directly in the VM model's monad `M`:
  the reference interpreter threads a `SemSt` that the fragment never reads or writes
  (`evalExpr_eq_evalF`).  The simulation proof (Proofs/CompSimExpr) works with `evalF`; the
  property theorems in Props/C02 are stated for `Sem.evalExpr`.
-/
namespace UgoVerif.CompSim
open UgoVerif UgoVerif.Go UgoVerif.Ast UgoVerif.VM UgoVerif.Proofs.ModCache UgoVerif.Proofs.VMExec

def ExprF (σ : String → Option Nat) : Expr → Bool
  | .int .. | .uint .. | .float .. | .char .. | .bool .. | .str .. | .undef _ => true
  | .paren _ e => ExprF σ e
  | .ident _ n => (σ n).isSome
  | .unary _ _ e => ExprF σ e
  | .binary _ _ l r => ExprF σ l && ExprF σ r
  | .cond _ c t f => ExprF σ c && ExprF σ t && ExprF σ f
  | _ => false

/-- stack slots the code of an expression of the fragment uses above the current `sp` -/
def need : Expr → Nat
  | .paren _ e => need e
  | .unary _ _ e => need e
  | .binary _ _ l r => max (need l) (need r + 1)
  | .cond _ c t f => max (need c) (max (need t) (need f))
  | _ => 1

theorem need_pos (e : Expr) : 1 ≤ need e := by
  fun_induction need e with
  | case1 _ e ih => exact ih
  | case2 _ _ e ih => exact ih
  | case3 _ _ l r ihl ihr => omega
  | case4 _ c t f ihc iht ihf => omega
  | case5 => exact Nat.le_refl 1

/-- the right operand runs above the value of the left one -/
theorem need_binary {b : Nat} {pos : Pos} {tok : Nat} {l r : Expr} (h : b + need (.binary pos tok l r) ≤ 2048) :
    b + need l ≤ 2048 ∧ b + 1 + need r ≤ 2048 ∧ b + 1 < 2048 := by
  have := need_pos r
  simp only [need] at h
  omega

theorem need_cond {b : Nat} {pos : Pos} {c t f : Expr} (h : b + need (.cond pos c t f) ≤ 2048) :
    b + need c ≤ 2048 ∧ b + need t ≤ 2048 ∧ b + need f ≤ 2048 ∧ b < 2048 := by
  have := need_pos c
  simp only [need] at h
  omega

def raiseF (e : OpErr) : M Sem.ER := do
  let a ← rtErrOfOpErr e
  pure (.thr a)

def readBoxF (a : Addr) : M V := do
  match (← heapGet a) with
  | .box v => pure v
  | _ => unsupported "sem: not a box"

def evalF (F : FloatOps) : Nat → Sem.Env → Expr → M Sem.ER
  | 0, _, _ => unsupported "sem: fuel"
  | fuel+1, env, e =>
    match e with
    | .int _ v => pure (.val (.int v))
    | .uint _ v => pure (.val (.uint v))
    | .float _ v => pure (.val (.float v))
    | .char _ v => pure (.val (.char v))
    | .bool _ b => pure (.val (.bool b))
    | .str _ s => pure (.val (.str s))
    | .undef _ => pure (.val .undefined)
    | .paren _ e => evalF F fuel env e
    | .ident _ name =>
      match Sem.lookupEnv name env with
      | some a => do pure (.val (← readBoxF a))
      | none => unsupported "fragment: unbound identifier"
    | .unary _ tok x => do
      match (← evalF F fuel env x) with
      | .thr e => pure (.thr e)
      | .val v =>
        match (← vUnary F (tokOfNat tok) v) with
        | .ok v' => pure (.val v')
        | .error e => raiseF e
    | .binary _ tok l r => do
      match (← evalF F fuel env l) with
      | .thr e => pure (.thr e)
      | .val lv =>
        if tok == tLAnd then
          if (← isFalsy lv) then pure (.val lv) else evalF F fuel env r
        else if tok == tLOr then
          if (← isFalsy lv) then evalF F fuel env r else pure (.val lv)
        else
          match (← evalF F fuel env r) with
          | .thr e => pure (.thr e)
          | .val rv =>
            if tok == tEqual then pure (.val (.bool (← vEqual F lv rv)))
            else if tok == tNotEqual then pure (.val (.bool (!(← vEqual F lv rv))))
            else
              match (← vBinaryOp F (tokOfNat tok) lv rv) with
              | .ok v => pure (.val v)
              | .error e => raiseF e
    | .cond _ c t f => do
      match (← evalF F fuel env c) with
      | .thr e => pure (.thr e)
      | .val cv => if (← isFalsy cv) then evalF F fuel env f else evalF F fuel env t
    | _ => unsupported "fragment: expression form"

def withSt {α} (ss : Sem.SemSt) (m : M α) : M (α × Sem.SemSt) := do let a ← m; pure (a, ss)

theorem run_liftM {α} (m : M α) (ss : Sem.SemSt) : (Sem.liftM m).run ss = withSt ss m := rfl

theorem run_pure {α} (a : α) (ss : Sem.SemSt) : (pure a : Sem.SM α).run ss = withSt ss (pure a) := by
  simp [withSt]

theorem run_bind_withSt {α β} (x : Sem.SM α) (m : M α) (f : α → Sem.SM β) (ss : Sem.SemSt)
    (h : x.run ss = withSt ss m) : (x >>= f).run ss = (do let a ← m; (f a).run ss) := by
  rw [StateT.run_bind, h]
  simp [withSt]

theorem withSt_bind {α β} (m : M α) (f : α → M β) (ss : Sem.SemSt) :
    withSt ss (m >>= f) = (do let a ← m; withSt ss (f a)) := by
  simp [withSt]

theorem run_ite {α} {c : Prop} [Decidable c] {x y : Sem.SM α} {x' y' : M α} {ss : Sem.SemSt}
    (hx : x.run ss = withSt ss x') (hy : y.run ss = withSt ss y') :
    (if c then x else y).run ss = withSt ss (if c then x' else y') := by
  split <;> assumption

theorem run_falsy {v : V} {x y : Sem.SM Sem.ER} {x' y' : M Sem.ER} {ss : Sem.SemSt}
    (hx : x.run ss = withSt ss x') (hy : y.run ss = withSt ss y') :
    (do if (← Sem.liftM (isFalsy v)) then x else y : Sem.SM Sem.ER).run ss = withSt ss (do if (← isFalsy v) then x' else y') := by
  rw [run_bind_withSt _ _ _ _ (run_liftM _ _), withSt_bind]
  congr 1; funext b
  cases b <;> simp [hx, hy]

theorem run_raise (e : OpErr) (ss : Sem.SemSt) : (Sem.raise e).run ss = withSt ss (raiseF e) := by
  unfold Sem.raise raiseF
  rw [run_bind_withSt _ _ _ _ (run_liftM _ _), withSt_bind]
  simp [withSt]

theorem run_readBox (a : Addr) (ss : Sem.SemSt) : (Sem.readBox a).run ss = withSt ss (readBoxF a) := by
  unfold Sem.readBox readBoxF
  rw [run_bind_withSt _ _ _ _ (run_liftM _ _), withSt_bind]
  congr 1; funext c
  cases c <;> simp [withSt, run_liftM]

theorem evalExpr_eq_evalF (F : FloatOps) (σ : String → Option Nat) (env : Sem.Env)
    (henv : ∀ n, (σ n).isSome → (Sem.lookupEnv n env).isSome) :
    ∀ (fuel : Nat) (e : Expr), ExprF σ e = true → ∀ ss : Sem.SemSt,
      (Sem.evalExpr F fuel env e).run ss = withSt ss (evalF F fuel env e) := by
  intro fuel
  induction fuel with
  | zero =>
    intro e _ ss
    cases e <;> (rw [Sem.evalExpr]; simp only [evalF]; rw [run_liftM])
  | succ fuel ih =>
    intro e hF ss
    cases e with
    | int p v => rw [Sem.evalExpr]; simp only [evalF]; exact run_pure _ _
    | uint p v => rw [Sem.evalExpr]; simp only [evalF]; exact run_pure _ _
    | float p v => rw [Sem.evalExpr]; simp only [evalF]; exact run_pure _ _
    | char p v => rw [Sem.evalExpr]; simp only [evalF]; exact run_pure _ _
    | bool p v => rw [Sem.evalExpr]; simp only [evalF]; exact run_pure _ _
    | str p v => rw [Sem.evalExpr]; simp only [evalF]; exact run_pure _ _
    | undef p => rw [Sem.evalExpr]; simp only [evalF]; exact run_pure _ _
    | paren p e =>
      rw [Sem.evalExpr]; simp only [evalF]
      exact ih e (by simpa [ExprF] using hF) ss
    | ident p name =>
      rw [Sem.evalExpr]; simp only [evalF]
      have := henv name (by simpa [ExprF] using hF)
      cases hl : Sem.lookupEnv name env with
      | none => simp [hl] at this
      | some a =>
        simp only []
        rw [run_bind_withSt _ _ _ _ (run_readBox _ _), withSt_bind]
        simp [withSt]
    | unary p tok x =>
      rw [Sem.evalExpr]; simp only [evalF]
      rw [run_bind_withSt _ _ _ _ (ih x (by simpa [ExprF] using hF) ss), withSt_bind]
      congr 1; funext r
      cases r with
      | thr a => simp [withSt]
      | val v =>
        simp only []
        rw [run_bind_withSt _ _ _ _ (run_liftM _ _), withSt_bind]
        congr 1; funext r
        cases r <;> simp [withSt, run_raise]
    | binary p tok l r =>
      simp only [ExprF, Bool.and_eq_true] at hF
      rw [Sem.evalExpr]; simp only [evalF]
      rw [run_bind_withSt _ _ _ _ (ih l hF.1 ss), withSt_bind]
      congr 1; funext r1
      cases r1 with
      | thr a => simp [withSt]
      | val lv =>
        simp only []
        refine run_ite (run_falsy (run_pure _ _) (ih r hF.2 ss)) (run_ite (run_falsy (ih r hF.2 ss) (run_pure _ _)) ?_)
        rw [run_bind_withSt _ _ _ _ (ih r hF.2 ss), withSt_bind]
        congr 1; funext r2
        cases r2 with
        | thr a => simp [withSt]
        | val rv =>
          simp only []
          refine run_ite ?_ (run_ite ?_ ?_)
          · rw [run_bind_withSt _ _ _ _ (run_liftM _ _), withSt_bind]
            simp [withSt]
          · rw [run_bind_withSt _ _ _ _ (run_liftM _ _), withSt_bind]
            simp [withSt]
          · rw [run_bind_withSt _ _ _ _ (run_liftM _ _), withSt_bind]
            congr 1; funext r3
            cases r3 <;> simp [withSt, run_raise]
    | cond p c t f =>
      simp only [ExprF, Bool.and_eq_true] at hF
      rw [Sem.evalExpr]; simp only [evalF]
      rw [run_bind_withSt _ _ _ _ (ih c hF.1.1 ss), withSt_bind]
      congr 1; funext r1
      cases r1 with
      | thr a => simp [withSt]
      | val cv => exact run_falsy (ih f hF.2 ss) (ih t hF.1.2 ss)
    | _ => simp [ExprF] at hF

end UgoVerif.CompSim

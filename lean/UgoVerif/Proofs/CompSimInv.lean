import UgoVerif.Proofs.CompSimExpr
import UgoVerif.Proofs.CompSimTab
/-
  C02, compile ⊑ Sem, statement slice — the fragment `StmtF`, the relation between a VM state and
  a state of the reference semantics, and the statement of the simulation.

  * `HeapRel s t`: the reference heap `t.heap` is the VM heap `s.heap` followed by variable boxes
    (the reference semantics allocates one box per executed declaration, the VM keeps uncaptured
    locals in stack slots; the fragment allocates nothing else until an error is thrown).
  * `Static σ N env binds` / `Dyn binds t s bp`: `binds` lists the (slot, box address) pairs of the
    variables in scope (also the shadowed ones).  Every name the compiler resolves to slot `i`
    (`σ = localIdx cs`) is bound in `env` to a box `a` with `(i, a) ∈ binds`; slots are below
    `N = nextIndex`; distinct pairs have distinct slots and distinct boxes; box `a` lies behind the
    VM heap and holds the scalar that stack slot `bp + i` holds.
  * `OutS`: what the VM does when the reference semantics completes with `normal` / `ret v` / `thr a`.
-/
namespace UgoVerif.CompSim
open UgoVerif UgoVerif.Go UgoVerif.Ast UgoVerif.VM UgoVerif.Proofs.ModCache UgoVerif.Proofs.VMExec
open UgoVerif.Compile (CState runCM IsPre Pre Table nextIndex)

/-! ### the statement fragment -/

/-- the symbol environment "the names of `B` are known" (only `isSome` matters to `ExprF`) -/
def bnd (B : List String) : String → Option Nat := fun n => if B.contains n then some 0 else none

def isBoolLit : Expr → Bool
  | .bool .. => true
  | _ => false

/-- the condition of an `if` is the literal `true` (the compiler then emits the body only) -/
def isTrueLit : Expr → Bool
  | .bool _ true => true
  | _ => false

/-- the condition of an `if` is the literal `false` (the compiler then emits a JUMP and the else part only) -/
def isFalseLit : Expr → Bool
  | .bool _ false => true
  | _ => false

/-- conditions of `if`: the literals `true` / `false`, or an expression of the fragment that is not a boolean literal -/
def condF (B : List String) (c : Expr) : Bool := isTrueLit c || isFalseLit c || (ExprF (bnd B) c && !isBoolLit c)

/-- one specification of a `var` declaration -/
abbrev Spec := Option Nat × List (Pos × String) × List (Option Expr)

def specF (B : List String) : Spec → Bool
  | (_, [(_, x)], [some e]) => ExprF (bnd B) e && x != "_"
  | (_, [(_, x)], []) => x != "_"
  | _ => false

def defsSpec (B : List String) : Spec → List String
  | (_, [(_, x)], _) => x :: B
  | _ => B

def specsF : List String → List Spec → Bool
  | _, [] => true
  | B, sp :: r => specF B sp && specsF (defsSpec B sp) r

def defsSpecs : List String → List Spec → List String
  | B, [] => B
  | B, sp :: r => defsSpecs (defsSpec B sp) r

def needSpec : Spec → Nat
  | (_, _, [some e]) => need e + 1
  | _ => 2

def needSpecs : List Spec → Nat
  | [] => 0
  | sp :: r => max (needSpec sp) (needSpecs r)

/-- `var` declarations of the slice: a non-empty group of specifications, each with one name, with a value or without -/
def declF (B : List String) (tok : Nat) (specs : List Spec) : Bool := tok == tVar && !specs.isEmpty && specsF B specs

/-- the names in scope behind a statement -/
def defsOf (B : List String) : Stmt → List String
  | .assign _ tok [.ident _ x] _ => if tok == tDefine then x :: B else B
  | .declValue _ _ specs => defsSpecs B specs
  | _ => B

/-- `x++` / `x--` on a name in scope -/
def incF (B : List String) : Expr → Bool
  | .ident _ x => B.contains x
  | _ => false

mutual
/-- statements of the slice: `e;`, `x := e`, `var x = e`, `var x`, `var ( … )` groups of them, `x = e`, `x op= e`, `x++`, `x--` (uncaptured locals),
    blocks, `if c { … }`, `if c { … } else { … }`, `else if` (also with the literal `true` as condition), `if init; c { … }` (init a statement of the slice), `return`,
    `return e`, the empty statement -/
def StmtF : List String → Stmt → Bool
  | _, .empty _ => true
  | B, .expr _ e => ExprF (bnd B) e
  | B, .incdec _ _ _ e => incF B e
  | B, .assign _ tok [.ident _ x] [r] =>
      ExprF (bnd B) r &&
      (if tok == tDefine then x != "_"
       else if tok == tAssign then B.contains x
       else (Compile.compoundOp tok).isSome && B.contains x)
  | B, .declValue _ tok specs => declF B tok specs
  | B, .block _ body => StmtsF B body
  | B, .if_ _ none c _ body none => condF B c && StmtsF B body
  | B, .if_ _ none c _ body (some e) => condF B c && StmtsF B body && ElseF B e
  | B, .if_ _ (some i) c _ body none =>
      StmtF B i && (ExprF (bnd (defsOf B i)) c && !isBoolLit c) && StmtsF (defsOf B i) body
  | B, .if_ _ (some i) c _ body (some e) =>
      StmtF B i && (ExprF (bnd (defsOf B i)) c && !isBoolLit c) && StmtsF (defsOf B i) body && ElseF (defsOf B i) e
  | _, .return_ _ none => true
  | B, .return_ _ (some e) => ExprF (bnd B) e
  | _, _ => false
/-- what may follow `else`: a block or another `if` -/
def ElseF : List String → Stmt → Bool
  | B, .block _ body => StmtsF B body
  | B, .if_ _ none c _ body none => condF B c && StmtsF B body
  | B, .if_ _ none c _ body (some e) => condF B c && StmtsF B body && ElseF B e
  | _, _ => false
def StmtsF : List String → List Stmt → Bool
  | _, [] => true
  | B, s :: r => StmtF B s && StmtsF (defsOf B s) r
end

def defsL : List String → List Stmt → List String
  | B, [] => B
  | B, s :: r => defsL (defsOf B s) r

mutual
/-- stack slots the code of a statement uses above `sp` -/
def needS : Stmt → Nat
  | .expr _ e => need e
  | .assign _ _ _ [r] => need r + 1
  | .declValue _ _ specs => needSpecs specs
  | .incdec _ _ _ _ => 2
  | .block _ body => needL body
  | .if_ _ (some i) c _ body none => max (needS i) (max (need c) (needL body))
  | .if_ _ (some i) c _ body (some e) => max (needS i) (max (need c) (max (needL body) (needS e)))
  | .if_ _ _ c _ body none => max (need c) (needL body)
  | .if_ _ _ c _ body (some e) => max (need c) (max (needL body) (needS e))
  | .return_ _ (some e) => need e
  | _ => 0
def needL : List Stmt → Nat
  | [] => 0
  | s :: r => max (needS s) (needL r)
end

mutual
/-- over-approximation of "the statement may complete normally" that the code generator agrees
    with: `return` never does, a block does when its list does, `if true { … }` (only the body is compiled)
    does when the body does, everything else may -/
def fallS : Stmt → Bool
  | .return_ _ _ => false
  | .block _ body => fallL body
  | .if_ _ _ c _ body _ => !isTrueLit c || fallL body
  | _ => true
def fallL : List Stmt → Bool
  | [] => true
  | s :: r => fallS s && fallL r
end

theorem fallS_block (pos : Pos) (body : List Stmt) : fallS (.block pos body) = fallL body := by
  first | rfl | simp [fallS]
theorem fallS_return (pos : Pos) (e : Option Expr) : fallS (.return_ pos e) = false := by
  first | rfl | simp [fallS]
theorem fallS_if (pos : Pos) (init : Option Stmt) (c : Expr) (bp : Pos) (body : List Stmt) (els : Option Stmt) :
    fallS (.if_ pos init c bp body els) = (!isTrueLit c || fallL body) := by
  first | rfl | simp [fallS]
theorem fallL_nil : fallL [] = true := by first | rfl | simp [fallL]
theorem fallL_cons (s : Stmt) (r : List Stmt) : fallL (s :: r) = (fallS s && fallL r) := by
  first | rfl | simp [fallL]

/-- every name of `B` resolves to a local slot -/
def Cov (B : List String) (σ : String → Option Nat) : Prop := ∀ n, n ∈ B → (σ n).isSome

/-- along the cases of `ExprF`: the seven literals, `paren`, `ident`, `unary`, `binary`, `cond`, the rest -/
theorem exprF_mono {σ σ' : String → Option Nat} (h : ∀ n, (σ n).isSome → (σ' n).isSome) (e : Expr) :
    ExprF σ e = true → ExprF σ' e = true := by
  fun_induction ExprF σ e with
  | case1 | case2 | case3 | case4 | case5 | case6 | case7 => exact fun _ => rfl
  | case8 _ e ih => simp only [ExprF]; exact ih
  | case9 _ n => simp only [ExprF]; exact h n
  | case10 _ _ e ih => simp only [ExprF]; exact ih
  | case11 _ _ l r ihl ihr =>
    simp only [ExprF, Bool.and_eq_true]
    exact fun h => ⟨ihl h.1, ihr h.2⟩
  | case12 _ c t f ihc iht ihf =>
    simp only [ExprF, Bool.and_eq_true]
    exact fun h => ⟨⟨ihc h.1.1, iht h.1.2⟩, ihf h.2⟩
  | case13 => exact fun h => nomatch h

theorem exprF_of_cov {B : List String} {σ : String → Option Nat} (hc : Cov B σ) {e : Expr} (h : ExprF (bnd B) e = true) :
    ExprF σ e = true := by
  refine exprF_mono ?_ e h
  intro n hn
  apply hc
  unfold bnd at hn
  split at hn
  · rename_i hb; simpa using hb
  · simp at hn

theorem Cov.cons {B : List String} {σ σ' : String → Option Nat} {x : String} (hc : Cov B σ)
    (hx : (σ' x).isSome) (hne : ∀ m, m ≠ x → σ' m = σ m) : Cov (x :: B) σ' := by
  intro n hn
  by_cases h : n = x
  · subst h; exact hx
  · rw [hne n h]
    exact hc n (by simpa [h] using hn)

/-! ### runs in the reference semantics' monad -/

theorem sm_bind_inv {α β} {x : Sem.SM α} {f : α → Sem.SM β} {ss ss' : Sem.SemSt} {t t' : State} {b : β}
    (h : exec ((x >>= f).run ss) t = (.ok (b, ss'), t')) :
    ∃ a ss1 t1, exec (x.run ss) t = (.ok (a, ss1), t1) ∧ exec ((f a).run ss1) t1 = (.ok (b, ss'), t') := by
  rw [StateT.run_bind] at h
  obtain ⟨⟨a, ss1⟩, t1, h1, h2⟩ := exec_bind_inv h
  exact ⟨a, ss1, t1, h1, h2⟩

theorem sm_pure_inv {α} {a b : α} {ss ss' : Sem.SemSt} {t t' : State}
    (h : exec ((pure a : Sem.SM α).run ss) t = (.ok (b, ss'), t')) : a = b ∧ ss = ss' ∧ t = t' := by
  rw [run_pure] at h
  unfold withSt at h
  obtain ⟨x, t1, h1, h2⟩ := exec_bind_inv h
  obtain ⟨rfl, rfl⟩ := exec_pure_inv h1
  obtain ⟨h3, rfl⟩ := exec_pure_inv h2
  simp only [Prod.mk.injEq] at h3
  exact ⟨h3.1.symm, h3.2.symm, rfl⟩

/-- `pure` of a pair, as the statements of the reference semantics end -/
theorem sm_pure_pair {α β} {a a' : α} {b b' : β} {ss ss' : Sem.SemSt} {t t' : State}
    (h : exec ((pure (a, b) : Sem.SM (α × β)).run ss) t = (.ok ((a', b'), ss'), t')) :
    ss = ss' ∧ t = t' ∧ a = a' ∧ b = b' := by
  obtain ⟨hce, h1, h2⟩ := sm_pure_inv h
  simp only [Prod.mk.injEq] at hce
  exact ⟨h1, h2, hce.1, hce.2⟩

/-! the converse: the first step of building a run -/

theorem sm_bind_run {α β} {x : Sem.SM α} {f : α → Sem.SM β} {ss ss1 : Sem.SemSt} {t t1 : State} {a : α}
    (h : exec (x.run ss) t = (.ok (a, ss1), t1)) : exec ((x >>= f).run ss) t = exec ((f a).run ss1) t1 := by
  rw [StateT.run_bind, exec_bind, h]

theorem withSt_inv {α} {m : M α} {a : α} {ss ss' : Sem.SemSt} {t t' : State}
    (h : exec (withSt ss m) t = (.ok (a, ss'), t')) : ss = ss' ∧ exec m t = (.ok a, t') := by
  unfold withSt at h
  obtain ⟨x, t1, h1, h2⟩ := exec_bind_inv h
  obtain ⟨h3, rfl⟩ := exec_pure_inv h2
  simp only [Prod.mk.injEq] at h3
  obtain ⟨rfl, rfl⟩ := h3
  exact ⟨rfl, h1⟩

theorem sm_liftM_inv {α} {m : M α} {a : α} {ss ss' : Sem.SemSt} {t t' : State}
    (h : exec ((Sem.liftM m).run ss) t = (.ok (a, ss'), t')) : ss = ss' ∧ exec m t = (.ok a, t') := by
  rw [run_liftM] at h
  exact withSt_inv h

theorem sm_unsupported_ne {α} {msg : String} {a : α} {ss ss' : Sem.SemSt} {t t' : State}
    (h : exec ((Sem.liftM (VM.unsupported msg : M α)).run ss) t = (.ok (a, ss'), t')) : False := by
  obtain ⟨_, h⟩ := sm_liftM_inv h
  have : exec (VM.unsupported msg : M α) t = (.error (.unsupported msg), t) := rfl
  rw [this] at h
  simp at h

/-! ### environments of the reference semantics -/

theorem lookupEnv_nil_cons (n : String) (env : Sem.Env) : Sem.lookupEnv n ([] :: env) = Sem.lookupEnv n env := by
  simp [Sem.lookupEnv]

theorem find_filter_ne (x m : String) (h : m ≠ x) : ∀ sc : List (String × Addr),
    (sc.filter (fun p => p.1 != x)).find? (fun p => p.1 == m) = sc.find? (fun p => p.1 == m)
  | [] => rfl
  | p :: r => by
    simp only [List.filter]
    cases hp : (p.1 != x) with
    | true =>
      simp only [List.find?]
      cases hm : (p.1 == m) with
      | true => rfl
      | false => exact find_filter_ne x m h r
    | false =>
      have hpx : p.1 = x := by simpa using hp
      have : (p.1 == m) = false := by simpa [hpx] using fun e => h e.symm
      simp only [List.find?, this]
      exact find_filter_ne x m h r

/-- `declare`: a fresh box at the end of the heap; the other names keep their boxes -/
theorem declare_inv {env env' : Sem.Env} {x : String} {v : V} {ss ss' : Sem.SemSt} {t t' : State}
    (h : exec ((Sem.declare env x v).run ss) t = (.ok (env', ss'), t')) :
    ss = ss' ∧ t' = { t with heap := t.heap.push (.box v) } ∧ Sem.lookupEnv x env' = some t.heap.size ∧
    ∀ m, m ≠ x → Sem.lookupEnv m env' = Sem.lookupEnv m env := by
  unfold Sem.declare at h
  obtain ⟨a, ss1, t1, h1, h2⟩ := sm_bind_inv h
  obtain ⟨rfl, h1a⟩ := sm_liftM_inv h1
  rw [exec_alloc] at h1a
  simp only [Prod.mk.injEq, Except.ok.injEq] at h1a
  obtain ⟨rfl, rfl⟩ := h1a
  cases env with
  | nil =>
    obtain ⟨rfl, rfl, rfl⟩ := sm_pure_inv h2
    refine ⟨rfl, rfl, by simp [Sem.lookupEnv], ?_⟩
    intro m hm
    have : (x == m) = false := by simpa using fun e => hm e.symm
    simp [Sem.lookupEnv, this]
  | cons sc rest =>
    obtain ⟨rfl, rfl, rfl⟩ := sm_pure_inv h2
    refine ⟨rfl, rfl, by simp [Sem.lookupEnv], ?_⟩
    intro m hm
    have : (x == m) = false := by simpa using fun e => hm e.symm
    simp only [Sem.lookupEnv, List.find?, this]
    rw [find_filter_ne x m hm sc]

/-! ### the relation between the two states -/

/-- the reference heap is the VM heap followed by variable boxes -/
structure HeapRel (s t : State) : Prop where
  le : s.heap.size ≤ t.heap.size
  pre : ∀ a, a < s.heap.size → t.heap[a]? = s.heap[a]?
  box : ∀ a, s.heap.size ≤ a → a < t.heap.size → ∃ v, t.heap[a]? = some (.box v)

theorem HeapRel.of_eq {s s' t : State} (h : HeapRel s t) (hh : s'.heap = s.heap) : HeapRel s' t :=
  ⟨by rw [hh]; exact h.le, by rw [hh]; exact h.pre, by rw [hh]; exact h.box⟩

/-- a box appended on the reference side -/
theorem HeapRel.push {s t : State} (h : HeapRel s t) (v : V) : HeapRel s { t with heap := t.heap.push (.box v) } := by
  refine ⟨by simp; have := h.le; omega, ?_, ?_⟩
  · intro a ha
    have := h.le
    show (t.heap.push _)[a]? = _
    rw [Array.getElem?_push_lt (by omega)]
    rw [← h.pre a ha, Array.getElem?_eq_getElem (by omega)]
  · intro a h1 h2
    simp only [Array.size_push] at h2
    show ∃ w, (t.heap.push _)[a]? = _
    by_cases hlt : a < t.heap.size
    · rw [Array.getElem?_push_lt hlt]
      obtain ⟨w, hw⟩ := h.box a h1 hlt
      exact ⟨w, by rw [← hw, Array.getElem?_eq_getElem hlt]⟩
    · have : a = t.heap.size := by omega
      subst this
      exact ⟨v, by simp⟩

theorem set!_getElem?_ne {α} (a : Array α) (i j : Nat) (v : α) (h : i ≠ j) : (a.set! i v)[j]? = a[j]? := by
  simp [Array.set!, h]

theorem set!_getElem?_eq {α} (a : Array α) (i : Nat) (v : α) (h : i < a.size) : (a.set! i v)[i]? = some v := by
  simp [Array.set!, h]

/-- a box overwritten on the reference side, behind the VM heap -/
theorem HeapRel.set {s t : State} (h : HeapRel s t) (a : Addr) (v : V) (ha : s.heap.size ≤ a) :
    HeapRel s { t with heap := t.heap.set! a (.box v) } := by
  refine ⟨by simp; exact h.le, ?_, ?_⟩
  · intro b hb
    show (t.heap.set! a _)[b]? = _
    rw [set!_getElem?_ne _ _ _ _ (by omega)]
    exact h.pre b hb
  · intro b h1 h2
    simp only [Array.size_set!] at h2
    show ∃ w, (t.heap.set! a _)[b]? = _
    by_cases hab : a = b
    · subst hab
      exact ⟨v, set!_getElem?_eq _ _ _ h2⟩
    · rw [set!_getElem?_ne _ _ _ _ hab]
      exact h.box b h1 h2

/-- the compile-time part of the invariant -/
structure Static (σ : String → Option Nat) (N : Nat) (env : Sem.Env) (binds : List (Nat × Addr)) : Prop where
  look : ∀ n i, σ n = some i → ∃ a, Sem.lookupEnv n env = some a ∧ (i, a) ∈ binds
  lt : ∀ i a, (i, a) ∈ binds → i < N
  inj : binds.Pairwise (fun p q => p.1 ≠ q.1 ∧ p.2 ≠ q.2)

/-- the run-time part: every pair of `binds` relates a box behind the VM heap to a stack slot -/
structure Dyn (binds : List (Nat × Addr)) (t s : State) (bp : Nat) : Prop where
  cell : ∀ i a, (i, a) ∈ binds → s.heap.size ≤ a ∧ ∃ v, t.heap[a]? = some (.box v) ∧ s.stack[bp + i]! = v ∧ Scalar v
  rel : HeapRel s t

theorem locals_of {σ : String → Option Nat} {N : Nat} {env : Sem.Env} {binds : List (Nat × Addr)} {t s : State} {bp L : Nat}
    (hs : Static σ N env binds) (hd : Dyn binds t s bp) (hN : N ≤ L) : LocalsOK σ env t s bp (bp + L) := by
  intro n i hi
  obtain ⟨a, hl, hm⟩ := hs.look n i hi
  obtain ⟨_, v, h1, h2, h3⟩ := hd.cell i a hm
  have := hs.lt i a hm
  exact ⟨a, v, hl, h1, by omega, h2, h3⟩

theorem Dyn.sub {binds binds' : List (Nat × Addr)} {t s : State} {bp : Nat} (h : Dyn binds' t s bp)
    (hsub : ∀ p, p ∈ binds → p ∈ binds') : Dyn binds t s bp :=
  ⟨fun i a hm => h.cell i a (hsub _ hm), h.rel⟩

/-- the VM moved on, keeping its heap and the local slots -/
theorem Dyn.carry {binds : List (Nat × Addr)} {t s s' : State} {bp L N : Nat} (h : Dyn binds t s bp)
    (hlt : ∀ i a, (i, a) ∈ binds → i < N) (hN : N ≤ L) (hh : s'.heap = s.heap)
    (hst : ∀ j, bp ≤ j → j < bp + L → s'.stack[j]! = s.stack[j]!) : Dyn binds t s' bp := by
  refine ⟨?_, h.rel.of_eq hh⟩
  intro i a hm
  obtain ⟨h0, v, h1, h2, h3⟩ := h.cell i a hm
  have := hlt i a hm
  exact ⟨by rw [hh]; exact h0, v, h1, by rw [hst _ (by omega) (by omega)]; exact h2, h3⟩

/-! ### what a statement leaves alone on the VM side -/

/-- control part and heap unchanged; the stack below `s.sp` unchanged outside the local slots
    `[bp, bp + L)` -/
structure Frm (s s' : State) (bp L : Nat) : Prop where
  same : Same s s'
  heap : s'.heap = s.heap
  size : s'.stack.size = s.stack.size
  out : ∀ j, j < s.sp.toNat → (j < bp ∨ bp + L ≤ j) → s'.stack[j]! = s.stack[j]!

theorem Frm.refl (s : State) (bp L : Nat) : Frm s s bp L := ⟨Same.refl s, rfl, rfl, fun _ _ _ => rfl⟩

theorem Frm.trans {a b c : State} {bp L : Nat} (h1 : Frm a b bp L) (h2 : Frm b c bp L) (hsp : a.sp ≤ b.sp) : Frm a c bp L :=
  ⟨h1.same.trans h2.same, h2.heap.trans h1.heap, h2.size.trans h1.size,
   fun j hj ho => (h2.out j (by omega) ho).trans (h1.out j hj ho)⟩

theorem Frm.of_agree {s s' : State} {b bp L : Nat} (hb : (b : Int) = s.sp) (hs : Same s s') (hh : s'.heap = s.heap)
    (hag : AgreeBelow b s.stack s'.stack) : Frm s s' bp L :=
  ⟨hs, hh, hag.1, fun j hj _ => hag.2 j (by omega)⟩

/-- the VM stands in front of a RETURN instruction with the value to return -/
def AtReturn (code : Code) (s' : State) (sp0 : Int) (v : V) : Prop :=
  ∃ (p : Nat) (b0 b1 : UInt8), s'.ip + 1 = (p : Int) ∧ code.insts[p]? = some b0 ∧ b0.toNat = 39 ∧
    code.insts[p + 1]? = some b1 ∧
    ((b1.toNat = 1 ∧ s'.sp = sp0 + 1 ∧ s'.stack[sp0.toNat]! = v) ∨ (b1.toNat = 0 ∧ s'.sp = sp0 ∧ v = .undefined))

/-- what the VM does when a statement of the fragment completes with `c` in the reference state `t'`
    and the environment `env'`:
    * `normal`: it stands behind the code (`q`) with `sp` where it was, related to `t'` and `env'`
      through an extension `binds'` of `binds`;
    * `ret v`: it stands in front of a RETURN instruction with the scalar `v`;
    * `thr a`: it is at the call `failWith oe`, `oe` a `named` error, in a state related to the
      reference state `tx` in which the reference semantics makes its error object (`a`, `t'`) from `oe`;
    * `break` / `continue` do not occur. -/
def OutS (F : FloatOps) (code : Code) (q : Nat) (bp L : Nat) (σ' : String → Option Nat) (N' : Nat)
    (binds : List (Nat × Addr)) (s t' : State) (env' : Sem.Env) : Sem.Comp → Prop
  | .normal => ∃ (binds' : List (Nat × Addr)) (s' : State), Reach F s s' ∧ Frm s s' bp L ∧ s'.ip + 1 = (q : Int) ∧
      s'.sp = s.sp ∧ (∀ p, p ∈ binds → p ∈ binds') ∧ Static σ' N' env' binds' ∧ Dyn binds' t' s' bp
  | .ret v => ∃ s', Reach F s s' ∧ Frm s s' bp L ∧ HeapRel s' t' ∧ Scalar v ∧ AtReturn code s' s.sp v
  | .thr a => ∃ (u : State) (oe : OpErr) (tx : State), ReachFail F s oe u ∧ (∃ n m, oe = .named n m) ∧ Frm s u bp L ∧
      s.sp ≤ u.sp ∧ HeapRel u tx ∧ exec (rtErrOfOpErr oe) tx = (.ok a, t')
  | _ => False

/-- the outcome of a later piece of code, seen from an earlier state with the same `sp` -/
theorem OutS.via {F : FloatOps} {code : Code} {q bp L : Nat} {σ' : String → Option Nat} {N' : Nat}
    {binds binds1 : List (Nat × Addr)} {s s1 t' : State} {env' : Sem.Env} {c : Sem.Comp}
    (hr : Reach F s s1) (hf : Frm s s1 bp L) (hsp : s1.sp = s.sp) (hsub : ∀ p, p ∈ binds → p ∈ binds1)
    (h : OutS F code q bp L σ' N' binds1 s1 t' env' c) : OutS F code q bp L σ' N' binds s t' env' c := by
  cases c with
  | normal =>
    obtain ⟨binds', s', hr', hf', hip, hsp', hsub', hst, hdy⟩ := h
    exact ⟨binds', s', hr.trans hr', hf.trans hf' (by omega), hip, by omega, fun p hp => hsub' p (hsub p hp), hst, hdy⟩
  | ret v =>
    obtain ⟨s', hr', hf', hrel, hsv, hat⟩ := h
    rw [hsp] at hat
    exact ⟨s', hr.trans hr', hf.trans hf' (by omega), hrel, hsv, hat⟩
  | thr a =>
    obtain ⟨u, oe, tx, hfail, hnm, hf', hspu, hrel, hrt⟩ := h
    exact ⟨u, oe, tx, ReachFail.of_reach hr hfail, hnm, hf.trans hf' (by omega), by omega, hrel, hrt⟩
  | _ => exact h

/-- an error of an expression of the statement is the statement's thrown completion -/
theorem OutS.of_thr {F : FloatOps} {code : Code} {q q' b bp L : Nat} {σ' : String → Option Nat} {N' : Nat}
    {binds : List (Nat × Addr)} {s t t' : State} {env' : Sem.Env} {a : Addr} (hb : (b : Int) = s.sp)
    (h : OutAt F b s t t' q' (.thr a)) (hrel : HeapRel s t) : OutS F code q bp L σ' N' binds s t' env' (.thr a) := by
  obtain ⟨u, oe, e, hnm, hrt⟩ := h
  exact ⟨u, oe, t, e.fail, hnm, Frm.of_agree hb e.same e.heap e.agree, by have := e.sp; omega, hrel.of_eq e.heap, hrt⟩

/-! ### the effect of compiling a statement on the compiler state -/

/-- instructions and constants are appended (patches stay behind the old end), the tables change as
    `TEff` says, nothing else changes -/
structure StEff (cs cs' : CState) : Prop where
  eq : cs' = { cs with insts := cs'.insts, sourceMap := cs'.sourceMap, constants := cs'.constants, tables := cs'.tables }
  pre : Pre cs.insts cs'.insts
  cpre : IsPre cs.constants cs'.constants
  tabs : TEff cs.tables cs'.tables

theorem StEff.trans {a b c : CState} (h1 : StEff a b) (h2 : StEff b c) : StEff a c :=
  ⟨by have e2 := h2.eq; rw [h1.eq] at e2; exact e2, h1.pre.trans h2.pre, h1.cpre.trans h2.cpre, h1.tabs.trans h2.tabs⟩

theorem StEff.of_shape {cs cs' : CState} (h : Shape cs cs') (hne : cs.tables ≠ []) : StEff cs cs' := by
  have ht : cs'.tables = cs.tables := h.tables
  refine ⟨?_, h.pre, h.cpre, by rw [ht]; exact TEff.refl hne⟩
  conv => lhs; rw [h.eq]
  rw [ht]

theorem StEff.refl {cs : CState} (hne : cs.tables ≠ []) : StEff cs cs := StEff.of_shape (Shape.refl cs) hne

theorem StEff.tci {cs cs' : CState} (h : StEff cs cs') : cs'.tryCatchIndex = cs.tryCatchIndex := by rw [h.eq]
theorem StEff.builtins {cs cs' : CState} (h : StEff cs cs') : cs'.builtins = cs.builtins := by rw [h.eq]

/-- what the simulation needs of the compiler state: there is a function table, the statement is
    not inside `try`, the slots in use fit the function's `NumLocals` -/
structure CsOK (cs : CState) : Prop where
  fn : hasFn cs.tables = true
  tci : cs.tryCatchIndex ≤ -1
  ni : nextIndex cs.tables ≤ fnMax cs.tables

theorem CsOK.ne {cs : CState} (h : CsOK cs) : cs.tables ≠ [] := by
  intro e
  have := h.fn
  rw [e] at this
  simp [hasFn] at this

theorem CsOK.of_shape {cs cs' : CState} (h : CsOK cs) (sh : Shape cs cs') : CsOK cs' := by
  have ht : cs'.tables = cs.tables := sh.tables
  have hi : cs'.tryCatchIndex = cs.tryCatchIndex := by rw [sh.eq]
  exact ⟨by rw [ht]; exact h.fn, by rw [hi]; exact h.tci, by rw [ht]; exact h.ni⟩

/-! ### the simulation statement -/

/-- the code compiled from `cs` to `cs'` simulates the computation `sem` of the reference semantics -/
def SimRun (F : FloatOps) (nd : Nat) (cs cs' : CState) (sem : Sem.Env → Sem.SM (Sem.Comp × Sem.Env)) : Prop :=
  ∀ (K : Array Compile.Const) (code : Code) (bp L : Nat) (env : Sem.Env) (binds : List (Nat × Addr)) (s t : State)
    (ss ss' : Sem.SemSt) (c : Sem.Comp) (env' : Sem.Env) (t' : State),
    IsPre cs'.constants K → CodeHas code cs'.insts cs.insts.size → VMOk K code bp (bp + L) s →
    s.ip + 1 = (cs.insts.size : Int) → s.sp + nd ≤ 2048 → fnMax cs'.tables ≤ L →
    Static (localIdx cs) (nextIndex cs.tables) env binds → Dyn binds t s bp →
    exec ((sem env).run ss) t = (.ok ((c, env'), ss'), t') →
    ss = ss' ∧ OutS F code cs'.insts.size bp L (localIdx cs') (nextIndex cs'.tables) binds s t' env' c

/-- a compile action and the reference computation it implements -/
def GoodC (F : FloatOps) (B B' : List String) (nd : Nat) (act : Compile.CM Unit)
    (sem : Nat → Sem.Env → Sem.SM (Sem.Comp × Sem.Env)) : Prop :=
  ∀ cs cs' : CState, runCM act cs = (.ok (), cs') → Cov B (localIdx cs) → CsOK cs →
    StEff cs cs' ∧ CsOK cs' ∧ Cov B' (localIdx cs') ∧ ∀ fuel, SimRun F nd cs cs' (sem fuel)

theorem localIdx_of_tl {cs cs' : CState} (h : Tl cs.tables cs'.tables) : localIdx cs' = localIdx cs := by
  funext n
  rw [localIdx_eq, localIdx_eq, h.locOf]

theorem SimRun.mono {F : FloatOps} {nd nd' : Nat} {cs cs' : CState} {sem : Sem.Env → Sem.SM (Sem.Comp × Sem.Env)}
    (h : SimRun F nd cs cs' sem) (hle : nd ≤ nd') : SimRun F nd' cs cs' sem := by
  intro K code bp L env binds s t ss ss' c env' t' hK hcode hvm hip hsp hL hst hdy hsem
  exact h K code bp L env binds s t ss ss' c env' t' hK hcode hvm hip (by omega) hL hst hdy hsem

/-- the same code against another presentation of the same reference computation -/
theorem SimRun.resem {F : FloatOps} {nd : Nat} {cs cs' : CState} {sem sem' : Nat → Sem.Env → Sem.SM (Sem.Comp × Sem.Env)}
    (h : ∀ fuel, SimRun F nd cs cs' (sem fuel))
    (hrun : ∀ fuel env ss t r ss' t', exec ((sem' fuel env).run ss) t = (.ok (r, ss'), t') →
      ∃ fuel', exec ((sem fuel' env).run ss) t = (.ok (r, ss'), t')) (fuel : Nat) : SimRun F nd cs cs' (sem' fuel) := by
  intro K code bp L env binds s t ss ss' c env' t' hK hcode hvm hip hsp hL hst hdy hsem
  obtain ⟨fuel', hsem'⟩ := hrun fuel env ss t (c, env') ss' t' hsem
  exact h fuel' K code bp L env binds s t ss ss' c env' t' hK hcode hvm hip hsp hL hst hdy hsem'

theorem GoodC.mono {F : FloatOps} {B B' : List String} {nd nd' : Nat} {act : Compile.CM Unit}
    {sem : Nat → Sem.Env → Sem.SM (Sem.Comp × Sem.Env)} (h : GoodC F B B' nd act sem) (hle : nd ≤ nd') :
    GoodC F B B' nd' act sem := by
  intro cs cs' hc hcov hok
  obtain ⟨h1, h2, h3, h4⟩ := h cs cs' hc hcov hok
  exact ⟨h1, h2, h3, fun fuel => (h4 fuel).mono hle⟩

/-- abrupt completions do not mention the end of the code, the symbols or the environment -/
theorem OutS.abrupt {F : FloatOps} {code : Code} {q q' bp L : Nat} {σ σ' : String → Option Nat} {N N' : Nat}
    {binds : List (Nat × Addr)} {s t' : State} {env env' : Sem.Env} {c : Sem.Comp} (hc : c ≠ .normal)
    (h : OutS F code q bp L σ N binds s t' env c) : OutS F code q' bp L σ' N' binds s t' env' c := by
  cases c with
  | normal => exact (hc rfl).elim
  | _ => exact h

theorem CsOK.patched {cs cs' : CState} {p op tgt : Nat} (h : CsOK cs) (hp : Patched cs cs' p op tgt) : CsOK cs' :=
  ⟨by rw [hp.tables]; exact h.fn, by rw [hp.eq]; exact h.tci, by rw [hp.tables]; exact h.ni⟩

theorem StEff.patched {cs0 cs cs' : CState} {p op tgt : Nat} (h : StEff cs0 cs) (hp : Patched cs cs' p op tgt)
    (hle : cs0.insts.size ≤ p) : StEff cs0 cs' :=
  ⟨by have e := h.eq; rw [hp.eq]; conv => lhs; rw [e], hp.pre h.pre hle, by rw [hp.constants]; exact h.cpre,
   by rw [hp.tables]; exact h.tabs⟩

theorem VMOk.of_frm {K : Array Compile.Const} {code : Code} {bp lo : Nat} {s s' : State} {L : Nat}
    (hvm : VMOk K code bp lo s) (hf : Frm s s' bp L) (hsp : s'.sp = s.sp) : VMOk K code bp lo s' :=
  hvm.of_same hf.same hf.heap hf.size (by rw [hsp]; exact hvm.lo)

theorem TEff.cons_inv {h : Table} {r ts' : List Table} (he : TEff (h :: r) ts') :
    ∃ h' r', ts' = h' :: r' ∧ h'.block = h.block ∧ h.numDefinition ≤ h'.numDefinition ∧
      h.maxDefinition ≤ h'.maxDefinition ∧ Tl r r' := by
  generalize hts : h :: r = ts at he
  cases he with
  | mk hb hn hm hr hp =>
    simp only [List.cons.injEq] at hts
    obtain ⟨rfl, rfl⟩ := hts
    exact ⟨_, _, rfl, hb, hn, hm, hr⟩

end UgoVerif.CompSim

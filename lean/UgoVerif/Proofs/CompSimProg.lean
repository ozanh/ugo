import UgoVerif.Proofs.CompSimAll
import UgoVerif.Proofs.CompSimRun
/-
  C02, compile ⊑ Sem, statement slice — whole scripts of the fragment: the output of the compile
  model (`Compile.compileFile`), loaded into a fresh VM (`loadProg`) and run by the VM model
  (`VM.runFrom`: prologue, loop, epilogue), against `Sem.execList` / `Sem.runProgram`.  `prog_sim` puts the
  simulation of the statement list (`good_stmts`) between the prologue (`exec_prologue`: `loadProg` becomes
  `startState`, an `Outer` state) and the end of `Run` in such a state (`run_return`, `run_uncaught`
  of Proofs/CompSimRun); what `compileFile` hands over is `compileFile_inv`.
-/
namespace UgoVerif.CompSim
open UgoVerif UgoVerif.Go UgoVerif.Ast UgoVerif.Proofs.ModCache UgoVerif.Proofs.VMExec
open UgoVerif.VM hiding exec exec_bind
open UgoVerif.Compile (CState runCM compileStmts IsPre Pre Table nextIndex InsAt)
open UgoVerif.Proofs.EvalLocals (fillU fillU_size)

def constV : Compile.Const → V
  | .val v => Eval.scalarOfCVal v
  | .fn _ => .nil

/-- a fresh VM for compile-model output: the main function is heap cell 0 -/
def loadProg (bc : Compile.Bytecode) : State :=
  newState #[Eval.codeOfCFn bc.main] #[.fn 0 none] (bc.constants.map constV) 0 0

/-- the VM state `Run` starts the loop in (after the prologue), written out -/
def startState (bc : Compile.Bytecode) : State :=
  { loadProg bc with
    heap := #[.fn 0 none, .map []]
    globals := .map 1
    stack := fillU (Array.replicate stackSize .nil) (List.range' 0 bc.main.numLocals 1)
    frames := emptyFrames.modify 0 fun f => { f with fn := some 0, free := none, handlers := none, bp := 0, discard := false }
    curFrame := 0, frameIndex := 1, ip := -1, sp := bc.main.numLocals
    modules := #[] }

theorem exec_prologue (bc : Compile.Bytecode) (hnp : bc.main.numParams = 0) (hnl : bc.main.numLocals ≤ stackSize) :
    exec (prologue .nil []) (loadProg bc) = (.ok (), startState bc) := by
  let sA : State := { loadProg bc with heap := #[.fn 0 none, .map []], globals := .map 1 }
  have hA : exec (prologueA .nil) (loadProg bc) = (.ok (), sA) := rfl
  rw [prologue_eq, exec_bind, hA]
  dsimp only
  rw [exec_bind, initLocals_noparams [] sA 0 none rfl hnp hnl (Array.size_replicate ..)]
  exact VM.exec_prologueB_fn _ 0 none rfl

theorem startFrame (bc : Compile.Bytecode) :
    (startState bc).frames[(startState bc).curFrame]! = { fn := some 0, free := none, handlers := none, bp := 0, discard := false, ip := 0 } := by
  simp [startState, emptyFrames, frameSize, Array.getElem_modify]

theorem startState_size (bc : Compile.Bytecode) : (startState bc).stack.size = 2048 := by
  simp [startState, fillU_size, stackSize]

theorem outer_start (bc : Compile.Bytecode) : Outer (Eval.codeOfCFn bc.main) (startState bc) := by
  have hfr := startFrame bc
  exact ⟨⟨0, 0, none, by rw [hfr], rfl, rfl⟩, rfl, rfl, startState_size bc, rfl, by rw [hfr], by rw [hfr], by rw [hfr]⟩

/-- the error object of a `named` error on a heap: a `*RuntimeError` at `a` wrapping an `*Error` with
    that name and message -/
def ErrIs (heap : Array Cell) (a : Addr) (n m : String) : Prop :=
  ∃ ea, heap[a]? = some (.rterr (some ea)) ∧ heap[ea]? = some (.err (strBytes n) (strBytes m) none)

theorem errIs_rtErr (n m : String) (h : Array Cell) : ErrIs (errHeap n m h) (h.size + 1) n m := by
  refine ⟨h.size, ?_, ?_⟩
  · have : h.size + 1 = (h.push (.err (strBytes n) (strBytes m) none)).size := by simp
    rw [errHeap, this, Array.getElem?_push_size]
  · rw [errHeap, Array.getElem?_push_lt (by simp)]
    simp

theorem mainParams_frag : ∀ (file : List Stmt) (B : List String), StmtsF B file = true → Sem.mainParams file = ([], false)
  | [], _, _ => rfl
  | s :: r, B, h => by
    have h' := stmtsF_cons h
    have ih := mainParams_frag r _ h'.2
    cases s with
    | declParam pos specs => cases h'.1
    | _ => simp only [Sem.mainParams]; exact ih

/-- a successful `Bytecode()` (`Compile.finishFn`): what the scan of the stream found; `RETURN 0` is appended unless that is
    (`l` = RETURN, no pending jump), nothing else changes; the function is read off the state behind it -/
theorem finishFn_inv {cs cs2 : CState} {fn : Compile.CFn} (h : runCM Compile.finishFn cs = (.ok fn, cs2)) :
    ∃ (l : Nat) (P : List Nat) (t : Table) (r : List Table),
      Compile.scanFn cs.insts (cs.insts.size + 1) 0 0 [] = some (l, P) ∧
      cs2.constants = cs.constants ∧ cs.tables = t :: r ∧ fn.numParams = t.numParams ∧ fn.numLocals = t.maxDefinition ∧
      (fn.insts = cs.insts ∨ Pre cs.insts fn.insts ∧ InsAt fn.insts cs.insts.size Compile.OpReturn 1 0) ∧
      ((l ≠ Compile.OpReturn ∨ P ≠ []) → cs.insts.size < fn.insts.size) := by
  unfold Compile.finishFn at h
  rw [Compile.runCM_bind, Compile.runCM_get] at h
  dsimp only at h
  split at h
  · cases h
  rename_i l P hscan
  unfold Compile.finishTail at h
  obtain ⟨_, csr, hret, h⟩ := bind_inv h
  rw [Compile.runCM_bind, Compile.runCM_get] at h
  dsimp only at h
  cases htr : csr.tables with
  | nil =>
    unfold Compile.headTable at h
    simp [Compile.runCM_bind, Compile.runCM_get, htr, Compile.cpanic, Compile.runCM_throw] at h
  | cons t r =>
    rw [Compile.runCM_bind, Compile.runCM_headTable htr] at h
    obtain ⟨rfl, rfl⟩ := pure_inv h
    refine ⟨l, P, t, r, hscan, ?_⟩
    by_cases hcond : (l != Compile.OpReturn || !P.isEmpty) = true
    · rw [if_pos hcond] at hret
      obtain ⟨hop, rest, hbs, _, rfl⟩ := emit__inv hret
      have hI : InsAt (cs.insts ++ (UInt8.ofNat Compile.OpReturn :: rest).toArray) cs.insts.size Compile.OpReturn 1 0 :=
        .of_inst rfl hop hbs (Compile.InstAt.append _ _)
      exact ⟨rfl, htr, rfl, rfl, .inr ⟨Compile.Pre.append _ _, hI⟩, fun _ => Nat.lt_of_le_of_lt (Nat.le_add_right _ 1) hI.1⟩
    · rw [if_neg hcond] at hret
      obtain ⟨_, rfl⟩ := pure_inv hret
      refine ⟨rfl, htr, rfl, rfl, .inl rfl, fun h => absurd ?_ hcond⟩
      rcases h with h | h
      · simp [h]
      · cases P with
        | nil => exact absurd rfl h
        | cons => simp

/-- what `compileProg` returns: the stream of the statement list, to which `Bytecode()` appends
    `RETURN 0` unless its scan ends with (`l` = RETURN, no pending jump) -/
theorem compileFile_inv {builtins : List (String × Nat)} {disabled : List String} {file : List Stmt} {bc : Compile.Bytecode}
    (h : Compile.compileFile builtins disabled file = .ok bc) :
    ∃ (cs' : CState) (l : Nat) (P : List Nat),
      runCM (compileStmts file) (Compile.initState builtins disabled) = (.ok (), cs') ∧
      bc.constants = cs'.constants ∧ bc.main.numLocals ≤ 256 ∧
      (∀ t r, cs'.tables = t :: r → bc.main.numParams = t.numParams ∧ bc.main.numLocals = t.maxDefinition) ∧
      (bc.main.insts = cs'.insts ∨ Pre cs'.insts bc.main.insts ∧ InsAt bc.main.insts cs'.insts.size Compile.OpReturn 1 0) ∧
      Compile.scanFn cs'.insts (cs'.insts.size + 1) 0 0 [] = some (l, P) ∧
      ((l ≠ Compile.OpReturn ∨ P ≠ []) → cs'.insts.size < bc.main.insts.size) := by
  obtain ⟨csf, hr⟩ := Compile.compileFile_run h
  unfold Compile.compileProg at hr
  obtain ⟨_, cs', hst, hr⟩ := bind_inv hr
  obtain ⟨fn, cs2, hfin, hr⟩ := bind_inv hr
  split at hr
  · cases hr
  rename_i hnl
  rw [Compile.runCM_bind, Compile.runCM_get] at hr
  obtain ⟨rfl, _⟩ := pure_inv hr
  obtain ⟨l, P, t, r, hscan, hconst, htr, hnp, hnloc, hins, himp⟩ := finishFn_inv hfin
  refine ⟨cs', l, P, hst, hconst, by simpa [Compile.maxNumLocals] using hnl, ?_, hins, hscan, himp⟩
  intro t' r' htr'
  rw [htr'] at htr
  cases htr
  exact ⟨hnp, hnloc⟩

theorem runProgram_frag (F : FloatOps) (fuel : Nat) (file : List Stmt) (args : List V)
    (h : Sem.mainParams file = ([], false)) :
    Sem.runProgram F fuel file args = (do
      let (c, _) ← Sem.execList F fuel [[]] file
      match c with
      | .ret v => pure (.value v)
      | .thr e => pure (.error e)
      | _ => pure (.value .undefined)) := by
  unfold Sem.runProgram
  rw [h]
  simp
  rfl

theorem constsOK_map (K : Array Compile.Const) : ConstsOK K (K.map constV) := by
  intro i cv h
  simp [Array.getElem?_map, h, constV]

/-- the size of the instruction stream before `Bytecode()` looks whether a RETURN must be appended -/
def streamSize (builtins : List (String × Nat)) (disabled : List String) (file : List Stmt) : Nat :=
  (runCM (compileStmts file) (Compile.initState builtins disabled)).2.insts.size

/-- what `VM.Run` of the loaded script does when the reference semantics completes the script's
    statement list with `c` in state `t'` -/
def ProgOut (F : FloatOps) (bc : Compile.Bytecode) (appended : Prop) (t' : State) : Sem.Comp → Prop
  | .ret v => Scalar v ∧ ∃ n, ∀ fuel, n ≤ fuel → (runFrom F fuel .nil [] (loadProg bc)).1 = VM.Outcome.value v
  | .normal => appended → ∃ n, ∀ fuel, n ≤ fuel → (runFrom F fuel .nil [] (loadProg bc)).1 = VM.Outcome.value .undefined
  | .thr a => ∃ (nm msg : String) (n : Nat), ErrIs t'.heap a nm msg ∧ ∀ fuel, n ≤ fuel →
      ∃ a' sfin, runFrom F fuel .nil [] (loadProg bc) = (VM.Outcome.error (.rt a'), sfin) ∧ ErrIs sfin.heap a' nm msg
  | _ => False

theorem prog_sim (F : FloatOps) {builtins : List (String × Nat)} {disabled : List String} {file : List Stmt}
    {bc : Compile.Bytecode} (hF : StmtsF [] file = true) (hc : Compile.compileFile builtins disabled file = .ok bc)
    (hsp : bc.main.numLocals + needL file ≤ 2048) (t : State) (hrel : HeapRel (startState bc) t)
    (fuel : Nat) (ss ss' : Sem.SemSt) (c : Sem.Comp) (env' : Sem.Env) (t' : State)
    (hsem : exec ((Sem.execList F fuel [[]] file).run ss) t = (.ok ((c, env'), ss'), t')) :
    ss = ss' ∧ ProgOut F bc (streamSize builtins disabled file < bc.main.insts.size) t' c := by
  obtain ⟨cs', _, _, hst, hconst, hnl256, hhead, hins, _, _⟩ := compileFile_inv hc
  have hok0 : CsOK (Compile.initState builtins disabled) := ⟨rfl, (by show (-1 : Int) ≤ -1; omega), Nat.le_refl _⟩
  obtain ⟨hse, hok', _, hsim⟩ := good_stmts F file [] hF _ cs' hst (by intro n hn; cases hn) hok0
  have htabs : TEff [({ disabled := disabled } : Table)] cs'.tables := hse.tabs
  obtain ⟨h', r', hts, hb', _, _, htl⟩ := htabs.cons_inv
  have hhp := htabs.headParams
  rw [hts] at hhp
  obtain ⟨hnp, hnl⟩ := hhead h' r' hts
  have hnp0 : bc.main.numParams = 0 := by rw [hnp]; exact hhp
  have hfm : fnMax cs'.tables = bc.main.numLocals := by
    rw [hts, hnl]
    have : h'.block = false := hb'
    simp [fnMax, this]
  have hpro := exec_prologue bc hnp0 (by simp only [stackSize]; omega)
  have hstream : streamSize builtins disabled file = cs'.insts.size := by unfold streamSize; rw [hst]
  have ho := outer_start bc
  have hvm : VMOk cs'.constants (Eval.codeOfCFn bc.main) 0 (0 + bc.main.numLocals) (startState bc) :=
    ⟨rfl, ho.size, ho.code, ho.bp, by
      show ConstsOK cs'.constants (bc.constants.map constV)
      rw [hconst]; exact constsOK_map _, by show ((0 + bc.main.numLocals : Nat) : Int) ≤ (bc.main.numLocals : Int); omega⟩
  have hcodeHas : CodeHas (Eval.codeOfCFn bc.main) cs'.insts 0 := by
    intro i _ hi
    show bc.main.insts[i]? = _
    rcases hins with h | ⟨h, _⟩
    · rw [h]
    · exact h.2 i hi
  have hstat : Static (localIdx (Compile.initState builtins disabled)) (nextIndex (Compile.initState builtins disabled).tables)
      [[]] [] := by
    refine ⟨?_, (fun i a h => by cases h), List.Pairwise.nil⟩
    intro n i hi
    rw [localIdx_eq] at hi
    simp [Compile.initState, locOf, Compile.lookupSym, slotOf] at hi
  have hdyn : Dyn [] t (startState bc) 0 := ⟨(fun i a h => by cases h), hrel⟩
  obtain ⟨rfl, out⟩ := hsim fuel cs'.constants (Eval.codeOfCFn bc.main) 0 bc.main.numLocals [[]] [] (startState bc) t ss ss' c
    env' t' (Compile.IsPre.refl _) hcodeHas hvm rfl (by show ((bc.main.numLocals : Nat) : Int) + _ ≤ 2048; omega)
    (Nat.le_of_eq hfm) hstat hdyn hsem
  refine ⟨rfl, ?_⟩
  have hnl : (Eval.codeOfCFn bc.main).numLocals + 1 < 2048 := by show bc.main.numLocals + 1 < 2048; omega
  cases c with
  | brk => exact out
  | cont => exact out
  | ret v =>
    obtain ⟨s', hr, hf, _, hsv, hat⟩ := out
    exact ⟨hsv, run_return F hpro hr (ho.of_frm hf) hnl hat hsv⟩
  | normal =>
    intro happ
    obtain ⟨binds', s', hr, hf, hip, hsp', _, _, _⟩ := out
    rcases hins with h | ⟨_, hI⟩
    · rw [hstream, h] at happ; omega
    · -- the VM stands in front of the appended RETURN 0
      obtain ⟨b0, b1, h0, hb0, h1, hb1⟩ := hI.bytes
      exact run_return F hpro hr (ho.of_frm hf) hnl ⟨cs'.insts.size, b0, b1, hip, h0, hb0, h1, .inr ⟨hb1, hsp', rfl⟩⟩ trivial
  | thr a =>
    obtain ⟨u, oe, tx, hfail, ⟨nm, msg, rfl⟩, hf, _, hrelu, hrt⟩ := out
    rw [exec_rtErr_named] at hrt
    simp only [Prod.mk.injEq, Except.ok.injEq] at hrt
    obtain ⟨rfl, rfl⟩ := hrt
    obtain ⟨n, hn⟩ := run_uncaught F hpro hfail (ho.of_frm hf)
    refine ⟨nm, msg, n, errIs_rtErr nm msg tx.heap, fun fuel hfuel => ?_⟩
    obtain ⟨sfin, hrun, hhe⟩ := hn fuel hfuel
    exact ⟨_, sfin, hrun, by rw [hhe]; exact errIs_rtErr nm msg u.heap⟩

theorem normal_fall_aux (F : FloatOps) : ∀ (n fuel : Nat), fuel ≤ n →
    (∀ (st : Stmt) (env : Sem.Env) (ss ss' : Sem.SemSt) (t t' : State) (env' : Sem.Env),
      exec ((Sem.execStmt F fuel env st).run ss) t = (.ok ((.normal, env'), ss'), t') → fallS st = true) ∧
    (∀ (l : List Stmt) (env : Sem.Env) (ss ss' : Sem.SemSt) (t t' : State) (env' : Sem.Env),
      exec ((Sem.execList F fuel env l).run ss) t = (.ok ((.normal, env'), ss'), t') → fallL l = true)
  | n, 0, _ => ⟨fun st env ss ss' t t' env' hsem => (execStmt_zero' hsem).elim,
      fun l env ss ss' t t' env' hsem => by rw [execList_zero] at hsem; exact (sm_unsupported_ne hsem).elim⟩
  | 0, fuel + 1, h => by omega
  | n + 1, fuel + 1, h => by
    have ih := normal_fall_aux F n fuel (by omega)
    constructor
    · intro st env ss ss' t t' env' hsem
      cases st with
      | return_ pos e =>
        exfalso
        cases e with
        | none =>
          rw [execStmt_return0] at hsem
          obtain ⟨_, _, hc, _⟩ := sm_pure_pair hsem
          cases hc
        | some x =>
          rw [execStmt_return1] at hsem
          obtain ⟨rr, ss2, t2, _, h2⟩ := sm_bind_inv hsem
          cases rr with
          | thr a => obtain ⟨_, _, hc, _⟩ := sm_pure_pair h2; cases hc
          | val v => obtain ⟨_, _, hc, _⟩ := sm_pure_pair h2; cases hc
      | block pos body =>
        rw [execStmt_block] at hsem
        rw [fallS_block]
        cases fuel with
        | zero => rw [execBlock_zero] at hsem; exact (sm_unsupported_ne hsem).elim
        | succ f =>
          rw [execBlock_succ] at hsem
          obtain ⟨⟨c1, envX⟩, ss1, t1, h1, h2⟩ := sm_bind_inv hsem
          obtain ⟨rfl, rfl, rfl, rfl⟩ := sm_pure_pair h2
          exact (normal_fall_aux F n f (by omega)).2 body _ _ _ _ _ _ h1
      | if_ pos init c bp body els =>
        rw [fallS_if]
        cases hT : isTrueLit c with
        | false => rfl
        | true =>
          obtain ⟨p, rfl⟩ := isTrueLit_inv hT
          show fallL body = true
          rw [execStmt_if_flat] at hsem
          obtain ⟨⟨c1, envX⟩, ss1, t1, hrun, hp⟩ := sm_bind_inv hsem
          obtain ⟨rfl, rfl, rfl, rfl⟩ := sm_pure_pair hp
          obtain ⟨⟨c0, env1⟩, ss0, t0, h0, hrun⟩ := sm_bind_inv hrun
          cases c0 with
          | normal =>
            have hb := condSem_lit F p true hrun
            cases fuel with
            | zero => rw [execBlock_zero] at hb; exact (sm_unsupported_ne hb).elim
            | succ f =>
              rw [execBlock_succ] at hb
              obtain ⟨⟨c2, envY⟩, ss4, t4, hl, hb⟩ := sm_bind_inv hb
              obtain ⟨rfl, rfl, rfl, rfl⟩ := sm_pure_pair hb
              exact (normal_fall_aux F n f (by omega)).2 body _ _ _ _ _ _ hl
          | _ =>
            obtain ⟨_, _, hc, _⟩ := sm_pure_pair hrun
            cases hc
      | _ => first | rfl | simp [fallS]
    · intro l env ss ss' t t' env' hsem
      cases l with
      | nil => exact fallL_nil
      | cons s r =>
        rw [execList_cons] at hsem
        obtain ⟨⟨c1, env1⟩, ss1, t1, hs1, hsem⟩ := sm_bind_inv hsem
        cases c1 with
        | normal =>
          simp only at hsem
          rw [fallL_cons, Bool.and_eq_true]
          exact ⟨ih.1 s _ _ _ _ _ _ hs1, ih.2 r _ _ _ _ _ _ hsem⟩
        | _ =>
          simp only at hsem
          obtain ⟨_, _, hc, _⟩ := sm_pure_pair hsem
          cases hc

theorem normal_fall (F : FloatOps) {fuel : Nat} {l : List Stmt} {env env' : Sem.Env} {ss ss' : Sem.SemSt} {t t' : State}
    (h : exec ((Sem.execList F fuel env l).run ss) t = (.ok ((.normal, env'), ss'), t')) : fallL l = true :=
  (normal_fall_aux F fuel fuel (Nat.le_refl _)).2 l env ss ss' t t' env' h

/-- the script ends with a `return` statement -/
def lastIsReturn : List Stmt → Bool
  | [] => false
  | [.return_ _ _] => true
  | _ :: r => lastIsReturn r

/-- behind another statement the first one does not matter -/
theorem lastIsReturn_cons (s s2 : Stmt) (r : List Stmt) : lastIsReturn (s :: s2 :: r) = lastIsReturn (s2 :: r) := by
  cases s <;> rfl

theorem not_fallL_of_lastIsReturn : ∀ (file : List Stmt), lastIsReturn file = true → fallL file = false
  | [], h => by cases h
  | [s], h => by
    cases s with
    | return_ pos e => rw [fallL_cons, fallS_return, Bool.false_and]
    | _ => cases h
  | s :: s2 :: r, h => by
    rw [lastIsReturn_cons] at h
    rw [fallL_cons, not_fallL_of_lastIsReturn _ h, Bool.and_false]

/-- `Sem.runProgram` of a script of the fragment whose stream got the RETURN of `Bytecode()` if the script may
    complete normally -/
theorem prog_sim_run_of (F : FloatOps) {builtins : List (String × Nat)} {disabled : List String} {file : List Stmt}
    {bc : Compile.Bytecode} (hF : StmtsF [] file = true) (hc : Compile.compileFile builtins disabled file = .ok bc)
    (hsp : bc.main.numLocals + needL file ≤ 2048)
    (happ : fallL file = true → streamSize builtins disabled file < bc.main.insts.size)
    (t : State) (hrel : HeapRel (startState bc) t)
    (fuel : Nat) (ss ss' : Sem.SemSt) (res : Sem.Result) (t' : State)
    (hsem : exec ((Sem.runProgram F fuel file []).run ss) t = (.ok (res, ss'), t')) :
    ss = ss' ∧
    match res with
    | .value v => ∃ n, ∀ fuel, n ≤ fuel → (runFrom F fuel .nil [] (loadProg bc)).1 = VM.Outcome.value v
    | .error a => ∃ (nm msg : String) (n : Nat), ErrIs t'.heap a nm msg ∧ ∀ fuel, n ≤ fuel →
        ∃ a' sfin, runFrom F fuel .nil [] (loadProg bc) = (VM.Outcome.error (.rt a'), sfin) ∧ ErrIs sfin.heap a' nm msg := by
  rw [runProgram_frag F fuel file [] (mainParams_frag file [] hF)] at hsem
  obtain ⟨⟨c, env'⟩, ss1, t1, hl, hsem⟩ := sm_bind_inv hsem
  obtain ⟨rfl, out⟩ := prog_sim F hF hc hsp t hrel fuel ss ss1 c env' t1 hl
  cases c with
  | ret v =>
    obtain ⟨hre, rfl, rfl⟩ := sm_pure_inv hsem
    subst hre
    exact ⟨rfl, out.2⟩
  | thr a =>
    obtain ⟨hre, rfl, rfl⟩ := sm_pure_inv hsem
    subst hre
    exact ⟨rfl, out⟩
  | normal =>
    obtain ⟨hre, rfl, rfl⟩ := sm_pure_inv hsem
    subst hre
    exact ⟨rfl, out (happ (normal_fall F hl))⟩
  | _ => exact out.elim

/-- `Sem.runProgram` of a script of the fragment that ends with `return`, or for which `Bytecode()`
    appended its RETURN (always the case unless the stream ends in a RETURN no jump passes over) -/
theorem prog_sim_run (F : FloatOps) {builtins : List (String × Nat)} {disabled : List String} {file : List Stmt}
    {bc : Compile.Bytecode} (hF : StmtsF [] file = true) (hc : Compile.compileFile builtins disabled file = .ok bc)
    (hsp : bc.main.numLocals + needL file ≤ 2048)
    (happ : streamSize builtins disabled file < bc.main.insts.size ∨ lastIsReturn file = true)
    (t : State) (hrel : HeapRel (startState bc) t)
    (fuel : Nat) (ss ss' : Sem.SemSt) (res : Sem.Result) (t' : State)
    (hsem : exec ((Sem.runProgram F fuel file []).run ss) t = (.ok (res, ss'), t')) :
    ss = ss' ∧
    match res with
    | .value v => ∃ n, ∀ fuel, n ≤ fuel → (runFrom F fuel .nil [] (loadProg bc)).1 = VM.Outcome.value v
    | .error a => ∃ (nm msg : String) (n : Nat), ErrIs t'.heap a nm msg ∧ ∀ fuel, n ≤ fuel →
        ∃ a' sfin, runFrom F fuel .nil [] (loadProg bc) = (VM.Outcome.error (.rt a'), sfin) ∧ ErrIs sfin.heap a' nm msg := by
  refine prog_sim_run_of F hF hc hsp (fun hf => happ.resolve_right ?_) t hrel fuel ss ss' res t' hsem
  intro hlast
  rw [not_fallL_of_lastIsReturn file hlast] at hf
  cases hf

/-- a script of the fragment for which `fallL` holds gets the RETURN of `Bytecode()` -/
theorem appended_of_fall (F : FloatOps) {builtins : List (String × Nat)} {disabled : List String} {file : List Stmt}
    {bc : Compile.Bytecode} (hb : ∀ p ∈ builtins, p.2 < Gen.numBuiltins) (hF : StmtsF [] file = true)
    (hc : Compile.compileFile builtins disabled file = .ok bc) (hfall : fallL file = true) :
    streamSize builtins disabled file < bc.main.insts.size := by
  obtain ⟨cs', l, P, hst, _, _, _, _, hscan, himp⟩ := compileFile_inv hc
  have hinv0 := Compile.inv_initState builtins disabled hb
  have hok0 : CsOK (Compile.initState builtins disabled) := ⟨rfl, (by show (-1 : Int) ≤ -1; omega), Nat.le_refl _⟩
  obtain ⟨hokss, k, hg, hk⟩ := all_stmts F file [] hF
  have hgood := good_run (Compile.good_compileStmts file hokss) hinv0 hst
  have hfalls := ((hg _ cs' hst (by intro n hn; cases hn) hok0).2 hinv0).falls (hk hfall)
  have h0 : (Compile.initState builtins disabled).insts.size = 0 := rfl
  rw [h0] at hfalls
  have := himp (falls_scan hgood.1.walk hfalls hscan)
  unfold streamSize
  rw [hst]
  exact this

/-- `Sem.runProgram` of ANY script of the fragment: `VM.Run` of the compile model's output returns the same
    value for every large enough step budget (`undefined` when the script falls off its end), or an
    uncaught error with the same name and message -/
theorem prog_sim_run_all (F : FloatOps) {builtins : List (String × Nat)} {disabled : List String} {file : List Stmt}
    {bc : Compile.Bytecode} (hb : ∀ p ∈ builtins, p.2 < Gen.numBuiltins) (hF : StmtsF [] file = true)
    (hc : Compile.compileFile builtins disabled file = .ok bc)
    (hsp : bc.main.numLocals + needL file ≤ 2048)
    (t : State) (hrel : HeapRel (startState bc) t)
    (fuel : Nat) (ss ss' : Sem.SemSt) (res : Sem.Result) (t' : State)
    (hsem : exec ((Sem.runProgram F fuel file []).run ss) t = (.ok (res, ss'), t')) :
    ss = ss' ∧
    match res with
    | .value v => ∃ n, ∀ fuel, n ≤ fuel → (runFrom F fuel .nil [] (loadProg bc)).1 = VM.Outcome.value v
    | .error a => ∃ (nm msg : String) (n : Nat), ErrIs t'.heap a nm msg ∧ ∀ fuel, n ≤ fuel →
        ∃ a' sfin, runFrom F fuel .nil [] (loadProg bc) = (VM.Outcome.error (.rt a'), sfin) ∧ ErrIs sfin.heap a' nm msg :=
  prog_sim_run_of F hF hc hsp (appended_of_fall F hb hF hc) t hrel fuel ss ss' res t' hsem

end UgoVerif.CompSim

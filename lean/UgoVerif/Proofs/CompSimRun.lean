import UgoVerif.Proofs.CompSimInv
import UgoVerif.Proofs.EvalLocals
import UgoVerif.Proofs.RunEq
import UgoVerif.Proofs.VMLive
/-
  C02, compile ⊑ Sem — the run level: what `VM.runFrom` does around the loop for a script that runs in
  one frame.  In the frame `Run` starts in (`Outer`: nothing to return to, no handler) a RETURN and an error
  that reaches `throw` both end the loop; the epilogue hands out the value on top of the stack, or the
  error.  Every step is read off a closed form: RETURN and `throw` (Proofs/FrameOps), the rounds of `Run`
  (Proofs/RunEq), `initLocals` (Proofs/EvalLocals).  Those of FrameOps are stated on `VM.exec`, which is
  `ModCache.exec` under another name: they are passed by `exact`.
-/
namespace UgoVerif.CompSim
open UgoVerif UgoVerif.Go UgoVerif.Ast UgoVerif.Proofs.ModCache UgoVerif.Proofs.VMExec
open UgoVerif.VM hiding exec exec_bind exec_pure exec_curFrame exec_setSp
open UgoVerif.Proofs.EvalLocals (fillU fillU_get exec_fnCell)
open UgoVerif.Proofs.InvokeBind (initLocals_slots bindSlot bindHeap)

/-- `initLocals` of a function without parameters, with the stack it leaves written as the fill loop does -/
theorem initLocals_noparams (args : List V) (s : State) (ci : Nat) (free : Option (List Addr))
    (hfn : s.heap[s.mainFn]? = some (.fn ci free))
    (hnp : (s.codes[ci]!).numParams = 0) (hnl : (s.codes[ci]!).numLocals ≤ stackSize) (hsz : s.stack.size = stackSize) :
    exec (initLocals args) s = (.ok (), { s with stack := fillU s.stack (List.range' 0 (s.codes[ci]!).numLocals 1) }) := by
  obtain ⟨st', hex, _, hlow, hhigh⟩ := initLocals_slots args s ci free hfn (by rw [hnp]; exact Nat.zero_le _) hnl hsz
  have hst : st' = fillU s.stack (List.range' 0 (s.codes[ci]!).numLocals 1) := by
    apply Array.ext_getElem?
    intro j
    rw [fillU_get]
    by_cases hj : j < (s.codes[ci]!).numLocals
    · rw [hlow j hj, if_pos ⟨by simp [List.mem_range']; omega, by omega⟩]
      simp [bindSlot, hnp]
    · rw [hhigh j (by omega), if_neg (by simp [List.mem_range']; omega)]
  rw [hex, hst]
  simp [bindHeap, hnp]

/-! ### the outer frame -/

/-- the frame `Run` starts in, as long as it is the only one: nothing to return to, no handler, no error yet -/
structure Outer (code : Code) (s : State) : Prop where
  code : CodeAt s code
  abort : s.abort = false
  err : s.err = none
  size : s.stack.size = 2048
  fi : s.frameIndex = 1
  bp : (s.frames[s.curFrame]!).bp = 0
  discard : (s.frames[s.curFrame]!).discard = false
  handlers : (s.frames[s.curFrame]!).handlers = none

theorem Outer.of_frm {code : Code} {s s' : State} {bp L : Nat} (h : Outer code s) (hf : Frm s s' bp L) : Outer code s' := by
  have hs := hf.same
  have hfr : s'.frames[s'.curFrame]! = s.frames[s.curFrame]! := by rw [hs.frames, hs.curFrame]
  exact ⟨h.code.of_same hs hf.heap, hs.abort.trans h.abort, hs.err.trans h.err, hf.size.trans h.size, hs.frameIndex.trans h.fi,
    by rw [hfr]; exact h.bp, by rw [hfr]; exact h.discard, by rw [hfr]; exact h.handlers⟩

/-- the end of RETURN (`FrameOps.retClear`) when the frame has nothing above its result and there is no frame to return to -/
theorem exec_retClear_outer (hi bp : Int) (s : State) (h : hi < bp) (hfi : s.frameIndex = 1) :
    exec (retClear hi bp) s = (.ok .ret, { s with sp := bp }) := by
  unfold retClear
  rw [exec_bind, exec_clearDown hi bp s (fun h' => absurd h (by omega)), cleared_of_lt _ h]
  dsimp only
  rw [exec_bind, exec_setSp]
  exact (VM.exec_retTail _).trans (if_pos (by show (s.frameIndex == 1) = true; rw [hfi]; rfl))

/-- RETURN in the outer frame: the result goes to slot `NumLocals`, `sp = NumLocals + 1`, the loop ends -/
theorem step_return_outer (F : FloatOps) {code : Code} {s : State} (ho : Outer code s) (hnl : code.numLocals + 1 < 2048)
    {v : V} (hat : AtReturn code s code.numLocals v) :
    ∃ s', exec (step F) s = (.ok .ret, s') ∧ s'.err = none ∧ s'.sp = (code.numLocals : Int) + 1 ∧
      s'.stack[code.numLocals]! = v := by
  obtain ⟨p, b0, b1, hip, h0, hb0, h1, hcase⟩ := hat
  have hi : Compile.InsAt code.insts p 39 1 b1.toNat := hb0 ▸ .of_bytes h0 h1
  obtain ⟨fa, ci, fr, hfn, hcell, hci⟩ := ho.code
  rw [step_at' F ho.code hip hi]
  have hd : dispatch F 39 = execReturn := rfl
  have hipt : (tick s 39).ip = (p : Int) := (tick_ip s 39).trans hip
  have hfi : (tick s 39).frameIndex = 1 := (tick_same s 39).frameIndex.trans ho.fi
  rw [hd, execReturn_rest]
  simp only [exec_bind, Proofs.Fetch.exec_opnd1_at (exec_curCode (ho.code.tick 39)) hipt hi, exec_curFrame, tick_frame, ho.bp, hfn, ho.discard,
    beq_self_eq_true, if_true]
  rw [exec_fnCell (tick s 39) fa ci fr ((tick_heap s 39).symm ▸ hcell)]
  simp only [(tick_same s 39).codes, hci]
  unfold retRest
  simp only [exec_bind, exec_getSp, tick_sp, Bool.not_false, Bool.and_true]
  have herr : (tick s 39).err = none := (tick_same s 39).err.trans ho.err
  have hidx : ((code.numLocals : Int) + 1 - 1).toNat = code.numLocals := by omega
  have hsz : code.numLocals < (tick s 39).stack.size := by rw [tick_stack, ho.size]; omega
  rcases hcase with ⟨hb1, hsp, hv⟩ | ⟨hb1, hsp, hv⟩
  · rw [hb1, hsp, if_pos (by decide), exec_bind, exec_stackGet' _ _ (by omega)]
    dsimp only
    rw [exec_bind, exec_stackSet' _ _ _ (by omega)]
    dsimp only
    rw [exec_retClear_outer _ _ _ (by omega) (by exact hfi)]
    refine ⟨_, rfl, herr, rfl, ?_⟩
    show ((tick s 39).stack.set! ((code.numLocals : Int) + 1 - 1).toNat _)[code.numLocals]! = v
    rw [hidx, Array.getElem!_set!_self _ _ _ hsz, tick_stack]
    exact hv
  · rw [hb1, hsp, if_neg (by decide), exec_bind, exec_stackSet' _ _ _ (by omega)]
    dsimp only
    rw [exec_retClear_outer _ _ _ (by omega) (by exact hfi)]
    refine ⟨_, rfl, herr, rfl, ?_⟩
    show ((tick s 39).stack.set! ((code.numLocals : Int) + 1 - 1).toNat _)[code.numLocals]! = v
    rw [hidx, Array.getElem!_set!_self _ _ _ hsz, hv]

/-- the heap with the error object of `named n m` -/
abbrev errHeap (n m : String) (h : Array Cell) : Array Cell :=
  (h.push (.err (strBytes n) (strBytes m) none)).push (.rterr (some h.size))

theorem exec_rtErr_named (n m : String) (s : State) :
    exec (rtErrOfOpErr (.named n m)) s = (.ok (s.heap.size + 1), { s with heap := errHeap n m s.heap }) := by
  unfold rtErrOfOpErr mkErr
  simp only [exec_bind, exec_alloc]
  simp

/-- `throw` of an error nobody handles: the outer frame has no handler and there is no frame below it -/
theorem exec_throwNow_outer (e : Addr) {w : State} (hh : (w.frames[w.curFrame]!).handlers = none) (hfi : w.frameIndex = 1) :
    exec (throwNow e) w = (.ok .ret, { w with err := some (.rt e) }) := by
  obtain ⟨k, hk⟩ : ∃ k, fuelOf w.frames = k + 1 := ⟨3 + needUpTo w.frames w.frames.size, by rw [fuelOf_eq]; omega⟩
  have hF : exec throwFuel w = (.ok (k + 1), w) := hk ▸ rfl
  have hP : exec (throwPre e) w = (.ok (some (some e)), w) := by
    have h0 : (w.frameIndex - 1).toNat = 0 := by rw [hfi]; rfl
    refine (VM.exec_throwPre e w).trans ?_
    rw [if_neg (by simp [hasHandler, hh]), h0, if_neg (by decide)]
    show (_, searchedS w) = _
    rw [searchedS, h0]
    rfl
  unfold throwNow
  rw [exec_bind, hF]
  dsimp only
  rw [throwF_succ]
  unfold throwK
  rw [exec_bind, exec_bind, hP]
  rfl

theorem exec_failWith_outer (n m : String) {code : Code} {u : State} (ho : Outer code u) :
    exec (failWith (.named n m)) u =
      (.ok .ret, { u with heap := errHeap n m u.heap, err := some (.rt (u.heap.size + 1)) }) := by
  rw [failWith_eq, exec_bind, exec_rtErr_named]
  exact exec_throwNow_outer _ (w := { u with heap := errHeap n m u.heap }) ho.handlers ho.fi

/-! ### `Run` around a loop that ends in the outer frame -/

/-- a reached state of the outer frame in front of a RETURN with `v`: the loop ends there and `Run` returns `v` -/
theorem run_return (F : FloatOps) {g : V} {args : List V} {sI s0 s : State} {code : Code} {v : V}
    (hpro : exec (prologue g args) sI = (.ok (), s0)) (hr : Reach F s0 s) (ho : Outer code s)
    (hnl : code.numLocals + 1 < 2048) (hat : AtReturn code s code.numLocals v) (hsv : Scalar v) :
    ∃ n, ∀ fuel, n ≤ fuel → (runFrom F fuel g args sI).1 = VM.Outcome.value v := by
  obtain ⟨s', hstep, herr, hsp, hv⟩ := step_return_outer F ho hnl hat
  obtain ⟨n, hn⟩ := hr
  refine ⟨n + 1, fun fuel hf => ?_⟩
  obtain ⟨k, rfl⟩ : ∃ k, fuel = n + (k + 1) := ⟨fuel - (n + 1), by omega⟩
  have hloop : exec (loopF F (n + (k + 1))) s0 = (.ok (some ()), s') := by
    rw [hn, loopF_succ F k ho.abort, exec_bind, hstep]
    rfl
  have hres : ∀ w : State, w.sp = s'.sp → w.stack = s'.stack → exec resultValue w = (.ok v, w) := by
    intro w h1 h2
    unfold resultValue
    simp only [exec_bind, exec_getSp, h1, hsp]
    rw [exec_stackGet' _ _ (by omega), h2, show ((code.numLocals : Int) + 1 - 1).toNat = code.numLocals by omega, hv]
    cases v <;> first | exact False.elim hsv | rfl
  rw [runFrom_of_loop F (by omega) hpro hloop]
  exact congrArg Prod.fst (finish_of_result (u := (exec clearCurrentFrame s').2) herr
    (by rw [stackSize_eq]; show s'.sp < 2048; omega) (hres _ rfl rfl))

/-- the loop reaches `throw` with a `named` error in the outer frame: `Run` ends with that error, uncaught -/
theorem run_uncaught (F : FloatOps) {g : V} {args : List V} {sI s0 u : State} {code : Code} {nm msg : String}
    (hpro : exec (prologue g args) sI = (.ok (), s0)) (hf : ReachFail F s0 (.named nm msg) u) (ho : Outer code u) :
    ∃ n, ∀ fuel, n ≤ fuel → ∃ sfin, runFrom F fuel g args sI = (VM.Outcome.error (.rt (u.heap.size + 1)), sfin) ∧
      sfin.heap = errHeap nm msg u.heap := by
  obtain ⟨n, hn⟩ := hf
  refine ⟨n + 1, fun fuel hfu => ?_⟩
  obtain ⟨k, rfl⟩ : ∃ k, fuel = n + 1 + k := ⟨fuel - (n + 1), by omega⟩
  have hloop : exec (loopF F (n + 1 + k)) s0 =
      (.ok (some ()), { u with heap := errHeap nm msg u.heap, err := some (.rt (u.heap.size + 1)) }) := by
    rw [hn k, exec_bind, exec_failWith_outer nm msg ho]
    rfl
  exact ⟨_, by rw [runFrom_of_loop F (by omega) hpro hloop]; exact finish_of_err _ _ rfl, rfl⟩

end UgoVerif.CompSim

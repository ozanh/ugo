import UgoVerif.Proofs.ScalarOps
/-
  The reference semantics keeps every variable in a heap box, the VM keeps uncaptured locals in
  stack slots, so the two heaps differ (in the boxes).  The fragment has no containers, closures or
  calls: every value it computes is a scalar.  On scalars the object-layer operations shared by the
  VM model and the reference semantics (`vBinaryOp`, `vUnary`, `vEqual`, `isFalsy`) neither read
  nor write the state (Proofs/ScalarOps).  That is what makes the simulation independent of the
  heap relation.
-/
namespace UgoVerif.CompSim
open UgoVerif UgoVerif.Go UgoVerif.VM UgoVerif.Proofs.ModCache
open UgoVerif.Proofs.OptimSem (IsPure Post OpRes)

/-- a value without a heap address -/
def Scalar : V → Prop
  | .undefined | .int _ | .uint _ | .float _ | .char _ | .bool _ | .str _ | .bytes _ => True
  | _ => False

theorem Scalar.os {v : V} (h : Scalar v) : Proofs.OptimSem.Scalar v := h

theorem Scalar.not_box {v : V} (h : Scalar v) (a : Addr) : v ≠ .box a := by
  intro e; subst e; exact h

theorem pure_all {α} {m : M α} (hp : IsPure m) {t t1 : State} {a : α} (h : exec m t = (.ok a, t1)) :
    t = t1 ∧ ∀ w, exec m w = (.ok a, w) := by
  rw [hp.h] at h
  simp only [Prod.mk.injEq] at h
  exact ⟨h.2, fun w => by rw [hp.h, h.1]⟩

end UgoVerif.CompSim

import UgoVerif.Proofs.CompSimExpr
namespace UgoVerif.CompSim
open UgoVerif UgoVerif.Go UgoVerif.Ast UgoVerif.VM UgoVerif.Proofs.ModCache UgoVerif.Proofs.VMExec
open UgoVerif.Compile (InsAt)
open UgoVerif.Proofs.Fetch (exec_opnd1_at)

theorem step_pop (F : FloatOps) {s : State} {code : Code} (hab : s.abort = false) (hc : CodeAt s code) {p b : Nat}
    (hip : s.ip + 1 = (p : Int)) (hat : InsAt code.insts p 22 0 0) (hsp : s.sp = (b : Int) + 1) (hb : b < 2048) :
    ∃ s', Str F b s s' ∧ s'.ip + 1 = (p : Int) + 1 ∧ s'.sp = (b : Int) := by
  have hrun : exec (step F) s = _ := step_at' F hc hip hat
  have hd : dispatch F 22 = execPop := rfl
  rw [hd] at hrun; unfold execPop at hrun
  simp only [exec_bind, exec_getSp, tick_sp, exec_setSp] at hrun
  rw [exec_stackSet' _ _ _ (by omega)] at hrun
  simp only [exec_pure, tick_stack] at hrun
  exact ⟨_, Str.of_tick hab hrun ((AgreeBelow.refl _ _).set _ _ (by omega)), by show (tick s 22).ip + 1 = _; rw [tick_ip, hip],
    by show s.sp - 1 = _; omega⟩

/-- what DEFINELOCAL and SETLOCAL (on a slot that holds no box) do with the value in slot `b`, the top of the
    stack: it goes to the local slot `i` and is popped -/
def Stored (F : FloatOps) (b : Nat) (s : State) (q i : Nat) : Prop :=
  ∃ s', Reach F s s' ∧ Same s s' ∧ s'.heap = s.heap ∧ s'.ip + 1 = (q : Int) ∧ s'.sp = (b : Int) ∧
    s'.stack = (s.stack.set! i (s.stack[b]!)).set! b .nil

theorem step_defineLocal (F : FloatOps) {s : State} {code : Code} (hab : s.abort = false) (hc : CodeAt s code) {p x b : Nat}
    (hip : s.ip + 1 = (p : Int)) (hat : InsAt code.insts p 40 1 x)
    (bp : Nat) (hbp : (s.frames[s.curFrame]!).bp = (bp : Int)) (hi : bp + x < 2048) (hsp : s.sp = (b : Int) + 1) (hb : b < 2048) :
    Stored F b s (p + 2) (bp + x) := by
  have hrun : exec (step F) s = _ := step_at' F hc hip hat
  have hd : dispatch F 40 = execDefineLocal := rfl
  rw [hd] at hrun; unfold execDefineLocal at hrun
  have hipt : (tick s 40).ip = (p : Int) := (tick_ip s 40).trans hip
  have e1 : (s.sp - 1).toNat = b := by omega
  simp only [exec_bind, exec_opnd1_at (exec_curCode (hc.tick 40)) hipt hat, exec_curFrame, tick_frame, hbp, exec_getSp, tick_sp] at hrun
  rw [exec_stackGet' _ _ (by omega)] at hrun
  simp only at hrun
  rw [exec_stackSet' _ _ _ (by omega)] at hrun
  simp only [exec_setSp] at hrun
  rw [exec_stackSet' _ _ _ (by omega)] at hrun
  have hidx : ((bp : Int) + (x : Int)).toNat = bp + x := by omega
  simp only [exec_bumpIp, exec_pure, tick_stack, hidx, hipt, e1] at hrun
  exact ⟨_, Reach.step hab hrun, (tick_same s _).trans Same.upd, tick_heap s _, by show (p : Int) + 1 + 1 = _; omega,
    by show s.sp - 1 = _; omega, rfl⟩

theorem step_setLocal (F : FloatOps) {s : State} {code : Code} (hab : s.abort = false) (hc : CodeAt s code) {p x b : Nat}
    (hip : s.ip + 1 = (p : Int)) (hat : InsAt code.insts p 6 1 x)
    (bp : Nat) (hbp : (s.frames[s.curFrame]!).bp = (bp : Int)) (hi : bp + x < 2048)
    (hv : ∀ a, s.stack[bp + x]! ≠ .box a) (hsp : s.sp = (b : Int) + 1) (hb : b < 2048) :
    Stored F b s (p + 2) (bp + x) := by
  have hrun : exec (step F) s = _ := step_at' F hc hip hat
  have hd : dispatch F 6 = execSetLocal := rfl
  rw [hd] at hrun; unfold execSetLocal at hrun
  have hipt : (tick s 6).ip = (p : Int) := (tick_ip s 6).trans hip
  have e1 : (s.sp - 1).toNat = b := by omega
  simp only [exec_bind, exec_opnd1_at (exec_curCode (hc.tick 6)) hipt hat, exec_getSp, tick_sp] at hrun
  rw [exec_stackGet' _ _ (by omega)] at hrun
  simp only [exec_curFrame, tick_frame, hbp] at hrun
  rw [exec_stackGet' _ _ (by omega)] at hrun
  have hidx : ((bp : Int) + (x : Int)).toNat = bp + x := by omega
  simp only [hidx, tick_stack, exec_bind] at hrun
  rw [exec_stackSet' _ _ _ (by omega)] at hrun
  simp only [exec_setSp] at hrun
  rw [exec_stackSet' _ _ _ (by omega)] at hrun
  simp only [exec_bumpIp, exec_pure, tick_stack, hidx, hipt, e1] at hrun
  exact ⟨_, Reach.step hab hrun, (tick_same s _).trans Same.upd, tick_heap s _, by show (p : Int) + 1 + 1 = _; omega,
    by show s.sp - 1 = _; omega, rfl⟩

theorem execStmt_zero (F : FloatOps) (env : Sem.Env) (st : Stmt) :
    Sem.execStmt F 0 env st = Sem.liftM (unsupported "sem: fuel") := by
  cases st <;> rfl

theorem execStmt_expr (F : FloatOps) (fuel : Nat) (env : Sem.Env) (pos : Pos) (e : Expr) :
    Sem.execStmt F (fuel + 1) env (.expr pos e) = (do
      match (← Sem.evalExpr F fuel env e) with
      | .thr a => pure (.thr a, env)
      | .val _ => pure (.normal, env)) := rfl

theorem run_execStmt_expr (F : FloatOps) (σ : String → Option Nat) (env : Sem.Env)
    (henv : ∀ n, (σ n).isSome → (Sem.lookupEnv n env).isSome) (fuel : Nat) (pos : Pos) (e : Expr)
    (hF : ExprF σ e = true) (ss : Sem.SemSt) :
    (Sem.execStmt F (fuel + 1) env (.expr pos e)).run ss =
      withSt ss (do
        let r ← evalF F fuel env e
        pure ((match r with | .val _ => Sem.Comp.normal | .thr a => .thr a), env)) := by
  rw [execStmt_expr, run_bind_withSt _ _ _ _ (evalExpr_eq_evalF F σ env henv fuel e hF ss), withSt_bind]
  congr 1; funext r
  cases r <;> simp [withSt]

end UgoVerif.CompSim

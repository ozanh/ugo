import UgoVerif.Proofs.CompSimStmt
import UgoVerif.Proofs.CompSimFall
/-
  The simple statements of `StmtF`.  Each evaluates an expression, completes with its error and goes on with the
  value (`eval_step`); the statement's own instruction then runs over the base of the start state.  Forms that differ
  in syntax only share a core stated for an abstract computation: `x := e` and a `var` specification are a `DeclRun`
  (`good_defineCore`); `x = e`, `x op= e`, `x++` and `x--` are an `AssignRun` (`good_assignCore`).
-/
namespace UgoVerif.CompSim
open UgoVerif UgoVerif.Go UgoVerif.Ast UgoVerif.VM UgoVerif.Proofs.ModCache UgoVerif.Proofs.VMExec
open UgoVerif.Compile (CState runCM compileExpr compileStmt IsPre Pre Table nextIndex)

theorem expr_sim (F : FloatOps) {e : Expr} {cs cs' : CState} (hc : runCM (compileExpr e) cs = (.ok (), cs'))
    (hF : ExprF (localIdx cs) e = true) {K : Array Compile.Const} {code : Code} {bp lo b : Nat} {env : Sem.Env} {s t : State}
    (hK : IsPre cs'.constants K) (hcode : CodeHas code cs'.insts cs.insts.size) (hvm : VMOk K code bp lo s)
    (hip : s.ip + 1 = (cs.insts.size : Int)) (hb : (b : Int) = s.sp) (hsp : s.sp + need e ≤ 2048)
    (hloc : LocalsOK (localIdx cs) env t s bp lo) {fuel : Nat} {ss ss1 : Sem.SemSt} {r : Sem.ER} {t1 : State}
    (hsem : exec ((Sem.evalExpr F fuel env e).run ss) t = (.ok (r, ss1), t1)) :
    ss1 = ss ∧ Shape cs cs' ∧ OutAt F b s t t1 cs'.insts.size r := by
  have henv : ∀ n, (localIdx cs n).isSome → (Sem.lookupEnv n env).isSome := by
    intro n hn
    cases hi : localIdx cs n with
    | none => simp [hi] at hn
    | some i =>
      obtain ⟨a, v, hl, _⟩ := hloc n i hi
      simp [hl]
  rw [evalExpr_eq_evalF F (localIdx cs) env henv fuel e hF ss] at hsem
  obtain ⟨rfl, h1⟩ := withSt_inv hsem
  obtain ⟨sh, sim⟩ := good_all F _ e hF cs cs' rfl hc
  exact ⟨rfl, sh, sim hK hcode hvm hip hb (by omega) hloc h1⟩

theorem VMOk.base {K : Array Compile.Const} {code : Code} {bp lo : Nat} {s : State} (h : VMOk K code bp lo s) :
    ∃ b : Nat, (b : Int) = s.sp ∧ lo ≤ b :=
  ⟨s.sp.toNat, by have := h.lo; omega, by have := h.lo; omega⟩

theorem after_str {F : FloatOps} {K : Array Compile.Const} {code : Code} {bp L N b : Nat} {binds : List (Nat × Addr)}
    {s s' t : State} (hvm : VMOk K code bp (bp + L) s) (hdy : Dyn binds t s bp) (hlt : ∀ i a, (i, a) ∈ binds → i < N)
    (hN : N ≤ L) (hb : (b : Int) = s.sp) (h : Str F b s s') (hsp : s'.sp = s.sp) :
    VMOk K code bp (bp + L) s' ∧ Dyn binds t s' bp ∧ Frm s s' bp L := by
  have hlo := hvm.lo
  exact ⟨hvm.of_same h.same h.heap h.agree.1 (by omega), hdy.carry hlt hN h.heap (fun j _ hj => h.agree.2 j (by omega)),
    Frm.of_agree hb h.same h.heap h.agree⟩

/-- the shape every statement of the fragment starts with: evaluate `e`, complete with its error, go on with `kS v` -/
theorem eval_step (F : FloatOps) {e : Expr} {cs cs1 : CState} (he : runCM (compileExpr e) cs = (.ok (), cs1))
    (hF : ExprF (localIdx cs) e = true)
    {K : Array Compile.Const} {code : Code} {bp L N N' b q : Nat} {env envT env' : Sem.Env} {σ' : String → Option Nat}
    {binds : List (Nat × Addr)} {s t t' : State} {ss ss' : Sem.SemSt} {c : Sem.Comp} {fuel : Nat}
    {kS : V → Sem.SM (Sem.Comp × Sem.Env)}
    (hK : IsPre cs1.constants K) (hcode : CodeHas code cs1.insts cs.insts.size) (hvm : VMOk K code bp (bp + L) s)
    (hip : s.ip + 1 = (cs.insts.size : Int)) (hsp : s.sp + need e ≤ 2048) (hb : (b : Int) = s.sp)
    (hst : Static (localIdx cs) N env binds) (hdy : Dyn binds t s bp) (hN : N ≤ L)
    (hsem : exec ((do
      match (← Sem.evalExpr F fuel env e) with
      | .thr a => pure (.thr a, envT)
      | .val v => kS v : Sem.SM (Sem.Comp × Sem.Env)).run ss) t = (.ok ((c, env'), ss'), t')) :
    (ss = ss' ∧ OutS F code q bp L σ' N' binds s t' env' c) ∨
    ∃ v s1, Scalar v ∧ ValAt F b s s1 cs1.insts.size v ∧ VMOk K code bp (bp + L) s1 ∧
      exec ((kS v).run ss) t = (.ok ((c, env'), ss'), t') := by
  obtain ⟨r, ss1, t1, hev, hsem⟩ := sm_bind_inv hsem
  obtain ⟨rfl, -, o⟩ := expr_sim F he hF hK hcode hvm hip hb hsp (locals_of hst hdy hN) hev
  cases r with
  | thr a =>
    obtain ⟨rfl, rfl, rfl, rfl⟩ := sm_pure_pair hsem
    exact .inl ⟨rfl, OutS.of_thr hb o hdy.rel⟩
  | val v =>
    obtain ⟨rfl, hsv, s1, o⟩ := o
    exact .inr ⟨v, s1, hsv, o, hvm.of_same o.str.same o.str.heap o.str.agree.1 (by have := o.sp; have := hvm.lo; omega), hsem⟩

theorem OutS.normal_str {F : FloatOps} {K : Array Compile.Const} {code : Code} {q bp L N b : Nat} {σ : String → Option Nat}
    {binds : List (Nat × Addr)} {s s' t' : State} {env : Sem.Env}
    (h : Str F b s s') (hb : (b : Int) = s.sp) (hvm : VMOk K code bp (bp + L) s) (hip : s'.ip + 1 = (q : Int))
    (hsp : s'.sp = s.sp) (hst : Static σ N env binds) (hdy : Dyn binds t' s bp) (hN : N ≤ L) :
    OutS F code q bp L σ N binds s t' env .normal :=
  have ⟨_, hdy', hf⟩ := after_str hvm hdy hst.lt hN hb h hsp
  ⟨binds, s', h.reach, hf, hip, hsp, fun _ h => h, hst, hdy'⟩

theorem execStmt_zero' {F : FloatOps} {env : Sem.Env} {st : Stmt} {ss ss' : Sem.SemSt} {t t' : State}
    {r : Sem.Comp × Sem.Env} (h : exec ((Sem.execStmt F 0 env st).run ss) t = (.ok (r, ss'), t')) : False := by
  rw [execStmt_zero] at h
  exact sm_unsupported_ne h

theorem nextIndex_le_of {cs cs' : CState} {L : Nat} (hok : CsOK cs) (he : StEff cs cs') (hL : fnMax cs'.tables ≤ L) :
    nextIndex cs.tables ≤ L := by
  have := hok.ni
  have := he.tabs.fnMax
  omega

theorem compileStmt_expr (pos : Pos) (e : Expr) :
    compileStmt (.expr pos e) = (do compileExpr e; Compile.emit_ pos Compile.OpPop) := rfl

theorem good_exprStmt (F : FloatOps) (B : List String) (pos : Pos) (e : Expr) (hF : ExprF (bnd B) e = true) :
    GoodCF F B B (need e) (compileStmt (.expr pos e)) (fun fuel env => Sem.execStmt F fuel env (.expr pos e)) .ends := by
  intro cs cs' hc hcov hok
  rw [compileStmt_expr] at hc
  obtain ⟨_, cs1, he, hc⟩ := bind_inv hc
  have hFe := exprF_of_cov hcov hF
  obtain ⟨she, _⟩ := good_all F _ e hFe cs cs1 rfl he
  have shp := Shape.of_emit_ hc
  have sh := she.trans shp
  have hse := StEff.of_shape sh hok.ne
  have htab : cs'.tables = cs.tables := sh.tables
  refine ⟨⟨hse, hok.of_shape sh, by rw [sh.localIdx]; exact hcov, ?_⟩,
    fun hinv => fallsJ_emit_last (good_expr_run hF hinv he).1.walk hc (by decide) _ she.pre.1⟩
  intro fuel K code bp L env binds s t ss ss' c env' t' hK hcode hvm hip hsp hL hst hdy hsem
  dsimp only at hsem
  have hN := nextIndex_le_of hok hse hL
  obtain ⟨hsz, hat⟩ := emit0_code (op := Compile.OpPop) rfl hc
  obtain ⟨b, hb, hlo⟩ := hvm.base
  cases fuel with
  | zero => exact (execStmt_zero' hsem).elim
  | succ fuel =>
    rw [execStmt_expr] at hsem
    rcases eval_step F he hFe (Compile.IsPre.trans shp.cpre hK) (hcode.sub shp.pre (Nat.le_refl _)) hvm hip hsp hb
      hst hdy hN hsem with h | ⟨v, s1, hsv, h1, hvm1, hsem⟩
    · exact h
    obtain ⟨rfl, rfl, rfl, rfl⟩ := sm_pure_pair hsem
    have hne := need_pos e
    refine ⟨rfl, ?_⟩
    obtain ⟨s2, h2, hip2, hsp2⟩ := step_pop F hvm1.abort hvm1.code h1.ip (hat hcode she.pre.1) h1.sp (by omega)
    rw [sh.localIdx, htab]
    exact OutS.normal_str (h1.str.trans h2) hb hvm (by rw [hip2, hsz]; push_cast; rfl) (by omega) hst hdy hN

theorem pw_ne {binds : List (Nat × Addr)} (h : binds.Pairwise (fun p q => p.1 ≠ q.1 ∧ p.2 ≠ q.2)) :
    ∀ {p q : Nat × Addr}, p ∈ binds → q ∈ binds → p ≠ q → p.1 ≠ q.1 ∧ p.2 ≠ q.2 := by
  induction binds with
  | nil => intro p q hp; cases hp
  | cons b r ih =>
    rw [List.pairwise_cons] at h
    intro p q hp hq hne
    rcases List.mem_cons.mp hp with rfl | hp'
    · rcases List.mem_cons.mp hq with rfl | hq'
      · exact (hne rfl).elim
      · exact h.1 q hq'
    · rcases List.mem_cons.mp hq with rfl | hq'
      · have := h.1 p hp'
        exact ⟨fun e => this.1 e.symm, fun e => this.2 e.symm⟩
      · exact ih h.2 hp' hq' hne

theorem ValAt.stored {F : FloatOps} {b bp L k q q' : Nat} {s s1 : State} {v : V} (h1 : ValAt F b s s1 q v)
    (h2 : Stored F b s1 q' (bp + k)) (hb : (b : Int) = s.sp) (hk : k < L) (hlo : bp + L ≤ b) (hsz : s.stack.size = 2048)
    (hb2 : b < 2048) :
    ∃ s2, Reach F s s2 ∧ Frm s s2 bp L ∧ s2.ip + 1 = (q' : Int) ∧ s2.sp = s.sp ∧ s2.stack[bp + k]! = v ∧
      ∀ j, j ≠ bp + k → j < b → s2.stack[j]! = s.stack[j]! := by
  obtain ⟨s2, hr2, hs2, hh2, hip2, hsp2, hst2⟩ := h2
  have hag := h1.str.agree
  have hoth : ∀ j, j ≠ bp + k → j < b → s2.stack[j]! = s.stack[j]! := fun j hj hjb => by
    rw [hst2, Array.getElem!_set!_ne _ _ _ _ (by omega), Array.getElem!_set!_ne _ _ _ _ (Ne.symm hj)]
    exact hag.2 j hjb
  refine ⟨s2, h1.str.reach.trans hr2, ⟨h1.str.same.trans hs2, hh2.trans h1.str.heap, ?_, fun j hj ho => hoth j (by omega) (by omega)⟩,
    hip2, hsp2.trans hb, ?_, hoth⟩
  · rw [hst2, Array.size_set!, Array.size_set!]; exact hag.1
  · rw [hst2, Array.getElem!_set!_ne _ _ _ _ (by omega), Array.getElem!_set!_self _ _ _ (by rw [hag.1]; omega)]
    exact h1.get

theorem assign_tail (F : FloatOps) {pos : Pos} {cs1 cs' : CState} {i : Nat}
    (hc : runCM (Compile.emit_ pos Compile.OpSetLocal [(i : Int)]) cs1 = (.ok (), cs'))
    {K : Array Compile.Const} {code : Code} {bp L N b : Nat} {σ : String → Option Nat} {env : Sem.Env}
    {binds : List (Nat × Addr)} {s s1 t : State} {v : V} {a : Addr}
    (hcode : CodeHas code cs'.insts cs1.insts.size) (hvm : VMOk K code bp (bp + L) s) (hb : (b : Int) = s.sp) (hlo : bp + L ≤ b)
    (hb2 : b < 2048) (h1 : ValAt F b s s1 cs1.insts.size v) (hvm1 : VMOk K code bp (bp + L) s1) (hsv : Scalar v)
    (hst : Static σ N env binds) (hdy : Dyn binds t s bp) (hN : N ≤ L) (hm : (i, a) ∈ binds) :
    OutS F code cs'.insts.size bp L σ N binds s { t with heap := t.heap.set! a (.box v) } env .normal := by
  obtain ⟨hsz, hat⟩ := emit_code (op := Compile.OpSetLocal) (w := 1) rfl hc
  have hiN := hst.lt i a hm
  obtain ⟨ha0, v0, hc0, hs0, hsc0⟩ := hdy.cell i a hm
  obtain ⟨s2, hr, hf, hip2, hsp2, hki, hoth⟩ := h1.stored (step_setLocal F hvm1.abort hvm1.code h1.ip (hat hcode (Nat.le_refl _)) bp
    hvm1.bp (by omega) (by rw [h1.str.agree.2 _ (by omega), hs0]; exact hsc0.not_box) h1.sp hb2) hb (by omega) hlo hvm.size hb2
  have halt : a < t.heap.size := by
    rcases Nat.lt_or_ge a t.heap.size with h | h
    · exact h
    · simp [Array.getElem?_eq_none h] at hc0
  refine ⟨binds, s2, hr, hf, by rw [hip2, hsz], hsp2, fun _ h => h, hst, ?_, (hdy.rel.set a v ha0).of_eq hf.heap⟩
  intro j c hjc
  obtain ⟨hc1, w, hw1, hw2, hw3⟩ := hdy.cell j c hjc
  have hjN := hst.lt j c hjc
  by_cases heq : (j, c) = (i, a)
  · simp only [Prod.mk.injEq] at heq
    obtain ⟨rfl, rfl⟩ := heq
    exact ⟨by rw [hf.heap]; exact hc1, v, set!_getElem?_eq _ _ _ halt, hki, hsv⟩
  · obtain ⟨n1, n2⟩ := pw_ne hst.inj hjc hm heq
    refine ⟨by rw [hf.heap]; exact hc1, w, ?_, by rw [hoth _ (by simp at n1; omega) (by omega)]; exact hw2, hw3⟩
    show (t.heap.set! a _)[c]? = _
    rw [set!_getElem?_ne _ _ _ _ (Ne.symm n2)]; exact hw1

theorem define_tail (F : FloatOps) {pos : Pos} {cs1 cs' : CState} {N : Nat}
    (hc : runCM (Compile.emit_ pos Compile.OpDefineLocal [(N : Int)]) cs1 = (.ok (), cs'))
    {K : Array Compile.Const} {code : Code} {bp L b : Nat} {σ σ' : String → Option Nat} {env env' : Sem.Env}
    {binds : List (Nat × Addr)} {s s1 t : State} {v : V} {x : String}
    (hcode : CodeHas code cs'.insts cs1.insts.size) (hvm : VMOk K code bp (bp + L) s) (hb : (b : Int) = s.sp) (hlo : bp + L ≤ b)
    (hb2 : b < 2048) (h1 : ValAt F b s s1 cs1.insts.size v) (hvm1 : VMOk K code bp (bp + L) s1) (hsv : Scalar v)
    (hst : Static σ N env binds) (hdy : Dyn binds t s bp) (hN : N + 1 ≤ L)
    (hσx : σ' x = some N) (hσ : ∀ m, m ≠ x → σ' m = σ m)
    (hex : Sem.lookupEnv x env' = some t.heap.size) (he : ∀ m, m ≠ x → Sem.lookupEnv m env' = Sem.lookupEnv m env) :
    OutS F code cs'.insts.size bp L σ' (N + 1) binds s { t with heap := t.heap.push (.box v) } env' .normal := by
  obtain ⟨hsz, hat⟩ := emit_code (op := Compile.OpDefineLocal) (w := 1) rfl hc
  obtain ⟨s2, hr, hf, hip2, hsp2, hkN, hoth⟩ := h1.stored (step_defineLocal F hvm1.abort hvm1.code h1.ip (hat hcode (Nat.le_refl _)) bp
    hvm1.bp (by omega) h1.sp hb2) hb (by omega) hlo hvm.size hb2
  have hrel := hdy.rel
  have hbox : ∀ i a, (i, a) ∈ binds → a < t.heap.size := fun i a h => by
    obtain ⟨_, w, hw, _⟩ := hdy.cell i a h
    rcases Nat.lt_or_ge a t.heap.size with h' | h'
    · exact h'
    · simp [Array.getElem?_eq_none h'] at hw
  refine ⟨(N, t.heap.size) :: binds, s2, hr, hf, by rw [hip2, hsz], hsp2,
    fun _ h => List.mem_cons_of_mem _ h, ⟨?_, ?_, ?_⟩, ?_, (hrel.push v).of_eq hf.heap⟩
  · intro n i hi
    by_cases hn : n = x
    · subst hn
      rw [hσx] at hi
      simp only [Option.some.injEq] at hi
      subst hi
      exact ⟨_, hex, List.mem_cons_self⟩
    · rw [hσ n hn] at hi
      obtain ⟨a, hl, hm⟩ := hst.look n i hi
      exact ⟨a, by rw [he n hn]; exact hl, List.mem_cons_of_mem _ hm⟩
  · intro i a hm
    rcases List.mem_cons.mp hm with h | h
    · simp only [Prod.mk.injEq] at h; omega
    · have := hst.lt i a h; omega
  · rw [List.pairwise_cons]
    exact ⟨fun q hq => ⟨Nat.ne_of_gt (hst.lt q.1 q.2 hq), Nat.ne_of_gt (hbox q.1 q.2 hq)⟩, hst.inj⟩
  · intro j c hjc
    rcases List.mem_cons.mp hjc with h | h
    · simp only [Prod.mk.injEq] at h
      obtain ⟨rfl, rfl⟩ := h
      exact ⟨by rw [hf.heap]; exact hrel.le, v, by simp, hkN, hsv⟩
    · obtain ⟨hc1, w, hw1, hw2, hw3⟩ := hdy.cell j c h
      have hjN := hst.lt j c h
      have hclt := hbox j c h
      refine ⟨by rw [hf.heap]; exact hc1, w, ?_, by rw [hoth _ (by omega) (by omega)]; exact hw2, hw3⟩
      show (t.heap.push _)[c]? = _
      rw [Array.getElem?_push_lt hclt, ← hw1, Array.getElem?_eq_getElem hclt]

theorem compileStmt_assign1 (pos : Pos) (tok : Nat) (p : Pos) (x : String) (r : Expr) (h : tok = tDefine ∨ tok = tAssign) :
    compileStmt (.assign pos tok [.ident p x] [r]) =
      (do compileExpr r; Compile.compileDefineAssign pos (.ident p x) tVar tok false) := by
  rw [Compile.compileStmt_eq]
  simp only
  unfold Compile.compileAssign
  rcases h with rfl | rfl <;>
    simp [Compile.compileExprs, Compile.isSelOrIndex, tDefine, tAssign, Gen.tok_Define, Gen.tok_Assign]

theorem compileStmt_compound (pos : Pos) (tok : Nat) (p : Pos) (x : String) (r : Expr) (h1 : tok ≠ tDefine) (h2 : tok ≠ tAssign) :
    compileStmt (.assign pos tok [.ident p x] [r]) =
      (do compileExpr (.ident p x); compileExpr r
          (match Compile.compoundOp tok with
           | some t => Compile.emit_ pos Compile.OpBinaryOp [(t : Int)]
           | none => pure ())
          Compile.compileDefineAssign pos (.ident p x) tVar tok false) := by
  rw [Compile.compileStmt_eq]
  simp only
  unfold Compile.compileAssign
  simp [Compile.compileExprs, Compile.isSelOrIndex, h1, h2]
  rfl

theorem execStmt_assign1 (F : FloatOps) (fuel : Nat) (env : Sem.Env) (pos : Pos) (tok : Nat) (tg r : Expr) :
    Sem.execStmt F (fuel + 1) env (.assign pos tok [tg] [r]) =
      (if tok == tAssign || tok == tDefine then do
          match (← Sem.evalExpr F fuel env r) with
          | .thr a => pure (.thr a, env)
          | .val v => Sem.assignTo F fuel env tg v (tok == tDefine) tVar
        else do
          match (← Sem.evalExpr F fuel env tg) with
          | .thr a => pure (.thr a, env)
          | .val cur =>
            match (← Sem.evalExpr F fuel env r) with
            | .thr a => pure (.thr a, env)
            | .val rv =>
              let op := (Sem.compoundBase tok).getD tAdd
              match (← Sem.liftM (vBinaryOp F (tokOfNat op) cur rv)) with
              | .error er => do match (← Sem.raise er) with | .thr a => pure (.thr a, env) | _ => pure (.normal, env)
              | .ok nv => Sem.assignTo F fuel env tg nv false tVar) := rfl

theorem assignTo_define (F : FloatOps) (fuel : Nat) (env : Sem.Env) (p : Pos) (x : String) (v : V) (kw : Nat) :
    Sem.assignTo F (fuel + 1) env (.ident p x) v true kw =
      (do let env' ← Sem.declare env x v; pure (.normal, env')) := rfl

theorem assignTo_set (F : FloatOps) (fuel : Nat) (env : Sem.Env) (p : Pos) (x : String) (v : V) (kw : Nat) (a : Addr)
    (hl : Sem.lookupEnv x env = some a) :
    Sem.assignTo F (fuel + 1) env (.ident p x) v false kw =
      (do Sem.liftM (heapSet a (.box v)); pure (.normal, env)) := by
  rw [Sem.assignTo]
  simp only [hl, Bool.false_eq_true, if_false]

theorem evalExpr_zero (F : FloatOps) (env : Sem.Env) (e : Expr) :
    Sem.evalExpr F 0 env e = Sem.liftM (unsupported "sem: fuel") := by
  cases e <;> rfl

theorem assignTo_zero (F : FloatOps) (env : Sem.Env) (tg : Expr) (v : V) (d : Bool) (kw : Nat) :
    Sem.assignTo F 0 env tg v d kw = Sem.liftM (unsupported "sem: fuel") := by
  rw [Sem.assignTo]

theorem cda_define (pos p : Pos) (x : String) :
    Compile.compileDefineAssign pos (.ident p x) tVar tDefine false = Compile.compileDefine pos x false tVar := by
  rw [Compile.compileDefineAssign]
  · simp [Compile.lhsName]
  · intro _ _ _ h; cases h
  · intro _ _ _ h; cases h

theorem cda_assign (pos p : Pos) (x : String) (tok : Nat) (h : tok ≠ tDefine) :
    Compile.compileDefineAssign pos (.ident p x) tVar tok false = (do
      match (← Compile.resolve x) with
      | none => Compile.cerr pos s!"unresolved reference \"{x}\""
      | some sym => Compile.compileAssignSym pos sym x) := by
  rw [Compile.compileDefineAssign]
  · simp [Compile.lhsName, h]
    rfl
  · intro _ _ _ h; cases h
  · intro _ _ _ h; cases h

theorem tables_cons_of_ok {cs : CState} (h : CsOK cs) : ∃ t r, cs.tables = t :: r := by
  cases ht : cs.tables with
  | nil => exact (h.ne ht).elim
  | cons t r => exact ⟨t, r, rfl⟩

theorem compileDefine_inv {pos : Pos} {x : String} {cs1 cs' : CState} (hx : x ≠ "_") (hok : CsOK cs1)
    (hc : runCM (Compile.compileDefine pos x false tVar) cs1 = (.ok (), cs')) :
    ∃ (T1 T2 : List Table) (csB : CState),
      runCM (Compile.emit_ pos Compile.OpDefineLocal [(nextIndex cs1.tables : Int)]) { cs1 with tables := T1 } = (.ok (), csB) ∧
      cs' = { csB with tables := T2 } ∧ TEff cs1.tables T2 ∧ nextIndex T2 = nextIndex cs1.tables + 1 ∧
      (∀ m, m ≠ x → locOf m T2 = locOf m cs1.tables) ∧
      (∃ y, locOf x T2 = some y ∧ y.scope = .local_ ∧ y.index = (nextIndex cs1.tables : Int)) ∧
      nextIndex cs1.tables + 1 ≤ fnMax T2 := by
  obtain ⟨t, r, htr⟩ := tables_cons_of_ok hok
  unfold Compile.compileDefine at hc
  obtain ⟨⟨sym, ex⟩, csA, hd, hc⟩ := bind_inv hc
  cases hdef : Compile.definedSym x t with
  | some sym0 =>
    -- `allowRedefine = false` and `x ≠ "_"`: a name defined in this block is a compile error
    rw [Compile.runCM_defineLocal_ex htr hdef] at hd
    simp only [Prod.mk.injEq, Except.ok.injEq] at hd
    obtain ⟨⟨rfl, rfl⟩, rfl⟩ := hd
    have hx' : (x != "_") = true := by simpa using hx
    simp [hx', Compile.cerr, Compile.runCM_throw] at hc
  | none =>
    rw [Compile.runCM_defineLocal_new htr hdef] at hd
    simp only [Prod.mk.injEq, Except.ok.injEq] at hd
    obtain ⟨⟨rfl, rfl⟩, rfl⟩ := hd
    simp only [Bool.not_false, Bool.and_false, Bool.false_and, Bool.false_eq_true, if_false, Compile.newLocal] at hc
    obtain ⟨s0, csA', hg, hc⟩ := bind_inv hc
    rw [Compile.runCM_get] at hg
    simp only [Prod.mk.injEq, Except.ok.injEq] at hg
    obtain ⟨rfl, rfl⟩ := hg
    have htc : (tVar == tConst) = false := by decide
    simp only [htc, Bool.and_false, Bool.false_eq_true, if_false] at hc
    obtain ⟨_, csB, hem, hc⟩ := bind_inv hc
    obtain ⟨h1, h2, h3, h4, h5⟩ := define_tables cs1.builtins x (Compile.newLocal x cs1.tables) t r
      (nextIndex cs1.tables + 1) _ rfl
    obtain ⟨t1, r1, hT, hsame, htl⟩ := (tl_updateMaxDefs (nextIndex cs1.tables + 1)
      (Compile.defLocalTable cs1.builtins x (Compile.newLocal x cs1.tables) t :: r)).cons_inv
    have hemA := hem
    obtain ⟨_, rest, _, _, eB⟩ := emit__inv hem
    have hBt : csB.tables = t1 :: r1 := by rw [eB]; exact hT
    have hl1 : Compile.lookupSym x t1.store = some (Compile.newLocal x cs1.tables) := by
      have := h4
      rw [hT] at this
      simp only [locOf] at this
      cases hl : Compile.lookupSym x t1.store with
      | some y => rw [hl] at this; exact this
      | none =>
        rw [hsame.store] at hl
        have hst : (Compile.defLocalTable cs1.builtins x (Compile.newLocal x cs1.tables) t).store =
            Compile.putSym x (Compile.newLocal x cs1.tables) t.store := by
          simp only [Compile.defLocalTable, Compile.shadowBuiltin]; split <;> rfl
        rw [hst, Compile.lookupSym_putSym_self] at hl
        cases hl
    rw [Compile.runCM_updateSym hBt hl1] at hc
    simp only [Prod.mk.injEq, true_and] at hc
    have key : ∀ y : Compile.Symbol, y.scope = .local_ → y.index = (nextIndex cs1.tables : Int) →
        TEff cs1.tables ({ t1 with store := Compile.putSym x y t1.store } :: r1) ∧
        nextIndex ({ t1 with store := Compile.putSym x y t1.store } :: r1) = nextIndex cs1.tables + 1 ∧
        (∀ m, m ≠ x → locOf m ({ t1 with store := Compile.putSym x y t1.store } :: r1) = locOf m cs1.tables) ∧
        (∃ y', locOf x ({ t1 with store := Compile.putSym x y t1.store } :: r1) = some y' ∧ y'.scope = .local_ ∧
          y'.index = (nextIndex cs1.tables : Int)) ∧
        nextIndex cs1.tables + 1 ≤ fnMax ({ t1 with store := Compile.putSym x y t1.store } :: r1) := by
      intro y hy1 hy2
      obtain ⟨g1, g2, g3, g4, g5⟩ := updateSym_tables x y t1 r1
      refine ⟨?_, ?_, ?_, ?_, ?_⟩
      · rw [htr]; rw [hT] at h1; exact h1.trans g1
      · rw [g2, ← hT, h2, htr]
      · intro m hm; rw [g3 m hm, ← hT, h3 m hm, htr]
      · exact ⟨_, g4, hy1, hy2⟩
      · rw [g5, ← hT]; exact h5 (by rw [← htr]; exact hok.fn)
    refine ⟨_, _, csB, hemA, hc.symm, ?_⟩
    exact key _ rfl rfl

theorem localIdx_of_locOf {cs : CState} {n : String} {y : Compile.Symbol} {N : Nat} (h : locOf n cs.tables = some y)
    (h1 : y.scope = .local_) (h2 : y.index = (N : Int)) : localIdx cs n = some N := by
  rw [localIdx_eq, h]
  simp only [slotOf, h1, h2]
  simp

/-- `e` evaluated, then `declare env x v`; in `envE` since a `var` specification evaluates `e` in a scope of its
    own, `[] :: env` -/
def DeclRun (F : FloatOps) (x : String) (r : Expr) (env : Sem.Env) (ss : Sem.SemSt) (t : State)
    (c : Sem.Comp) (env' : Sem.Env) (ss' : Sem.SemSt) (t' : State) : Prop :=
  ∃ (fuelE : Nat) (envE : Sem.Env), (∀ n, Sem.lookupEnv n envE = Sem.lookupEnv n env) ∧
    exec ((do
      match (← Sem.evalExpr F fuelE envE r) with
      | .thr a => pure (.thr a, env)
      | .val v => do let env' ← Sem.declare env x v; pure (.normal, env') : Sem.SM (Sem.Comp × Sem.Env)).run ss) t =
        (.ok ((c, env'), ss'), t')

theorem good_defineCore (F : FloatOps) (B : List String) (pos : Pos) (x : String) (r : Expr)
    (hF : ExprF (bnd B) r = true) (hx : x ≠ "_") (sem : Nat → Sem.Env → Sem.SM (Sem.Comp × Sem.Env))
    (hrun : ∀ fuel env ss t c env' ss' t', exec ((sem fuel env).run ss) t = (.ok ((c, env'), ss'), t') →
      DeclRun F x r env ss t c env' ss' t') :
    GoodCF F B (x :: B) (need r + 1) (do compileExpr r; Compile.compileDefine pos x false tVar) sem .ends := by
  intro cs cs' hc hcov hok
  obtain ⟨_, cs1, he, hc⟩ := bind_inv hc
  have hFe := exprF_of_cov hcov hF
  obtain ⟨she, _⟩ := good_all F _ r hFe cs cs1 rfl he
  have hok1 := hok.of_shape she
  have ht1 : cs1.tables = cs.tables := she.tables
  obtain ⟨T1, T2, csB, hem, rfl, hte, hni, hloc, ⟨y, hy, hy1, hy2⟩, hfm⟩ := compileDefine_inv hx hok1 hc
  obtain ⟨_, rest, _, _, eB⟩ := emit__inv hem
  have hBi : csB.insts = cs1.insts ++ (UInt8.ofNat Compile.OpDefineLocal :: rest).toArray := by rw [eB]
  have hBc : csB.constants = cs1.constants := by rw [eB]
  have hse1 : StEff cs1 { csB with tables := T2 } := by
    refine ⟨by rw [eB], ?_, ?_, hte⟩
    · show Pre cs1.insts csB.insts; rw [hBi]; exact Compile.Pre.append _ _
    · show IsPre cs1.constants csB.constants; rw [hBc]; exact Compile.IsPre.refl _
  have hse := (StEff.of_shape she hok.ne).trans hse1
  have hlx : localIdx { csB with tables := T2 } x = some (nextIndex cs.tables) :=
    localIdx_of_locOf hy hy1 (by rw [hy2, ht1])
  have hlo : ∀ m, m ≠ x → localIdx { csB with tables := T2 } m = localIdx cs m := by
    intro m hm
    rw [localIdx_eq, localIdx_eq]
    show slotOf (locOf m T2) = _
    rw [hloc m hm, ht1]
  have hok' : CsOK { csB with tables := T2 } :=
    ⟨by show hasFn T2 = true; rw [hte.hasFn]; exact hok1.fn,
     by show csB.tryCatchIndex ≤ -1; rw [eB]; exact hok1.tci,
     by show nextIndex T2 ≤ fnMax T2; rw [hni]; exact hfm⟩
  refine ⟨⟨hse, hok', Cov.cons hcov (by rw [hlx]; rfl) hlo, ?_⟩, fun hinv =>
    have hg := good_expr_run hF hinv he
    fallsJ_emit_last (csA := { cs1 with tables := T1 }) hg.1.walk hem (by decide) _ hg.2.pre.1⟩
  intro fuel K code bp L env binds s t ss ss' c env' t' hK hcode hvm hip hsp hL hst hdy hsem
  have hN : nextIndex cs.tables + 1 ≤ L := by
    have : fnMax T2 ≤ L := hL
    rw [ht1] at hfm; omega
  have hK1 : IsPre cs1.constants K := by
    have : IsPre csB.constants K := hK
    rw [hBc] at this; exact this
  have hcode1 : CodeHas code cs1.insts cs.insts.size := by
    have : CodeHas code csB.insts cs.insts.size := hcode
    exact this.sub (by rw [hBi]; exact Compile.Pre.append _ _) (Nat.le_refl _)
  obtain ⟨fuelE, envE, hlk, hsem⟩ := hrun fuel env ss t c env' ss' t' hsem
  have hstE : Static (localIdx cs) (nextIndex cs.tables) envE binds :=
    ⟨fun n i hi => by rw [hlk]; exact hst.look n i hi, hst.lt, hst.inj⟩
  obtain ⟨b, hb, hbl⟩ := hvm.base
  rcases eval_step F he hFe hK1 hcode1 hvm hip (by omega) hb hstE hdy (by omega) hsem with h | ⟨v, s1, hsv, h1, hvm1, hsem⟩
  · exact h
  obtain ⟨envd, ss2, t2, hdec, hsem⟩ := sm_bind_inv hsem
  obtain ⟨rfl, rfl, rfl, rfl⟩ := sm_pure_pair hsem
  obtain ⟨rfl, rfl, hex, hen⟩ := declare_inv hdec
  refine ⟨rfl, ?_⟩
  have hnx : nextIndex T2 = nextIndex cs.tables + 1 := by rw [hni, ht1]
  show OutS F code csB.insts.size bp L (localIdx { csB with tables := T2 }) (nextIndex T2) binds s _ _ _
  rw [hnx]
  have hem' : runCM (Compile.emit_ pos Compile.OpDefineLocal [(nextIndex cs.tables : Int)]) { cs1 with tables := T1 } =
      (.ok (), csB) := by rw [← ht1]; exact hem
  exact define_tail F hem' (hcode.sub (Pre.refl _) she.pre.1) hvm hb hbl (by omega) h1 hvm1 hsv hst hdy hN hlx hlo hex hen

theorem good_define (F : FloatOps) (B : List String) (pos p : Pos) (x : String) (r : Expr) (hF : ExprF (bnd B) r = true)
    (hx : x ≠ "_") :
    GoodCF F B (x :: B) (need r + 1) (compileStmt (.assign pos tDefine [.ident p x] [r]))
      (fun fuel env => Sem.execStmt F fuel env (.assign pos tDefine [.ident p x] [r])) .ends := by
  rw [compileStmt_assign1 _ _ _ _ _ (.inl rfl), cda_define]
  refine good_defineCore F B pos x r hF hx _ ?_
  intro fuel env ss t c env' ss' t' hsem
  have htk : (tDefine == tAssign || tDefine == tDefine) = true := by decide
  match fuel with
  | 0 => exact (execStmt_zero' hsem).elim
  | 1 =>
    rw [execStmt_assign1] at hsem
    simp only [htk, if_true] at hsem
    obtain ⟨rr, ss1, t1, hev, -⟩ := sm_bind_inv hsem
    rw [evalExpr_zero] at hev
    exact (sm_unsupported_ne hev).elim
  | fuel + 2 =>
    have htd : (tDefine == tDefine) = true := by decide
    rw [execStmt_assign1] at hsem
    simp only [htk, if_true, htd, assignTo_define] at hsem
    exact ⟨fuel + 1, env, fun _ => rfl, hsem⟩

theorem execStmt_var (F : FloatOps) (fuel : Nat) (env : Sem.Env) (pos : Pos) (tok : Nat)
    (specs : List (Option Nat × List (Pos × String) × List (Option Expr))) :
    Sem.execStmt F (fuel + 1) env (.declValue pos tok specs) = Sem.execValueSpecs F fuel env tok specs none := rfl

theorem execValueSpecs_zero (F : FloatOps) (env : Sem.Env) (tok : Nat)
    (specs : List (Option Nat × List (Pos × String) × List (Option Expr))) (last : Option Expr) :
    Sem.execValueSpecs F 0 env tok specs last = Sem.liftM (unsupported "sem: fuel") := by
  cases specs <;> rfl

theorem execValueSpecs_nil (F : FloatOps) (f : Nat) (env : Sem.Env) (tok : Nat) (last : Option Expr) :
    Sem.execValueSpecs F (f + 1) env tok [] last = pure (.normal, env) := rfl

theorem execValueSpecs_cons (F : FloatOps) (f : Nat) (env : Sem.Env) (tok : Nat) (iota : Option Nat)
    (idents : List (Pos × String)) (values : List (Option Expr))
    (rest : List (Option Nat × List (Pos × String) × List (Option Expr))) (last : Option Expr) :
    Sem.execValueSpecs F (f + 1) env tok ((iota, idents, values) :: rest) last = (do
      let (c, env', last') ← Sem.execIdents F f env tok iota idents values last
      match c with
      | .normal => Sem.execValueSpecs F f env' tok rest last'
      | c => pure (c, env')) := rfl

theorem execIdents_zero (F : FloatOps) (env : Sem.Env) (tok : Nat) (iota : Option Nat)
    (ids : List (Pos × String)) (vals : List (Option Expr)) (last : Option Expr) :
    Sem.execIdents F 0 env tok iota ids vals last = Sem.liftM (unsupported "sem: fuel") := by
  cases ids <;> rfl

theorem execIdents_nil (F : FloatOps) (f : Nat) (env : Sem.Env) (tok : Nat) (iota : Option Nat)
    (vals : List (Option Expr)) (last : Option Expr) :
    Sem.execIdents F (f + 1) env tok iota [] vals last = pure (.normal, env, last) := rfl

/-- `lastE`: the value expression handed on from the specification before, `last'`: the one handed on -/
def SpecEq (F : FloatOps) (x : String) (e : Expr) (iota : Option Nat) (ipos : Pos) (vals : List (Option Expr))
    (lastE last' : Option Expr) : Prop :=
  ∀ f env, Sem.execIdents F (f + 1) env tVar iota [(ipos, x)] vals lastE = (do
    let envI ← (pure ([] :: env) : Sem.SM Sem.Env)
    match (← Sem.evalExpr F f envI e) with
    | .thr a => pure (.thr a, env, last')
    | .val v => do
      let env' ← Sem.declare env x v
      Sem.execIdents F f env' tVar iota [] [] last')

theorem specEq_value (F : FloatOps) (x : String) (e : Expr) (iota : Option Nat) (ipos : Pos) (lastE : Option Expr) :
    SpecEq F x e iota ipos [some e] lastE (some e) := fun _ _ => rfl

theorem specEq_noValue (F : FloatOps) (x : String) (iota : Option Nat) (ipos : Pos) (lastE : Option Expr) :
    SpecEq F x (.undef ipos) iota ipos [] lastE lastE := fun _ _ => by cases lastE <;> rfl

def specSem (F : FloatOps) (sp : Option Nat × List (Pos × String) × List (Option Expr)) (lastE : Option Expr) (fuel : Nat)
    (env : Sem.Env) : Sem.SM (Sem.Comp × Sem.Env) := do
  let (c, env', _) ← Sem.execIdents F fuel env tVar sp.1 sp.2.1 sp.2.2 lastE
  pure (c, env')

theorem declRun_spec (F : FloatOps) {x : String} {e : Expr} {iota : Option Nat} {ipos : Pos} {vals : List (Option Expr)}
    {lastE last' : Option Expr}
    (heq : SpecEq F x e iota ipos vals lastE last')
    {fuel : Nat} {env : Sem.Env} {ss : Sem.SemSt} {t : State} {c : Sem.Comp} {env' : Sem.Env} {last1 : Option Expr}
    {ss' : Sem.SemSt} {t' : State}
    (hid : exec ((Sem.execIdents F fuel env tVar iota [(ipos, x)] vals lastE).run ss) t = (.ok ((c, env', last1), ss'), t')) :
    DeclRun F x e env ss t c env' ss' t' ∧ (c = .normal → last1 = last') := by
  cases fuel with
  | zero => rw [execIdents_zero] at hid; exact (sm_unsupported_ne hid).elim
  | succ fuel =>
    rw [heq] at hid
    obtain ⟨envI, ss0, t0, hpure, hid⟩ := sm_bind_inv hid
    obtain ⟨rfl, rfl, rfl⟩ := sm_pure_inv hpure
    obtain ⟨rr, ss2, t2, hev, hid⟩ := sm_bind_inv hid
    cases rr with
    | thr a =>
      obtain ⟨rfl, rfl, rfl, hb⟩ := sm_pure_pair hid
      cases hb
      exact ⟨⟨fuel, [] :: env, fun n => lookupEnv_nil_cons n env, by rw [sm_bind_run hev]; rfl⟩, fun h => nomatch h⟩
    | val v =>
      simp only at hid
      obtain ⟨envd, ss3, t3, hdec, hid⟩ := sm_bind_inv hid
      cases fuel with
      | zero => rw [execIdents_zero] at hid; exact (sm_unsupported_ne hid).elim
      | succ fuel =>
        rw [execIdents_nil] at hid
        obtain ⟨rfl, rfl, rfl, hb⟩ := sm_pure_pair hid
        cases hb
        exact ⟨⟨fuel + 1, [] :: env, fun n => lookupEnv_nil_cons n env, by rw [sm_bind_run hev, sm_bind_run hdec]; rfl⟩, fun _ => rfl⟩

theorem assignSym_inv {pos : Pos} {x : String} {cs1 cs' : CState} {i : Nat} (hi : localIdx cs1 x = some i)
    (hc : runCM (do
      match (← Compile.resolve x) with
      | none => Compile.cerr pos s!"unresolved reference \"{x}\""
      | some sym => Compile.compileAssignSym pos sym x) cs1 = (.ok (), cs')) :
    runCM (Compile.emit_ pos Compile.OpSetLocal [(i : Int)]) cs1 = (.ok (), cs') := by
  obtain ⟨sym, hres, hscope, hidx⟩ := resolve_local hi
  obtain ⟨r0, cs0, h0, hc⟩ := bind_inv hc
  rw [hres] at h0
  simp only [Prod.mk.injEq, Except.ok.injEq] at h0
  obtain ⟨rfl, rfl⟩ := h0
  simp only at hc
  unfold Compile.compileAssignSym at hc
  split at hc
  · simp [Compile.cerr, Compile.runCM_throw] at hc
  · simp only [hscope, hidx] at hc
    exact hc

/-- `e` evaluated, then `assignTo x`; two fuels since `x op= r` evaluates `x op r` with one more than it assigns with -/
def AssignRun (F : FloatOps) (p : Pos) (x : String) (e : Expr) (env : Sem.Env) (ss : Sem.SemSt) (t : State)
    (c : Sem.Comp) (env' : Sem.Env) (ss' : Sem.SemSt) (t' : State) : Prop :=
  ∃ fuelE fuelK : Nat, exec ((do
    match (← Sem.evalExpr F fuelE env e) with
    | .thr a => pure (.thr a, env)
    | .val v => Sem.assignTo F fuelK env (.ident p x) v false tVar : Sem.SM (Sem.Comp × Sem.Env)).run ss) t = (.ok ((c, env'), ss'), t')

theorem good_assignCore (F : FloatOps) (B : List String) (pos p : Pos) (x : String) (e : Expr)
    (hF : ExprF (bnd B) e = true) (hx : x ∈ B) (sem : Nat → Sem.Env → Sem.SM (Sem.Comp × Sem.Env))
    (hrun : ∀ fuel env ss t c env' ss' t', exec ((sem fuel env).run ss) t = (.ok ((c, env'), ss'), t') →
      AssignRun F p x e env ss t c env' ss' t') :
    GoodCF F B B (need e) (do
      compileExpr e
      match (← Compile.resolve x) with
      | none => Compile.cerr pos s!"unresolved reference \"{x}\""
      | some sym => Compile.compileAssignSym pos sym x) sem .ends := by
  intro cs cs' hc hcov hok
  obtain ⟨_, cs1, he, hc⟩ := bind_inv hc
  have hFe := exprF_of_cov hcov hF
  obtain ⟨she, _⟩ := good_all F _ e hFe cs cs1 rfl he
  obtain ⟨i, hi⟩ := Option.isSome_iff_exists.mp (hcov x hx)
  have hi1 : localIdx cs1 x = some i := by rw [she.localIdx]; exact hi
  have hem := assignSym_inv hi1 hc
  have shp := Shape.of_emit_ hem
  have sh := she.trans shp
  have hse := StEff.of_shape sh hok.ne
  have htab : cs'.tables = cs.tables := sh.tables
  refine ⟨⟨hse, hok.of_shape sh, by rw [sh.localIdx]; exact hcov, ?_⟩,
    fun hinv => fallsJ_emit_last (good_expr_run hF hinv he).1.walk hem (by decide) _ she.pre.1⟩
  intro fuel K code bp L env binds s t ss ss' c env' t' hK hcode hvm hip hsp hL hst hdy hsem
  have hN := nextIndex_le_of hok hse hL
  have hne := need_pos e
  obtain ⟨fuelE, fuelK, hsem⟩ := hrun fuel env ss t c env' ss' t' hsem
  obtain ⟨b, hb, hlo⟩ := hvm.base
  rcases eval_step F he hFe (Compile.IsPre.trans shp.cpre hK) (hcode.sub shp.pre (Nat.le_refl _)) hvm hip
    hsp hb hst hdy hN hsem with h | ⟨v, s1, hsv, h1, hvm1, hsem⟩
  · exact h
  obtain ⟨a, hl, hm⟩ := hst.look x i hi
  cases fuelK with
  | zero => rw [assignTo_zero] at hsem; exact (sm_unsupported_ne hsem).elim
  | succ fuelK =>
    rw [assignTo_set F fuelK env p x v tVar a hl] at hsem
    obtain ⟨u, ss2, t2, hset, hsem⟩ := sm_bind_inv hsem
    obtain ⟨rfl, hset'⟩ := sm_liftM_inv hset
    rw [exec_heapSet] at hset'
    simp only [Prod.mk.injEq, true_and] at hset'
    subst hset'
    obtain ⟨rfl, rfl, rfl, rfl⟩ := sm_pure_pair hsem
    refine ⟨rfl, ?_⟩
    rw [sh.localIdx, htab]
    exact assign_tail F hem (hcode.sub (Pre.refl _) she.pre.1) hvm hb hlo (by omega) h1 hvm1 hsv hst hdy hN hm

theorem good_assign (F : FloatOps) (B : List String) (pos p : Pos) (x : String) (r : Expr) (hF : ExprF (bnd B) r = true)
    (hx : x ∈ B) :
    GoodCF F B B (need r + 1) (compileStmt (.assign pos tAssign [.ident p x] [r]))
      (fun fuel env => Sem.execStmt F fuel env (.assign pos tAssign [.ident p x] [r])) .ends := by
  rw [compileStmt_assign1 _ _ _ _ _ (.inr rfl), cda_assign _ _ _ _ (by decide)]
  refine (good_assignCore F B pos p x r hF hx _ ?_).mono (Nat.le_succ _)
  intro fuel env ss t c env' ss' t' hsem
  cases fuel with
  | zero => exact (execStmt_zero' hsem).elim
  | succ fuel =>
    rw [execStmt_assign1] at hsem
    have htk : (tAssign == tAssign || tAssign == tDefine) = true := by decide
    simp only [htk, if_true] at hsem
    exact ⟨fuel, fuel, hsem⟩

theorem compileStmt_return1 (pos : Pos) (e : Expr) :
    compileStmt (.return_ pos (some e)) = (do
      compileExpr e
      let s ← get
      (if s.tryCatchIndex > -1 then Compile.emit_ pos Compile.OpFinalizer [0] else pure ())
      Compile.emit_ pos Compile.OpReturn [1]) := by
  rw [Compile.compileStmt_eq]

theorem compileStmt_return0 (pos : Pos) :
    compileStmt (.return_ pos none) = (do
      let s ← get
      (if s.tryCatchIndex > -1 then Compile.emit_ pos Compile.OpFinalizer [0] else pure ())
      Compile.emit_ pos Compile.OpReturn [0]) := by
  rw [Compile.compileStmt_eq]

theorem return_tail_inv {pos : Pos} {n : Int} {cs1 cs' : CState} (htci : cs1.tryCatchIndex ≤ -1)
    (hc : runCM (do
      let s ← get
      (if s.tryCatchIndex > -1 then Compile.emit_ pos Compile.OpFinalizer [0] else pure ())
      Compile.emit_ pos Compile.OpReturn [n]) cs1 = (.ok (), cs')) :
    runCM (Compile.emit_ pos Compile.OpReturn [n]) cs1 = (.ok (), cs') := by
  obtain ⟨s0, cs0, hg, hc⟩ := bind_inv hc
  rw [Compile.runCM_get] at hg
  simp only [Prod.mk.injEq, Except.ok.injEq] at hg
  obtain ⟨rfl, rfl⟩ := hg
  have : ¬ (cs1.tryCatchIndex > -1) := by omega
  simp only [this, if_false] at hc
  obtain ⟨_, cs2, h1, hc⟩ := bind_inv hc
  obtain ⟨_, rfl⟩ := pure_inv h1
  exact hc

theorem execStmt_return1 (F : FloatOps) (fuel : Nat) (env : Sem.Env) (pos : Pos) (e : Expr) :
    Sem.execStmt F (fuel + 1) env (.return_ pos (some e)) = (do
      match (← Sem.evalExpr F fuel env e) with
      | .thr a => pure (.thr a, env)
      | .val v => pure (.ret v, env)) := rfl

theorem execStmt_return0 (F : FloatOps) (fuel : Nat) (env : Sem.Env) (pos : Pos) :
    Sem.execStmt F (fuel + 1) env (.return_ pos none) = pure (.ret .undefined, env) := rfl

theorem execStmt_empty (F : FloatOps) (fuel : Nat) (env : Sem.Env) (pos : Pos) :
    Sem.execStmt F (fuel + 1) env (.empty pos) = pure (.normal, env) := rfl

theorem good_return1 (F : FloatOps) (B : List String) (pos : Pos) (e : Expr) (hF : ExprF (bnd B) e = true) :
    GoodCF F B B (need e) (compileStmt (.return_ pos (some e))) (fun fuel env => Sem.execStmt F fuel env (.return_ pos (some e))) .no := by
  intro cs cs' hc hcov hok
  rw [compileStmt_return1] at hc
  obtain ⟨_, cs1, he, hc⟩ := bind_inv hc
  have hFe := exprF_of_cov hcov hF
  obtain ⟨she, _⟩ := good_all F _ e hFe cs cs1 rfl he
  have hem := return_tail_inv (hok.of_shape she).tci hc
  have shp := Shape.of_emit_ hem
  have sh := she.trans shp
  have hse := StEff.of_shape sh hok.ne
  refine ⟨⟨hse, hok.of_shape sh, by rw [sh.localIdx]; exact hcov, ?_⟩, fun _ => trivial⟩
  intro fuel K code bp L env binds s t ss ss' c env' t' hK hcode hvm hip hsp hL hst hdy hsem
  dsimp only at hsem
  have hN := nextIndex_le_of hok hse hL
  obtain ⟨_, hat⟩ := emit_code (op := Compile.OpReturn) (w := 1) (x := 1) rfl hem
  obtain ⟨b0, b1, h0, hb0, h1, hb1⟩ := (hat hcode she.pre.1).bytes
  cases fuel with
  | zero => exact (execStmt_zero' hsem).elim
  | succ fuel =>
    rw [execStmt_return1] at hsem
    obtain ⟨b, hb, hlo⟩ := hvm.base
    rcases eval_step F he hFe (Compile.IsPre.trans shp.cpre hK) (hcode.sub shp.pre (Nat.le_refl _)) hvm hip
      hsp hb hst hdy hN hsem with h | ⟨v, s1, hsv, o, -, hsem⟩
    · exact h
    obtain ⟨rfl, rfl, rfl, rfl⟩ := sm_pure_pair hsem
    have e : s.sp.toNat = b := by omega
    exact ⟨rfl, s1, o.str.reach, Frm.of_agree hb o.str.same o.str.heap o.str.agree, hdy.rel.of_eq o.str.heap,
      hsv, cs1.insts.size, b0, b1, o.ip, h0, hb0, h1, .inl ⟨hb1, by rw [o.sp, hb], by rw [e]; exact o.get⟩⟩

theorem good_return0 (F : FloatOps) (B : List String) (pos : Pos) :
    GoodCF F B B 0 (compileStmt (.return_ pos none)) (fun fuel env => Sem.execStmt F fuel env (.return_ pos none)) .no := by
  intro cs cs' hc hcov hok
  rw [compileStmt_return0] at hc
  have hem := return_tail_inv hok.tci hc
  have sh := Shape.of_emit_ hem
  have hse := StEff.of_shape sh hok.ne
  refine ⟨⟨hse, hok.of_shape sh, by rw [sh.localIdx]; exact hcov, ?_⟩, fun _ => trivial⟩
  intro fuel K code bp L env binds s t ss ss' c env' t' hK hcode hvm hip hsp hL hst hdy hsem
  dsimp only at hsem
  obtain ⟨_, hat⟩ := emit_code (op := Compile.OpReturn) (w := 1) (x := 0) rfl hem
  obtain ⟨b0, b1, h0, hb0, h1, hb1⟩ := (hat hcode (Nat.le_refl _)).bytes
  cases fuel with
  | zero => exact (execStmt_zero' hsem).elim
  | succ fuel =>
    rw [execStmt_return0] at hsem
    obtain ⟨rfl, rfl, rfl, rfl⟩ := sm_pure_pair hsem
    exact ⟨rfl, s, Reach.refl F s, Frm.refl s bp L, hdy.rel, trivial, cs.insts.size, b0, b1, hip, h0, hb0, h1,
      .inr ⟨hb1, rfl, rfl⟩⟩

theorem good_skip (F : FloatOps) (B : List String) (nd : Nat) (sem' : Nat → Sem.Env → Sem.SM (Sem.Comp × Sem.Env))
    (hrun : ∀ fuel env ss t c env' ss' t', exec ((sem' fuel env).run ss) t = (.ok ((c, env'), ss'), t') →
       c = .normal ∧ env' = env ∧ ss = ss' ∧ t' = t) :
    GoodBF F B nd (pure ()) sem' .thru := by
  intro cs cs' hc hcov hok
  obtain ⟨_, rfl⟩ := pure_inv hc
  refine ⟨⟨StEff.refl hok.ne, hok, Tl.refl _, ?_⟩, fun _ => .inl rfl⟩
  intro fuel K code bp L env binds s t ss ss' c env' t' hK hcode hvm hip hsp hL hst hdy hsem
  obtain ⟨rfl, rfl, rfl, rfl⟩ := hrun fuel env ss t c env' ss' t' hsem
  exact ⟨rfl, binds, s, Reach.refl F s, Frm.refl s bp L, hip, rfl, fun _ h => h, hst, hdy⟩

theorem good_none (F : FloatOps) (B : List String) (nd : Nat) : GoodBF F B nd (pure ()) (fun _ env => pure (.normal, env)) .thru :=
  good_skip F B nd _ fun fuel env ss t c env' ss' t' hsem => by
    obtain ⟨rfl, rfl, rfl, rfl⟩ := sm_pure_pair hsem
    exact ⟨rfl, rfl, rfl, rfl⟩

theorem good_empty (F : FloatOps) (B : List String) (pos : Pos) :
    GoodCF F B B 0 (compileStmt (.empty pos)) (fun fuel env => Sem.execStmt F fuel env (.empty pos)) .thru := by
  have hact : compileStmt (.empty pos) = pure () := by rw [Compile.compileStmt_eq]
  rw [hact]
  refine (good_skip F B _ _ ?_).toCF
  intro fuel env ss t c env' ss' t' hsem
  cases fuel with
  | zero => exact (execStmt_zero' hsem).elim
  | succ fuel =>
    rw [execStmt_empty] at hsem
    obtain ⟨rfl, rfl, rfl, rfl⟩ := sm_pure_pair hsem
    exact ⟨rfl, rfl, rfl, rfl⟩

theorem compoundBase_eq (tok : Nat) : Sem.compoundBase tok = Compile.compoundOp tok := rfl

theorem ite_some_inv {α} {c : Prop} [Decidable c] {a b : α} {e : Option α} (h : (if c then some a else e) = some b) :
    a = b ∨ e = some b := by
  split at h
  · exact .inl (Option.some.inj h)
  · exact .inr h

/-- the operator of a compound assignment is an arithmetic or bit operator: the compiler and the reference
    semantics treat `x op r` with it as two operands and one BINARYOP -/
theorem compoundOp_plain {tok op : Nat} (h : Compile.compoundOp tok = some op) :
    (op == tLAnd || op == tLOr) = false ∧ (op == tEqual) = false ∧ (op == tNotEqual) = false ∧
      Compile.isBinaryOperator op = true ∧ (op == tLAnd) = false ∧ (op == tLOr) = false := by
  unfold Compile.compoundOp at h
  -- eleven operators, one after the other
  repeat (rcases ite_some_inv h with rfl | h; decide)
  cases h

theorem compileExpr_binop (pos : Pos) (op : Nat) (l r : Expr) (h1 : (op == tLAnd || op == tLOr) = false)
    (h2 : (op == tEqual) = false) (h3 : (op == tNotEqual) = false) (h4 : Compile.isBinaryOperator op = true) :
    compileExpr (.binary pos op l r) = (do compileExpr l; compileExpr r; Compile.emit_ pos Compile.OpBinaryOp [(op : Int)]) := by
  rw [Compile.compileExpr]
  simp only [h1, h2, h3, h4, Bool.false_eq_true, if_false, Bool.not_true]

theorem evalExpr_binary (F : FloatOps) (fuel : Nat) (env : Sem.Env) (pos : Pos) (tok : Nat) (l r : Expr) :
    Sem.evalExpr F (fuel + 1) env (.binary pos tok l r) = (do
      match (← Sem.evalExpr F fuel env l) with
      | .thr e => pure (.thr e)
      | .val lv =>
        if tok == tLAnd then
          if (← Sem.liftM (isFalsy lv)) then pure (.val lv) else Sem.evalExpr F fuel env r
        else if tok == tLOr then
          if (← Sem.liftM (isFalsy lv)) then Sem.evalExpr F fuel env r else pure (.val lv)
        else
          match (← Sem.evalExpr F fuel env r) with
          | .thr e => pure (.thr e)
          | .val rv =>
            if tok == tEqual then pure (.val (.bool (← Sem.liftM (vEqual F lv rv))))
            else if tok == tNotEqual then pure (.val (.bool (!(← Sem.liftM (vEqual F lv rv)))))
            else
              match (← Sem.liftM (vBinaryOp F (tokOfNat tok) lv rv)) with
              | .ok v => pure (.val v)
              | .error e => Sem.raise e) := rfl

theorem execStmt_compound_eq (F : FloatOps) (fuel : Nat) (env : Sem.Env) (pos : Pos) (tok op : Nat) (x r : Expr)
    (hop : Compile.compoundOp tok = some op) (h1 : tok ≠ tDefine) (h2 : tok ≠ tAssign) :
    Sem.execStmt F (fuel + 1) env (.assign pos tok [x] [r]) = (do
      match (← Sem.evalExpr F (fuel + 1) env (.binary pos op x r)) with
      | .thr a => pure (.thr a, env)
      | .val nv => Sem.assignTo F fuel env x nv false tVar) := by
  obtain ⟨_, a2, a3, _, a5, a6⟩ := compoundOp_plain hop
  have htk : (tok == tAssign || tok == tDefine) = false := by simp [h1, h2]
  have hopb : (Sem.compoundBase tok).getD tAdd = op := by rw [compoundBase_eq, hop]; rfl
  rw [execStmt_assign1, evalExpr_binary]
  simp only [htk, Bool.false_eq_true, if_false, hopb, a5, a6, a2, a3, bind_assoc]
  congr 1; funext ra
  cases ra with
  | thr a => simp only [pure_bind]
  | val cur =>
    simp only [bind_assoc]
    congr 1; funext rb
    cases rb with
    | thr a => simp only [pure_bind]
    | val rv =>
      simp only [bind_assoc]
      congr 1; funext y
      cases y with
      | ok nv => simp only [pure_bind]
      | error er => simp only [Sem.raise, bind_assoc, pure_bind]
/-- `x op= r` is `x = x op r`, in the code (the binary expression, then SETLOCAL) and in the run: `good_assignCore` on the
    binary expression -/
theorem good_compound (F : FloatOps) (B : List String) (pos p : Pos) (x : String) (r : Expr) (tok op : Nat)
    (hF : ExprF (bnd B) r = true) (hx : x ∈ B) (hop : Compile.compoundOp tok = some op) :
    GoodCF F B B (need r + 1) (compileStmt (.assign pos tok [.ident p x] [r]))
      (fun fuel env => Sem.execStmt F fuel env (.assign pos tok [.ident p x] [r])) .ends := by
  have h1 : tok ≠ tDefine := by
    rintro rfl
    have : Compile.compoundOp tDefine = none := by decide
    rw [this] at hop; cases hop
  have h2 : tok ≠ tAssign := by
    rintro rfl
    have : Compile.compoundOp tAssign = none := by decide
    rw [this] at hop; cases hop
  obtain ⟨a1, a2, a3, a4, a5, a6⟩ := compoundOp_plain hop
  have hact : compileStmt (.assign pos tok [.ident p x] [r]) = (do
      compileExpr (.binary pos op (.ident p x) r)
      match (← Compile.resolve x) with
      | none => Compile.cerr pos s!"unresolved reference \"{x}\""
      | some sym => Compile.compileAssignSym pos sym x) := by
    rw [compileStmt_compound _ _ _ _ _ h1 h2, hop, cda_assign _ _ _ _ h1, compileExpr_binop _ _ _ _ a1 a2 a3 a4]
    simp only [bind_assoc]
  have hFb : ExprF (bnd B) (.binary pos op (.ident p x) r) = true := by simp [ExprF, bnd, hx, hF]
  rw [hact]
  refine (good_assignCore F B pos p x _ hFb hx _ ?_).mono (by simp only [need]; omega)
  intro fuel env ss t c env' ss' t' hsem
  cases fuel with
  | zero => exact (execStmt_zero' hsem).elim
  | succ fuel =>
    rw [execStmt_compound_eq F fuel env pos tok op _ r hop h1 h2] at hsem
    exact ⟨fuel + 1, fuel, hsem⟩

theorem compileExpr_undef (pos : Pos) : compileExpr (.undef pos) = Compile.emit_ pos Compile.OpNull := by
  unfold Compile.compileExpr; rfl

theorem compileStmt_incdec (pos : Pos) (tok : Nat) (tp p : Pos) (x : String) :
    compileStmt (.incdec pos tok tp (.ident p x)) =
      compileStmt (.assign pos (if tok == tDec then tSubAssign else tAddAssign) [.ident p x] [.int tp 1#64]) := by
  have h1 : (if tok == tDec then tSubAssign else tAddAssign) ≠ tDefine := by split <;> decide
  have h2 : (if tok == tDec then tSubAssign else tAddAssign) ≠ tAssign := by split <;> decide
  have h3 : compileExpr (.int tp 1#64) = Compile.emitConstant tp (.int 1#64) := by
    unfold Compile.compileExpr; rfl
  rw [compileStmt_compound _ _ _ _ _ h1 h2, h3, Compile.compileStmt_eq]
  first | rfl | (simp only; done) | (simp only; rfl)

theorem execStmt_incdec (F : FloatOps) (fuel : Nat) (env : Sem.Env) (pos : Pos) (tok : Nat) (tp : Pos) (e : Expr) :
    Sem.execStmt F (fuel + 1) env (.incdec pos tok tp e) = (do
      match (← Sem.evalExpr F fuel env e) with
      | .thr a => pure (.thr a, env)
      | .val cur =>
        match (← Sem.liftM (vBinaryOp F (if tok == tDec then .Sub else .Add) cur (.int 1#64))) with
        | .error er => do match (← Sem.raise er) with | .thr a => pure (.thr a, env) | _ => pure (.normal, env)
        | .ok nv => Sem.assignTo F fuel env e nv false tVar) := rfl

/-- with fuel for the literal, `x++` / `x--` is `x += 1` / `x -= 1` -/
theorem execStmt_incdec_eq (F : FloatOps) (f : Nat) (env : Sem.Env) (pos : Pos) (tok : Nat) (tp : Pos) (e : Expr) :
    Sem.execStmt F (f + 2) env (.incdec pos tok tp e) =
      Sem.execStmt F (f + 2) env (.assign pos (if tok == tDec then tSubAssign else tAddAssign) [e] [.int tp 1#64]) := by
  have hint : Sem.evalExpr F (f + 1) env (.int tp 1#64) = pure (.val (.int 1#64)) := rfl
  rw [execStmt_incdec, execStmt_assign1, hint]
  cases hd : tok == tDec
  · have htk : (tAddAssign == tAssign || tAddAssign == tDefine) = false := by decide
    simp only [htk, Bool.false_eq_true, if_false, pure_bind]
    rfl
  · have htk : (tSubAssign == tAssign || tSubAssign == tDefine) = false := by decide
    simp only [htk, Bool.false_eq_true, if_false, if_true, pure_bind]
    rfl

theorem incdec_as_compound (F : FloatOps) (fuel : Nat) (env : Sem.Env) (pos : Pos) (tok : Nat) (tp : Pos) (e : Expr)
    (ss : Sem.SemSt) (t : State) (r : Sem.Comp × Sem.Env) (ss' : Sem.SemSt) (t' : State)
    (h : exec ((Sem.execStmt F fuel env (.incdec pos tok tp e)).run ss) t = (.ok (r, ss'), t')) :
    ∃ fuel', exec ((Sem.execStmt F fuel' env
      (.assign pos (if tok == tDec then tSubAssign else tAddAssign) [e] [.int tp 1#64])).run ss) t = (.ok (r, ss'), t') := by
  match fuel with
  | 0 => exact (execStmt_zero' h).elim
  | 1 =>
    rw [execStmt_incdec] at h
    obtain ⟨rc, ss1, t1, hev, h⟩ := sm_bind_inv h
    rw [evalExpr_zero] at hev; exact (sm_unsupported_ne hev).elim
  | f + 2 => exact ⟨f + 2, by rw [← execStmt_incdec_eq]; exact h⟩

theorem good_incdec (F : FloatOps) (B : List String) (pos : Pos) (tok : Nat) (tp p : Pos) (x : String) (hx : x ∈ B) :
    GoodCF F B B 2 (compileStmt (.incdec pos tok tp (.ident p x)))
      (fun fuel env => Sem.execStmt F fuel env (.incdec pos tok tp (.ident p x))) .ends := by
  rw [compileStmt_incdec]
  have hop : ∃ op, Compile.compoundOp (if tok == tDec then tSubAssign else tAddAssign) = some op := by
    split
    · exact ⟨_, rfl⟩
    · exact ⟨_, rfl⟩
  obtain ⟨op, hop⟩ := hop
  have hg := good_compound F B pos p x (.int tp 1#64) _ op rfl hx hop
  exact hg.resem (fun fuel env ss t r ss' t' h => incdec_as_compound F fuel env pos tok tp _ ss t r ss' t' h)

end UgoVerif.CompSim

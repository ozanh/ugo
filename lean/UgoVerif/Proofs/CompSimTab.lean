import UgoVerif.Proofs.CompSimCompile
/-
  What the simulation needs of the symbol tables (`Model/Compile` = symbol_table.go).  `localIdx`, the
  slot a name resolves to if it is a local of the current function, is a plain lookup through the
  block tables of the function (`locOf`): it reads `store` and `block` of the tables only.
  `updateMaxDefs` raises `maxDefinition` of the enclosing tables and changes nothing else (`Tl`), so a
  block (`Fork(true)` … `Parent`) leaves every variable in scope in its slot; `DefineLocal` of a new
  name gives it the slot `nextIndex`, above every slot in use, and raises `fnMax` above it.
-/
namespace UgoVerif.CompSim
open UgoVerif UgoVerif.Go UgoVerif.Ast UgoVerif.Compile

def locOf (n : String) : List Table → Option Symbol
  | [] => none
  | t :: rest =>
    match lookupSym n t.store with
    | some sym => some sym
    | none => if t.block then locOf n rest else none

theorem locOf_cons_none {n : String} {t : Table} (rest : List Table) (hl : lookupSym n t.store = none) :
    locOf n (t :: rest) = if t.block then locOf n rest else none := by
  simp only [locOf, hl]

def slotOf : Option Symbol → Option Nat
  | some sym => if sym.scope = .local_ ∧ 0 ≤ sym.index then some sym.index.toNat else none
  | none => none

/-- what `Resolve` finds beyond the function table it hands out as a free variable, or it is a
    global, builtin or constant: never a local -/
theorem slotOf_resolveIn (bs : List (String × Nat)) (d : List String) (n : String) (ts : List Table) :
    slotOf (resolveIn bs d n ts).1 = slotOf (locOf n ts) := by
  refine resolveIn_ind (motive := fun ts res => slotOf res.1 = slotOf (locOf n ts)) ?_ ?_ ?_ ?_ ?_ ?_ ?_ ts
  · rfl
  · exact fun _ hl => by simp only [locOf, hl]
  · exact fun hl _ _ => by rw [locOf_cons_none _ hl]; split <;> rfl
  · exact fun hl => by rw [locOf_cons_none _ hl]; split <;> rfl
  · intro _ _ _ hl _ ih
    rw [locOf_cons_none _ hl]
    split
    · exact ih
    · rfl
  · exact fun hl _ _ hb _ _ _ => by rw [locOf_cons_none _ hl, hb]; rfl
  · intro t _ sym _ hl _ ih hsc
    rw [locOf_cons_none _ hl]
    cases hb : t.block with
    | true => exact ih
    | false => rcases hsc hb with h | h | h <;> simp [slotOf, h]

theorem localIdx_eq (cs : CState) (n : String) : localIdx cs n = slotOf (locOf n cs.tables) :=
  slotOf_resolveIn cs.builtins (rootDisabled cs.tables) n cs.tables

structure TSame (t t' : Table) : Prop where
  store : t'.store = t.store
  block : t'.block = t.block
  numDef : t'.numDefinition = t.numDefinition
  max : t.maxDefinition ≤ t'.maxDefinition
  params : t'.numParams = t.numParams

theorem TSame.refl (t : Table) : TSame t t := ⟨rfl, rfl, rfl, Nat.le_refl _, rfl⟩
theorem TSame.trans {a b c : Table} (h1 : TSame a b) (h2 : TSame b c) : TSame a c :=
  ⟨h2.store.trans h1.store, h2.block.trans h1.block, h2.numDef.trans h1.numDef, Nat.le_trans h1.max h2.max,
   h2.params.trans h1.params⟩

inductive Tl : List Table → List Table → Prop
  | nil : Tl [] []
  | cons {t t' : Table} {r r' : List Table} : TSame t t' → Tl r r' → Tl (t :: r) (t' :: r')

theorem Tl.refl : ∀ ts : List Table, Tl ts ts
  | [] => .nil
  | t :: r => .cons (TSame.refl t) (Tl.refl r)

theorem Tl.trans : ∀ {a b c : List Table}, Tl a b → Tl b c → Tl a c
  | _, _, _, .nil, .nil => .nil
  | _, _, _, .cons h1 r1, .cons h2 r2 => .cons (h1.trans h2) (Tl.trans r1 r2)

theorem Tl.locOf (n : String) : ∀ {ts ts' : List Table}, Tl ts ts' → locOf n ts' = locOf n ts
  | _, _, .nil => rfl
  | _, _, .cons h r => by
    simp only [CompSim.locOf, h.store, h.block, Tl.locOf n r]

theorem Tl.nextIndex : ∀ {ts ts' : List Table}, Tl ts ts' → nextIndex ts' = nextIndex ts
  | _, _, .nil => rfl
  | _, _, .cons h r => by
    simp only [Compile.nextIndex, h.block, h.numDef, Tl.nextIndex r]

/-- `NumLocals` of the current function -/
def fnMax : List Table → Nat
  | [] => 0
  | t :: rest => if t.block then fnMax rest else t.maxDefinition

theorem Tl.fnMax : ∀ {ts ts' : List Table}, Tl ts ts' → fnMax ts ≤ fnMax ts'
  | _, _, .nil => Nat.le_refl _
  | _, _, .cons h r => by
    simp only [CompSim.fnMax, h.block]
    split
    · exact Tl.fnMax r
    · exact h.max

def hasFn : List Table → Bool
  | [] => false
  | t :: rest => !t.block || hasFn rest

theorem Tl.hasFn : ∀ {ts ts' : List Table}, Tl ts ts' → hasFn ts' = hasFn ts
  | _, _, .nil => rfl
  | _, _, .cons h r => by simp only [CompSim.hasFn, h.block, Tl.hasFn r]

theorem _root_.UgoVerif.Compile.MaxUp.tl : ∀ {a b : List Table}, MaxUp a b → Tl a b
  | _, _, .nil => .nil
  | _, _, .cons hm hr => .cons ⟨rfl, rfl, rfl, hm, rfl⟩ hr.tl

theorem tl_updateMaxDefs (n : Nat) (ts : List Table) : Tl ts (updateMaxDefs n ts) := (updateMaxDefs_rel n ts).tl

theorem fnMax_eq_fmd : fnMax = fmd := by delta fnMax fmd; rfl

theorem hasFn_iff : ∀ {ts : List Table}, hasFn ts = true ↔ ∃ t ∈ ts, t.block = false
  | [] => by simp [hasFn]
  | t :: r => by simp [hasFn, hasFn_iff (ts := r)]

theorem fnMax_updateMaxDefs (n : Nat) (ts : List Table) (h : hasFn ts = true) : n ≤ fnMax (updateMaxDefs n ts) :=
  fnMax_eq_fmd ▸ le_fmd_updateMaxDefs n (hasFn_iff.mp h)

theorem Tl.cons_inv {t : Table} {r ts' : List Table} (h : Tl (t :: r) ts') :
    ∃ t' r', ts' = t' :: r' ∧ TSame t t' ∧ Tl r r' := by
  generalize hts : t :: r = ts at h
  cases h with
  | nil => cases hts
  | cons h1 h2 =>
    simp only [List.cons.injEq] at hts
    obtain ⟨rfl, rfl⟩ := hts
    exact ⟨_, _, rfl, h1, h2⟩

/-- what a statement of the fragment does to the tables -/
inductive TEff : List Table → List Table → Prop
  | mk {h h' : Table} {r r' : List Table} : h'.block = h.block → h.numDefinition ≤ h'.numDefinition →
      h.maxDefinition ≤ h'.maxDefinition → Tl r r' → h'.numParams = h.numParams → TEff (h :: r) (h' :: r')

theorem TEff.of_tl : ∀ {ts ts' : List Table}, ts ≠ [] → Tl ts ts' → TEff ts ts'
  | _, _, h, .nil => (h rfl).elim
  | _, _, _, .cons h r => .mk h.block (Nat.le_of_eq h.numDef.symm) h.max r h.params

theorem TEff.refl {ts : List Table} (h : ts ≠ []) : TEff ts ts := TEff.of_tl h (Tl.refl ts)

theorem TEff.trans : ∀ {a b c : List Table}, TEff a b → TEff b c → TEff a c
  | _, _, _, .mk b1 n1 m1 r1 p1, .mk b2 n2 m2 r2 p2 =>
    .mk (b2.trans b1) (Nat.le_trans n1 n2) (Nat.le_trans m1 m2) (r1.trans r2) (p2.trans p1)

theorem TEff.ne {a b : List Table} (h : TEff a b) : a ≠ [] ∧ b ≠ [] := by
  cases h; exact ⟨by simp, by simp⟩

theorem TEff.nextIndex {a b : List Table} (h : TEff a b) : nextIndex a ≤ nextIndex b := by
  cases h with
  | mk hb hn hm hr hp =>
    simp only [Compile.nextIndex, hb, hr.nextIndex]
    split <;> omega

theorem TEff.fnMax {a b : List Table} (h : TEff a b) : fnMax a ≤ fnMax b := by
  cases h with
  | mk hb hn hm hr hp =>
    simp only [CompSim.fnMax, hb]
    split
    · exact hr.fnMax
    · exact hm

theorem TEff.hasFn {a b : List Table} (h : TEff a b) : hasFn b = hasFn a := by
  cases h with
  | mk hb hn hm hr hp => simp only [CompSim.hasFn, hb, hr.hasFn]

theorem TEff.drop_block {nt : Table} {ts ts' : List Table} (h : TEff (nt :: ts) ts') : Tl ts (ts'.drop 1) := by
  cases h with
  | mk hb hn hm hr hp => simpa using hr

theorem locOf_fork (n : String) (nt : Table) (ts : List Table) (hs : nt.store = []) (hb : nt.block = true) :
    locOf n (nt :: ts) = locOf n ts := by
  simp [locOf, hs, hb, lookupSym]

theorem nextIndex_fork (nt : Table) (ts : List Table) (hn : nt.numDefinition = 0) (hb : nt.block = true) :
    nextIndex (nt :: ts) = nextIndex ts := by
  simp [nextIndex, hn, hb]

theorem fnMax_fork (nt : Table) (ts : List Table) (hb : nt.block = true) : fnMax (nt :: ts) = fnMax ts := by
  simp [fnMax, hb]

theorem hasFn_fork (nt : Table) (ts : List Table) (hb : nt.block = true) : hasFn (nt :: ts) = hasFn ts := by
  simp [hasFn, hb]

/-- `ts'`: the tables `defineLocal` leaves for a new name `x` -/
theorem define_tables (bs : List (String × Nat)) (x : String) (sym : Symbol) (t : Table) (r : List Table) (n : Nat)
    (ts' : List Table) (hts : ts' = updateMaxDefs n (defLocalTable bs x sym t :: r)) :
    TEff (t :: r) ts' ∧ nextIndex ts' = nextIndex (t :: r) + 1 ∧
    (∀ m, m ≠ x → locOf m ts' = locOf m (t :: r)) ∧ locOf x ts' = some sym ∧
    (hasFn (t :: r) = true → n ≤ fnMax ts') := by
  subst hts
  have htl := tl_updateMaxDefs n (defLocalTable bs x sym t :: r)
  have hst : (defLocalTable bs x sym t).store = putSym x sym t.store := by simp [defLocalTable]
  have hbk : (defLocalTable bs x sym t).block = t.block := by simp [defLocalTable]
  have hnd : (defLocalTable bs x sym t).numDefinition = t.numDefinition + 1 := by simp [defLocalTable]
  have hmx : (defLocalTable bs x sym t).maxDefinition = t.maxDefinition := by simp [defLocalTable]
  have hnp : (defLocalTable bs x sym t).numParams = t.numParams := by simp [defLocalTable]
  refine ⟨?_, ?_, ?_, ?_, ?_⟩
  · obtain ⟨t', r', e, h, hr⟩ := htl.cons_inv
    rw [e]
    exact .mk (h.block.trans hbk) (by rw [h.numDef, hnd]; omega) (by have := h.max; omega) hr (h.params.trans hnp)
  · rw [htl.nextIndex]
    simp only [nextIndex, hbk, hnd]
    split <;> omega
  · intro m hm
    rw [htl.locOf]
    simp only [locOf, hst, hbk, lookupSym_putSym_other m x sym hm.symm]
  · rw [htl.locOf]
    simp only [locOf, hst, lookupSym_putSym_self]
  · intro hf
    apply fnMax_updateMaxDefs
    simpa [hasFn, hbk] using hf

theorem updateSym_tables (x : String) (y : Symbol) (t : Table) (r : List Table) :
    TEff (t :: r) ({ t with store := putSym x y t.store } :: r) ∧
    nextIndex ({ t with store := putSym x y t.store } :: r) = nextIndex (t :: r) ∧
    (∀ m, m ≠ x → locOf m ({ t with store := putSym x y t.store } :: r) = locOf m (t :: r)) ∧
    locOf x ({ t with store := putSym x y t.store } :: r) = some y ∧
    fnMax ({ t with store := putSym x y t.store } :: r) = fnMax (t :: r) := by
  refine ⟨.mk rfl (Nat.le_refl _) (Nat.le_refl _) (Tl.refl r) rfl, rfl, ?_, ?_, rfl⟩
  · intro m hm
    simp only [locOf, lookupSym_putSym_other m x y hm.symm]
  · simp only [locOf, lookupSym_putSym_self]

def headParams : List Table → Nat
  | [] => 0
  | t :: _ => t.numParams

theorem TEff.headParams {a b : List Table} (h : TEff a b) : headParams b = headParams a := by
  cases h with
  | mk hb hn hm hr hp => exact hp

end UgoVerif.CompSim

import UgoVerif.Proofs.VMExec
import UgoVerif.Proofs.VMData
import UgoVerif.Proofs.InsAt
/-
  C02, compile ⊑ Sem — the VM side.  What a stretch of execution leaves alone (`Same`, `AgreeBelow`; `Grow`: the
  object-layer operations only allocate), the code of the current frame and the fetch (`CodeAt`, `step_at`, over
  Proofs/Fetch; the instruction at a position is `InsAt` of Proofs/InsAt), the multi-step relation
  `Reach` on `loopF`, stretches over an explicit stack base `b` (`Str`, `ValAt`, `ErrAt`), and one lemma per opcode the
  fragment's expressions compile to: the instruction run from a state with its operands in the slots from `b` on,
  returned as such a stretch.
-/
namespace UgoVerif.CompSim
open UgoVerif UgoVerif.Go UgoVerif.VM UgoVerif.Proofs.ModCache UgoVerif.Proofs.VMExec
open UgoVerif.Compile (InsAt)
open UgoVerif.Proofs.Fetch (exec_opnd1_at exec_opnd2_at exec_opnd4_at)

/-! ### arrays -/

/-- `b` has the size of `a` and agrees with it below `n` -/
def AgreeBelow (n : Nat) (a b : Array V) : Prop := b.size = a.size ∧ ∀ j, j < n → b[j]! = a[j]!

theorem AgreeBelow.refl (n : Nat) (a : Array V) : AgreeBelow n a a := ⟨rfl, fun _ _ => rfl⟩
theorem AgreeBelow.trans {n : Nat} {a b c : Array V} (h1 : AgreeBelow n a b) (h2 : AgreeBelow n b c) : AgreeBelow n a c :=
  ⟨h2.1.trans h1.1, fun j hj => (h2.2 j hj).trans (h1.2 j hj)⟩
theorem AgreeBelow.mono {n m : Nat} {a b : Array V} (h : AgreeBelow n a b) (hm : m ≤ n) : AgreeBelow m a b :=
  ⟨h.1, fun j hj => h.2 j (by omega)⟩
theorem AgreeBelow.set {n : Nat} {a b : Array V} (h : AgreeBelow n a b) (i : Nat) (v : V) (hi : n ≤ i) :
    AgreeBelow n a (b.set! i v) :=
  ⟨by rw [Array.size_set!]; exact h.1, fun j hj => by rw [Array.getElem!_set!_ne _ _ _ _ (by omega)]; exact h.2 j hj⟩

/-! ### the control part of the state -/

/-- everything an expression of the fragment leaves alone (all fields except
    `stack`, `sp`, `ip`, `heap`, `steps`, `trace`) -/
structure Same (s s' : State) : Prop where
  frames : s'.frames = s.frames
  curFrame : s'.curFrame = s.curFrame
  frameIndex : s'.frameIndex = s.frameIndex
  codes : s'.codes = s.codes
  consts : s'.consts = s.consts
  mainFn : s'.mainFn = s.mainFn
  numModules : s'.numModules = s.numModules
  globals : s'.globals = s.globals
  modules : s'.modules = s.modules
  err : s'.err = s.err
  abort : s'.abort = s.abort
  traceOn : s'.traceOn = s.traceOn
  noPanic : s'.noPanic = s.noPanic

theorem Same.upd {s : State} {stack : Array V} {sp ip : Int} {heap : Array Cell} {steps : Nat}
    {trace : Array (Int × Int × Int × Nat × Nat)} :
    Same s { s with stack := stack, sp := sp, ip := ip, heap := heap, steps := steps, trace := trace } :=
  ⟨rfl, rfl, rfl, rfl, rfl, rfl, rfl, rfl, rfl, rfl, rfl, rfl, rfl⟩

theorem Same.refl (s : State) : Same s s := Same.upd
theorem Same.trans {a b c : State} (h1 : Same a b) (h2 : Same b c) : Same a c :=
  ⟨h2.frames.trans h1.frames, h2.curFrame.trans h1.curFrame, h2.frameIndex.trans h1.frameIndex,
   h2.codes.trans h1.codes, h2.consts.trans h1.consts, h2.mainFn.trans h1.mainFn,
   h2.numModules.trans h1.numModules, h2.globals.trans h1.globals, h2.modules.trans h1.modules,
   h2.err.trans h1.err, h2.abort.trans h1.abort, h2.traceOn.trans h1.traceOn, h2.noPanic.trans h1.noPanic⟩

/-! ### the heap only grows -/

/-- `s'` is `s` with a heap that keeps every cell of `s.heap` -/
structure Grow (s s' : State) : Prop where
  eq : s' = { s with heap := s'.heap }
  keep : ∀ (a : Nat) (c : Cell), s.heap[a]? = some c → s'.heap[a]? = some c

theorem Grow.refl (s : State) : Grow s s := ⟨rfl, fun _ _ h => h⟩
theorem Grow.trans {a b c : State} (h1 : Grow a b) (h2 : Grow b c) : Grow a c :=
  ⟨by have e2 := h2.eq; rw [h1.eq] at e2; exact e2, fun x y h => h2.keep x y (h1.keep x y h)⟩

theorem Grow.same {s s' : State} (h : Grow s s') : Same s s' := by
  rw [h.eq]; exact Same.upd
theorem Grow.stack {s s' : State} (h : Grow s s') : s'.stack = s.stack := by rw [h.eq]
theorem Grow.sp {s s' : State} (h : Grow s s') : s'.sp = s.sp := by rw [h.eq]
theorem Grow.ip {s s' : State} (h : Grow s s') : s'.ip = s.ip := by rw [h.eq]
theorem Grow.steps {s s' : State} (h : Grow s s') : s'.steps = s.steps := by rw [h.eq]
theorem Grow.trace {s s' : State} (h : Grow s s') : s'.trace = s.trace := by rw [h.eq]

/-- `m` changes nothing but the heap, and the heap only by appending (on every path) -/
structure Grows {α} (m : M α) : Prop where
  h : ∀ s, Grow s (exec m s).2

instance : AllocRel Grow where
  refl := Grow.refl
  trans := Grow.trans
  push s c _ := by
    refine ⟨rfl, fun a x h => ?_⟩
    have ⟨hlt, e⟩ := Array.getElem?_eq_some_iff.mp h
    simp only
    rw [Array.getElem?_push_lt hlt, e]

/-- the walk of Proofs/Frame.lean: the object-layer operations only read and allocate -/
theorem Grows.of_pres {α} {m : M α} [h : Pres Grow m] : Grows m := ⟨h.h⟩

theorem grows_throw {α} (e : Exc) : Grows (throw e : M α) := .of_pres
theorem grows_get : Grows (get : M State) := .of_pres
theorem grows_vEqual (F : FloatOps) (l r : V) : Grows (vEqual F l r) := .of_pres
theorem grows_vBinaryOp (F : FloatOps) (tok : Tok) (l r : V) : Grows (vBinaryOp F tok l r) := .of_pres
theorem grows_vUnary (F : FloatOps) (tok : Tok) (r : V) : Grows (vUnary F tok r) := .of_pres
theorem grows_rtErrOfOpErr (e : OpErr) : Grows (rtErrOfOpErr e) := .of_pres

/-! ### the code of the current frame -/

/-- the current frame runs `code` -/
def CodeAt (s : State) (code : Code) : Prop :=
  ∃ fa c fr, (s.frames[s.curFrame]!).fn = some fa ∧ s.heap[fa]? = some (.fn c fr) ∧ s.codes[c]! = code

theorem CodeAt.of_keep {s s' : State} {code : Code} (h : CodeAt s code) (hs : Same s s')
    (hk : ∀ (a : Nat) (c : Cell), s.heap[a]? = some c → s'.heap[a]? = some c) : CodeAt s' code := by
  obtain ⟨fa, c, fr, h1, h2, h3⟩ := h
  exact ⟨fa, c, fr, by rw [hs.frames, hs.curFrame]; exact h1, hk _ _ h2, by rw [hs.codes]; exact h3⟩

theorem CodeAt.of_same {s s' : State} {code : Code} (h : CodeAt s code) (hs : Same s s') (hh : s'.heap = s.heap) :
    CodeAt s' code :=
  h.of_keep hs fun _ _ hc => by rw [hh]; exact hc

theorem exec_heapGet_some (a : Addr) (s : State) (c : Cell) (h : s.heap[a]? = some c) :
    exec (heapGet a) s = (.ok c, s) := by
  rw [Proofs.Fetch.exec_heapGet, h]

theorem exec_curCode {s : State} {code : Code} (h : CodeAt s code) : exec curCode s = (.ok code, s) :=
  let ⟨_, _, _, h1, h2, h3⟩ := h
  Proofs.Fetch.exec_curCode_fn h1 h2 h3

/-! ### the instruction fetch -/

/-- the state in which the opcode function runs -/
abbrev tick (s : State) (op : Nat) : State := Proofs.Fetch.fetched s op

theorem tick_fields (s : State) (op : Nat) :
    (tick s op).stack = s.stack ∧ (tick s op).sp = s.sp ∧ (tick s op).ip = s.ip + 1 ∧ (tick s op).heap = s.heap ∧
    Same s (tick s op) := by
  obtain ⟨tr, st, e⟩ := Proofs.Fetch.fetched_eq s op
  rw [show tick s op = _ from e]
  exact ⟨rfl, rfl, rfl, rfl, Same.upd⟩

theorem tick_stack (s : State) (op : Nat) : (tick s op).stack = s.stack := (tick_fields s op).1
theorem tick_sp (s : State) (op : Nat) : (tick s op).sp = s.sp := (tick_fields s op).2.1
theorem tick_ip (s : State) (op : Nat) : (tick s op).ip = s.ip + 1 := (tick_fields s op).2.2.1
theorem tick_heap (s : State) (op : Nat) : (tick s op).heap = s.heap := (tick_fields s op).2.2.2.1
theorem tick_same (s : State) (op : Nat) : Same s (tick s op) := (tick_fields s op).2.2.2.2

theorem CodeAt.tick {s : State} {code : Code} (h : CodeAt s code) (op : Nat) : CodeAt (tick s op) code :=
  h.of_same (tick_same s op) (tick_heap s op)

theorem tick_frame (s : State) (op : Nat) : (tick s op).frames[(tick s op).curFrame]! = s.frames[s.curFrame]! := by
  rw [(tick_same s op).frames, (tick_same s op).curFrame]

theorem step_at (F : FloatOps) {s : State} {code : Code} (h : CodeAt s code) {p op w x : Nat} (hip : s.ip + 1 = (p : Int))
    (hat : InsAt code.insts p op w x) {β} (g : Ctl → M β) :
    exec (step F >>= g) s = exec (dispatch F op >>= g) (tick s op) := by
  have hc : CodeAt { s with ip := s.ip + 1 } code := h.of_same Same.upd rfl
  exact Proofs.Fetch.step_of_byte F
    (by rw [Proofs.Fetch.exec_instAt_ok (exec_curCode hc) _ p hip (Nat.lt_of_le_of_lt (Nat.le_add_right p w) hat.1), hat.2.1]) g

theorem step_at' (F : FloatOps) {s : State} {code : Code} (h : CodeAt s code) {p op w x : Nat} (hip : s.ip + 1 = (p : Int))
    (hat : InsAt code.insts p op w x) : exec (step F) s = exec (dispatch F op) (tick s op) := by
  simpa only [bind_pure] using step_at F h hip hat pure

/-! ### operands -/

theorem exec_jumpTarget {s : State} {code : Code} (hc : CodeAt s code) {p op tgt : Nat} (hip : s.ip = (p : Int))
    (hj : InsAt code.insts p op 4 tgt) : exec jumpTarget s = (.ok (tgt : Int), s) := by
  unfold jumpTarget
  rw [exec_bind, exec_opnd4_at (exec_curCode hc) hip hj]
  rfl

theorem exec_constAt (i : Nat) (s : State) (v : V) (h : s.consts[i]? = some v) : exec (constAt i) s = (.ok v, s) := by
  rw [Proofs.Fetch.exec_constAt, h]

theorem stackSize_eq : ((stackSize : Nat) : Int) = 2048 := rfl

theorem exec_stackGet' (i : Int) (s : State) (h : 0 ≤ i ∧ i < 2048) :
    exec (stackGet i) s = (.ok (s.stack[i.toNat]!), s) := exec_stackGet i s (by rw [stackSize_eq]; exact h)
theorem exec_stackSet' (i : Int) (v : V) (s : State) (h : 0 ≤ i ∧ i < 2048) :
    exec (stackSet i v) s = (.ok (), { s with stack := s.stack.set! i.toNat v }) := exec_stackSet i v s (by rw [stackSize_eq]; exact h)
theorem exec_pushV' (v : V) (s : State) (h : 0 ≤ s.sp ∧ s.sp < 2048) :
    exec (pushV v) s = (.ok (), { s with stack := s.stack.set! s.sp.toNat v, sp := s.sp + 1 }) :=
  exec_pushV v s (by rw [stackSize_eq]; exact h)

/-! ### operations that look at the heap only -/

/-- run on any state whose heap is `h`, `m` returns `a` and leaves the heap `h'` (nothing else
    changes, every cell of `h` is kept) -/
def RunsOn {α} (m : M α) (h : Array Cell) (a : α) (h' : Array Cell) : Prop :=
  ∀ w : State, w.heap = h → ∃ u, exec m w = (.ok a, u) ∧ Grow w u ∧ u.heap = h'

theorem runsOn_of {α} {m : M α} (ho : HeapOnly m) (hg : Grows m) {t t1 : State} {a : α}
    (h : exec m t = (.ok a, t1)) : RunsOn m t.heap a t1.heap := by
  intro w hw
  have e := ho.h t w hw
  rw [h] at e
  have g := hg.h w
  rw [e] at g
  exact ⟨_, e, g, rfl⟩


/-! ### several instructions: `loopF` -/

/-- what `loopF` does with the result of an instruction -/
def contLoop (F : FloatOps) (k : Nat) : Ctl → M (Option Unit) := fun c =>
  match c with
  | .ret => pure (some ())
  | .next => loopF F k

theorem loopF_succ (F : FloatOps) (k : Nat) {s : State} (hab : s.abort = false) :
    exec (loopF F (k + 1)) s = exec (step F >>= contLoop F k) s := by
  conv => lhs; unfold loopF
  simp only [exec_bind, exec_getS, hab, Bool.false_eq_true, if_false]
  rfl

/-- the VM's loop, started in `s` with enough fuel, gets to `s'` (and goes on from there) -/
def Reach (F : FloatOps) (s s' : State) : Prop := ∃ n, ∀ k, exec (loopF F (n + k)) s = exec (loopF F k) s'

theorem Reach.refl (F : FloatOps) (s : State) : Reach F s s := ⟨0, fun k => by rw [Nat.zero_add]⟩

theorem Reach.trans {F : FloatOps} {a b c : State} (h1 : Reach F a b) (h2 : Reach F b c) : Reach F a c := by
  obtain ⟨n1, e1⟩ := h1
  obtain ⟨n2, e2⟩ := h2
  exact ⟨n1 + n2, fun k => by rw [Nat.add_assoc, e1, e2]⟩

theorem Reach.step {F : FloatOps} {s s' : State} (hab : s.abort = false) (h : exec (step F) s = (.ok .next, s')) :
    Reach F s s' := by
  refine ⟨1, fun k => ?_⟩
  rw [Nat.add_comm, loopF_succ F k hab, exec_bind, h]
  rfl

/-- the VM's loop, started in `s`, gets to the call `failWith oe` (= `throwGenErr`: allocate the
    error object, then `throw` / `handleThrownError`) in state `u`, inside the `n+1`-th instruction -/
def ReachFail (F : FloatOps) (s : State) (oe : OpErr) (u : State) : Prop :=
  ∃ n, ∀ k, exec (loopF F (n + 1 + k)) s = exec (failWith oe >>= contLoop F k) u

theorem ReachFail.of_reach {F : FloatOps} {a b u : State} {oe : OpErr} (h1 : Reach F a b) (h2 : ReachFail F b oe u) :
    ReachFail F a oe u := by
  obtain ⟨n1, e1⟩ := h1
  obtain ⟨n2, e2⟩ := h2
  exact ⟨n1 + n2, fun k => by rw [Nat.add_assoc, Nat.add_assoc, e1, ← Nat.add_assoc, e2]⟩

theorem ReachFail.step {F : FloatOps} {s u : State} {oe : OpErr} (hab : s.abort = false)
    (h : ∀ {β} (g : Ctl → M β), exec (step F >>= g) s = exec (failWith oe >>= g) u) : ReachFail F s oe u := by
  refine ⟨0, fun k => ?_⟩
  rw [Nat.zero_add, Nat.add_comm, loopF_succ F k hab, h]

/-! ### stretches of execution over a stack base -/

/-- the loop gets from `s` to `s'` with the control part, the VM heap and the stack below `b` as they were -/
structure Str (F : FloatOps) (b : Nat) (s s' : State) : Prop where
  reach : Reach F s s'
  same : Same s s'
  heap : s'.heap = s.heap
  agree : AgreeBelow b s.stack s'.stack

theorem Str.trans {F : FloatOps} {b : Nat} {a c d : State} (h1 : Str F b a c) (h2 : Str F b c d) : Str F b a d :=
  ⟨h1.reach.trans h2.reach, h1.same.trans h2.same, h2.heap.trans h1.heap, h1.agree.trans h2.agree⟩

theorem Str.mono {F : FloatOps} {b b' : Nat} {s s' : State} (h : Str F b s s') (hb : b' ≤ b) : Str F b' s s' :=
  ⟨h.reach, h.same, h.heap, h.agree.mono hb⟩

/-- `s'` is reached from `s` over the base `b` with `v` in slot `b`, `sp` just above it and `ip` in front of `q` -/
structure ValAt (F : FloatOps) (b : Nat) (s s' : State) (q : Nat) (v : V) : Prop where
  str : Str F b s s'
  ip : s'.ip + 1 = (q : Int)
  sp : s'.sp = (b : Int) + 1
  get : s'.stack[b]! = v

theorem ValAt.after {F : FloatOps} {b : Nat} {s s1 s2 : State} {q : Nat} {v : V} (h : Str F b s s1)
    (o : ValAt F b s1 s2 q v) : ValAt F b s s2 q v := ⟨h.trans o.str, o.ip, o.sp, o.get⟩

/-- one instruction that ends in the fetched state with another stack, `sp` and `ip` -/
theorem Str.of_tick {F : FloatOps} {b : Nat} {s : State} {op : Nat} {st : Array V} {sp ip : Int} (hab : s.abort = false)
    (hrun : exec (step F) s = (.ok .next, { tick s op with stack := st, sp := sp, ip := ip }))
    (hag : AgreeBelow b s.stack st) : Str F b s { tick s op with stack := st, sp := sp, ip := ip } :=
  ⟨Reach.step hab hrun, (tick_same s op).trans Same.upd, tick_heap s op, hag⟩

/-- … that leaves `v` in slot `b` and writes the stack at or above `b` only -/
theorem ValAt.of_step {F : FloatOps} {b : Nat} {s : State} {op q : Nat} {v : V} {st : Array V} {sp ip : Int}
    (hab : s.abort = false) (hsz : s.stack.size = 2048) (hb : b < 2048)
    (hrun : exec (step F) s = (.ok .next, { tick s op with stack := st, sp := sp, ip := ip }))
    (hip : ip + 1 = (q : Int)) (hsp : sp = (b : Int) + 1)
    (hst : st = s.stack.set! b v ∨ st = (s.stack.set! b v).set! (b + 1) .nil) : ∃ s', ValAt F b s s' q v := by
  have hag : AgreeBelow b s.stack (s.stack.set! b v) := (AgreeBelow.refl _ _).set _ _ (Nat.le_refl _)
  have hget : (s.stack.set! b v)[b]! = v := Array.getElem!_set!_self _ _ _ (by omega)
  rcases hst with rfl | rfl
  · exact ⟨_, Str.of_tick hab hrun hag, hip, hsp, hget⟩
  · exact ⟨_, Str.of_tick hab hrun (hag.set _ _ (by omega)), hip, hsp,
      by show ((s.stack.set! b v).set! (b + 1) .nil)[b]! = v; rw [Array.getElem!_set!_ne _ _ _ _ (by omega)]; exact hget⟩

/-! ### instructions that push a value -/

/-- NULL, TRUE, FALSE -/
theorem step_push0 (F : FloatOps) {s : State} {code : Code} (hab : s.abort = false) (hsz : s.stack.size = 2048)
    (hc : CodeAt s code) {p op b : Nat} (hip : s.ip + 1 = (p : Int)) (hat : InsAt code.insts p op 0 0) (v : V)
    (hop : (op = 21 ∧ v = .undefined) ∨ (op = 41 ∧ v = .bool true) ∨ (op = 42 ∧ v = .bool false))
    (hsp : s.sp = (b : Int)) (hb : b < 2048) : ∃ s', ValAt F b s s' (p + 1) v := by
  have hrun : exec (step F) s = _ := step_at' F hc hip hat
  have hd : dispatch F op = pushV v >>= fun _ => pure Ctl.next := by
    rcases hop with ⟨h, rfl⟩ | ⟨h, rfl⟩ | ⟨h, rfl⟩ <;> rw [h] <;> rfl
  rw [hd, exec_bind, exec_pushV' _ _ (by rw [tick_sp]; omega)] at hrun
  simp only [exec_pure, tick_sp, tick_stack, hsp, Int.toNat_natCast] at hrun
  exact ValAt.of_step hab hsz hb hrun (by rw [tick_ip, hip]; push_cast; rfl) rfl (.inl rfl)

/-- CONSTANT -/
theorem step_const (F : FloatOps) {s : State} {code : Code} (hab : s.abort = false) (hsz : s.stack.size = 2048)
    (hc : CodeAt s code) {p i b : Nat} (hip : s.ip + 1 = (p : Int)) (hat : InsAt code.insts p 1 2 i)
    (v : V) (hk : s.consts[i]? = some v) (hsp : s.sp = (b : Int)) (hb : b < 2048) :
    ∃ s', ValAt F b s s' (p + 3) v := by
  have hrun : exec (step F) s = _ := step_at' F hc hip hat
  have hd : dispatch F 1 = execConstant := rfl
  rw [hd] at hrun; unfold execConstant at hrun
  have hipt : (tick s 1).ip = (p : Int) := (tick_ip s 1).trans hip
  simp only [exec_bind, exec_opnd2_at (exec_curCode (hc.tick 1)) hipt hat] at hrun
  rw [exec_constAt _ _ v (by rw [(tick_same s 1).consts]; exact hk)] at hrun
  simp only at hrun
  rw [exec_pushV' _ _ (by rw [tick_sp]; omega)] at hrun
  simp only [exec_bumpIp, exec_pure, tick_sp, tick_stack, hipt, hsp, Int.toNat_natCast] at hrun
  exact ValAt.of_step hab hsz hb hrun (by push_cast; rfl) rfl (.inl rfl)

/-- GETLOCAL of a slot that does not hold a box -/
theorem step_getLocal (F : FloatOps) {s : State} {code : Code} (hab : s.abort = false) (hsz : s.stack.size = 2048)
    (hc : CodeAt s code) {p x b : Nat} (hip : s.ip + 1 = (p : Int)) (hat : InsAt code.insts p 5 1 x)
    (bp : Nat) (hbp : (s.frames[s.curFrame]!).bp = (bp : Int)) (hi : bp + x < 2048)
    (hv : ∀ a, s.stack[bp + x]! ≠ .box a) (hsp : s.sp = (b : Int)) (hb : b < 2048) :
    ∃ s', ValAt F b s s' (p + 2) (s.stack[bp + x]!) := by
  have hrun : exec (step F) s = _ := step_at' F hc hip hat
  have hd : dispatch F 5 = execGetLocal := rfl
  rw [hd] at hrun; unfold execGetLocal at hrun
  have hipt : (tick s 5).ip = (p : Int) := (tick_ip s 5).trans hip
  simp only [exec_bind, exec_opnd1_at (exec_curCode (hc.tick 5)) hipt hat, exec_curFrame, tick_frame, hbp] at hrun
  rw [exec_stackGet' _ _ (by omega)] at hrun
  have hidx : ((bp : Int) + (x : Int)).toNat = bp + x := by omega
  simp only [hidx, tick_stack, exec_pure] at hrun
  rw [exec_pushV' _ _ (by rw [tick_sp]; omega)] at hrun
  simp only [exec_bumpIp, tick_sp, tick_stack, hipt, hsp, Int.toNat_natCast] at hrun
  exact ValAt.of_step hab hsz hb hrun (by push_cast; rfl) rfl (.inl rfl)

/-! ### instructions that run an object-layer operation on scalars (the operation is given as pure: `hop`) -/

/-- the loop gets from `s` to the call `failWith oe` in `u` with the control part, the VM heap and the stack below `b`
    as they were, `sp` not below `b` -/
structure ErrAt (F : FloatOps) (b : Nat) (s : State) (oe : OpErr) (u : State) : Prop where
  fail : ReachFail F s oe u
  same : Same s u
  heap : u.heap = s.heap
  agree : AgreeBelow b s.stack u.stack
  sp : (b : Int) ≤ u.sp

/-- an instruction that gets to `failWith oe` right behind its fetch -/
theorem ErrAt.of_fetch {F : FloatOps} {b : Nat} {s : State} {oe : OpErr} {op : Nat} (hab : s.abort = false) (hb : (b : Int) ≤ s.sp)
    (key : ∀ {β} (g : Ctl → M β), exec (step F >>= g) s = exec (failWith oe >>= g) (tick s op)) : ErrAt F b s oe (tick s op) :=
  ⟨ReachFail.step hab key, tick_same s op, tick_heap s op, by rw [tick_stack]; exact AgreeBelow.refl _ _, by rw [tick_sp]; exact hb⟩

/-- BINARYOP on the operands in slots `b`, `b + 1`: the operator's value replaces them; when the operator returns an
    error the VM is at `failWith` -/
theorem step_binop (F : FloatOps) {s : State} {code : Code} (hab : s.abort = false) (hsz : s.stack.size = 2048)
    (hc : CodeAt s code) {p x b : Nat} (hip : s.ip + 1 = (p : Int)) (hat : InsAt code.insts p 8 1 x)
    (hsp : s.sp = (b : Int) + 2) (hb : b + 1 < 2048) (y : Except OpErr V)
    (hop : ∀ w, exec (vBinaryOp F (tokOfNat x) (s.stack[b]!) (s.stack[b + 1]!)) w = (.ok y, w)) :
    match (generalizing := false) y with
    | .ok v => ∃ s', ValAt F b s s' (p + 2) v
    | .error oe => ∃ u, ErrAt F b s oe u := by
  have hipt : (tick s 8).ip = (p : Int) := (tick_ip s 8).trans hip
  have e1 : (s.sp - 2).toNat = b := by omega
  have e2 : (s.sp - 1).toNat = b + 1 := by omega
  -- up to the operator's result
  have key : ∀ {β} (g : Ctl → M β), exec (step F >>= g) s = exec ((match y with
      | .ok v => do stackSet (s.sp - 2) v; setSp (s.sp - 1); stackSet (s.sp - 1) .nil; bumpIp 1; pure Ctl.next
      | .error e => failWith e) >>= g) (tick s 8) := by
    intro β g
    rw [step_at F hc hip hat g]
    have hd : dispatch F 8 = execBinaryOp F := rfl
    rw [hd]; unfold execBinaryOp
    simp only [bind_assoc, exec_bind, exec_opnd1_at (exec_curCode (hc.tick 8)) hipt hat, exec_getSp, tick_sp]
    rw [exec_stackGet' _ _ (by omega)]
    simp only
    rw [exec_stackGet' _ _ (by omega)]
    simp only [tick_stack, e1, e2, hop]
    rfl
  cases y with
  | error oe => exact ⟨_, ErrAt.of_fetch hab (by omega) key⟩
  | ok v =>
    have hrun := key pure
    simp only [bind_pure, exec_bind] at hrun
    rw [exec_stackSet' _ _ _ (by omega)] at hrun
    simp only [exec_setSp] at hrun
    rw [exec_stackSet' _ _ _ (by omega)] at hrun
    simp only [exec_bumpIp, exec_pure, tick_stack, hipt, e1, e2] at hrun
    exact ValAt.of_step hab hsz (by omega) hrun (by push_cast; omega) (by omega) (.inr rfl)

/-- UNARY on the operand in slot `b`, likewise -/
theorem step_unary (F : FloatOps) {s : State} {code : Code} (hab : s.abort = false) (hsz : s.stack.size = 2048)
    (hc : CodeAt s code) {p x b : Nat} (hip : s.ip + 1 = (p : Int)) (hat : InsAt code.insts p 9 1 x)
    (hsp : s.sp = (b : Int) + 1) (hb : b < 2048) (y : Except OpErr V)
    (hop : ∀ w, exec (vUnary F (tokOfNat x) (s.stack[b]!)) w = (.ok y, w)) :
    match (generalizing := false) y with
    | .ok v => ∃ s', ValAt F b s s' (p + 2) v
    | .error oe => ∃ u, ErrAt F b s oe u := by
  have hipt : (tick s 9).ip = (p : Int) := (tick_ip s 9).trans hip
  have e1 : (s.sp - 1).toNat = b := by omega
  have key : ∀ {β} (g : Ctl → M β), exec (step F >>= g) s = exec ((match y with
      | .ok v => do stackSet (s.sp - 1) v; bumpIp 1; pure Ctl.next
      | .error e => failWith e) >>= g) (tick s 9) := by
    intro β g
    rw [step_at F hc hip hat g]
    have hd : dispatch F 9 = execUnary F := rfl
    rw [hd]; unfold execUnary
    simp only [bind_assoc, exec_bind, exec_opnd1_at (exec_curCode (hc.tick 9)) hipt hat, exec_getSp, tick_sp]
    rw [exec_stackGet' _ _ (by omega)]
    simp only [tick_stack, e1, hop]
    rfl
  cases y with
  | error oe => exact ⟨_, ErrAt.of_fetch hab (by omega) key⟩
  | ok v =>
    have hrun := key pure
    simp only [bind_pure, exec_bind] at hrun
    rw [exec_stackSet' _ _ _ (by omega)] at hrun
    simp only [exec_bumpIp, exec_pure, tick_stack, hipt, e1] at hrun
    exact ValAt.of_step hab hsz hb hrun (by push_cast; omega) (by rw [tick_sp]; exact hsp) (.inl rfl)

/-- EQUAL / NOTEQUAL on the operands in slots `b`, `b + 1` -/
theorem step_equal (F : FloatOps) {s : State} {code : Code} (hab : s.abort = false) (hsz : s.stack.size = 2048)
    (hc : CodeAt s code) {p op b : Nat} (hip : s.ip + 1 = (p : Int)) (hat : InsAt code.insts p op 0 0) (hb0 : op = 10 ∨ op = 11)
    (hsp : s.sp = (b : Int) + 2) (hb : b + 1 < 2048) (eq : Bool)
    (hop : ∀ w, exec (vEqual F (s.stack[b]!) (s.stack[b + 1]!)) w = (.ok eq, w)) :
    ∃ s', ValAt F b s s' (p + 1) (.bool (if op = 10 then eq else !eq)) := by
  have e1 : (s.sp - 2).toNat = b := by omega
  have e2 : (s.sp - 1).toNat = b + 1 := by omega
  have hrun : exec (step F) s = _ := step_at' F hc hip hat
  have hd : dispatch F op = execEqual F op := by rcases hb0 with h | h <;> rw [h] <;> rfl
  rw [hd] at hrun; unfold execEqual at hrun
  simp only [exec_bind, exec_getSp, tick_sp] at hrun
  rw [exec_stackGet' _ _ (by omega)] at hrun
  simp only at hrun
  rw [exec_stackGet' _ _ (by omega)] at hrun
  simp only [tick_stack, e1, e2, hop] at hrun
  rw [exec_stackSet' _ _ _ (by omega)] at hrun
  simp only [exec_setSp] at hrun
  rw [exec_stackSet' _ _ _ (by omega)] at hrun
  have hb' : (op == OpEqual) = decide (op = 10) := by simp only [OpEqual]; rfl
  simp only [exec_pure, tick_stack, e1, e2, hb', decide_eq_true_eq] at hrun
  exact ValAt.of_step hab hsz (by omega) hrun (by rw [tick_ip, hip]; push_cast; rfl) (by omega) (.inr rfl)

/-- JUMP -/
theorem step_jump (F : FloatOps) {s : State} {code : Code} (hab : s.abort = false) (hc : CodeAt s code) {p tgt : Nat}
    (hip : s.ip + 1 = (p : Int)) (hj : InsAt code.insts p 12 4 tgt) (b : Nat) :
    ∃ s', Str F b s s' ∧ s'.ip + 1 = (tgt : Int) ∧ s'.sp = s.sp ∧ s'.stack = s.stack := by
  have hrun : exec (step F) s = _ := step_at' F hc hip hj
  have hd : dispatch F 12 = execJump := rfl
  rw [hd] at hrun; unfold execJump at hrun
  simp only [exec_bind, exec_jumpTarget (hc.tick 12) ((tick_ip s 12).trans hip) hj, exec_setIp, exec_pure] at hrun
  exact ⟨_, Str.of_tick hab hrun (by rw [tick_stack]; exact AgreeBelow.refl _ _), Int.sub_add_cancel _ _, tick_sp s _, tick_stack s _⟩

/-- JUMPFALSY on the condition in slot `b`: pops it -/
theorem step_jumpFalsy (F : FloatOps) {s : State} {code : Code} (hab : s.abort = false) (hc : CodeAt s code) {p tgt b : Nat}
    (hip : s.ip + 1 = (p : Int)) (hj : InsAt code.insts p 13 4 tgt) (hsp : s.sp = (b : Int) + 1) (hb : b < 2048) (fl : Bool)
    (hop : ∀ w, exec (isFalsy (s.stack[b]!)) w = (.ok fl, w)) :
    ∃ s', Str F b s s' ∧ s'.ip + 1 = (if fl then (tgt : Int) else (p : Int) + 5) ∧ s'.sp = (b : Int) := by
  have hipt : (tick s 13).ip = (p : Int) := (tick_ip s 13).trans hip
  have e1 : (s.sp - 1).toNat = b := by omega
  have hrun : exec (step F) s = _ := step_at' F hc hip hj
  have hd : dispatch F 13 = execJumpFalsy := rfl
  rw [hd] at hrun; unfold execJumpFalsy at hrun
  simp only [exec_bind, exec_getSp, tick_sp, exec_setSp] at hrun
  rw [exec_stackGet' _ _ (by omega)] at hrun
  simp only at hrun
  rw [exec_stackSet' _ _ _ (by omega)] at hrun
  simp only [tick_stack, e1, hop] at hrun
  -- the condition is tested in the state `w` that has it popped already
  have hw : CodeAt ({ tick s 13 with sp := s.sp - 1, stack := s.stack.set! b .nil }) code :=
    (hc.tick 13).of_same Same.upd rfl
  have hag : AgreeBelow b s.stack (s.stack.set! b .nil) := (AgreeBelow.refl _ _).set _ _ (Nat.le_refl _)
  cases fl with
  | true =>
    simp only [if_true, exec_bind, exec_jumpTarget hw hipt hj, exec_setIp, exec_pure] at hrun
    exact ⟨_, Str.of_tick hab hrun hag, Int.sub_add_cancel _ _, by show s.sp - 1 = _; omega⟩
  | false =>
    simp only [Bool.false_eq_true, if_false, exec_bind, exec_bumpIp, exec_pure] at hrun
    exact ⟨_, Str.of_tick hab hrun hag, by show (tick s 13).ip + 4 + 1 = _; simp only [Bool.false_eq_true, if_false]; omega,
      by show s.sp - 1 = _; omega⟩

/-- ANDJUMP / ORJUMP on the operand in slot `b`: when the jump is taken the operand stays and `ip` goes to the target;
    otherwise the operand is popped and execution continues behind the instruction -/
theorem step_andOrJump (F : FloatOps) {s : State} {code : Code} (hab : s.abort = false) (hc : CodeAt s code)
    {p op tgt b : Nat} (hip : s.ip + 1 = (p : Int)) (hj : InsAt code.insts p op 4 tgt) (hb0 : op = 14 ∨ op = 15)
    (hsp : s.sp = (b : Int) + 1) (hb : b < 2048) (fl : Bool) (hop : ∀ w, exec (isFalsy (s.stack[b]!)) w = (.ok fl, w)) :
    if (fl == (op == 14)) then ∃ s', ValAt F b s s' tgt (s.stack[b]!)
    else ∃ s', Str F b s s' ∧ s'.ip + 1 = (p : Int) + 5 ∧ s'.sp = (b : Int) := by
  have hipt : (tick s op).ip = (p : Int) := (tick_ip s op).trans hip
  have e1 : (s.sp - 1).toNat = b := by omega
  -- the two ways the instruction ends, from the state behind the fetch
  have hjump : exec (step F) s = exec (do setIp ((← jumpTarget) - 1); pure Ctl.next) (tick s op) →
      ∃ s', ValAt F b s s' tgt (s.stack[b]!) := by
    intro e
    simp only [exec_bind, exec_jumpTarget (hc.tick _) hipt hj, exec_setIp, exec_pure] at e
    exact ⟨_, Str.of_tick hab e (by rw [tick_stack]; exact AgreeBelow.refl _ _), Int.sub_add_cancel _ _, (tick_sp s op).trans hsp,
      by rw [tick_stack]⟩
  have hpop : exec (step F) s = exec (do stackSet (s.sp - 1) .nil; setSp (s.sp - 1); bumpIp 4; pure Ctl.next) (tick s op) →
      ∃ s', Str F b s s' ∧ s'.ip + 1 = (p : Int) + 5 ∧ s'.sp = (b : Int) := by
    intro e
    simp only [exec_bind] at e
    rw [exec_stackSet' _ _ _ (by omega)] at e
    simp only [exec_setSp, exec_bumpIp, exec_pure, tick_stack, e1] at e
    exact ⟨_, Str.of_tick hab e ((AgreeBelow.refl _ _).set _ _ (Nat.le_refl _)), by show (tick s op).ip + 4 + 1 = _; omega,
      by show s.sp - 1 = _; omega⟩
  rcases hb0 with rfl | rfl
  · have hrun : exec (step F) s = exec (if fl = true then (do setIp ((← jumpTarget) - 1); pure Ctl.next)
        else (do stackSet (s.sp - 1) .nil; setSp (s.sp - 1); bumpIp 4; pure Ctl.next)) (tick s 14) := by
      rw [step_at' F hc hip hj]
      have hd : dispatch F 14 = execAndJump := rfl
      rw [hd]; unfold execAndJump
      simp only [exec_bind, exec_getSp, tick_sp]
      rw [exec_stackGet' _ _ (by omega)]
      simp only [tick_stack, e1, hop]
    cases fl
    · exact hpop hrun
    · exact hjump hrun
  · have hrun : exec (step F) s = exec (if fl = true then (do stackSet (s.sp - 1) .nil; setSp (s.sp - 1); bumpIp 4; pure Ctl.next)
        else (do setIp ((← jumpTarget) - 1); pure Ctl.next)) (tick s 15) := by
      rw [step_at' F hc hip hj]
      have hd : dispatch F 15 = execOrJump := rfl
      rw [hd]; unfold execOrJump
      simp only [exec_bind, exec_getSp, tick_sp]
      rw [exec_stackGet' _ _ (by omega)]
      simp only [tick_stack, e1, hop]
    cases fl
    · exact hjump hrun
    · exact hpop hrun

end UgoVerif.CompSim

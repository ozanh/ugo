import UgoVerif.Proofs.CompileShiftMain
/-
  C10: a batch compile against its fragments compiled one after the other, each from an emptied stream
  (`compileChain`), when the later fragments are jump-free at their top level.
-/
namespace UgoVerif.Compile
open UgoVerif UgoVerif.Go UgoVerif.Ast

theorem compileStmts_append : ∀ (f₁ f₂ : List Stmt),
    compileStmts (f₁ ++ f₂) = (do compileStmts f₁; compileStmts f₂)
  | [], f₂ => by simp [compileStmts_nil]
  | st :: r, f₂ => by
    rw [List.cons_append, compileStmts_cons, compileStmts_cons, compileStmts_append r f₂]
    simp [bind_assoc]

/-- the compiler state with an empty instruction stream: what the session's next `compileScript`
    starts from (same tables, same constants; fresh loops / try index are those of the top level) -/
def freshStream (s : CState) : CState := { s with insts := #[], sourceMap := [] }

theorem withPre_freshStream (s : CState) : withPre s.insts s.sourceMap (freshStream s) = s := by
  simp [withPre, freshStream]

theorem compile_append_partial (s s₁ : CState) (f₁ f₂ : List Stmt) (hjf : jfSs f₂ = true)
    (h₁ : runCM (compileStmts f₁) s = (.ok (), s₁)) :
    EquiOut s₁.insts (runCM (compileStmts f₂) (freshStream s₁)) (runCM (compileStmts (f₁ ++ f₂)) s) := by
  rw [compileStmts_append, runCM_bind, h₁]
  simp only
  have := equi_compileStmts f₂ hjf s₁.insts s₁.sourceMap (freshStream s₁)
  rwa [withPre_freshStream] at this

theorem compile_append_ok (s s₁ t : CState) (f₁ f₂ : List Stmt) (hjf : jfSs f₂ = true)
    (h₁ : runCM (compileStmts f₁) s = (.ok (), s₁))
    (h₂ : runCM (compileStmts f₂) (freshStream s₁) = (.ok (), t)) :
    ∃ M, runCM (compileStmts (f₁ ++ f₂)) s = (.ok (), { t with insts := s₁.insts ++ t.insts, sourceMap := M }) := by
  have h := compile_append_partial s s₁ f₁ f₂ hjf h₁
  rw [h₂] at h
  unfold EquiOut at h
  cases hr : runCM (compileStmts (f₁ ++ f₂)) s with
  | mk r t' =>
    rw [hr] at h
    cases r with
    | ok a =>
      obtain ⟨_, M', ht⟩ := h
      exact ⟨M', by rw [ht]⟩
    | error e => exact h.elim

/-- the fragments of a session compiled one after the other by the compiler model, each from an
    emptied instruction stream and from the tables and constants the previous one left: the
    streams they produce (before the `Bytecode()` epilogue) and the final state -/
def compileChain : CState → List (List Stmt) → Option (List (Array UInt8) × CState)
  | s, [] => some ([], s)
  | s, f :: fs =>
    match runCM (compileStmts f) (freshStream s) with
    | (.ok (), t) =>
      match compileChain t fs with
      | some (ds, u) => some (t.insts :: ds, u)
      | none => none
    | _ => none

theorem compileChain_cons_congr {a b : CState} (h : freshStream a = freshStream b) (g : List Stmt)
    (gs : List (List Stmt)) : compileChain a (g :: gs) = compileChain b (g :: gs) := by
  simp only [compileChain, h]

/-- stated in Props/C10.lean as `eval_split_partial` -/
theorem eval_split_chain : ∀ (fs : List (List Stmt)) (s : CState) (done : List Stmt) (s₁ : CState),
    runCM (compileStmts done) s = (.ok (), s₁) → (∀ f ∈ fs, jfSs f = true) →
    ∀ ds u, compileChain s₁ fs = some (ds, u) →
    ∃ M, runCM (compileStmts (done ++ fs.flatten)) s =
      (.ok (), { u with insts := ds.foldl (· ++ ·) s₁.insts, sourceMap := M })
  | [], s, done, s₁, h₁, _, ds, u, hc => by
    simp only [compileChain, Option.some.injEq, Prod.mk.injEq] at hc
    obtain ⟨rfl, rfl⟩ := hc
    exact ⟨s₁.sourceMap, by simpa using h₁⟩
  | f :: fs, s, done, s₁, h₁, hjf, ds, u, hc => by
    simp only [compileChain] at hc
    split at hc
    · rename_i t ht
      split at hc
      · rename_i ds' u' hc'
        simp only [Option.some.injEq, Prod.mk.injEq] at hc
        obtain ⟨rfl, rfl⟩ := hc
        obtain ⟨M, hrun⟩ := compile_append_ok s s₁ t done f (hjf f (by simp)) h₁ ht
        have ih := eval_split_chain fs s (done ++ f) _ hrun (fun g hg => hjf g (by simp [hg]))
        cases fs with
        | nil =>
          simp only [compileChain, Option.some.injEq, Prod.mk.injEq] at hc'
          obtain ⟨rfl, rfl⟩ := hc'
          refine ⟨M, ?_⟩
          simpa using hrun
        | cons g gs =>
          -- the chain continues from `t`, which differs from the batch state only in stream and source map
          rw [compileChain_cons_congr (a := t) (b := { t with insts := s₁.insts ++ t.insts, sourceMap := M }) rfl] at hc'
          obtain ⟨M2, h2⟩ := ih ds' u' hc'
          refine ⟨M2, ?_⟩
          simpa [List.append_assoc] using h2
      · cases hc
    · cases hc

end UgoVerif.Compile

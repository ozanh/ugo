import UgoVerif.Proofs.CompileWalk
import UgoVerif.Proofs.CompileTables
/-
  C05 helper: the invariant of the chain of symbol tables.  Every symbol that can reach an
  instruction operand carries an index that is in range for the function it is used in: a local
  slot below `maxDefinition` of the function's table, a free-variable slot below the number of free
  variables of the function, a builtin number below the number of builtins, a global whose index
  names a String constant.
-/
namespace UgoVerif.Compile
open UgoVerif UgoVerif.Go UgoVerif.Ast

/-- `maxDefinition` of the function table (first non-block table) of a chain: NumLocals of the
    function being compiled -/
def fmd : List Table → Nat
  | [] => 0
  | t :: r => if t.block then fmd r else t.maxDefinition

/-- number of free variables of the function being compiled -/
def fnf : List Table → Nat
  | [] => 0
  | t :: r => if t.block then fnf r else t.frees.length

/-- a symbol as seen from a function with `nl` locals and `nf` free variables -/
def SymOKx (cs : Array Const) (nl nf : Nat) (y : Symbol) : Prop :=
  (y.scope = .constLit → y.constant = true ∧ y.constLit.isSome = true) ∧
  (y.scope = .local_ → ∃ i : Nat, y.index = (i : Int) ∧ i < nl) ∧
  (y.scope = .free → ∃ i : Nat, y.index = (i : Int) ∧ i < nf) ∧
  (y.scope = .builtin → ∃ i : Nat, y.index = (i : Int) ∧ i < NB) ∧
  (y.scope = .global → y.index = -1 ∨ ∃ (i : Nat) (b : Bytes), y.index = (i : Int) ∧ cs[i]? = some (.val (.str b)))

theorem SymOKx.mono {cs cs' : Array Const} {nl nl' nf nf' : Nat} {y : Symbol} (h : SymOKx cs nl nf y)
    (hc : CPre cs cs') (hl : nl ≤ nl') (hf : nf ≤ nf') : SymOKx cs' nl' nf' y := by
  obtain ⟨h1, h2, h3, h4, h5⟩ := h
  refine ⟨h1, ?_, ?_, h4, ?_⟩
  · intro c; obtain ⟨i, hi, hlt⟩ := h2 c; exact ⟨i, hi, by omega⟩
  · intro c; obtain ⟨i, hi, hlt⟩ := h3 c; exact ⟨i, hi, by omega⟩
  · intro c
    rcases h5 c with h | ⟨i, b, hi, hb⟩
    · exact .inl h
    · exact .inr ⟨i, b, hi, hc.get hb⟩

theorem symOKx_local {cs : Array Const} {nl nf : Nat} {y : Symbol} {i : Nat} (hsc : y.scope = .local_)
    (hi : y.index = (i : Int)) (hlt : i < nl) : SymOKx cs nl nf y := by
  refine ⟨?_, fun _ => ⟨i, hi, hlt⟩, ?_, ?_, ?_⟩ <;> intro c <;> rw [hsc] at c <;> cases c

theorem symOKx_free {cs : Array Const} {nl nf : Nat} {y : Symbol} {i : Nat} (hsc : y.scope = .free)
    (hi : y.index = (i : Int)) (hlt : i < nf) : SymOKx cs nl nf y := by
  refine ⟨?_, ?_, fun _ => ⟨i, hi, hlt⟩, ?_, ?_⟩ <;> intro c <;> rw [hsc] at c <;> cases c

theorem symOKx_builtin {cs : Array Const} {nl nf : Nat} {y : Symbol} {i : Nat} (hsc : y.scope = .builtin)
    (hi : y.index = (i : Int)) (hlt : i < NB) : SymOKx cs nl nf y := by
  refine ⟨?_, ?_, ?_, fun _ => ⟨i, hi, hlt⟩, ?_⟩ <;> intro c <;> rw [hsc] at c <;> cases c

theorem symOKx_constLit {cs : Array Const} {nl nf : Nat} {y : Symbol} (hsc : y.scope = .constLit)
    (hc : y.constant = true) (hv : y.constLit.isSome = true) : SymOKx cs nl nf y := by
  refine ⟨fun _ => ⟨hc, hv⟩, ?_, ?_, ?_, ?_⟩ <;> intro c <;> rw [hsc] at c <;> cases c

theorem symOKx_global {cs : Array Const} {nl nf : Nat} {y : Symbol} (hsc : y.scope = .global)
    (hi : y.index = -1 ∨ ∃ (i : Nat) (b : Bytes), y.index = (i : Int) ∧ cs[i]? = some (.val (.str b))) :
    SymOKx cs nl nf y := by
  refine ⟨?_, ?_, ?_, ?_, fun _ => hi⟩ <;> intro c <;> rw [hsc] at c <;> cases c

def StoreOKx (cs : Array Const) (nl nf : Nat) (st : List (String × Symbol)) : Prop := ∀ p ∈ st, SymOKx cs nl nf p.2

theorem StoreOKx.mono {cs cs' : Array Const} {nl nl' nf nf' : Nat} {st : List (String × Symbol)}
    (h : StoreOKx cs nl nf st) (hc : CPre cs cs') (hl : nl ≤ nl') (hf : nf ≤ nf') : StoreOKx cs' nl' nf' st :=
  fun p hp => (h p hp).mono hc hl hf

/-- an original of a free variable, as seen from the enclosing function -/
def OrigOK (nl nf : Nat) (y : Symbol) : Prop :=
  (y.scope = .local_ → ∃ i : Nat, y.index = (i : Int) ∧ i < nl) ∧
  (y.scope = .free → ∃ i : Nat, y.index = (i : Int) ∧ i < nf)

theorem OrigOK.mono {nl nl' nf nf' : Nat} {y : Symbol} (h : OrigOK nl nf y) (hl : nl ≤ nl') (hf : nf ≤ nf') :
    OrigOK nl' nf' y :=
  ⟨fun c => by obtain ⟨i, hi, hlt⟩ := h.1 c; exact ⟨i, hi, by omega⟩,
   fun c => by obtain ⟨i, hi, hlt⟩ := h.2 c; exact ⟨i, hi, by omega⟩⟩

/-- the chain is innermost table first, the root last -/
def ChainOK (cs : Array Const) : List Table → Prop
  | [] => True
  | t :: r =>
    StoreOKx cs (fmd (t :: r)) (fnf (t :: r)) t.store ∧ t.numParams ≤ t.maxDefinition ∧
    (t.block = false → ∀ y ∈ t.frees, OrigOK (fmd r) (fnf r) y) ∧
    (r = [] → t.block = false ∧ t.frees = []) ∧ ChainOK cs r

def ChainLE : List Table → List Table → Prop
  | [], [] => True
  | t :: r, t' :: r' => t'.block = t.block ∧ t.maxDefinition ≤ t'.maxDefinition ∧ t.frees.length ≤ t'.frees.length ∧ ChainLE r r'
  | _, _ => False

theorem ChainLE.refl : ∀ ts : List Table, ChainLE ts ts
  | [] => trivial
  | _ :: r => ⟨rfl, Nat.le_refl _, Nat.le_refl _, ChainLE.refl r⟩

theorem ChainLE.trans : ∀ {a b c : List Table}, ChainLE a b → ChainLE b c → ChainLE a c
  | [], [], [], _, _ => trivial
  | _ :: _, _ :: _, _ :: _, h, h' =>
    ⟨h'.1.trans h.1, Nat.le_trans h.2.1 h'.2.1, Nat.le_trans h.2.2.1 h'.2.2.1, ChainLE.trans h.2.2.2 h'.2.2.2⟩
  | [], [], _ :: _, _, h' => h'.elim
  | [], _ :: _, _, h, _ => h.elim
  | _ :: _, [], _, h, _ => h.elim
  | _ :: _, _ :: _, [], _, h' => h'.elim

theorem ChainLE.length : ∀ {a b : List Table}, ChainLE a b → b.length = a.length
  | [], [], _ => rfl
  | _ :: r, _ :: r', h => by simp [ChainLE.length (a := r) (b := r') h.2.2.2]
  | [], _ :: _, h => h.elim
  | _ :: _, [], h => h.elim

theorem ChainLE.lims : ∀ {a b : List Table}, ChainLE a b → fmd a ≤ fmd b ∧ fnf a ≤ fnf b
  | [], [], _ => ⟨Nat.le_refl _, Nat.le_refl _⟩
  | t :: r, t' :: r', h => by
    simp only [fmd, fnf, h.1]
    split
    · exact ChainLE.lims h.2.2.2
    · exact ⟨h.2.1, h.2.2.1⟩
  | [], _ :: _, h => h.elim
  | _ :: _, [], h => h.elim

theorem ChainLE.fmd {a b : List Table} (h : ChainLE a b) : fmd a ≤ fmd b := h.lims.1
theorem ChainLE.fnf {a b : List Table} (h : ChainLE a b) : fnf a ≤ fnf b := h.lims.2

theorem ChainLE.tail {t t' : Table} {r r' : List Table} (h : ChainLE (t :: r) (t' :: r')) : ChainLE r r' := h.2.2.2

theorem ChainLE.cons (t : Table) {r r' : List Table} (h : ChainLE r r') : ChainLE (t :: r) (t :: r') :=
  ⟨rfl, Nat.le_refl _, Nat.le_refl _, h⟩

theorem ChainLE.ne_nil : ∀ {a b : List Table}, ChainLE a b → a ≠ [] → b ≠ []
  | _ :: _, _ :: _, _, _ => List.cons_ne_nil _ _
  | [], _, _, h => absurd rfl h
  | _ :: _, [], h, _ => h.elim

theorem ChainOK.tail {cs : Array Const} {t : Table} {r : List Table} (h : ChainOK cs (t :: r)) : ChainOK cs r := h.2.2.2.2

theorem ChainOK.mono {cs cs' : Array Const} (hc : CPre cs cs') : ∀ {ts : List Table}, ChainOK cs ts → ChainOK cs' ts
  | [], _ => trivial
  | _ :: _, h => ⟨h.1.mono hc (Nat.le_refl _) (Nat.le_refl _), h.2.1, h.2.2.1, h.2.2.2.1, ChainOK.mono hc h.2.2.2.2⟩

theorem fmd_cons_block {t : Table} {r : List Table} (h : t.block = true) : fmd (t :: r) = fmd r := by simp [fmd, h]
theorem fmd_cons_fn {t : Table} {r : List Table} (h : t.block = false) : fmd (t :: r) = t.maxDefinition := by simp [fmd, h]
theorem fnf_cons_block {t : Table} {r : List Table} (h : t.block = true) : fnf (t :: r) = fnf r := by simp [fnf, h]
theorem fnf_cons_fn {t : Table} {r : List Table} (h : t.block = false) : fnf (t :: r) = t.frees.length := by simp [fnf, h]

theorem MaxUp.chainLE : ∀ {a b : List Table}, MaxUp a b → ChainLE a b
  | _, _, .nil => trivial
  | _, _, .cons hm hr => ⟨rfl, hm, Nat.le_refl _, hr.chainLE⟩

/-- the invariant only bounds `maxDefinition` from below -/
theorem MaxUp.chain {cs : Array Const} : ∀ {a b : List Table}, MaxUp a b → ChainOK cs a → ChainOK cs b
  | _, _, .nil, h => h
  | _, _, .cons (t := t) (r := r) hm hr, h => by
    have hle := hr.chainLE
    have hle' := (MaxUp.cons hm hr).chainLE
    obtain ⟨hst, hpar, hfr, hroot, htl⟩ := h
    exact ⟨hst.mono (CPre.refl _) hle'.fmd hle'.fnf, Nat.le_trans hpar hm,
      fun hb y hy => (hfr hb y hy).mono hle.fmd hle.fnf,
      fun he => hroot (Classical.byContradiction fun hne => hle.ne_nil hne he), hr.chain htl⟩

theorem ChainOK.exists_fn {cs : Array Const} : ∀ {ts : List Table}, ChainOK cs ts → ts ≠ [] → ∃ t ∈ ts, t.block = false
  | [], _, hne => absurd rfl hne
  | [t], h, _ => ⟨t, List.mem_singleton.mpr rfl, (h.2.2.2.1 rfl).1⟩
  | _ :: _ :: _, h, _ =>
    (ChainOK.exists_fn h.tail (List.cons_ne_nil _ _)).imp fun _ hx => ⟨List.mem_cons_of_mem _ hx.1, hx.2⟩

theorem le_fmd_updateMaxDefs (n : Nat) : ∀ {ts : List Table}, (∃ t ∈ ts, t.block = false) → n ≤ fmd (updateMaxDefs n ts)
  | [], h => by simp at h
  | t :: r, h => by
    rw [updateMaxDefs_cons]
    cases hb : t.block with
    | false => exact Nat.le_max_left _ _
    | true =>
      refine le_fmd_updateMaxDefs n ?_
      obtain ⟨x, hx, hxb⟩ := h
      rcases List.mem_cons.mp hx with rfl | hx
      · rw [hb] at hxb; cases hxb
      · exact ⟨x, hx, hxb⟩

theorem fmd_congr {t t2 : Table} {r : List Table} (hb : t2.block = t.block) (hm : t2.maxDefinition = t.maxDefinition) :
    fmd (t2 :: r) = fmd (t :: r) := by simp [fmd, hb, hm]
theorem fnf_congr {t t2 : Table} {r : List Table} (hb : t2.block = t.block) (hf : t2.frees = t.frees) :
    fnf (t2 :: r) = fnf (t :: r) := by simp [fnf, hb, hf]

theorem chain_replaceHead {cs : Array Const} {t t2 : Table} {r : List Table} (h : ChainOK cs (t :: r))
    (hb : t2.block = t.block) (hm : t2.maxDefinition = t.maxDefinition) (hf : t2.frees = t.frees)
    (hp : t2.numParams = t.numParams) (hs : StoreOKx cs (fmd (t :: r)) (fnf (t :: r)) t2.store) : ChainOK cs (t2 :: r) := by
  obtain ⟨_, hpar, hfr, hroot, hr⟩ := h
  refine ⟨by rw [fmd_congr hb hm, fnf_congr hb hf]; exact hs, by rw [hp, hm]; exact hpar, ?_, ?_, hr⟩
  · intro hc; rw [hf]; exact hfr (by rw [← hb]; exact hc)
  · intro he; rw [hb, hf]; exact hroot he

theorem chainLE_replaceHead {t t2 : Table} {r : List Table} (hb : t2.block = t.block) (hm : t2.maxDefinition = t.maxDefinition)
    (hf : t2.frees = t.frees) : ChainLE (t :: r) (t2 :: r) :=
  ⟨hb, by rw [hm]; exact Nat.le_refl _, by rw [hf]; exact Nat.le_refl _, ChainLE.refl r⟩

theorem chain_putHead {cs : Array Const} {t t2 : Table} {r : List Table} {n : String} {y : Symbol} (h : ChainOK cs (t :: r))
    (hb : t2.block = t.block) (hm : t2.maxDefinition = t.maxDefinition) (hf : t2.frees = t.frees)
    (hp : t2.numParams = t.numParams) (hs : t2.store = putSym n y t.store)
    (hy : SymOKx cs (fmd (t :: r)) (fnf (t :: r)) y) : ChainOK cs (t2 :: r) :=
  chain_replaceHead h hb hm hf hp (by rw [hs]; exact putSym_all hy h.1)

theorem chain_define {cs : Array Const} {t t1 : Table} {r : List Table} {name : String} {sym : Symbol} {idx : Nat}
    (h : ChainOK cs (t :: r)) (hb : t1.block = t.block) (hm : t1.maxDefinition = t.maxDefinition) (hf : t1.frees = t.frees)
    (hp : t1.numParams = t.numParams) (hs : t1.store = putSym name sym t.store)
    (hsc : sym.scope = .local_) (hi : sym.index = (idx : Int)) :
    ChainOK cs (updateMaxDefs (idx + 1) (t1 :: r)) ∧ ChainLE (t :: r) (updateMaxDefs (idx + 1) (t1 :: r)) ∧
    idx < fmd (updateMaxDefs (idx + 1) (t1 :: r)) := by
  have hrel := updateMaxDefs_rel (idx + 1) (t :: r)
  have c1 := hrel.chain h
  have c3 := le_fmd_updateMaxDefs (idx + 1) (h.exists_fn (List.cons_ne_nil _ _))
  rw [updateMaxDefs_cons] at hrel c1 c3 ⊢
  -- the two chains differ in the store of the head table only
  rw [hb, hm]
  exact ⟨chain_putHead c1 rfl rfl hf hp hs (symOKx_local hsc hi c3),
    hrel.chainLE.trans (chainLE_replaceHead rfl rfl hf), c3⟩

theorem chain_fork {cs : Array Const} {ts : List Table} (h : ChainOK cs ts) (hne : ts ≠ []) (tn : Table)
    (hs : tn.store = []) (hf : tn.frees = []) (hp : tn.numParams = 0) : ChainOK cs (tn :: ts) := by
  refine ⟨by rw [hs]; intro p hp; simp at hp, by rw [hp]; exact Nat.zero_le _, ?_, fun he => absurd he hne, h⟩
  intro _ y hy; rw [hf] at hy; simp at hy


theorem chain_replaceTail {cs : Array Const} {t : Table} {r r' : List Table} (h : ChainOK cs (t :: r))
    (hr' : ChainOK cs r') (hle : ChainLE r r') (hne : r ≠ []) : ChainOK cs (t :: r') := by
  obtain ⟨hst, hpar, hfr, _, _⟩ := h
  have hle' := hle.cons t
  exact ⟨hst.mono (CPre.refl _) hle'.fmd hle'.fnf, hpar, fun hb y hy => (hfr hb y hy).mono hle.fmd hle.fnf,
    fun he => absurd he (hle.ne_nil hne), hr'⟩

theorem resolveIn_chain (cs : Array Const) (bs : List (String × Nat)) (hbs : ∀ p ∈ bs, p.2 < NB) (d : List String)
    (n : String) {ts : List Table} : ChainOK cs ts →
      ChainOK cs (resolveIn bs d n ts).2 ∧ ChainLE ts (resolveIn bs d n ts).2 ∧
      ∀ y, (resolveIn bs d n ts).1 = some y → SymOKx cs (fmd (resolveIn bs d n ts).2) (fnf (resolveIn bs d n ts).2) y := by
  refine resolveIn_ind (motive := fun ts res => ChainOK cs ts →
    ChainOK cs res.2 ∧ ChainLE ts res.2 ∧ ∀ y, res.1 = some y → SymOKx cs (fmd res.2) (fnf res.2) y)
    ?_ ?_ ?_ ?_ ?_ ?_ ?_ ts
  · exact fun h => ⟨h, trivial, fun _ hy => nomatch hy⟩
  · exact fun _ hl h => ⟨h, ChainLE.refl _, fun _ hy => Option.some.inj hy ▸ lookupSym_all h.1 hl⟩
  · intro t k idx _ _ hf h
    have hy : SymOKx cs (fmd [t]) (fnf [t]) { name := n, index := (idx : Int), scope := .builtin } :=
      symOKx_builtin rfl rfl (hbs (k, idx) (List.mem_of_find?_eq_some hf))
    exact ⟨chain_putHead h rfl rfl rfl rfl rfl hy, chainLE_replaceHead rfl rfl rfl, fun _ hy' => Option.some.inj hy' ▸ hy⟩
  · exact fun _ h => ⟨h, ChainLE.refl _, fun _ hy => nomatch hy⟩
  · intro t _ _ _ hne ih h
    obtain ⟨ih1, ih2, _⟩ := ih h.tail
    exact ⟨chain_replaceTail h ih1 ih2 hne, ih2.cons t, fun _ hy => nomatch hy⟩
  · intro t rest sym rest' _ hne ih hblk _ _ _ h
    obtain ⟨ih1, ih2, ih3⟩ := ih h.tail
    have hsym := ih3 sym rfl
    have hfsOK : SymOKx cs t.maxDefinition (t.frees.length + 1)
        { name := sym.name, index := (t.frees.length : Int), scope := .free, constant := sym.constant } :=
      symOKx_free rfl rfl (by omega)
    obtain ⟨hst, hpar, hfr, _, hr⟩ := chain_replaceTail h ih1 ih2 hne
    rw [fmd_cons_fn hblk, fnf_cons_fn hblk] at hst
    have hblk' : (shadowBuiltin bs sym.name { t with
        frees := t.frees ++ [sym],
        store := putSym sym.name { name := sym.name, index := t.frees.length, scope := .free, constant := sym.constant } t.store }).block
        = false := by simpa using hblk
    refine ⟨⟨?_, by simpa using hpar, ?_, fun he => absurd he (ih2.ne_nil hne), hr⟩, ⟨by simp, by simp, by simp, ih2⟩, ?_⟩
    · rw [fmd_cons_fn hblk', fnf_cons_fn hblk']
      simp only [shadowBuiltin_store, shadowBuiltin_maxDefinition, shadowBuiltin_frees, List.length_append,
        List.length_cons, List.length_nil]
      exact putSym_all hfsOK (hst.mono (CPre.refl _) (Nat.le_refl _) (by omega))
    · intro _ y hy
      simp only [shadowBuiltin_frees, List.mem_append, List.mem_singleton] at hy
      rcases hy with hy | hy
      · exact hfr hblk y hy
      · -- the captured symbol is a local or free variable of the enclosing function
        exact hy ▸ ⟨hsym.2.1, hsym.2.2.1⟩
    · intro y hy
      rw [← Option.some.inj hy, fmd_cons_fn hblk', fnf_cons_fn hblk']
      simpa using hfsOK
  · intro t rest sym rest' _ hne ih hsc h
    obtain ⟨ih1, ih2, ih3⟩ := ih h.tail
    have hsym := ih3 sym rfl
    refine ⟨chain_replaceTail h ih1 ih2 hne, ih2.cons t, fun y hy => ?_⟩
    rw [← Option.some.inj hy]
    cases hblk : t.block with
    | true => rw [fmd_cons_block hblk, fnf_cons_block hblk]; exact hsym
    | false =>
      -- a symbol passed on unchanged by a function table is global, builtin or a constant literal
      have hno : ∀ sc, sym.scope = sc → sc ≠ .global → sc ≠ .builtin → sc ≠ .constLit → False := fun sc e hg hb hc =>
        (hsc hblk).elim (fun h => hg (e ▸ h)) fun h => h.elim (fun h => hb (e ▸ h)) fun h => hc (e ▸ h)
      exact ⟨hsym.1, fun c => (hno _ c (by decide) (by decide) (by decide)).elim,
        fun c => (hno _ c (by decide) (by decide) (by decide)).elim, hsym.2.2.2.1, hsym.2.2.2.2⟩

end UgoVerif.Compile

import UgoVerif.Proofs.CompileInv
/-
  The helper functions of the compiler model that only read the symbol table (`findSymbolSelf`,
  `hasAnyConstLit`, `defineConstLit` around its one write `defineConstLitSym`) are compositions of a
  few primitives; they satisfy every property of compiler actions that is closed under sequencing and
  holds of those primitives (`TabClosed`).  Every analysis is such a property, so each of these
  helpers is walked once, here.  For a property whose subject is not the symbol table (`TabFree`) the
  operations that write the tables are walked here as well.
-/
namespace UgoVerif.Compile
open UgoVerif UgoVerif.Go UgoVerif.Ast

/-- an opcode of whose operands the invariant of the stream asks nothing -/
def PlainOp (op : Nat) : Prop := op < numOpcodes ∧ isJumpOp op = false ∧ op ≠ OpSetupTry ∧ PlainIdx op

instance (op : Nat) : Decidable (PlainOp op) := by unfold PlainOp; infer_instance

theorem PlainOp.static {op : Nat} (h : PlainOp op) (args : List Int) : StaticArgs op args :=
  ⟨fun c => absurd (h.2.1 ▸ c) Bool.false_ne_true, fun c => absurd c h.2.2.1, h.2.2.2⟩

/-- `get` is asked only in front of a continuation that does not look at the stream or the source
    map, which also a property of two runs from different streams can follow -/
structure TabClosed (G : {α : Type} → CM α → Prop) : Prop where
  pure : ∀ {α} (a : α), G (Pure.pure a : CM α)
  bind : ∀ {α β} {m : CM α} {f : α → CM β}, G m → (∀ a, G (f a)) → G (m >>= f)
  cerr : ∀ {α} (pos : Pos) (msg : String), G (Compile.cerr pos msg : CM α)
  get : ∀ {β} {f : CState → CM β}, (∀ (s : CState) a m, f { s with insts := a, sourceMap := m } = f s) →
    (∀ s0, G (f s0)) → G (get >>= f)
  headTable : G headTable

namespace TabClosed
variable {G : {α : Type} → CM α → Prop} (C : TabClosed @G)
include C

-- takes `C` although it needs none of its fields, so that `C.ite` stands beside `C.bind`, `C.pure`
set_option linter.unusedSectionVars false in
theorem ite {α} {c : Prop} [Decidable c] {a b : CM α} (ha : G a) (hb : G b) : G (if c then a else b) := by
  split <;> assumption

theorem findSymbolSelf (name : String) : G (findSymbolSelf name) := C.bind C.headTable fun _ => C.pure _

theorem hasAnyConstLit : G hasAnyConstLit := C.bind C.headTable fun _ => C.pure _

theorem defineConstLit (name : String) (v : VSum) (hs : ∀ w, G (defineConstLitSym name w)) :
    G (defineConstLit name v) := by
  have hb : ∀ {k : Option Unit → CM Bool} (w : Option CVal), G (k (some ())) → G (k none) →
      G (defineConstLitSym name w >>= k) :=
    fun w h1 h2 => C.bind (hs w) fun r => match r with | some () => h1 | none => h2
  unfold Compile.defineConstLit
  refine C.ite (C.pure _) ?_
  cases v with
  | lit cv => exact hb _ (C.pure _) (C.pure _)
  | other => exact C.pure _
  | ident rn =>
    refine C.ite (C.bind (C.findSymbolSelf _) fun _ =>
      C.ite (C.get (fun _ _ _ => rfl) fun _ => hb _ (C.pure _) (C.pure _)) (C.pure _)) ?_
    refine C.ite (C.bind C.hasAnyConstLit fun _ => C.ite (C.get (fun _ _ _ => rfl) fun _ => ?_) (C.pure _)) (C.pure _)
    split
    · exact C.ite (hb _ (C.pure _) (C.pure _)) (C.pure _)
    · exact C.pure _

theorem emitFreePtrs (pos : Pos) (he : ∀ (op : Nat) (i : Int), op ≠ OpGetBuiltin → G (emit_ pos op [i])) :
    ∀ l : List Symbol, G (emitFreePtrs pos l)
  | [] => by unfold Compile.emitFreePtrs; exact C.pure _
  | y :: r => by
    unfold Compile.emitFreePtrs
    refine C.bind ?_ fun _ => emitFreePtrs pos he r
    split
    · exact he _ _ (by decide)
    · exact he _ _ (by decide)
    · exact C.pure _

end TabClosed

structure TabFree (G : {α : Type} → CM α → Prop) : Prop extends TabClosed @G where
  modTables : ∀ g : List Table → List Table, G (modTables g)

namespace TabFree
variable {G : {α : Type} → CM α → Prop} (C : TabFree @G)
include C

theorem modHead (f : Table → Table) : G (modHead f) := C.modTables _

theorem updateSym (n : String) (f : Symbol → Symbol) : G (updateSym n f) := C.modHead _

theorem forkTable (b : Bool) : G (forkTable b) := C.bind C.headTable fun _ => C.modTables _

theorem popTable : G popTable := C.bind C.headTable fun _ => C.bind (C.modTables _) fun _ => C.pure _

theorem withBlock {body : CM Unit} (hb : G body) : G (withBlock body) :=
  C.bind (C.forkTable true) fun _ => C.bind hb fun _ => C.bind C.popTable fun _ => C.pure _

theorem defineLocal (name : String) : G (defineLocal name) := by
  unfold Compile.defineLocal
  refine C.get (fun _ _ _ => rfl) fun s0 => C.bind C.headTable fun t => ?_
  split
  · exact C.pure _
  · exact C.bind (C.modHead _) fun _ => C.bind (C.modTables _) fun _ => C.pure _

theorem defineConstLitSym (name : String) (v : Option CVal) : G (defineConstLitSym name v) := by
  unfold Compile.defineConstLitSym
  refine C.get (fun _ _ _ => rfl) fun s0 => C.bind C.headTable fun t => ?_
  split
  · exact C.pure _
  · exact C.bind (C.modHead _) fun _ => C.pure _

theorem defineConstLit (name : String) (v : VSum) : G (defineConstLit name v) :=
  C.toTabClosed.defineConstLit name v (C.defineConstLitSym name)

theorem setParamsLoop (pos : Pos) : ∀ (l : List String) (k : Nat), G (setParamsLoop pos l k)
  | [], _ => by unfold Compile.setParamsLoop; exact C.pure _
  | p :: rest, k => by
    unfold Compile.setParamsLoop
    exact C.get (fun _ _ _ => rfl) fun s0 => C.bind C.headTable fun t =>
      C.ite (C.bind (C.modHead _) fun _ => C.cerr _ _)
        (C.bind (C.modHead _) fun _ => C.bind (C.modTables _) fun _ => setParamsLoop pos rest (k + 1))

theorem setParams (pos : Pos) (l : List String) : G (setParams pos l) :=
  C.ite (C.pure _) <| C.bind C.headTable fun _ => C.ite (C.cerr _ _) <| C.ite (C.cerr _ _) <|
    C.bind (C.setParamsLoop pos l 0) fun _ => C.modHead _

theorem declGlobals (pos : Pos) (hc : ∀ k, G (addConstant k)) : ∀ l : List (Pos × String × Bool), G (declGlobals pos l)
  | [] => by unfold Compile.declGlobals; exact C.pure _
  | (_, name, _) :: rest => by
    have htail : G (do
        let idx ← addConstant (.str name.toUTF8.toList)
        Compile.updateSym name fun y => { y with index := idx }
        Compile.declGlobals pos rest) :=
      C.bind (hc _) fun _ => C.bind (C.updateSym _ _) fun _ => declGlobals pos hc rest
    unfold Compile.declGlobals
    refine C.get (fun _ _ _ => rfl) fun _ => C.bind C.headTable fun t => ?_
    split
    · exact C.ite (C.cerr _ _) htail
    · exact C.bind (C.modHead _) fun _ => htail

end TabFree

end UgoVerif.Compile

import UgoVerif.Proofs.CompileMain
/-
  C05: what `compileProg` returns from a state that satisfies the invariant and whose table chain
  is a root table alone (`WFMain`), and the invariant of the initial state.
-/
namespace UgoVerif.Compile
open UgoVerif UgoVerif.Go UgoVerif.Ast

/-- what is proved of the returned bytecode.  The main function: at most `maxNumLocals` locals, and it
    is a finished function without free variables (`FinFn constants 0`).  Every compiled function in
    the constant pool: at most 256 locals, and it is a finished function for some number of free
    variables (`ConstsOK`; that number is the free-variable operand of every CLOSURE instruction that
    names the function, and 0 for CONSTANT — see `TgtOK`). -/
def WFMain (bc : Bytecode) : Prop :=
  bc.main.numLocals ≤ maxNumLocals ∧ FinFn bc.constants 0 bc.main ∧ ConstsOK bc.constants

theorem chainLE_singleton {t : Table} {ts : List Table} (h : ChainLE [t] ts) : ∃ t', ts = [t'] := by
  obtain ⟨t1, r1, h1, _, hle1⟩ := chainLE_cons_left h
  cases r1 with
  | nil => exact ⟨t1, h1⟩
  | cons a b => exact absurd hle1 (by simp [ChainLE])

theorem sat_compileProg (file : List Stmt) (hok : okSs file = true) (s : CState) (hs : Inv s) {t : Table}
    (htr : s.tables = [t]) : Sat (compileProg file) s (fun bc s' => Inv s' ∧ Rel s s' ∧ WFMain bc) := by
  have h1 := good_compileStmts file hok
  unfold compileProg
  apply Sat.bind
  apply Sat.mono (h1 s hs)
  intro _ s1 ⟨hi1, hr1, _⟩
  obtain ⟨t1, htr1⟩ := chainLE_singleton (htr ▸ hr1.chain)
  have hch := hi1.chain
  rw [htr1] at hch
  obtain ⟨hblk, hfr⟩ := hch.2.2.2.1 rfl
  apply Sat.bind
  apply Sat.mono (sat_finishFn s1 hi1 htr1 hblk)
  intro fn s2 ⟨hi2, hr2, _, hfn⟩
  rw [hfr] at hfn
  split
  · exact Sat.throw_bare
  · rename_i hle
    apply Sat.bind
    apply Sat.get
    apply Sat.pure
    exact ⟨hi2, hr1.trans hr2, Nat.le_of_not_gt hle, hfn, hi2.consts⟩

theorem inv_initState (builtins : List (String × Nat)) (disabled : List String)
    (hb : ∀ p ∈ builtins, p.2 < NB) : Inv (initState builtins disabled) := by
  refine ⟨by simp [initState], ?_, Walk.refl 0, fun l hl => by simp [initState] at hl,
    fun c hc => by simp [initState] at hc, fun p op hbd _ => absurd hbd.2 (by simp [initState]), hb,
    fun p op hbd _ _ => absurd hbd.2 (by simp [initState])⟩
  refine ⟨fun p hp => by simp at hp, Nat.le_refl _, fun _ y hy => by simp at hy, fun _ => ⟨rfl, rfl⟩, trivial⟩

end UgoVerif.Compile

import UgoVerif.Proofs.CompileGbMain
import UgoVerif.Proofs.EvalMono
/-
  C13 over an Eval session (`Model/Eval.lean`): `compileSession` continues from the session's ROOT
  table and constant pool.  If the table is acceptable for `D` (`TableOK`: every BUILTIN-scope
  symbol cached in its store is the index of a builtin name outside `D`, and `D` is contained in its
  disabled set), then after the compile — successful or not — the table handed to the next fragment
  is acceptable again, and on success the GETBUILTIN operands of the Bytecode are acceptable.
-/
namespace UgoVerif.Compile.GB
open UgoVerif UgoVerif.Go UgoVerif.Ast UgoVerif.Compile UgoVerif.Eval UgoVerif.Proofs.EvalMono

/-- a session's root table that is acceptable for `c.D` -/
def TableOK (c : Ctx) (t : Table) : Prop := StoreOK c t.store ∧ ∀ n ∈ c.D, n ∈ t.disabled

variable {c : Ctx}

theorem TableOK.tabsInv {t : Table} (h : TableOK c t) : TabsInv c [t] :=
  ⟨by simp, fun t' ht' => by simp at ht'; subst ht'; exact h.1, fun n hn => h.2 n hn⟩

theorem TabsInv.last : ∀ {ts : List Table}, TabsInv c ts → ∀ t0, TableOK c ((ts.getLast?).getD t0)
  | [], h, _ => absurd rfl h.ne
  | [t], h, _ => ⟨h.ok t (by simp), fun n hn => h.dis n hn⟩
  | t :: t2 :: r, h, t0 => by
    have := TabsInv.last (h.tail (by simp)) t0
    simpa [List.getLast?_cons_cons] using this

theorem constsOK_maskFns (cs : Array Const) : ConstsOK c (maskFns cs) := by
  intro f hf
  simp only [maskFns, Array.toList_map, List.mem_map] at hf
  obtain ⟨k, _, hk⟩ := hf
  cases k with
  | val v => simp at hk
  | fn g => simp [maskConst] at hk

theorem constsOK_unmask {cs new : Array Const} (h1 : ConstsOK c cs) (h2 : ConstsOK c new) :
    ConstsOK c (unmaskFns cs new) := by
  intro f hf
  simp only [unmaskFns, Array.toList_append, List.mem_append, Array.toList_extract] at hf
  rcases hf with hf | hf
  · exact h1 f hf
  · rw [List.extract_eq_take_drop] at hf
    have h3 := List.mem_of_mem_take hf
    have h4 := List.mem_of_mem_drop h3
    exact h2 f h4

theorem compileSession_gb (t : Table) (cs : Array Const) (file : List Stmt)
    (ht : TableOK c t) (hp : NoPending t) (hcs : ConstsOK c cs) :
    TableOK c (compileSession c.bs t cs file).table ∧
    (∀ bc, (compileSession c.bs t cs file).result = .ok bc → BcOK c bc) := by
  have hinit : Inv c (sessionInit c.bs t cs) :=
    ⟨by simp, rfl, ht.tabsInv.ok, ht.tabsInv.dis, Walk.refl 0, fun l hl => by simp at hl,
      constsOK_maskFns cs, gbOK_empty⟩
  have hrest : Sat c (sessionProg cs file) (sessionInit c.bs t cs) (fun bc s' => TabsInv c s'.tables ∧ BcOK c bc) := by
    unfold sessionProg
    apply Sat.bind
    apply Sat.mono (good_compileStmts file _ hinit)
    intro _ s1 ⟨hi1, _, _⟩
    apply Sat.bind
    apply Sat.mono (goodP_finishFn s1 hi1)
    intro fn s2 ⟨hi2, _, hfn⟩
    split
    · exact Sat.throw hi2.tinv
    · apply Sat.bind
      apply Sat.get
      apply Sat.pure
      exact ⟨hi2.tinv, hfn, constsOK_unmask hcs hi2.consts⟩
  obtain ⟨h1, h2⟩ := SatE.final (A := fun s' => TabsInv c s'.tables) hrest
  rw [compileSession_eq c.bs t cs file hp]
  exact ⟨h1.last t, h2⟩

end UgoVerif.Compile.GB

import UgoVerif.Proofs.CompileInv
/-
  C13 over the compiler model (`Model/Compile.lean`): the invariant "every GETBUILTIN operand in the
  instruction stream emitted so far (and in every compiled function of the constant pool) is the
  private `:makeArray` or the index of a builtin name that is NOT in the disabled set `D`".

  The framework follows `Proofs/CompileInv.lean` — decodable stream (`Walk`), pending jump positions
  (`Bd`/`Jumpy`), the step relation `Rel`, whose stream and loop-stack part (`LoopRel`) is the one
  proved there — with two differences:
    * the judgment `Sat c` is outcome-agnostic: an error or a Go panic of the compiler is acceptable
      (C13 speaks about successful compilations), so no hypothesis on the AST is needed; on an
      abnormal end the symbol tables still satisfy their part of the invariant (`TabsInv`), which is
      what an Eval session hands to the next fragment;
    * in place of `TargetsOK` (jump targets) stands `GbOK` (GETBUILTIN operands), `SymOK` speaks about
      BUILTIN-scope symbols, and the root table's disabled set contains `D` (`DisOK`).
-/
namespace UgoVerif.Compile.GB
open UgoVerif UgoVerif.Go UgoVerif.Ast UgoVerif.Compile

/-- the builtin table of the compilation and the names that must stay unreachable -/
structure Ctx where
  bs : List (String × Nat)
  D : List String

/-- `i` is the index of a builtin name that is not disabled -/
def OkIdx (c : Ctx) (i : Nat) : Prop := ∃ n, (n, i) ∈ c.bs ∧ n ∉ c.D

/-- an acceptable GETBUILTIN operand: the private `:makeArray` of destructuring, or `OkIdx` -/
def OpOK (c : Ctx) (i : Nat) : Prop := i = Gen.builtinMakeArray ∨ OkIdx c i

/-- a BUILTIN-scope symbol (only `Resolve` makes them) carries the index of a non-disabled builtin -/
def SymOK (c : Ctx) (y : Symbol) : Prop := y.scope = .builtin → ∃ i : Nat, y.index = (i : Int) ∧ OkIdx c i
def StoreOK (c : Ctx) (st : List (String × Symbol)) : Prop := ∀ p ∈ st, SymOK c p.2
def TablesOK (c : Ctx) (ts : List Table) : Prop := ∀ t ∈ ts, StoreOK c t.store
/-- the root table's disabled set contains `D` -/
def DisOK (c : Ctx) (ts : List Table) : Prop := ∀ n ∈ c.D, n ∈ rootDisabled ts

variable {c : Ctx}

theorem symOK_of_ne {y : Symbol} (h : y.scope ≠ .builtin) : SymOK c y := fun hb => absurd hb h

theorem TablesOK.cons_iff {t : Table} {ts : List Table} : TablesOK c (t :: ts) ↔ StoreOK c t.store ∧ TablesOK c ts :=
  List.forall_mem_cons

theorem _root_.UgoVerif.Compile.MaxUp.tablesOK : ∀ {a b : List Table}, MaxUp a b → TablesOK c a → TablesOK c b
  | _, _, .nil, h => h
  | _, _, .cons _ hr, h => TablesOK.cons_iff.mpr ⟨(TablesOK.cons_iff.mp h).1, hr.tablesOK (TablesOK.cons_iff.mp h).2⟩

theorem resolveIn_spec (d : List String) (n : String) (hd : ∀ x ∈ c.D, x ∈ d) {ts : List Table} : TablesOK c ts →
      TablesOK c (resolveIn c.bs d n ts).2 ∧ ∀ y, (resolveIn c.bs d n ts).1 = some y → SymOK c y := by
  refine resolveIn_ind (motive := fun ts res => TablesOK c ts → TablesOK c res.2 ∧ ∀ y, res.1 = some y → SymOK c y)
    ?_ ?_ ?_ ?_ ?_ ?_ ?_ ts
  · exact fun h => ⟨h, fun _ hy => nomatch hy⟩
  · exact fun _ hl h => ⟨h, fun _ hy => Option.some.inj hy ▸ lookupSym_all (TablesOK.cons_iff.mp h).1 hl⟩
  · intro t k idx _ hnd hfind h
    have hk : k = n := by simpa using List.find?_some hfind
    have hsym : SymOK c { name := n, index := (idx : Int), scope := .builtin } :=
      fun _ => ⟨idx, rfl, n, hk ▸ List.mem_of_find?_eq_some hfind, fun hin => by simp [hd n hin] at hnd⟩
    exact ⟨TablesOK.cons_iff.mpr ⟨putSym_all hsym (TablesOK.cons_iff.mp h).1, (TablesOK.cons_iff.mp h).2⟩,
      fun _ hy => Option.some.inj hy ▸ hsym⟩
  · exact fun _ h => ⟨h, fun _ hy => nomatch hy⟩
  · exact fun _ _ ih h =>
      ⟨TablesOK.cons_iff.mpr ⟨(TablesOK.cons_iff.mp h).1, (ih (TablesOK.cons_iff.mp h).2).1⟩, fun _ hy => nomatch hy⟩
  · -- a free variable is defined in `t`: not a BUILTIN-scope symbol
    intro t _ sym _ _ _ ih _ _ _ _ h
    refine ⟨TablesOK.cons_iff.mpr ⟨?_, (ih (TablesOK.cons_iff.mp h).2).1⟩, fun _ hy => Option.some.inj hy ▸ symOK_of_ne (by simp)⟩
    rw [shadowBuiltin_store]
    exact putSym_all (symOK_of_ne (by simp)) (TablesOK.cons_iff.mp h).1
  · exact fun _ _ ih _ h =>
      ⟨TablesOK.cons_iff.mpr ⟨(TablesOK.cons_iff.mp h).1, (ih (TablesOK.cons_iff.mp h).2).1⟩,
        fun _ hy => Option.some.inj hy ▸ (ih (TablesOK.cons_iff.mp h).2).2 _ rfl⟩

/-- every GETBUILTIN instruction of the (decoded) stream has an acceptable operand -/
def GbOK (c : Ctx) (a : Array UInt8) : Prop :=
  ∀ p op b, Walk a 0 p → a[p]? = some op → op.toNat = OpGetBuiltin → a[p + 1]? = some b → OpOK c b.toNat

theorem gbOK_empty : GbOK c #[] := by
  intro p op b _ h; simp at h

theorem opWidth_getBuiltin : opWidth OpGetBuiltin = 1 := by decide

theorem GbOK.of_cases {a a' : Array UInt8} {P : Nat} {opn : UInt8} (hg : GbOK c a)
    (hnew : opn.toNat = OpGetBuiltin → ∀ b, a'[P + 1]? = some b → OpOK c b.toNat)
    (hc : ∀ p op, Walk a' 0 p → a'[p]? = some op → OldInst a a' p op ∨ (p = P ∧ op = opn)) : GbOK c a' := by
  intro p op b hwp hget hopb hb1
  rcases hc p op hwp hget with ⟨hbd, hgeta, hb⟩ | ⟨rfl, rfl⟩
  · rw [hopb, opWidth_getBuiltin] at hb
    exact hg p op b hbd.1 hgeta hopb ((hb 0 Nat.one_pos).symm.trans hb1)
  · exact hnew hopb b hb1

theorem GbOK.append_inst {a : Array UInt8} {op : Nat} {args : List Int} {bs : List UInt8}
    (hw : Walk a 0 a.size) (hg : GbOK c a) (hop : op < numOpcodes)
    (hm : makeInstruction op args = .ok bs)
    (ha : op = OpGetBuiltin → ∃ i : Nat, args = [(i : Int)] ∧ OpOK c i) : GbOK c (a ++ bs.toArray) := by
  obtain ⟨rest, hbs, hl⟩ := makeInstruction_ok hm
  subst hbs
  have hto := toNat_ofNat_op hop
  refine hg.of_cases (opn := UInt8.ofNat op) (P := a.size) ?_
    fun p op => Walk.append_cases hw (Pre.append _ _) (by simp [hto, hl]; omega) (by simp)
  intro hgb b hb
  rw [hto] at hgb
  subst hgb
  obtain ⟨i, hargs, hok⟩ := ha rfl
  have hr := inst_read hm (InstAt.append a _)
  rw [show operandWidths OpGetBuiltin = [1] from rfl, hargs] at hr
  injection hr with hr _
  rw [readBE_one hb] at hr
  rw [← Int.ofNat.inj hr]
  exact hok

theorem GbOK.patch_inst {a : Array UInt8} {q : Nat} {opq : UInt8} {rest : List UInt8}
    (hw : Walk a 0 a.size) (hg : GbOK c a) (hq : Walk a 0 q) (hop : a[q]? = some opq)
    (hl : rest.length = opWidth opq.toNat) (hne : opq.toNat ≠ OpGetBuiltin) : GbOK c (patch a q (opq :: rest)) :=
  hg.of_cases (fun h => absurd h hne) fun _ _ => Walk.patch_cases hw hq hop hl

/-- the part of the invariant that speaks about the symbol tables only; it also holds in the state
    an error or a Go panic leaves behind -/
structure TabsInv (c : Ctx) (ts : List Table) : Prop where
  ne : ts ≠ []
  ok : TablesOK c ts
  dis : DisOK c ts

/-- `Sat c m s Q`: when `m` from `s` ends normally with value `a` in state `s'`, `Q a s'` holds;
    when it ends with an error or a Go panic, the tables of the final state are still fine -/
def Sat (c : Ctx) {α} (m : CM α) (s : CState) (Q : α → CState → Prop) : Prop :=
  match runCM m s with
  | (.ok a, s') => Q a s'
  | (.error _, s') => TabsInv c s'.tables

theorem Sat.pure {α} {a : α} {s : CState} {Q : α → CState → Prop} (h : Q a s) : Sat c (Pure.pure a : CM α) s Q := by
  simp [Sat, runCM_pure, h]

theorem Sat.bind {α β} {m : CM α} {f : α → CM β} {s : CState} {Q : β → CState → Prop}
    (h : Sat c m s (fun a s' => Sat c (f a) s' Q)) : Sat c (m >>= f) s Q :=
  SatE.bind (E := fun _ s' => TabsInv c s'.tables) h

theorem Sat.mono {α} {m : CM α} {s : CState} {Q Q' : α → CState → Prop}
    (h : Sat c m s Q) (hq : ∀ a s', Q a s' → Q' a s') : Sat c m s Q' :=
  SatE.imp (E := fun _ s' => TabsInv c s'.tables) h hq fun _ _ => id

theorem Sat.get {s : CState} {Q : CState → CState → Prop} (h : Q s s) : Sat c (get : CM CState) s Q := by
  simp [Sat, runCM_get, h]
theorem Sat.set {s t : CState} {Q : Unit → CState → Prop} (h : Q () t) : Sat c (set t : CM Unit) s Q := by
  simp [Sat, runCM_set, h]
theorem Sat.modify {f : CState → CState} {s : CState} {Q : Unit → CState → Prop} (h : Q () (f s)) :
    Sat c (modify f : CM Unit) s Q := by
  simp [Sat, runCM_modify, h]
theorem Sat.throw {α} {e : CErr} {s : CState} {Q : α → CState → Prop} (h : TabsInv c s.tables) :
    Sat c (throw e : CM α) s Q := by
  simp [Sat, runCM_throw, h]
theorem Sat.cerr {α} {pos : Pos} {msg : String} {s : CState} {Q : α → CState → Prop} (h : TabsInv c s.tables) :
    Sat c (cerr pos msg : CM α) s Q := Sat.throw h
theorem Sat.cpanic {α} {msg : String} {s : CState} {Q : α → CState → Prop} (h : TabsInv c s.tables) :
    Sat c (cpanic msg : CM α) s Q := Sat.throw h
theorem Sat.cunsupported {α} {msg : String} {s : CState} {Q : α → CState → Prop} (h : TabsInv c s.tables) :
    Sat c (cunsupported msg : CM α) s Q := Sat.throw h

theorem Sat.ok {α} {m : CM α} {s s' : CState} {a : α} {Q : α → CState → Prop}
    (h : Sat c m s Q) (hr : runCM m s = (.ok a, s')) : Q a s' := by
  simpa only [Sat, hr] using h

theorem Sat.of_run {α} {m : CM α} {s s' : CState} {a : α} {Q : α → CState → Prop}
    (hr : runCM m s = (.ok a, s')) (h : Q a s') : Sat c m s Q := by
  simp [Sat, hr, h]

theorem Sat.bind_of_run {α β} {m : CM α} {f : α → CM β} {s s' : CState} {a : α} {Q : β → CState → Prop}
    (hr : runCM m s = (.ok a, s')) (h : Sat c (f a) s' Q) : Sat c (m >>= f) s Q :=
  Sat.bind (Sat.of_run hr h)

def ConstsOK (c : Ctx) (cs : Array Const) : Prop := ∀ f, Const.fn f ∈ cs.toList → GbOK c f.insts

theorem ConstsOK.push {cs : Array Const} (h : ConstsOK c cs) {k : Const} (hk : ∀ f, k = .fn f → GbOK c f.insts) :
    ConstsOK c (cs.push k) := by
  intro f hf
  simp at hf
  rcases hf with hf | hf
  · exact h f (by simpa using hf)
  · exact hk f hf.symm

structure Inv (c : Ctx) (s : CState) : Prop where
  ne : s.tables ≠ []
  bs : s.builtins = c.bs
  tabs : TablesOK c s.tables
  dis : DisOK c s.tables
  walk : Walk s.insts 0 s.insts.size
  loops : ∀ l ∈ s.loops, ∀ p, (p ∈ l.breaks ∨ p ∈ l.continues) → Bd s.insts p ∧ Jumpy s.insts p
  consts : ConstsOK c s.constants
  gb : GbOK c s.insts

theorem Inv.tinv {s : CState} (h : Inv c s) : TabsInv c s.tables := ⟨h.ne, h.tabs, h.dis⟩

structure Rel (s s' : CState) : Prop where
  tlen : s'.tables.length = s.tables.length
  pre : Pre s.insts s'.insts
  llen : s'.loops.length = s.loops.length
  ltail : s'.loops.tail = s.loops.tail
  lhead : ∀ l l', s.loops.head? = some l → s'.loops.head? = some l' → ∀ p,
    (p ∈ l'.breaks → p ∈ l.breaks ∨ s.insts.size ≤ p) ∧ (p ∈ l'.continues → p ∈ l.continues ∨ s.insts.size ≤ p)

theorem Rel.loopRel {s s' : CState} (h : Rel s s') : LoopRel s.insts s.loops s'.insts s'.loops :=
  ⟨h.pre, h.llen, h.ltail, h.lhead⟩

theorem Rel.of_loopRel {s s' : CState} (h1 : s'.tables.length = s.tables.length)
    (h2 : LoopRel s.insts s.loops s'.insts s'.loops) : Rel s s' :=
  ⟨h1, h2.pre, h2.llen, h2.ltail, h2.lhead⟩

theorem Rel.refl (s : CState) : Rel s s := .of_loopRel rfl (.of_pre (Pre.refl _))

theorem Rel.trans {s s' s'' : CState} (h : Rel s s') (h' : Rel s' s'') : Rel s s'' :=
  .of_loopRel (h'.tlen.trans h.tlen) (h.loopRel.trans h'.loopRel)

theorem Rel.of_same {s s' : CState} (h1 : s'.tables.length = s.tables.length) (h2 : s'.insts = s.insts)
    (h3 : s'.loops = s.loops) : Rel s s' :=
  .of_loopRel h1 (by rw [h2, h3]; exact .of_pre (Pre.refl _))

theorem Inv.of_tables {s s' : CState} (h : Inv c s) (ht : TabsInv c s'.tables)
    (hb : s'.builtins = s.builtins) (h3 : s'.insts = s.insts) (h4 : s'.loops = s.loops)
    (h5 : s'.constants = s.constants := by rfl) : Inv c s' :=
  ⟨ht.ne, hb.trans h.bs, ht.ok, ht.dis, by rw [h3]; exact h.walk, by rw [h3, h4]; exact h.loops, by rw [h5]; exact h.consts,
   by rw [h3]; exact h.gb⟩

/-- `GoodP c P m`: from a state satisfying the invariant, on normal termination the invariant holds
    again, the states are related, and the result satisfies `P` -/
def GoodP (c : Ctx) {α} (P : α → Prop) (m : CM α) : Prop :=
  ∀ s, Inv c s → Sat c m s (fun a s' => Inv c s' ∧ Rel s s' ∧ P a)

abbrev Good (c : Ctx) {α} (m : CM α) : Prop := GoodP c (fun _ => True) m

theorem GoodP.pure {α} {P : α → Prop} {a : α} (h : P a) : GoodP c P (Pure.pure a : CM α) :=
  fun s hs => Sat.pure ⟨hs, Rel.refl s, h⟩

theorem Sat.bind_good {α β} {P : α → CState → Prop} {R : β → Prop} {m : CM α} {f : α → CM β} {s : CState}
    (hm : Sat c m s (fun a s1 => Inv c s1 ∧ Rel s s1 ∧ P a s1))
    (hf : ∀ a s1, Inv c s1 → P a s1 → Sat c (f a) s1 (fun b s' => Inv c s' ∧ Rel s1 s' ∧ R b)) :
    Sat c (m >>= f) s (fun b s' => Inv c s' ∧ Rel s s' ∧ R b) :=
  Sat.bind (Sat.mono hm fun a s1 ⟨h1, hr, hp⟩ => Sat.mono (hf a s1 h1 hp) fun _ _ ⟨h2, hr', hb⟩ => ⟨h2, hr.trans hr', hb⟩)

theorem GoodP.bind {α β} {P : α → Prop} {R : β → Prop} {m : CM α} {f : α → CM β}
    (hm : GoodP c P m) (hf : ∀ a, P a → GoodP c R (f a)) : GoodP c R (m >>= f) :=
  fun s hs => Sat.bind_good (P := fun a _ => P a) (hm s hs) fun a s1 h1 pa => hf a pa s1 h1

theorem GoodP.ite {α} {p : Prop} [Decidable p] {P : α → Prop} {a b : CM α} (ha : GoodP c P a) (hb : GoodP c P b) :
    GoodP c P (if p then a else b) := by
  split <;> assumption

theorem GoodP.throw {α} {P : α → Prop} {e : CErr} : GoodP c P (throw e : CM α) := fun _ hs => Sat.throw hs.tinv
theorem GoodP.cerr {α} {P : α → Prop} {pos : Pos} {msg : String} : GoodP c P (cerr pos msg : CM α) := fun _ hs => Sat.cerr hs.tinv
theorem GoodP.cpanic {α} {P : α → Prop} {msg : String} : GoodP c P (cpanic msg : CM α) := fun _ hs => Sat.cpanic hs.tinv
theorem GoodP.cunsupported {α} {P : α → Prop} {msg : String} : GoodP c P (cunsupported msg : CM α) :=
  fun _ hs => Sat.cunsupported hs.tinv

theorem good_get : Good c (get : CM CState) := fun s hs => Sat.get ⟨hs, Rel.refl s, trivial⟩

theorem good_curPos : Good c curPos := by
  unfold curPos
  exact GoodP.bind good_get fun _ _ => GoodP.pure trivial

theorem good_headTable : Good c headTable := fun s hs =>
  (List.exists_cons_of_ne_nil hs.ne).elim fun _ ⟨_, htr⟩ => Sat.of_run (runCM_headTable htr) ⟨hs, Rel.refl s, trivial⟩

theorem good_modTables {g : List Table → List Table} (hlen : ∀ ts, (g ts).length = ts.length)
    (hok : ∀ ts, TablesOK c ts → TablesOK c (g ts)) (hdis : ∀ ts, rootDisabled (g ts) = rootDisabled ts) :
    Good c (modTables g) := by
  intro s hs
  unfold modTables
  apply Sat.modify
  refine ⟨hs.of_tables ⟨?_, hok _ hs.tabs, ?_⟩ rfl rfl rfl, Rel.of_same (hlen _) rfl rfl, trivial⟩
  · exact ne_nil_of_length_eq (hlen _) hs.ne
  · intro n hn
    show n ∈ rootDisabled (g s.tables)
    rw [hdis]; exact hs.dis n hn

theorem good_modHead {f : Table → Table} (hok : ∀ t, StoreOK c t.store → StoreOK c (f t).store)
    (hd : ∀ t, (f t).disabled = t.disabled) : Good c (modHead f) := by
  unfold modHead
  apply good_modTables
  · intro ts; cases ts <;> simp
  · intro ts h
    cases ts with
    | nil => exact h
    | cons t r => exact TablesOK.cons_iff.mpr ⟨hok t (TablesOK.cons_iff.mp h).1, (TablesOK.cons_iff.mp h).2⟩
  · intro ts
    cases ts with
    | nil => rfl
    | cons t r => exact rootDisabled_head r (hd t)

theorem good_updateMaxDefs (n : Nat) : Good c (modTables (updateMaxDefs n)) :=
  good_modTables (updateMaxDefs_length n) (fun ts => (updateMaxDefs_rel n ts).tablesOK) fun ts => (updateMaxDefs_rel n ts).rootDisabled

theorem good_modify_misc {f : CState → CState} (h1 : ∀ s, (f s).tables = s.tables) (h2 : ∀ s, (f s).insts = s.insts)
    (h3 : ∀ s, (f s).loops = s.loops) (h4 : ∀ s, (f s).constants = s.constants := by intro _; rfl)
    (h5 : ∀ s, (f s).builtins = s.builtins := by intro _; rfl) :
    Good c (modify f : CM Unit) := by
  intro s hs
  apply Sat.modify
  exact ⟨hs.of_tables (by rw [h1]; exact hs.tinv) (h5 s) (h2 s) (h3 s) (h4 s),
    Rel.of_same (by rw [h1]) (h2 s) (h3 s), trivial⟩

theorem good_updateSym {name : String} {f : Symbol → Symbol}
    (hf : ∀ y, SymOK c y → SymOK c (f y)) : Good c (updateSym name f) := by
  unfold updateSym
  apply good_modHead
  · intro t ht
    split
    · rename_i sym hl
      exact putSym_all (hf _ (lookupSym_all ht hl)) ht
    · exact ht
  · intro t
    split <;> rfl

theorem sat_addConstant {k : CVal} {s : CState} {Q : Nat → CState → Prop} (hs : Inv c s)
    (h : ∀ i s', Inv c s' → Rel s s' → s'.insts = s.insts → s'.tables = s.tables → Q i s') :
    Sat c (addConstant k) s Q := by
  exact SatE.addConstant k (fun i _ => h i s hs (Rel.refl s) rfl rfl) fun _ =>
    h _ _ ⟨hs.ne, hs.bs, hs.tabs, hs.dis, hs.walk, hs.loops, hs.consts.push (fun f hf => by cases hf), hs.gb⟩
      (Rel.of_same rfl rfl rfl) rfl rfl

theorem good_addConstant (k : CVal) : Good c (addConstant k) :=
  fun _ hs => sat_addConstant hs fun _ _ h1 h2 _ _ => ⟨h1, h2, trivial⟩

theorem sat_addFnConstant {f : CFn} {s : CState} {Q : Nat → CState → Prop} (hs : Inv c s)
    (hf : GbOK c f.insts)
    (h : ∀ i s', Inv c s' → Rel s s' → s'.insts = s.insts → Q i s') :
    Sat c (addFnConstant f) s Q := by
  exact SatE.addFnConstant f (fun i _ => h i s hs (Rel.refl s) rfl) fun _ =>
    h _ _ ⟨hs.ne, hs.bs, hs.tabs, hs.dis, hs.walk, hs.loops,
      hs.consts.push (fun g hg => by injection hg with hg; subst hg; exact hf), hs.gb⟩ (Rel.of_same rfl rfl rfl) rfl

theorem goodP_resolve (name : String) : GoodP c (fun r => ∀ y, r = some y → SymOK c y) (resolve name) := by
  intro s hs
  have hsp := resolveIn_spec (c := c) (rootDisabled s.tables) name hs.dis hs.tabs
  rw [← hs.bs] at hsp
  obtain ⟨hlen, hdis⟩ := resolveIn_shape s.builtins (rootDisabled s.tables) name s.tables
  refine Sat.of_run (runCM_resolve name s)
    ⟨hs.of_tables ⟨ne_nil_of_length_eq hlen hs.ne, hsp.1, fun n hn => ?_⟩ rfl rfl rfl, Rel.of_same hlen rfl rfl, hsp.2⟩
  show n ∈ rootDisabled _
  rw [hdis]
  exact hs.dis n hn

theorem Rel.transfer {a b a' b' : CState} (h : Rel a b) (hi : a.insts = a'.insts) (hl : a.loops = a'.loops)
    (hi' : b'.insts = b.insts) (hl' : b'.loops = b.loops) (ht : b'.tables.length = a'.tables.length) : Rel a' b' :=
  .of_loopRel ht (by rw [← hi, ← hl, hi', hl']; exact h.loopRel)

abbrev GbArgs (c : Ctx) (op : Nat) (args : List Int) : Prop :=
  op = OpGetBuiltin → ∃ i : Nat, args = [(i : Int)] ∧ OpOK c i

theorem sat_emit {pos : Pos} {op : Nat} {args : List Int} {s : CState} {Q : Nat → CState → Prop}
    (hs : Inv c s) (harg : GbArgs c op args)
    (h : ∀ s', Inv c s' → Rel s s' → Bd s'.insts s.insts.size → s'.tables = s.tables →
      (∃ opb, s'.insts[s.insts.size]? = some opb ∧ opb.toNat = op) → Q s.insts.size s') :
    Sat c (emit pos op args) s Q := by
  refine SatE.emit (E := fun _ s' => TabsInv c s'.tables) (fun _ _ => hs.tinv) fun hop rest hm hl => ?_
  have hgb := GbOK.append_inst hs.walk hs.gb hop hm harg
  have hpre := Pre.append s.insts (UInt8.ofNat op :: rest).toArray
  apply h
  · exact ⟨hs.ne, hs.bs, hs.tabs, hs.dis, Walk.append_inst hs.walk hop hl,
      fun l hl p hp => pend_pre (hs.loops l hl p hp) hpre, hs.consts, hgb⟩
  · exact .of_loopRel rfl (.of_pre hpre)
  · exact Bd.append_inst hs.walk
  · rfl
  · exact append_inst_get _ _ hop

theorem gbArgs_of_ne {op : Nat} {args : List Int} (h : op ≠ OpGetBuiltin) : GbArgs c op args := fun e => absurd e h

theorem good_emit {pos : Pos} {op : Nat} {args : List Int} (ha : GbArgs c op args) : Good c (emit pos op args) :=
  fun _ hs => sat_emit hs ha fun _ h1 h2 _ _ _ => ⟨h1, h2, trivial⟩

theorem good_emit_ {pos : Pos} {op : Nat} {args : List Int} (ha : GbArgs c op args) : Good c (emit_ pos op args) := by
  unfold emit_
  exact GoodP.bind (good_emit ha) fun _ _ => GoodP.pure trivial

/-- of the bookkeeping of `Logic.St` only the pending positions matter here: what is patched is never
    a GETBUILTIN, whatever the operands -/
structure St (c : Ctx) (s0 : CState) (ps : List Nat) (s : CState) : Prop where
  inv : Inv c s
  rel : Rel s0 s
  pend : ∀ p ∈ ps, (Bd s.insts p ∧ Jumpy s.insts p) ∧ s0.insts.size ≤ p

theorem St.init {s : CState} (h : Inv c s) : St c s [] s :=
  ⟨h, Rel.refl s, fun _ hp => by simp at hp⟩

theorem St.step {s0 s s' : CState} {ps : List Nat} (h : St c s0 ps s) (hi : Inv c s') (hr : Rel s s') : St c s0 ps s' :=
  ⟨hi, h.rel.trans hr, fun p hp => ⟨pend_pre (h.pend p hp).1 hr.pre, (h.pend p hp).2⟩⟩

theorem St.weaken {s0 s : CState} {ps ps' : List Nat} (h : St c s0 ps s) (hsub : ∀ p ∈ ps', p ∈ ps) : St c s0 ps' s :=
  ⟨h.inv, h.rel, fun p hp => h.pend p (hsub p hp)⟩

theorem St.tinv {s0 s : CState} {ps : List Nat} (h : St c s0 ps s) : TabsInv c s.tables := h.inv.tinv

theorem st_good_bind {α β} {P : α → Prop} {m : CM α} {f : α → CM β} {s0 s : CState} {ps : List Nat}
    {Q : β → CState → Prop} (hm : GoodP c P m) (hst : St c s0 ps s)
    (h : ∀ a s', P a → St c s0 ps s' → Sat c (f a) s' Q) : Sat c (m >>= f) s Q := by
  apply Sat.bind
  apply Sat.mono (hm s hst.inv)
  intro a s' ⟨h1, h2, h3⟩
  exact h a s' h3 (hst.step h1 h2)

theorem st_curPos_bind {β} {f : Nat → CM β} {s0 s : CState} {ps : List Nat} {Q : β → CState → Prop}
    (hst : St c s0 ps s) (h : St c s0 ps s → Sat c (f s.insts.size) s Q) :
    Sat c (curPos >>= f) s Q := by
  apply Sat.bind
  unfold curPos
  apply Sat.bind
  apply Sat.get
  apply Sat.pure
  exact h hst

theorem st_emit_tgt_bind {β} {pos : Pos} {op : Nat} {args : List Int} {f : Nat → CM β} {s0 s : CState} {ps : List Nat}
    {Q : β → CState → Prop} (hst : St c s0 ps s) (ha : GbArgs c op args)
    (h : ∀ s', St c s0 ps s' → (Bd s'.insts s.insts.size ∧
      ∃ opb, s'.insts[s.insts.size]? = some opb ∧ opb.toNat = op) → Sat c (f s.insts.size) s' Q) :
    Sat c (emit pos op args >>= f) s Q := by
  apply Sat.bind
  apply sat_emit hst.inv ha
  intro s' h1 h2 h3 _ h5
  exact h s' (hst.step h1 h2) ⟨h3, h5⟩

theorem jumpy_ne_getBuiltin {op : Nat} (h : isJumpOp op = true ∨ op = OpSetupTry) : op ≠ OpGetBuiltin := by
  rcases h with h | h
  · intro e; subst e; revert h; decide
  · intro e; rw [e] at h; revert h; decide

theorem st_emit_bind {β} {pos : Pos} {op : Nat} {args : List Int} {f : Nat → CM β} {s0 s : CState} {ps : List Nat}
    {Q : β → CState → Prop} (hst : St c s0 ps s) (hj : isJumpOp op = true ∨ op = OpSetupTry)
    (h : ∀ s', St c s0 (s.insts.size :: ps) s' → Sat c (f s.insts.size) s' Q) :
    Sat c (emit pos op args >>= f) s Q := by
  apply st_emit_tgt_bind hst (gbArgs_of_ne (jumpy_ne_getBuiltin hj))
  intro s' hst' ⟨hbd, opb, hget, hopb⟩
  exact h s' ⟨hst'.inv, hst'.rel,
    List.forall_mem_cons.mpr ⟨⟨⟨hbd, opb, hget, by rw [hopb]; exact hj⟩, hst.rel.pre.1⟩, hst'.pend⟩⟩

/-- `changeOperand` at a pending position: the patched instruction is a jump / SETUPTRY, so no
    GETBUILTIN operand changes -/
theorem st_changeOperand {p : Nat} {args : List Int} {s0 s : CState} {ps : List Nat} {Q : Unit → CState → Prop}
    (hst : St c s0 ps s) (hp : p ∈ ps) (h : ∀ s', St c s0 ps s' → Q () s') :
    Sat c (changeOperand p args) s Q := by
  obtain ⟨⟨hbd, op, hop, hjop⟩, hge⟩ := hst.pend p hp
  refine SatE.changeOperand (E := fun _ s' => TabsInv c s'.tables) (fun _ _ => hst.tinv) fun op' rest hop' _ hl => ?_
  cases Option.some.inj (hop.symm.trans hop')
  have hgb := GbOK.patch_inst (rest := rest) hst.inv.walk hst.inv.gb hbd.1 hop hl (jumpy_ne_getBuiltin hjop)
  apply h
  refine ⟨⟨hst.inv.ne, hst.inv.bs, hst.inv.tabs, hst.inv.dis, ?_,
    fun l hl' q hq => pend_patch (hst.inv.loops l hl' q hq) hbd.1 hop hl, hst.inv.consts, hgb⟩, ?_, ?_⟩
  · rw [size_patch]
    exact hst.inv.walk.patch_inst hbd.1 hop hl
  · exact .of_loopRel hst.rel.tlen (hst.rel.loopRel.patch hge)
  · intro q hq
    exact ⟨pend_patch (hst.pend q hq).1 hbd.1 hop hl, (hst.pend q hq).2⟩

theorem st_changeOperand_bind {β} {p : Nat} {args : List Int} {f : Unit → CM β} {s0 s : CState} {ps : List Nat}
    {Q : β → CState → Prop} (hst : St c s0 ps s) (hp : p ∈ ps)
    (h : ∀ s', St c s0 ps s' → Sat c (f ()) s' Q) : Sat c (changeOperand p args >>= f) s Q :=
  Sat.bind (st_changeOperand hst hp h)

end UgoVerif.Compile.GB

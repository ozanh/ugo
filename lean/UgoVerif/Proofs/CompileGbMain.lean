import UgoVerif.Proofs.CompileGbPrims
import UgoVerif.Proofs.CompileMain
/-
  C13 over the compiler model: every function of the compiler's mutual block keeps the GETBUILTIN
  invariant (`GB.Inv`, Proofs/CompileGbInv.lean), for ALL ASTs: the logic `GB.logic c` satisfies the
  rules of Proofs/CompileLogic.lean.  Errors and panics of the compiler are acceptable outcomes for
  the judgment `GB.Sat`, so nothing is asked of the AST; jump targets are not tracked.
-/
namespace UgoVerif.Compile.GB
open UgoVerif UgoVerif.Go UgoVerif.Ast UgoVerif.Compile

variable {c : Ctx}

def logic (c : Ctx) : Logic :=
  .plain (@Sat c) (Inv c) Rel (fun s0 ps _ _ s => St c s0 ps s) (fun _ y => SymOK c y) False

/-- what the walk emits outside `compileIdent` and the destructuring assignment is never GETBUILTIN -/
theorem gbArgs_of_static {op : Nat} {args : List Int} {ts : List Nat}
    (ha : StaticArgs op args ∨ (ArgsIn ts args ∧ (isJumpOp op = true ∨ op = OpSetupTry))) : GbArgs c op args :=
  gbArgs_of_ne (ha.elim (fun h => h.2.2.2.1) fun h => jumpy_ne_getBuiltin h.2)

theorem rules (c : Ctx) : Rules (logic c) where
  toModes := Modes.plain
  satPure := Sat.pure (c := c)
  pureP := GoodP.pure
  satBind := Sat.bind_good
  getP _ h := GoodP.bind good_get fun a _ => h a
  cerrP {α _ _ P pos msg} := @GoodP.cerr c α P pos msg
  unsupportedP {α _ _ P msg} := @GoodP.cunsupported c α P msg
  panicP {α _ _ P msg} _ := @GoodP.cpanic c α P msg
  init _ := St.init
  done h := ⟨h.inv, h.rel, trivial⟩
  stGood := st_good_bind
  stCurPos := st_curPos_bind
  stEmitTgt hst _ ha _ h := st_emit_tgt_bind hst (gbArgs_of_static ha) fun s' hst' _ => h s' hst'
  stEmit hst _ hj _ _ h := st_emit_bind hst hj h
  stPatch hst hp _ _ h := st_changeOperand_bind hst hp h
  stWithLoop := st_withLoop_bind
  stModLoop := st_modLoop_bind
  headTableP := good_headTable
  emit_P _ _ _ hp _ := good_emit_ (c := c) (gbArgs_of_ne hp.2.2.2.2.1)
  makeArrayP pos _ := good_emit_ (c := c) (pos := pos) (op := OpGetBuiltin) fun _ => ⟨Gen.builtinMakeArray, rfl, .inl rfl⟩
  emitConstantP pos v _ := good_emitConstant pos v
  defineLocalP := good_defineLocal
  modifyP h1 hb h3 h4 h5 := good_modify_misc h1 hb.insts h3 h4 h5
  defineConstLitP := good_defineConstLit
  resolveS name _ hs := goodP_resolve name _ hs
  -- the one GETBUILTIN a script can ask for: its operand is the index of a BUILTIN-scope symbol
  emitSymS pos _ _ _ _ hs hy hsc hop _ := by
    cases hop with
    | getBuiltin =>
      obtain ⟨i, hi, hok⟩ := hy hsc
      exact good_emit_ (fun _ => ⟨i, by rw [hi], .inr hok⟩) _ hs
    | _ => exact good_emit_ (gbArgs_of_ne (by decide)) _ hs
  symConstLit _ _ := .inl nofun
  compileDefineP pos ident allow kw _ _ := good_compileDefine pos ident allow kw
  setParamsP := good_setParams
  declGlobalsP := good_declGlobals
  withBlockP := good_withBlock
  funcLitP pos variadic params body _ _ hb := by
    have hw := goodP_withFn pos variadic params (hb nofun)
    intro s hs
    apply Sat.bind
    apply Sat.mono (hw s hs)
    intro r s1 ⟨hi1, hr1, hfn⟩
    obtain ⟨fn, ft⟩ := r
    simp only
    apply Sat.bind
    apply Sat.mono (tab_good.emitFreePtrs pos (fun _ _ h => good_emit_ (gbArgs_of_ne h)) ft.frees s1 hi1)
    intro _ s2 ⟨hi2, hr2, _⟩
    split
    · exact Sat.throw hi2.tinv
    · apply Sat.mono (sat_emitFnConstant hi2 hfn)
      intro _ s3 ⟨hi3, hr3, _⟩
      exact ⟨hi3, hr1.trans (hr2.trans hr3), trivial⟩

theorem good_compileStmts (ss : List Stmt) : Good c (compileStmts ss) :=
  (rules c).compileStmtsP ss ⟨nofun, nofun, nofun⟩

theorem good_compileExpr (e : Expr) : Good c (compileExpr e) :=
  (rules c).compileExprP e 0 ⟨nofun, nofun, nofun⟩

/-- what C13 asks of a Bytecode: the GETBUILTIN operands of the main function and of every compiled
    function of the constant pool are acceptable -/
def BcOK (c : Ctx) (bc : Bytecode) : Prop :=
  GbOK c bc.main.insts ∧ ∀ f, Const.fn f ∈ bc.constants.toList → GbOK c f.insts

theorem goodP_compileProg (file : List Stmt) : GoodP c (BcOK c) (compileProg file) := by
  intro s hs
  unfold compileProg
  apply Sat.bind
  apply Sat.mono (good_compileStmts file s hs)
  intro _ s1 ⟨hi1, hr1, _⟩
  apply Sat.bind
  apply Sat.mono (goodP_finishFn s1 hi1)
  intro fn s2 ⟨hi2, hr2, hfn⟩
  split
  · exact Sat.throw hi2.tinv
  · apply Sat.bind
    apply Sat.get
    apply Sat.pure
    exact ⟨hi2, hr1.trans hr2, hfn, hi2.consts⟩

theorem inv_initState (builtins : List (String × Nat)) (disabled : List String) :
    Inv ⟨builtins, disabled⟩ (initState builtins disabled) := by
  refine ⟨by simp [initState], rfl, ?_, fun n hn => hn, Walk.refl 0, fun l hl => by simp [initState] at hl,
    fun f hf => by simp [initState] at hf, gbOK_empty⟩
  intro t ht
  simp [initState] at ht
  subst ht
  exact storeOK_nil

end UgoVerif.Compile.GB

import UgoVerif.Proofs.CompileGbInv
import UgoVerif.Proofs.CompilePrims
/-
  C13 over the compiler model: the block / loop / function combinators and every non-recursive
  compile function keep the GETBUILTIN invariant (`GB.Inv`).  Counterpart of
  `Proofs/CompilePrims.lean` for the judgment of `Proofs/CompileGbInv.lean`.
  The two places that emit GETBUILTIN are the rule `emitSymS` of `GB.rules` (Proofs/CompileGbMain.lean:
  operand = index of the BUILTIN-scope symbol `Resolve` returned, acceptable by `goodP_resolve`) and
  its rule `makeArrayP` (the private `:makeArray` of destructuring).
-/
namespace UgoVerif.Compile.GB
open UgoVerif UgoVerif.Go UgoVerif.Ast UgoVerif.Compile

variable {c : Ctx}

theorem tablesOK_cons {t : Table} {ts : List Table} (ht : StoreOK c t.store) (h : TablesOK c ts) : TablesOK c (t :: ts) := by
  intro t' ht'
  simp at ht'
  rcases ht' with ht' | ht'
  · subst ht'; exact ht
  · exact h t' ht'

theorem tablesOK_tail {t : Table} {ts : List Table} (h : TablesOK c (t :: ts)) : TablesOK c ts :=
  fun t' ht' => h t' (by simp [ht'])

theorem storeOK_nil : StoreOK c [] := fun _ h => by simp at h

theorem TabsInv.cons {t : Table} {ts : List Table} (h : TabsInv c ts) (ht : StoreOK c t.store) : TabsInv c (t :: ts) :=
  ⟨by simp, tablesOK_cons ht h.ok, fun n hn => by rw [rootDisabled_cons_ne h.ne]; exact h.dis n hn⟩

theorem TabsInv.tail {t : Table} {ts : List Table} (h : TabsInv c (t :: ts)) (hne : ts ≠ []) : TabsInv c ts :=
  ⟨hne, tablesOK_tail h.ok, fun n hn => by have := h.dis n hn; rwa [rootDisabled_cons_ne hne] at this⟩

theorem TabsInv.head {t t' : Table} {r : List Table} (h : TabsInv c (t :: r)) (ht : StoreOK c t'.store)
    (hd : t'.disabled = t.disabled) : TabsInv c (t' :: r) :=
  ⟨by simp, tablesOK_cons ht (tablesOK_tail h.ok), fun n hn => by rw [rootDisabled_head r hd]; exact h.dis n hn⟩

/-- `Fork(true)` … `Parent(false)`: the forked block scope is governed by the same root -/
theorem good_withBlock {body : CM Unit} (hb : Good c body) : Good c (withBlock body) := by
  intro s hs
  obtain ⟨t, r, htr⟩ := List.exists_cons_of_ne_nil hs.ne
  unfold withBlock
  apply Sat.bind_of_run (runCM_forkTable true htr)
  generalize hs1 : ({ s with tables := _ :: s.tables } : CState) = s1
  have hi1 : Inv c s1 := by
    subst hs1
    exact hs.of_tables (hs.tinv.cons storeOK_nil) rfl rfl rfl
  have ht1 : s1.tables.length = s.tables.length + 1 := by subst hs1; simp
  have hin1 : s1.insts = s.insts := by subst hs1; rfl
  have hl1 : s1.loops = s.loops := by subst hs1; rfl
  apply Sat.bind
  apply Sat.mono (hb s1 hi1)
  intro _ s2 ⟨hi2, hr2, _⟩
  obtain ⟨t2, r2, htr2⟩ := List.exists_cons_of_ne_nil hi2.ne
  apply Sat.bind_of_run (runCM_popTable htr2)
  apply Sat.pure
  have hlen : r2.length = s.tables.length := by
    have := hr2.tlen
    rw [htr2, ht1] at this
    simpa using this
  refine ⟨hi2.of_tables ?_ rfl rfl rfl, hr2.transfer hin1 hl1 rfl rfl hlen, trivial⟩
  have := hi2.tinv
  rw [htr2] at this
  exact this.tail (ne_nil_of_length_eq hlen hs.ne)

theorem st_withLoop_bind {β} {body : CM Unit} {f : Loop → CM β} {s0 s : CState} {ps : List Nat}
    {Q : β → CState → Prop} (hb : Good c body) (hst : St c s0 ps s)
    (h : ∀ loop s', St c s0 (loop.breaks ++ loop.continues ++ ps) s' → Sat c (f loop) s' Q) :
    Sat c (withLoop body >>= f) s Q := by
  apply Sat.bind
  unfold withLoop pushLoop
  apply Sat.bind
  apply Sat.modify
  have hi := hst.inv
  have hi1 : Inv c { s with loops := { lastTryCatchIndex := s.tryCatchIndex } :: s.loops } :=
    ⟨hi.ne, hi.bs, hi.tabs, hi.dis, hi.walk, loopsOK_push hi.loops _, hi.consts, hi.gb⟩
  apply Sat.bind
  apply Sat.mono (hb _ hi1)
  intro _ s2 ⟨hi2, hr2, _⟩
  unfold popLoop
  apply Sat.bind
  apply Sat.get
  apply Sat.bind
  apply Sat.set
  apply Sat.pure
  obtain ⟨l2, hl2, _, hlo, hrel, hpend⟩ := loops_pop hst.rel.loopRel hst.pend hr2.loopRel hi2.loops
  simp only [hl2, List.head?_cons, Option.getD_some, List.drop_succ_cons, List.drop_zero]
  exact h _ _ ⟨⟨hi2.ne, hi2.bs, hi2.tabs, hi2.dis, hi2.walk, hlo, hi2.consts, hi2.gb⟩,
    ⟨hr2.tlen.trans hst.rel.tlen, hrel.pre, hrel.llen, hrel.ltail, hrel.lhead⟩, hpend⟩

theorem good_emitConstant (pos : Pos) (v : CVal) : Good c (emitConstant pos v) :=
  GoodP.bind (good_addConstant v) fun _ _ => good_emit_ (gbArgs_of_ne (by decide))

theorem sat_emitFnConstant {pos : Pos} {fn : CFn} {nfree : Nat} {s : CState} (hs : Inv c s)
    (hf : GbOK c fn.insts) :
    Sat c (emitFnConstant pos fn nfree) s (fun _ s' => Inv c s' ∧ Rel s s' ∧ True) := by
  unfold emitFnConstant
  apply Sat.bind
  apply sat_addFnConstant hs hf
  intro i s1 hi1 hr1 _
  split
  · apply Sat.mono (good_emit_ (gbArgs_of_ne (by decide)) s1 hi1)
    intro _ s2 ⟨hi2, hr2, _⟩
    exact ⟨hi2, hr1.trans hr2, trivial⟩
  · apply Sat.mono (good_emit_ (gbArgs_of_ne (by decide)) s1 hi1)
    intro _ s2 ⟨hi2, hr2, _⟩
    exact ⟨hi2, hr1.trans hr2, trivial⟩

theorem good_putLocal (bs : List (String × Nat)) (name : String) (idx : Int) :
    Good c (modHead fun t => shadowBuiltin bs name
      { t with numDefinition := t.numDefinition + 1, store := putSym name { name := name, index := idx, scope := .local_ } t.store }) :=
  good_modHead (fun t ht => by rw [shadowBuiltin_store]; exact putSym_all (symOK_of_ne (by simp)) ht) (fun t => by simp)

theorem good_defineLocal (name : String) : Good c (defineLocal name) := by
  unfold defineLocal
  refine GoodP.bind good_get fun s _ => GoodP.bind good_headTable fun t _ => ?_
  split
  · exact GoodP.pure trivial
  · exact GoodP.bind (good_putLocal _ _ _) fun _ _ => GoodP.bind (good_updateMaxDefs _) fun _ _ => GoodP.pure trivial

theorem tab_good : TabClosed (@Good c) where
  pure _ := GoodP.pure trivial
  bind hm hf := GoodP.bind hm fun a _ => hf a
  cerr _ _ := GoodP.cerr
  get _ h := GoodP.bind good_get fun a _ => h a
  headTable := good_headTable

theorem good_setNumParams (n : Nat) : Good c (modHead fun t => { t with numParams := n }) :=
  good_modHead (fun _ ht => ht) (fun _ => rfl)

theorem good_setParamsLoop (pos : Pos) : ∀ (ps : List String) (k : Nat), Good c (setParamsLoop pos ps k)
  | [], _ => GoodP.pure trivial
  | p :: r, k => by
    unfold setParamsLoop
    exact GoodP.bind good_get fun s _ => GoodP.bind good_headTable fun t _ =>
      GoodP.ite (GoodP.bind (good_setNumParams k) fun _ _ => GoodP.cerr) <|
        GoodP.bind (good_putLocal _ _ _) fun _ _ => GoodP.bind (good_updateMaxDefs _) fun _ _ =>
          good_setParamsLoop pos r (k + 1)

theorem good_setParams (pos : Pos) (ps : List String) : Good c (setParams pos ps) :=
  GoodP.ite (GoodP.pure trivial) <| GoodP.bind good_headTable fun _ _ => GoodP.ite GoodP.cerr <| GoodP.ite GoodP.cerr <|
    GoodP.bind (good_setParamsLoop pos ps 0) fun _ _ => good_setNumParams _

theorem good_defineConstLitSym (name : String) (v : Option CVal) : Good c (defineConstLitSym name v) := by
  unfold defineConstLitSym
  refine GoodP.bind good_get fun _ _ => GoodP.bind good_headTable fun _ _ => ?_
  split
  · exact GoodP.pure trivial
  · refine GoodP.bind (good_modHead (fun t ht => ?_) (fun t => by simp)) fun _ _ => GoodP.pure trivial
    rw [shadowBuiltin_store]
    exact putSym_all (symOK_of_ne (by simp)) ht

theorem good_defineConstLit (name : String) (v : VSum) : Good c (defineConstLit name v) :=
  tab_good.defineConstLit name v (good_defineConstLitSym name)

theorem sat_updateSym_at {name : String} {f : Symbol → Symbol} {s : CState} {t : Table} {r : List Table} {sym : Symbol}
    {Q : Unit → CState → Prop} (hs : Inv c s) (htr : s.tables = t :: r) (hl : lookupSym name t.store = some sym)
    (hf : SymOK c (f sym)) (h : ∀ s', Inv c s' → Rel s s' → Q () s') : Sat c (updateSym name f) s Q := by
  apply Sat.of_run (runCM_updateSym htr hl)
  have hti := hs.tinv
  rw [htr] at hti
  apply h
  · exact hs.of_tables (hti.head (t' := { t with store := putSym name (f sym) t.store })
      (putSym_all hf (hs.tabs t (by simp [htr]))) rfl) rfl rfl rfl
  · exact Rel.of_same (by simp [htr]) rfl rfl

theorem good_compileDefine (pos : Pos) (ident : String) (allow : Bool) (keyword : Nat) :
    Good c (compileDefine pos ident allow keyword) :=
  have C := tab_good (c := c)
  C.bind (good_defineLocal ident) fun _ => C.ite GoodP.cerr <| C.ite GoodP.cerr <| C.ite GoodP.cerr <|
    C.bind good_get fun _ => C.ite GoodP.cerr <| C.bind (good_emit_ (gbArgs_of_ne (by decide))) fun _ =>
      good_updateSym fun _ hy hb => hy hb

/-- `global` declarations: the symbol whose index is rewritten is a GLOBAL-scope symbol -/
theorem good_declGlobals (pos : Pos) : ∀ l : List (Pos × String × Bool), Good c (declGlobals pos l)
  | [] => GoodP.pure trivial
  | (_, name, _) :: rest => by
    have ih := good_declGlobals pos rest
    intro s hs
    obtain ⟨t, r, htr⟩ := List.exists_cons_of_ne_nil hs.ne
    unfold declGlobals
    apply Sat.bind
    apply Sat.get
    apply Sat.bind_of_run (runCM_headTable htr)
    split
    · rename_i sym hl
      split
      · exact Sat.cerr hs.tinv
      · rename_i hsc
        have hg : sym.scope = .global := by simpa using hsc
        apply Sat.bind
        apply sat_addConstant hs
        intro idx s1 hi1 hr1 _ ht1
        apply Sat.bind
        apply sat_updateSym_at hi1 (ht1.trans htr) hl (symOK_of_ne (by simp [hg]))
        intro s2 hi2 hr2
        apply Sat.mono (ih s2 hi2)
        intro _ s3 ⟨hi3, hr3, _⟩
        exact ⟨hi3, hr1.trans (hr2.trans hr3), trivial⟩
    · apply Sat.bind_of_run (runCM_modHead _ htr)
      generalize ht1 : shadowBuiltin s.builtins name
        { t with store := putSym name { name := name, index := -1, scope := .global } t.store } = t1
      have hst1 : t1.store = putSym name { name := name, index := -1, scope := .global } t.store := by subst ht1; simp
      have hd1 : t1.disabled = t.disabled := by subst ht1; simp
      have hti := hs.tinv
      rw [htr] at hti
      have hi1 : Inv c { s with tables := t1 :: r } :=
        hs.of_tables (hti.head (by rw [hst1]; exact putSym_all (symOK_of_ne (by simp)) (hs.tabs t (by simp [htr]))) hd1)
          rfl rfl rfl
      have hr1 : Rel s { s with tables := t1 :: r } := Rel.of_same (by simp [htr]) rfl rfl
      apply Sat.bind
      apply sat_addConstant hi1
      intro idx s2 hi2 hr2 _ ht2
      apply Sat.bind
      apply sat_updateSym_at hi2 ht2 (by rw [hst1]; exact lookupSym_putSym_self _ _ _) (symOK_of_ne (by simp))
      intro s3 hi3 hr3
      apply Sat.mono (ih s3 hi3)
      intro _ s4 ⟨hi4, hr4, _⟩
      exact ⟨hi4, hr1.trans (hr2.trans (hr3.trans hr4)), trivial⟩

theorem st_modLoop_bind {β} {f : Loop → Loop} {p : Nat} {k : Unit → CM β} {s0 s : CState} {ps : List Nat}
    {Q : β → CState → Prop} (hst : St c s0 ps s) (hp : p ∈ ps)
    (hf : ∀ l q, (q ∈ (f l).breaks → q ∈ l.breaks ∨ q = p) ∧ (q ∈ (f l).continues → q ∈ l.continues ∨ q = p))
    (h : ∀ s', St c s0 ps s' → Sat c (k ()) s' Q) : Sat c (modLoop f >>= k) s Q := by
  unfold modLoop
  apply Sat.bind
  apply Sat.modify
  have hi := hst.inv
  obtain ⟨hlo, hrel⟩ := loops_add rfl hst.rel.loopRel hi.loops (hst.pend p hp).1 (hst.pend p hp).2 hf
  exact h _ ⟨⟨hi.ne, hi.bs, hi.tabs, hi.dis, hi.walk, hlo, hi.consts, hi.gb⟩,
    ⟨hst.rel.tlen, hrel.pre, hrel.llen, hrel.ltail, hrel.lhead⟩, hst.pend⟩

/-- `Bytecode()`: the collected function is the current stream -/
theorem goodP_finishTail (lastOp : Nat) (pend : List Nat) :
    GoodP c (fun fn => GbOK c fn.insts) (finishTail lastOp pend) := by
  intro s hs
  unfold finishTail
  apply Sat.bind
  apply Sat.mono (GoodP.ite (good_emit_ (gbArgs_of_ne (by decide))) (GoodP.pure trivial) s hs)
  intro _ s1 ⟨hi1, hr1, _⟩
  apply Sat.bind
  apply Sat.get
  apply Sat.bind
  apply Sat.mono (good_headTable s1 hi1)
  intro t s2 ⟨hi2, hr2, _⟩
  apply Sat.pure
  exact ⟨hi2, hr1.trans hr2, hi1.gb⟩

theorem goodP_finishFn : GoodP c (fun fn => GbOK c fn.insts) finishFn := by
  intro s hs
  unfold finishFn
  apply Sat.bind
  apply Sat.get
  split
  · exact Sat.cpanic hs.tinv
  · exact goodP_finishTail _ _ s hs

/-- `compileFuncLit`: the forked compiler starts from an empty stream and `Fork(false)`, a function
    scope of the same root -/
theorem goodP_withFn (pos : Pos) (variadic : Bool) (params : List String) {body : CM Unit} (hb : Good c body) :
    GoodP c (fun r => GbOK c r.1.insts) (withFn pos variadic params body) := by
  intro s hs
  obtain ⟨t, r, htr⟩ := List.exists_cons_of_ne_nil hs.ne
  refine SatE.withFn (E := fun _ s' => TabsInv c s'.tables) htr (Sat.bind ?_)
  have hi3 : Inv c { s with insts := #[], sourceMap := [], loops := [], tryCatchIndex := -1, iotaVal := -1, variadic := variadic } :=
    ⟨hs.ne, hs.bs, hs.tabs, hs.dis, Walk.refl 0, fun l hl => by simp at hl, hs.consts, gbOK_empty⟩
  refine Sat.mono (good_setParams pos params _ (hi3.of_tables (hi3.tinv.cons storeOK_nil) rfl rfl rfl)) ?_
  intro _ s2 ⟨hi2, hr2, _⟩
  apply Sat.bind
  apply Sat.mono (hb s2 hi2)
  intro _ s4 ⟨hi4, hr4, _⟩
  apply Sat.mono (goodP_finishFn s4 hi4)
  intro fn s5 ⟨hi5, hr5, hfn⟩
  obtain ⟨t5, r5, htr5⟩ := List.exists_cons_of_ne_nil hi5.ne
  have hlen : r5.length = s.tables.length := by
    have h5 := hr5.tlen.trans (hr4.tlen.trans hr2.tlen)
    rw [htr5] at h5
    simpa using h5
  have hti := hi5.tinv
  rw [htr5] at hti
  have hti' := hti.tail (ne_nil_of_length_eq hlen hs.ne)
  exact ⟨t5, r5, htr5, ⟨hti'.ne, hs.bs, hti'.ok, hti'.dis, hs.walk, hs.loops, hi5.consts, hs.gb⟩,
    Rel.of_same hlen rfl rfl, hfn⟩

end UgoVerif.Compile.GB

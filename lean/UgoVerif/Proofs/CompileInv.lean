import UgoVerif.Proofs.CompileRun
import UgoVerif.Proofs.CompileScan
import UgoVerif.Proofs.CompileChain
import UgoVerif.Proofs.CompileTryLt
/-
  C05: the invariant of the compiler state under which no Go panic is reachable, the relation
  between the state before and after a compile step, and the facts about the primitive operations.
-/
namespace UgoVerif.Compile
open UgoVerif UgoVerif.Go UgoVerif.Ast

theorem updateMaxDefs_length (n : Nat) : ∀ ts : List Table, (updateMaxDefs n ts).length = ts.length :=
  fun ts => (updateMaxDefs_rel n ts).chainLE.length

theorem findByNameAll_ok {cs : Array Const} {n : String} {y : Symbol} : ∀ {ts : List Table}, ChainOK cs ts →
    findByNameAll n ts = some y → y.scope = .constLit → y.constant = true ∧ y.constLit.isSome = true
  | [], _, h, _ => by simp [findByNameAll] at h
  | t :: r, hs, h, hc => by
    simp only [findByNameAll] at h
    split at h
    · rename_i s hl
      injection h with h; subst h
      exact (lookupSym_all hs.1 hl).1 hc
    · exact findByNameAll_ok hs.tail h hc

/-- an instruction stream that decodes completely and whose operands are fine w.r.t. `L` -/
def StreamOK (L : Lims) (a : Array UInt8) : Prop := Walk a 0 a.size ∧ TargetsOK L a

theorem StreamOK.mono {L L' : Lims} {a : Array UInt8} (h : StreamOK L a) (hn : L.le L') : StreamOK L' a :=
  ⟨h.1, h.2.mono hn⟩

/-- the stream of a finished function (`Bytecode()`): moreover every jump target lies strictly
    inside the stream and the last instruction is RETURN -/
def FinStream (L : Lims) (a : Array UInt8) : Prop := StreamOK L a ∧ JumpsStrict a ∧ EndsInReturn a

theorem FinStream.mono {L L' : Lims} {a : Array UInt8} (h : FinStream L a) (hn : L.le L') : FinStream L' a :=
  ⟨h.1.mono hn, h.2⟩

/-- a finished function with `nf` free variables, against the constant pool `cs`: its stream is fine
    for `NumLocals` locals and `nf` free variables, its parameters are among its locals, and the
    operands of its SETUPTRY instructions lie strictly inside the stream -/
def FinFn (cs : Array Const) (nf : Nat) (f : CFn) : Prop :=
  FinStream ⟨cs, f.numLocals, nf⟩ f.insts ∧ f.numParams ≤ f.numLocals ∧ TryLt f.insts

theorem FinFn.mono {cs cs' : Array Const} {nf : Nat} {f : CFn} (h : FinFn cs nf f) (hc : CPre cs cs') : FinFn cs' nf f :=
  ⟨h.1.mono ⟨hc, Nat.le_refl _, Nat.le_refl _⟩, h.2⟩

/-- a compiled function in the constant pool: its locals fit the frame, it is finished -/
def FnOK (cs : Array Const) (f : CFn) : Prop := f.numLocals ≤ 256 ∧ ∃ nf, FinFn cs nf f

theorem FnOK.mono {cs cs' : Array Const} {f : CFn} (h : FnOK cs f) (hc : CPre cs cs') : FnOK cs' f :=
  ⟨h.1, h.2.imp fun _ h' => h'.mono hc⟩

def ConstsOK (cs : Array Const) : Prop := ∀ c ∈ cs.toList, ∀ f, c = .fn f → FnOK cs f

theorem ConstsOK.push {cs : Array Const} (h : ConstsOK cs) {c : Const} (hc : ∀ f, c = .fn f → FnOK (cs.push c) f) :
    ConstsOK (cs.push c) := by
  intro c' hc' f hf
  simp at hc'
  rcases hc' with hc' | hc'
  · exact (h c' (by simpa using hc') f hf).mono (CPre.push _ _)
  · subst hc'; exact hc f hf

theorem pend_pre {a a' : Array UInt8} {q : Nat} (h : Bd a q ∧ Jumpy a q) (hp : Pre a a') : Bd a' q ∧ Jumpy a' q :=
  ⟨h.1.pre hp, h.2.pre hp⟩

theorem pend_patch {a : Array UInt8} {p q : Nat} {op : UInt8} {rest : List UInt8} (h : Bd a q ∧ Jumpy a q)
    (hp : Walk a 0 p) (hop : a[p]? = some op) (hl : rest.length = opWidth op.toNat) :
    Bd (patch a p (op :: rest)) q ∧ Jumpy (patch a p (op :: rest)) q := by
  obtain ⟨hq, oq, hoq, hjq⟩ := h
  exact ⟨⟨hq.1.patch_inst hp hop hl, by rw [size_patch]; exact hq.2⟩,
    oq, by rw [hq.1.patch_get hp hop hl]; exact hoq, hjq⟩

theorem jumpy_lt {op : Nat} (h : isJumpOp op = true ∨ op = OpSetupTry) : op < numOpcodes := by
  rcases h with h | h
  · simp [isJumpOp] at h
    rcases h with ((h | h) | h) | h <;> subst h <;> decide
  · subst h; decide

theorem append_inst_get (a : Array UInt8) {op : Nat} (rest : List UInt8) (hop : op < numOpcodes) :
    ∃ opb, (a ++ (UInt8.ofNat op :: rest).toArray)[a.size]? = some opb ∧ opb.toNat = op :=
  ⟨UInt8.ofNat op, by simp, toNat_ofNat_op hop⟩

/-- what a step does to stream and loop stack: the part that `Rel` and `GB.Rel` share -/
structure LoopRel (a : Array UInt8) (ls : List Loop) (a' : Array UInt8) (ls' : List Loop) : Prop where
  pre : Pre a a'
  llen : ls'.length = ls.length
  ltail : ls'.tail = ls.tail
  lhead : ∀ l l', ls.head? = some l → ls'.head? = some l' → ∀ p,
    (p ∈ l'.breaks → p ∈ l.breaks ∨ a.size ≤ p) ∧ (p ∈ l'.continues → p ∈ l.continues ∨ a.size ≤ p)

theorem LoopRel.of_pre {a a' : Array UInt8} {ls : List Loop} (h : Pre a a') : LoopRel a ls a' ls :=
  ⟨h, rfl, rfl, fun l l' h h' p => by rw [h] at h'; injection h' with h'; subst h'; exact ⟨.inl, .inl⟩⟩

theorem LoopRel.patch {a a' : Array UInt8} {ls ls' : List Loop} {p : Nat} {bs : List UInt8} (h : LoopRel a ls a' ls')
    (hp : a.size ≤ p) : LoopRel a ls (patch a' p bs) ls' :=
  ⟨Pre.patch h.pre hp, h.llen, h.ltail, h.lhead⟩

theorem LoopRel.trans {a a' a'' : Array UInt8} {ls ls' ls'' : List Loop} (h : LoopRel a ls a' ls')
    (h' : LoopRel a' ls' a'' ls'') : LoopRel a ls a'' ls'' := by
  refine ⟨h.pre.trans h'.pre, h'.llen.trans h.llen, h'.ltail.trans h.ltail, ?_⟩
  intro l l'' hl hl'' p
  -- the stack in the middle has a head, being as long as the first
  cases ls' with
  | nil =>
    have hlen := h.llen
    cases ls with
    | nil => cases hl
    | cons _ _ => simp at hlen
  | cons l' r' =>
    have h1 := h.lhead l l' hl rfl p
    have h2 := h'.lhead l' l'' rfl hl'' p
    have hsz := h.pre.1
    exact ⟨fun hp => (h2.1 hp).elim h1.1 fun hp => .inr (Nat.le_trans hsz hp),
      fun hp => (h2.2 hp).elim h1.2 fun hp => .inr (Nat.le_trans hsz hp)⟩

/-- the limits the current instruction stream is judged against -/
def limsOf (s : CState) : Lims := ⟨s.constants, fmd s.tables, fnf s.tables⟩

structure Inv (s : CState) : Prop where
  ne : s.tables ≠ []
  chain : ChainOK s.constants s.tables
  walk : Walk s.insts 0 s.insts.size
  loops : ∀ l ∈ s.loops, ∀ p, (p ∈ l.breaks ∨ p ∈ l.continues) → Bd s.insts p ∧ Jumpy s.insts p
  consts : ConstsOK s.constants
  targets : TargetsOK (limsOf s) s.insts
  bok : ∀ p ∈ s.builtins, p.2 < NB
  /-- both operands of every SETUPTRY emitted so far are strictly below the current length -/
  tryLt : TryLt s.insts

structure Rel (s s' : CState) : Prop where
  chain : ChainLE s.tables s'.tables
  pre : Pre s.insts s'.insts
  llen : s'.loops.length = s.loops.length
  ltail : s'.loops.tail = s.loops.tail
  lhead : ∀ l l', s.loops.head? = some l → s'.loops.head? = some l' → ∀ p,
    (p ∈ l'.breaks → p ∈ l.breaks ∨ s.insts.size ≤ p) ∧ (p ∈ l'.continues → p ∈ l.continues ∨ s.insts.size ≤ p)
  cpre : CPre s.constants s'.constants

theorem Rel.tlen {s s' : CState} (h : Rel s s') : s'.tables.length = s.tables.length := h.chain.length
theorem Rel.csz {s s' : CState} (h : Rel s s') : s.constants.size ≤ s'.constants.size := h.cpre.1

theorem Rel.loopRel {s s' : CState} (h : Rel s s') : LoopRel s.insts s.loops s'.insts s'.loops :=
  ⟨h.pre, h.llen, h.ltail, h.lhead⟩

theorem Rel.of_loopRel {s s' : CState} (h1 : ChainLE s.tables s'.tables)
    (h2 : LoopRel s.insts s.loops s'.insts s'.loops) (h3 : CPre s.constants s'.constants) : Rel s s' :=
  ⟨h1, h2.pre, h2.llen, h2.ltail, h2.lhead, h3⟩

theorem Rel.refl (s : CState) : Rel s s := .of_loopRel (ChainLE.refl _) (.of_pre (Pre.refl _)) (CPre.refl _)

theorem Rel.trans {s s' s'' : CState} (h : Rel s s') (h' : Rel s' s'') : Rel s s'' :=
  .of_loopRel (h.chain.trans h'.chain) (h.loopRel.trans h'.loopRel) (h.cpre.trans h'.cpre)

theorem Rel.of_same {s s' : CState} (h1 : ChainLE s.tables s'.tables) (h2 : s'.insts = s.insts)
    (h3 : s'.loops = s.loops) (h4 : CPre s.constants s'.constants := by first | exact CPre.refl _ | exact CPre.push _ _) :
    Rel s s' :=
  .of_loopRel h1 (by rw [h2, h3]; exact .of_pre (Pre.refl _)) h4

theorem Inv.of_tables {s s' : CState} (h : Inv s) (h1 : s'.tables ≠ []) (h2 : ChainOK s'.constants s'.tables)
    (hl : (limsOf s).le (limsOf s')) (h3 : s'.insts = s.insts) (h4 : s'.loops = s.loops)
    (h5 : s'.constants = s.constants := by rfl) (h6 : s'.builtins = s.builtins := by rfl) : Inv s' :=
  ⟨h1, h2, by rw [h3]; exact h.walk, by rw [h3, h4]; exact h.loops, by rw [h5]; exact h.consts,
   by rw [h3]; exact h.targets.mono hl, by rw [h6]; exact h.bok, by rw [h3]; exact h.tryLt⟩

theorem limsOf_le_of_chain {s s' : CState} (hc : ChainLE s.tables s'.tables) (h5 : s'.constants = s.constants) :
    (limsOf s).le (limsOf s') := ⟨by show CPre s.constants s'.constants; rw [h5]; exact CPre.refl _, hc.fmd, hc.fnf⟩

/-- `GoodP P m`: from a state satisfying the invariant `m` does not panic; on normal termination
    the invariant holds again, the states are related, and the result satisfies `P`. -/
def GoodP {α} (P : α → Prop) (m : CM α) : Prop :=
  ∀ s, Inv s → Sat m s (fun a s' => Inv s' ∧ Rel s s' ∧ P a)

abbrev Good {α} (m : CM α) : Prop := GoodP (fun _ => True) m

theorem GoodP.pure {α} {P : α → Prop} {a : α} (h : P a) : GoodP P (Pure.pure a : CM α) :=
  fun s hs => Sat.pure ⟨hs, Rel.refl s, h⟩

theorem Sat.bind_good {α β} {P : α → CState → Prop} {R : β → Prop} {m : CM α} {f : α → CM β} {s : CState}
    (hm : Sat m s (fun a s1 => Inv s1 ∧ Rel s s1 ∧ P a s1))
    (hf : ∀ a s1, Inv s1 → P a s1 → Sat (f a) s1 (fun b s' => Inv s' ∧ Rel s1 s' ∧ R b)) :
    Sat (m >>= f) s (fun b s' => Inv s' ∧ Rel s s' ∧ R b) :=
  Sat.bind (Sat.mono hm fun a s1 ⟨h1, hr, hp⟩ => Sat.mono (hf a s1 h1 hp) fun _ _ ⟨h2, hr', hb⟩ => ⟨h2, hr.trans hr', hb⟩)

theorem GoodP.bind {α β} {P : α → Prop} {R : β → Prop} {m : CM α} {f : α → CM β}
    (hm : GoodP P m) (hf : ∀ a, P a → GoodP R (f a)) : GoodP R (m >>= f) :=
  fun s hs => Sat.bind_good (P := fun a _ => P a) (hm s hs) fun a s1 h1 pa => hf a pa s1 h1

theorem GoodP.weaken {α} {P P' : α → Prop} {m : CM α} (h : GoodP P m) (hp : ∀ a, P a → P' a) : GoodP P' m :=
  fun s hs => Sat.mono (h s hs) fun a _ ⟨h1, h2, h3⟩ => ⟨h1, h2, hp a h3⟩

theorem GoodP.good {α} {P : α → Prop} {m : CM α} (h : GoodP P m) : Good m := h.weaken fun _ _ => trivial

theorem GoodP.cerr {α} {P : α → Prop} {pos : Pos} {msg : String} : GoodP P (cerr pos msg : CM α) := fun _ _ => Sat.cerr
theorem GoodP.throw_err {α} {P : α → Prop} {pos : Pos} {msg : String} : GoodP P (throw (CErr.err pos msg) : CM α) :=
  fun _ _ => Sat.throw_err
theorem GoodP.throw_bare {α} {P : α → Prop} {msg : String} : GoodP P (throw (CErr.bare msg) : CM α) :=
  fun _ _ => Sat.throw_bare
theorem GoodP.cunsupported {α} {P : α → Prop} {msg : String} : GoodP P (cunsupported msg : CM α) :=
  fun _ _ => Sat.cunsupported

def GoodS {α} (P : α → CState → Prop) (m : CM α) : Prop :=
  ∀ s, Inv s → Sat m s (fun a s' => Inv s' ∧ Rel s s' ∧ P a s')

theorem good_get : Good (get : CM CState) := fun s hs => Sat.get ⟨hs, Rel.refl s, trivial⟩

theorem good_curPos : Good curPos := by
  unfold curPos
  exact GoodP.bind good_get fun _ _ => GoodP.pure trivial

theorem Sat.of_run {α} {m : CM α} {s s' : CState} {a : α} {Q : α → CState → Prop}
    (hr : runCM m s = (.ok a, s')) (h : Q a s') : Sat m s Q := by
  simp [Sat, hr, h]

theorem Sat.bind_of_run {α β} {m : CM α} {f : α → CM β} {s s' : CState} {a : α} {Q : β → CState → Prop}
    (hr : runCM m s = (.ok a, s')) (h : Sat (f a) s' Q) : Sat (m >>= f) s Q :=
  Sat.bind (Sat.of_run hr h)

theorem good_headTable : Good headTable := fun s hs =>
  (List.exists_cons_of_ne_nil hs.ne).elim fun _ ⟨_, htr⟩ => Sat.of_run (runCM_headTable htr) ⟨hs, Rel.refl s, trivial⟩

theorem good_modTables {g : List Table → List Table}
    (hok : ∀ cs ts, ChainOK cs ts → ChainOK cs (g ts) ∧ ChainLE ts (g ts)) : Good (modTables g) := by
  intro s hs
  unfold modTables
  apply Sat.modify
  obtain ⟨h1, h2⟩ := hok _ _ hs.chain
  exact ⟨hs.of_tables (ChainLE.ne_nil h2 hs.ne) h1 (limsOf_le_of_chain h2 rfl) rfl rfl, Rel.of_same h2 rfl rfl, trivial⟩

theorem good_modHead {f : Table → Table}
    (hok : ∀ cs nl nf t, StoreOKx cs nl nf t.store → StoreOKx cs nl nf (f t).store)
    (hb : ∀ t, (f t).block = t.block := by intro t; simp)
    (hm : ∀ t, (f t).maxDefinition = t.maxDefinition := by intro t; simp)
    (hf : ∀ t, (f t).frees = t.frees := by intro t; simp)
    (hp : ∀ t, (f t).numParams = t.numParams := by intro t; simp) : Good (modHead f) := by
  unfold modHead
  apply good_modTables
  intro cs ts h
  cases ts with
  | nil => exact ⟨h, trivial⟩
  | cons t r =>
    exact ⟨chain_replaceHead h (hb t) (hm t) (hf t) (hp t) (hok _ _ _ t h.1), chainLE_replaceHead (hb t) (hm t) (hf t)⟩

theorem good_modify_misc {f : CState → CState} (h1 : ∀ s, (f s).tables = s.tables) (h2 : ∀ s, (f s).insts = s.insts)
    (h3 : ∀ s, (f s).loops = s.loops) (h4 : ∀ s, (f s).constants = s.constants := by intro _; rfl)
    (h6 : ∀ s, (f s).builtins = s.builtins := by intro _; rfl) :
    Good (modify f : CM Unit) := by
  intro s hs
  apply Sat.modify
  have hc : ChainLE s.tables (f s).tables := by rw [h1]; exact ChainLE.refl _
  exact ⟨hs.of_tables (by rw [h1]; exact hs.ne) (by rw [h1, h4]; exact hs.chain) (limsOf_le_of_chain hc (h4 s))
      (h2 s) (h3 s) (h4 s) (h6 s),
    Rel.of_same hc (h2 s) (h3 s) (by rw [h4]; exact CPre.refl _), trivial⟩

theorem good_updateSym {name : String} {f : Symbol → Symbol}
    (hf : ∀ cs nl nf y, SymOKx cs nl nf y → SymOKx cs nl nf (f y)) : Good (updateSym name f) := by
  unfold updateSym
  refine good_modHead ?_ ?_ ?_ ?_ ?_
  · intro cs nl nf t ht
    split
    · rename_i sym hl
      exact putSym_all (hf _ _ _ _ (lookupSym_all ht hl)) ht
    · exact ht
  all_goals (intro t; split <;> rfl)

theorem f64_key_inj (a b : F64) (h : a.key = b.key) (ha : a ≠ 0x8000000000000000#64) (hb : b ≠ 0x8000000000000000#64) : a = b := by
  apply BitVec.eq_of_toNat_eq
  have ha' : a.toNat ≠ 2^63 := fun h' => ha (BitVec.eq_of_toNat_eq (by simpa using h'))
  have hb' : b.toNat ≠ 2^63 := fun h' => hb (BitVec.eq_of_toNat_eq (by simpa using h'))
  have m : ∀ x : Nat, x &&& 9223372036854775807 = x % 2^63 := fun x => Nat.and_two_pow_sub_one_eq_mod x 63
  unfold F64.key at h
  simp only [BitVec.toNat_and, BitVec.msb_eq_decide, BitVec.toNat_ofNat, m] at h
  have := a.isLt; have := b.isLt
  simp at h
  split at h <;> split at h <;> omega

/-- a cache hit of `addConstant` is the same constant: Go map-key equality of the scalar kinds is
    identity of the value, for floats identity of the bit pattern because −0.0 is never cached and
    NaN never hits -/
theorem keyEq_eq (v k : CVal) (h : keyEq v k = true) (hv : isNegZero v = false) (hk : isNegZero k = false) : v = k := by
  cases v <;> cases k <;> first
    | (change (_ == _) = true at h; rw [eq_of_beq h])
    | rfl
    | (exact absurd (show false = true from h) (by decide))
    | skip
  rename_i a b
  change feq a b = true at h
  simp only [isNegZero, beq_eq_false_iff_ne, ne_eq] at hv hk
  simp only [feq, Bool.and_eq_true, beq_iff_eq] at h
  rw [f64_key_inj a b h.2 hv hk]

theorem findConst_spec {cs : Array Const} {k : CVal} {i : Nat} (h : findConst cs k = some i) :
    i < cs.size ∧ cs[i]? = some (.val k) := by
  have hlt := findConst_lt h
  refine ⟨hlt, ?_⟩
  unfold findConst at h
  split at h
  · cases h
  · rename_i hk
    have hp := List.find?_some h
    rw [getElem!_pos cs i hlt] at hp
    split at hp
    · rename_i v hv
      simp only [Bool.and_eq_true, Bool.not_eq_true'] at hp
      rw [Array.getElem?_eq_getElem hlt, hv, keyEq_eq v k hp.2 hp.1 (by simpa using hk)]
    · cases hp

theorem findFn_spec {cs : Array Const} {f : CFn} {i : Nat} (h : findFn cs f = some i) :
    i < cs.size ∧ ∃ g, cs[i]? = some (.fn g) ∧ g.insts = f.insts := by
  have hlt := findFn_lt h
  refine ⟨hlt, ?_⟩
  unfold findFn at h
  have hp := List.find?_some h
  rw [getElem!_pos cs i hlt] at hp
  split at hp
  · rename_i g hg
    refine ⟨g, by rw [Array.getElem?_eq_getElem hlt, hg], ?_⟩
    simp at hp
    exact hp.1.2
  · cases hp

theorem inv_push_const {s : CState} (hs : Inv s) (c : Const) (hc : ∀ f, c = .fn f → FnOK (s.constants.push c) f) :
    Inv { s with constants := s.constants.push c } ∧ Rel s { s with constants := s.constants.push c } :=
  ⟨⟨hs.ne, hs.chain.mono (CPre.push _ _), hs.walk, hs.loops, hs.consts.push hc,
     hs.targets.mono ⟨CPre.push _ _, Nat.le_refl _, Nat.le_refl _⟩, hs.bok, hs.tryLt⟩,
   Rel.of_same (ChainLE.refl _) rfl rfl⟩

theorem sat_addConstant {k : CVal} {s : CState} {Q : Nat → CState → Prop} (hs : Inv s)
    (h : ∀ i s', Inv s' → Rel s s' → s'.insts = s.insts → s'.tables = s.tables →
      s'.constants[i]? = some (.val k) → Q i s') :
    Sat (addConstant k) s Q := by
  refine sat_iff.2 (SatE.addConstant k (fun i hi => h i s hs (Rel.refl s) rfl rfl (findConst_spec hi).2) fun _ => ?_)
  obtain ⟨hi, hr⟩ := inv_push_const hs (.val k) (fun f hf => by cases hf)
  exact h _ _ hi hr rfl rfl (by simp)

theorem good_addConstant (k : CVal) : Good (addConstant k) :=
  fun _ hs => sat_addConstant hs fun _ _ h1 h2 _ _ _ => ⟨h1, h2, trivial⟩

theorem sat_addFnConstant {f : CFn} {s : CState} {Q : Nat → CState → Prop} (hs : Inv s)
    (hf : ∀ cs', CPre s.constants cs' → FnOK cs' f)
    (h : ∀ i s', Inv s' → Rel s s' → s'.insts = s.insts → s'.tables = s.tables →
      (∃ g, s'.constants[i]? = some (.fn g) ∧ g.insts = f.insts) → Q i s') :
    Sat (addFnConstant f) s Q := by
  refine sat_iff.2 (SatE.addFnConstant f (fun i hi => h i s hs (Rel.refl s) rfl rfl (findFn_spec hi).2) fun _ => ?_)
  obtain ⟨hi, hr⟩ := inv_push_const hs (.fn f) (fun g hg => by injection hg with hg; subst hg; exact hf _ (CPre.push _ _))
  exact h _ _ hi hr rfl rfl ⟨f, by simp, rfl⟩

theorem sat_resolve (name : String) {s : CState} (hs : Inv s) :
    Sat (resolve name) s (fun r s' => Inv s' ∧ Rel s s' ∧
      ∀ y, r = some y → SymOKx s'.constants (fmd s'.tables) (fnf s'.tables) y) := by
  have hsp := resolveIn_chain s.constants s.builtins hs.bok (rootDisabled s.tables) name hs.chain
  exact Sat.of_run (runCM_resolve name s)
    ⟨hs.of_tables (ChainLE.ne_nil hsp.2.1 hs.ne) hsp.1 (limsOf_le_of_chain hsp.2.1 rfl) rfl rfl,
      Rel.of_same hsp.2.1 rfl rfl, hsp.2.2⟩

theorem good_resolve (name : String) : Good (resolve name) :=
  fun _ hs => (sat_resolve name hs).mono fun _ _ h => ⟨h.1, h.2.1, trivial⟩

theorem Rel.transfer {a b a' b' : CState} (h : Rel a b) (hi : a.insts = a'.insts) (hl : a.loops = a'.loops)
    (hi' : b'.insts = b.insts) (hl' : b'.loops = b.loops) (ht : ChainLE a'.tables b'.tables)
    (hc : CPre a'.constants b'.constants) : Rel a' b' :=
  .of_loopRel ht (by rw [← hi, ← hl, hi', hl']; exact h.loopRel) hc

/-- operands that are fine for every stream (`StaticArgs.argsOK`): the placeholders of the
    jump-class instructions and of SETUPTRY, and no index -/
def StaticArgs (op : Nat) (args : List Int) : Prop :=
  (isJumpOp op = true → args = [0]) ∧ (op = OpSetupTry → args = [0, 0]) ∧ PlainIdx op

theorem PlainIdx.not_closure {op : Nat} (h : PlainIdx op) : op ≠ OpClosure := by
  intro hc; have := h.2.2.2; rw [hc] at this; cases this

theorem StaticArgs.argsOK {op : Nat} {args : List Int} (h : StaticArgs op args) (L : Lims) (a : Array UInt8) :
    ArgsOK L a op args :=
  ⟨fun hj => ⟨0, by rw [h.1 hj]; rfl, .refl 0⟩, fun ht => ⟨0, 0, by rw [h.2.1 ht]; rfl, .refl 0, .refl 0⟩,
   fun i _ _ => h.2.2.opnd L i, fun hc => absurd hc h.2.2.not_closure⟩

/-- `harg` is asked only where `makeInstruction` accepts the operands: `ArgsIn.argsOK` takes their
    number from that -/
theorem sat_emit_of_ok {pos : Pos} {op : Nat} {args : List Int} {s : CState} {Q : Nat → CState → Prop}
    (hs : Inv s) (hop : op < numOpcodes)
    (harg : ∀ bs, makeInstruction op args = .ok bs → ArgsOK (limsOf s) s.insts op args)
    (h : ∀ s', Inv s' → Rel s s' → Bd s'.insts s.insts.size → s'.tables = s.tables →
      (∃ opb, s'.insts[s.insts.size]? = some opb ∧ opb.toNat = op) →
      s'.insts.size = s.insts.size + 1 + opWidth op → s'.constants = s.constants → Q s.insts.size s') :
    Sat (emit pos op args) s Q := by
  refine sat_iff.2 (SatE.emit (fun _ h => h hop) fun _ rest hm hl => ?_)
  have htg := TargetsOK.append_inst hs.walk hs.targets hop hm (harg _ hm)
  have htl := TryLt.append_inst hs.walk hs.tryLt hop hm (harg _ hm)
  have hpre := Pre.append s.insts (UInt8.ofNat op :: rest).toArray
  apply h
  · exact ⟨hs.ne, hs.chain, Walk.append_inst hs.walk hop hl, fun l hl p hp => pend_pre (hs.loops l hl p hp) hpre,
      hs.consts, htg, hs.bok, htl⟩
  · exact .of_loopRel (ChainLE.refl _) (.of_pre hpre) (CPre.refl _)
  · exact Bd.append_inst hs.walk
  · rfl
  · exact append_inst_get _ _ hop
  · simp [hl]; omega
  · rfl

theorem sat_emit {pos : Pos} {op : Nat} {args : List Int} {s : CState} {Q : Nat → CState → Prop}
    (hs : Inv s) (hop : op < numOpcodes) (harg : ArgsOK (limsOf s) s.insts op args)
    (h : ∀ s', Inv s' → Rel s s' → Bd s'.insts s.insts.size → s'.tables = s.tables →
      (∃ opb, s'.insts[s.insts.size]? = some opb ∧ opb.toNat = op) →
      s'.insts.size = s.insts.size + 1 + opWidth op → s'.constants = s.constants → Q s.insts.size s') :
    Sat (emit pos op args) s Q := sat_emit_of_ok hs hop (fun _ _ => harg) h

theorem good_emit {pos : Pos} {op : Nat} {args : List Int} (hop : op < numOpcodes) (ha : StaticArgs op args) :
    Good (emit pos op args) :=
  fun s hs => sat_emit hs hop (ha.argsOK _ s.insts) fun _ h1 h2 _ _ _ _ _ => ⟨h1, h2, trivial⟩

theorem good_emit_ {pos : Pos} {op : Nat} {args : List Int} (hop : op < numOpcodes) (ha : StaticArgs op args) :
    Good (emit_ pos op args) := by
  unfold emit_
  exact GoodP.bind (good_emit hop ha) fun _ _ => GoodP.pure trivial

theorem sat_emit_idx {pos : Pos} {op : Nat} {i : Int} {s : CState} (hs : Inv s) (hop : op < numOpcodes)
    (hj : isJumpOp op = false) (ht : op ≠ OpSetupTry) (hc : op ≠ OpClosure)
    (hi : ∀ n : Nat, i = (n : Int) → Opnd1OK (limsOf s) op n) :
    Sat (emit_ pos op [i]) s (fun _ s' => Inv s' ∧ Rel s s' ∧ True) := by
  unfold emit_
  apply Sat.bind
  apply sat_emit hs hop
  · refine ⟨fun c => ?_, fun c => absurd c ht, ?_, fun c => absurd c hc⟩
    · rw [hj] at c; cases c
    · intro n rest hn
      injection hn with hn _
      exact hi n hn
  · intro s' h1 h2 _ _ _ _ _
    exact Sat.pure ⟨h1, h2, trivial⟩

/-- `ps`, `ts`, `ins` as in `Logic.St`; that `ins` lie strictly inside the stream is what `TryLt`
    asks of the operands of SETUPTRY -/
structure St (s0 : CState) (ps ts ins : List Nat) (s : CState) : Prop where
  inv : Inv s
  rel : Rel s0 s
  pend : ∀ p ∈ ps, (Bd s.insts p ∧ Jumpy s.insts p) ∧ s0.insts.size ≤ p
  tgt : ∀ t ∈ ts, Walk s.insts 0 t
  ins : ∀ t ∈ ins, t < s.insts.size

theorem St.init {s : CState} (h : Inv s) : St s [] [] [] s :=
  ⟨h, Rel.refl s, fun _ hp => by simp at hp, fun _ hp => by simp at hp, fun _ hp => by simp at hp⟩

theorem St.step {s0 s s' : CState} {ps ts ins : List Nat} (h : St s0 ps ts ins s) (hi : Inv s') (hr : Rel s s') : St s0 ps ts ins s' :=
  ⟨hi, h.rel.trans hr, fun p hp => ⟨pend_pre (h.pend p hp).1 hr.pre, (h.pend p hp).2⟩,
   fun t ht => (h.tgt t ht).pre hr.pre, fun t ht => Nat.lt_of_lt_of_le (h.ins t ht) hr.pre.1⟩

theorem st_good_bind {α β} {P : α → Prop} {m : CM α} {f : α → CM β} {s0 s : CState} {ps ts ins : List Nat}
    {Q : β → CState → Prop} (hm : GoodP P m) (hst : St s0 ps ts ins s)
    (h : ∀ a s', P a → St s0 ps ts ins s' → Sat (f a) s' Q) : Sat (m >>= f) s Q := by
  apply Sat.bind
  apply Sat.mono (hm s hst.inv)
  intro a s' ⟨h1, h2, h3⟩
  exact h a s' h3 (hst.step h1 h2)

theorem st_curPos_bind {β} {f : Nat → CM β} {s0 s : CState} {ps ts ins : List Nat} {Q : β → CState → Prop}
    (hst : St s0 ps ts ins s) (h : St s0 ps (s.insts.size :: ts) ins s → Sat (f s.insts.size) s Q) :
    Sat (curPos >>= f) s Q := by
  apply Sat.bind
  unfold curPos
  apply Sat.bind
  apply Sat.get
  apply Sat.pure
  exact h ⟨hst.inv, hst.rel, hst.pend, List.forall_mem_cons.mpr ⟨hst.inv.walk, hst.tgt⟩, hst.ins⟩

def ArgsIn (ts : List Nat) (args : List Int) : Prop := ∀ x ∈ args, ∃ t : Nat, x = (t : Int) ∧ (t = 0 ∨ t ∈ ts)

theorem ArgsIn.argsOK {ts : List Nat} {args : List Int} {a : Array UInt8} {op : Nat} {nc : Lims} (h : ArgsIn ts args)
    (hts : ∀ t ∈ ts, Walk a 0 t) (hlen : (operandWidths op).length = args.length)
    (hj : isJumpOp op = true ∨ op = OpSetupTry) : ArgsOK nc a op args := by
  have hw : ∀ x ∈ args, ∃ t : Nat, x = (t : Int) ∧ Walk a 0 t := by
    intro x hx
    obtain ⟨t, ht, h0⟩ := h x hx
    refine ⟨t, ht, ?_⟩
    rcases h0 with h0 | h0
    · subst h0; exact .refl 0
    · exact hts t h0
  refine ⟨?_, ?_, fun i _ _ => (jumpy_plain hj).opnd nc i, fun hc => absurd hc (jumpy_plain hj).not_closure⟩
  · intro hj
    rw [isJumpOp_widths hj] at hlen
    match args, hlen, hw with
    | [x], _, hw =>
      obtain ⟨t, ht, hwt⟩ := hw x (by simp)
      exact ⟨t, by rw [ht], hwt⟩
  · intro ht
    subst ht
    have : operandWidths OpSetupTry = [4, 4] := rfl
    rw [this] at hlen
    match args, hlen, hw with
    | [x, y], _, hw =>
      obtain ⟨t1, ht1, hw1⟩ := hw x (by simp)
      obtain ⟨t2, ht2, hw2⟩ := hw y (by simp)
      exact ⟨t1, t2, by rw [ht1, ht2], hw1, hw2⟩

theorem st_emit_tgt_bind {β} {pos : Pos} {op : Nat} {args : List Int} {f : Nat → CM β} {s0 s : CState} {ps ts ins : List Nat}
    {Q : β → CState → Prop} (hst : St s0 ps ts ins s) (hop : op < numOpcodes)
    (ha : StaticArgs op args ∨ (ArgsIn ts args ∧ (isJumpOp op = true ∨ op = OpSetupTry)))
    (h : ∀ s', St s0 ps (s.insts.size :: ts) (s.insts.size :: ins) s' → (Bd s'.insts s.insts.size ∧
      ∃ opb, s'.insts[s.insts.size]? = some opb ∧ opb.toNat = op) → Sat (f s.insts.size) s' Q) :
    Sat (emit pos op args >>= f) s Q := by
  apply Sat.bind
  apply sat_emit_of_ok hst.inv hop
  · intro bs hm
    rcases ha with ha | ha
    · exact ha.argsOK _ _
    · exact ha.1.argsOK hst.tgt (makeInstruction_len hm) ha.2
  intro s' h1 h2 h3 _ h5 _ _
  have h4 := hst.step h1 h2
  exact h s' ⟨h4.inv, h4.rel, h4.pend, List.forall_mem_cons.mpr ⟨h3.1, h4.tgt⟩,
    List.forall_mem_cons.mpr ⟨h3.2, h4.ins⟩⟩ ⟨h3, h5⟩

theorem st_emit_bind {β} {pos : Pos} {op : Nat} {args : List Int} {f : Nat → CM β} {s0 s : CState} {ps ts ins : List Nat}
    {Q : β → CState → Prop} (hst : St s0 ps ts ins s) (hop : op < numOpcodes) (hj : isJumpOp op = true ∨ op = OpSetupTry)
    (ha : StaticArgs op args ∨ ArgsIn ts args)
    (h : ∀ s', St s0 (s.insts.size :: ps) (s.insts.size :: ts) (s.insts.size :: ins) s' → Sat (f s.insts.size) s' Q) :
    Sat (emit pos op args >>= f) s Q := by
  apply st_emit_tgt_bind hst hop (ha.imp id fun h => ⟨h, hj⟩)
  intro s' hst' ⟨hbd, opb, hget, hopb⟩
  exact h s' ⟨hst'.inv, hst'.rel,
    List.forall_mem_cons.mpr ⟨⟨⟨hbd, opb, hget, by rw [hopb]; exact hj⟩, hst.rel.pre.1⟩, hst'.pend⟩, hst'.tgt, hst'.ins⟩

/-- `hstrict`: only SETUPTRY takes two operands; they are 0 or offsets at which an instruction was
    emitted, hence strictly below the length of the stream, which keeps `TryLt` -/
theorem st_changeOperand {p : Nat} {args : List Int} {s0 s : CState} {ps ts ins : List Nat} {Q : Unit → CState → Prop}
    (hst : St s0 ps ts ins s) (hp : p ∈ ps) (hargs : ArgsIn ts args) (h : ∀ s', St s0 ps ts ins s' → Q () s')
    (hstrict : args.length = 2 → ArgsIn ins args := by simp) :
    Sat (changeOperand p args) s Q := by
  obtain ⟨⟨hbd, op, hop, hjop⟩, hge⟩ := hst.pend p hp
  refine sat_iff.2 (SatE.changeOperand (fun _ h => h op hop (jumpy_lt hjop)) fun op' rest hop' hm hl => ?_)
  cases Option.some.inj (hop.symm.trans hop')
  have haok := hargs.argsOK (nc := limsOf s) hst.tgt (makeInstruction_len hm) hjop
  have htg := TargetsOK.patch_inst hst.inv.walk hst.inv.targets hbd.1 hop hm haok
  have htl := TryLt.patch_inst hst.inv.walk hst.inv.tryLt hbd.1 hop hm (fun htry => by
    obtain ⟨t1, t2, ha, _, _⟩ := haok.2.1 htry
    have lt : ∀ t : Nat, (t : Int) ∈ args → t < s.insts.size := fun t ht => by
      obtain ⟨t', e, h'⟩ := hstrict (by rw [ha]; rfl) _ ht
      cases Int.ofNat.inj e
      exact h'.elim (fun h0 => h0 ▸ Nat.lt_of_le_of_lt (Nat.zero_le _) hbd.2) (hst.ins _)
    exact ⟨t1, t2, ha, lt t1 (by simp [ha]), lt t2 (by simp [ha])⟩)
  apply h
  refine ⟨⟨hst.inv.ne, hst.inv.chain, ?_, fun l hl' q hq => pend_patch (hst.inv.loops l hl' q hq) hbd.1 hop hl,
    hst.inv.consts, htg, hst.inv.bok, htl⟩, ?_, ?_, ?_, ?_⟩
  · rw [size_patch]
    exact hst.inv.walk.patch_inst hbd.1 hop hl
  · exact .of_loopRel hst.rel.chain (hst.rel.loopRel.patch hge) hst.rel.cpre
  · intro q hq
    exact ⟨pend_patch (hst.pend q hq).1 hbd.1 hop hl, (hst.pend q hq).2⟩
  · intro t ht
    exact (hst.tgt t ht).patch_inst hbd.1 hop hl
  · intro t ht
    rw [size_patch]
    exact hst.ins t ht

theorem st_changeOperand_bind {β} {p : Nat} {args : List Int} {f : Unit → CM β} {s0 s : CState} {ps ts ins : List Nat}
    {Q : β → CState → Prop} (hst : St s0 ps ts ins s) (hp : p ∈ ps) (hargs : ArgsIn ts args)
    (h : ∀ s', St s0 ps ts ins s' → Sat (f ()) s' Q)
    (hstrict : args.length = 2 → ArgsIn ins args := by simp) : Sat (changeOperand p args >>= f) s Q :=
  Sat.bind (st_changeOperand hst hp hargs h hstrict)

theorem argsIn_one {ts : List Nat} {t : Nat} (h : t = 0 ∨ t ∈ ts) : ArgsIn ts [(t : Int)] := by
  intro x hx
  simp at hx
  exact ⟨t, hx, h⟩

theorem argsIn_two {ts : List Nat} {t1 t2 : Nat} (h1 : t1 = 0 ∨ t1 ∈ ts) (h2 : t2 = 0 ∨ t2 ∈ ts) :
    ArgsIn ts [(t1 : Int), (t2 : Int)] := by
  intro x hx
  simp at hx
  rcases hx with hx | hx
  · exact ⟨t1, hx, h1⟩
  · exact ⟨t2, hx, h2⟩

end UgoVerif.Compile

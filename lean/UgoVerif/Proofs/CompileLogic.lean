import UgoVerif.Proofs.CompilePrims
import UgoVerif.Proofs.SrcMap
import UgoVerif.Proofs.AstJf
import UgoVerif.Spec.AstShape
import UgoVerif.Spec.AstLab
/-
  The walk over the compiler's mutual block, done once.  A `Logic` is a Hoare-style judgement on the
  compiler monad whose invariant and patching bookkeeping depend on a mode, what is known of the end
  of the instruction stream.  `Rules` is what the walk needs of a logic: the sequencing rules and one
  fact per primitive or helper the mutual block calls.  `Rules.all` is the induction on the size of
  the AST; the analyses (C05, C13, C10, the source map) differ in the logic and in the proofs of its
  rules only.
-/
namespace UgoVerif.Compile
open UgoVerif UgoVerif.Go UgoVerif.Ast

structure Logic where
  Sat : {α : Type} → CM α → CState → (α → CState → Prop) → Prop
  M : Type
  Inv : M → CState → Prop
  Rel : CState → CState → Prop
  /-- `St X s0 ps ts ins s`: the bookkeeping of a sequence that patches earlier instructions. `ps`:
      pending jump / SETUPTRY positions emitted since `s0`; `ts`: offsets read or emitted on the way,
      the admissible jump targets; `ins`: offsets at which an instruction was emitted, the admissible
      operands of SETUPTRY -/
  St : M → CState → List Nat → List Nat → List Nat → CState → Prop
  /-- what the logic knows, in state `s`, of a symbol that `resolve` has returned: what it needs to
      emit an instruction whose operand is the symbol's index -/
  Sym : CState → Symbol → Prop
  /-- whether the logic asks for the shape `okE e` of the AST: C05 needs `okS` (no empty assignment
      left-hand side), since it excludes Go panics -/
  ok : Prop
  /-- the labelling of source positions, and whether the logic asks for `labE lab l e`: only the
      source map cares -/
  lab : Nat → Nat
  lb : Prop
  /-- whether the logic asks for the jump freeness `jfE e`: only a logic that cannot follow `curPos`
      and `changeOperand` does -/
  jf : Prop
  /-- the modes: `e l` inside the code of an expression all of whose positions have label `l`, `s`
      between statements; `Emit X pos op Y`: emitting `op` at source position `pos` leads from `X` to `Y` -/
  e : Nat → M
  s : M
  Emit : M → Pos → Nat → M → Prop

def Logic.plain (Sat : {α : Type} → CM α → CState → (α → CState → Prop) → Prop) (Inv : CState → Prop)
    (Rel : CState → CState → Prop) (St : CState → List Nat → List Nat → List Nat → CState → Prop)
    (Sym : CState → Symbol → Prop) (ok : Prop) : Logic where
  Sat := Sat
  M := Unit
  Inv _ := Inv
  Rel := Rel
  St _ := St
  Sym := Sym
  ok := ok
  lab _ := 0
  lb := False
  jf := False
  e _ := ()
  s := ()
  Emit _ _ _ _ := True

def Asks (p : Prop) (b : Bool) : Prop := p → b = true

theorem Asks.and {p : Prop} {a b : Bool} (h : Asks p (a && b)) : Asks p a ∧ Asks p b :=
  ⟨fun k => (Bool.and_eq_true a b ▸ h k).1, fun k => (Bool.and_eq_true a b ▸ h k).2⟩

theorem Asks.of_false {p : Prop} {b : Bool} (h : Asks p false) : Asks p b := fun k => nomatch h k

namespace Logic
variable (L : Logic)

abbrev Ok (b : Bool) : Prop := Asks L.ok b
abbrev Lb (b : Bool) : Prop := Asks L.lb b
abbrev Jf (b : Bool) : Prop := Asks L.jf b

def GoodP {α} (X Y : L.M) (P : α → Prop) (m : CM α) : Prop :=
  ∀ s, L.Inv X s → L.Sat m s (fun a s' => L.Inv Y s' ∧ L.Rel s s' ∧ P a)

abbrev Good {α} (X Y : L.M) (m : CM α) : Prop := L.GoodP X Y (fun _ => True) m

abbrev GoodE {α} (l : Nat) (m : CM α) : Prop := L.Good (L.e l) (L.e l) m

abbrev GoodS {α} (m : CM α) : Prop := L.Good L.s L.s m

abbrev At (pos : Pos) (l : Nat) : Prop := L.Lb (L.lab pos == l)

abbrev LastOK (l : Nat) (last : Option (CM Unit × VSum)) : Prop := ∀ x, last = some x → L.Good L.s (L.e l) x.1

/-- used at `a = okE e`, `b = labE lab l e`, `c = jfE e` and their likes -/
abbrev Ast (a b c : Bool) : Prop := L.Ok a ∧ L.Lb b ∧ L.Jf c

end Logic

/-- `compileDefineAssign` is called with `allowRedefine` only for keywords other than `const` -/
abbrev AllowOK (kw : Nat) (allow : Bool) : Prop := allow = true → kw ≠ tConst

def Blind (f : CState → CState) : Prop :=
  ∀ (s : CState) a m, f { s with insts := a, sourceMap := m } = { f s with insts := a, sourceMap := m }

theorem Blind.insts {f : CState → CState} (h : Blind f) (s : CState) : (f s).insts = s.insts :=
  have := congrArg CState.insts (h s s.insts s.sourceMap)
  this

theorem Blind.sourceMap {f : CState → CState} (h : Blind f) (s : CState) : (f s).sourceMap = s.sourceMap :=
  have := congrArg CState.sourceMap (h s s.insts s.sourceMap)
  this

structure Modes (L : Logic) : Prop where
  -- between statements more is known than inside an expression
  pre : ∀ {α} {l : Nat} {Y : L.M} {P : α → Prop} {m : CM α}, L.GoodP (L.e l) Y P m → L.GoodP L.s Y P m
  post : ∀ {α} {l : Nat} {X : L.M} {P : α → Prop} {m : CM α}, L.GoodP X L.s P m → L.GoodP X (L.e l) P m
  emitE : ∀ {pos : Pos} {op l : Nat}, L.At pos l → L.Emit (L.e l) pos op (L.e l)
  emitES : ∀ {pos : Pos} {op l : Nat}, L.At pos l → isCallOp op = false → L.Emit (L.e l) pos op L.s
  emitS : ∀ {pos : Pos} {op : Nat}, isCallOp op = false → L.Emit L.s pos op L.s

theorem Modes.plain {Sat : {α : Type} → CM α → CState → (α → CState → Prop) → Prop} {Inv : CState → Prop}
    {Rel : CState → CState → Prop} {St : CState → List Nat → List Nat → List Nat → CState → Prop}
    {Sym : CState → Symbol → Prop} {ok : Prop} : Modes (Logic.plain Sat Inv Rel St Sym ok) where
  pre h := h
  post h := h
  emitE _ := trivial
  emitES _ _ := trivial
  emitS _ := trivial

inductive SymOp : Scope → Nat → Prop
  | getGlobal : SymOp .global OpGetGlobal
  | getLocal : SymOp .local_ OpGetLocal
  | getBuiltin : SymOp .builtin OpGetBuiltin
  | getFree : SymOp .free OpGetFree
  | setGlobal : SymOp .global OpSetGlobal
  | setLocal : SymOp .local_ OpSetLocal
  | setFree : SymOp .free OpSetFree

structure Rules (L : Logic) : Prop extends Modes L where
  satPure : ∀ {α} {a : α} {s : CState} {Q : α → CState → Prop}, Q a s → L.Sat (Pure.pure a : CM α) s Q
  pureP : ∀ {α} {X : L.M} {P : α → Prop} {a : α}, P a → L.GoodP X X P (Pure.pure a : CM α)
  /-- what is known of the intermediate value may mention the state: `resolveS` needs it -/
  satBind : ∀ {α β} {Y Z : L.M} {P : α → CState → Prop} {R : β → Prop} {m : CM α} {f : α → CM β} {s : CState},
    L.Sat m s (fun a s1 => L.Inv Y s1 ∧ L.Rel s s1 ∧ P a s1) →
    (∀ a s1, L.Inv Y s1 → P a s1 → L.Sat (f a) s1 (fun b s' => L.Inv Z s' ∧ L.Rel s1 s' ∧ R b)) →
    L.Sat (m >>= f) s (fun b s' => L.Inv Z s' ∧ L.Rel s s' ∧ R b)
  getP : ∀ {β} {X Y : L.M} {R : β → Prop} {f : CState → CM β},
    (∀ (s : CState) a m, f { s with insts := a, sourceMap := m } = f s) → (∀ s0, L.GoodP X Y R (f s0)) →
    L.GoodP X Y R (get >>= f)
  cerrP : ∀ {α} {X Y : L.M} {P : α → Prop} {pos : Pos} {msg : String}, L.GoodP X Y P (cerr pos msg : CM α)
  unsupportedP : ∀ {α} {X Y : L.M} {P : α → Prop} {msg : String}, L.GoodP X Y P (cunsupported msg : CM α)
  /-- the index panic of `lhs[0]`: only where the AST may have an empty left-hand side -/
  panicP : ∀ {α} {X Y : L.M} {P : α → Prop} {msg : String}, L.Ok false → L.GoodP X Y P (cpanic msg : CM α)
  init : ∀ {X : L.M} {s : CState}, L.Jf false → L.Inv X s → L.St X s [] [] [] s
  done : ∀ {X : L.M} {s0 s : CState} {ps ts ins : List Nat}, L.St X s0 ps ts ins s → L.Inv X s ∧ L.Rel s0 s ∧ True
  stGood : ∀ {α β} {X Y : L.M} {P : α → Prop} {m : CM α} {f : α → CM β} {s0 s : CState} {ps ts ins : List Nat}
    {Q : β → CState → Prop}, L.GoodP X Y P m → L.St X s0 ps ts ins s →
    (∀ a s', P a → L.St Y s0 ps ts ins s' → L.Sat (f a) s' Q) → L.Sat (m >>= f) s Q
  stCurPos : ∀ {β} {X : L.M} {f : Nat → CM β} {s0 s : CState} {ps ts ins : List Nat} {Q : β → CState → Prop},
    L.St X s0 ps ts ins s → (L.St X s0 ps (s.insts.size :: ts) ins s → L.Sat (f s.insts.size) s Q) → L.Sat (curPos >>= f) s Q
  stEmitTgt : ∀ {β} {X Y : L.M} {pos : Pos} {op : Nat} {args : List Int} {f : Nat → CM β} {s0 s : CState} {ps ts ins : List Nat}
    {Q : β → CState → Prop}, L.St X s0 ps ts ins s → op < numOpcodes →
    (StaticArgs op args ∨ (ArgsIn ts args ∧ (isJumpOp op = true ∨ op = OpSetupTry))) → L.Emit X pos op Y →
    (∀ s', L.St Y s0 ps (s.insts.size :: ts) (s.insts.size :: ins) s' → L.Sat (f s.insts.size) s' Q) →
    L.Sat (emit pos op args >>= f) s Q
  stEmit : ∀ {β} {X Y : L.M} {pos : Pos} {op : Nat} {args : List Int} {f : Nat → CM β} {s0 s : CState} {ps ts ins : List Nat}
    {Q : β → CState → Prop}, L.St X s0 ps ts ins s → op < numOpcodes → (isJumpOp op = true ∨ op = OpSetupTry) →
    (StaticArgs op args ∨ ArgsIn ts args) → L.Emit X pos op Y →
    (∀ s', L.St Y s0 (s.insts.size :: ps) (s.insts.size :: ts) (s.insts.size :: ins) s' → L.Sat (f s.insts.size) s' Q) →
    L.Sat (emit pos op args >>= f) s Q
  /-- `args.length = 2`: the patch of a SETUPTRY, whose operands are 0 or lie strictly inside the stream -/
  stPatch : ∀ {β} {X : L.M} {p : Nat} {args : List Int} {f : Unit → CM β} {s0 s : CState} {ps ts ins : List Nat}
    {Q : β → CState → Prop}, L.St X s0 ps ts ins s → p ∈ ps → ArgsIn ts args →
    (args.length = 2 → ArgsIn ins args) →
    (∀ s', L.St X s0 ps ts ins s' → L.Sat (f ()) s' Q) → L.Sat (changeOperand p args >>= f) s Q
  stWithLoop : ∀ {β} {X Y : L.M} {body : CM Unit} {f : Loop → CM β} {s0 s : CState} {ps ts ins : List Nat}
    {Q : β → CState → Prop}, L.Good X Y body → L.St X s0 ps ts ins s →
    (∀ loop s', L.St Y s0 (loop.breaks ++ loop.continues ++ ps) ts ins s' → L.Sat (f loop) s' Q) →
    L.Sat (withLoop body >>= f) s Q
  stModLoop : ∀ {β} {X : L.M} {f : Loop → Loop} {p : Nat} {k : Unit → CM β} {s0 s : CState} {ps ts ins : List Nat}
    {Q : β → CState → Prop}, L.St X s0 ps ts ins s → p ∈ ps →
    (∀ l q, (q ∈ (f l).breaks → q ∈ l.breaks ∨ q = p) ∧ (q ∈ (f l).continues → q ∈ l.continues ∨ q = p)) →
    (∀ s', L.St X s0 ps ts ins s' → L.Sat (k ()) s' Q) → L.Sat (modLoop f >>= k) s Q
  headTableP : ∀ {X : L.M}, L.Good X X headTable
  emit_P : ∀ {X Y : L.M} (pos : Pos) {op : Nat} (args : List Int), PlainOp op → L.Emit X pos op Y →
    L.Good X Y (emit_ pos op args)
  /-- the private `:makeArray` of destructuring -/
  makeArrayP : ∀ {X Y : L.M} (pos : Pos), L.Emit X pos OpGetBuiltin Y →
    L.Good X Y (emit_ pos OpGetBuiltin [Gen.builtinMakeArray])
  emitConstantP : ∀ {X Y : L.M} (pos : Pos) (v : CVal), L.Emit X pos OpConstant Y → L.Good X Y (emitConstant pos v)
  defineLocalP : ∀ {X : L.M} (name : String), L.Good X X (defineLocal name)
  modifyP : ∀ {X : L.M} {f : CState → CState}, (∀ s, (f s).tables = s.tables) → Blind f →
    (∀ s, (f s).loops = s.loops) → (∀ s, (f s).constants = s.constants) → (∀ s, (f s).builtins = s.builtins) →
    L.Good X X (modify f : CM Unit)
  defineConstLitP : ∀ {X : L.M} (name : String) (v : VSum), L.Good X X (defineConstLit name v)
  resolveS : ∀ {X : L.M} (name : String) {s : CState}, L.Inv X s →
    L.Sat (resolve name) s (fun r s' => L.Inv X s' ∧ L.Rel s s' ∧ ∀ y, r = some y → L.Sym s' y)
  emitSymS : ∀ {X Y : L.M} (pos : Pos) {op : Nat} {y : Symbol} {sc : Scope} {s : CState}, L.Inv X s → L.Sym s y →
    y.scope = sc → SymOp sc op → L.Emit X pos op Y →
    L.Sat (emit_ pos op [y.index]) s (fun _ s' => L.Inv Y s' ∧ L.Rel s s' ∧ True)
  symConstLit : ∀ {s : CState} {y : Symbol}, L.Sym s y → y.scope = .constLit →
    L.Ok false ∨ (y.constant = true ∧ y.constLit.isSome = true)
  compileDefineP : ∀ {l : Nat} (pos : Pos) (ident : String) (allow : Bool) (kw : Nat), AllowOK kw allow → L.At pos l →
    L.Good (L.e l) L.s (compileDefine pos ident allow kw)
  setParamsP : ∀ {X : L.M} (pos : Pos) (ps : List String), L.Good X X (setParams pos ps)
  declGlobalsP : ∀ {X : L.M} (pos : Pos) (l : List (Pos × String × Bool)), L.Good X X (declGlobals pos l)
  withBlockP : ∀ {X : L.M} {body : CM Unit}, L.Good X X body → L.Good X X (withBlock body)
  /-- `compileExpr` on a function literal; a logic that asks the syntax to be jump free has to cope
      with any body -/
  funcLitP : ∀ {l : Nat} (pos : Pos) (variadic : Bool) (params : List String) {body : CM Unit} {b : Bool}, L.At pos l →
    (L.Jf b → L.GoodS body) →
    L.GoodE l (do
      let (fn, ft) ← withFn pos variadic params body
      emitFreePtrs pos ft.frees
      if fn.numLocals > 256 then throw (.err pos "SymbolLimitError: number of local symbols exceeds the limit")
      else do
        emitFnConstant pos fn ft.frees.length)

/-- size side conditions -/
syntax "sz" : tactic
macro_rules | `(tactic| sz) => `(tactic| (simp at *; omega))

/-- side goals `isJumpOp op = true ∨ op = OpSetupTry` -/
syntax "jmp" : tactic
macro_rules | `(tactic| jmp) => `(tactic| first | exact .inl rfl | exact .inr rfl | (split <;> exact .inl rfl))


/-- the defining equation of `compileStmt` (copied from the model; checked by `rfl` per case) -/
theorem compileStmt_eq (st : Stmt) : compileStmt st = (match st with
  | .empty _ => pure ()
  | .expr pos e => do compileExpr e; emit_ pos OpPop
  | .incdec pos tok tokPos e => do
    compileExpr e
    emitConstant tokPos (.int 1#64)
    (match compoundOp (if tok == tDec then tSubAssign else tAddAssign) with
     | some t => emit_ pos OpBinaryOp [t]
     | none => pure ())
    compileDefineAssign pos e tVar (if tok == tDec then tSubAssign else tAddAssign) false
  | .assign pos tok lhs rhs =>
    compileAssign pos lhs rhs.length (compileExprs rhs)
      (match lhs with
       | e0 :: _ => compileExpr e0
       | [] => cpanic "runtime error: index out of range [0] with length 0")
      (match lhs with
       | e0 :: _ => compileDefineAssign pos e0 tVar tok false
       | [] => cpanic "runtime error: index out of range [0] with length 0")
      (fun tempIdx => compileDestructure pos tVar tok lhs.length tempIdx lhs 0 0) tok
  | .block _ body => blockOf body (compileStmts body)
  | .if_ pos init cond _ body else_ =>
    withBlock do
      (match init with | some i => compileStmt i | none => pure ())
      match cond with
      | .bool _ true => blockOf body (compileStmts body)
      | .bool _ false => do
        let j ← emit pos OpJump [0]
        match else_ with
        | some e => do
          let j2 ← emit pos OpJump [0]
          changeOperand j [(← curPos)]
          compileStmt e
          changeOperand j2 [(← curPos)]
        | none => changeOperand j [(← curPos)]
      | c => do
        compileExpr c
        let j ← emit pos OpJumpFalsy [0]
        blockOf body (compileStmts body)
        match else_ with
        | some e => do
          let j2 ← emit pos OpJump [0]
          changeOperand j [(← curPos)]
          compileStmt e
          changeOperand j2 [(← curPos)]
        | none => changeOperand j [(← curPos)]
  | .try_ pos _ body catch_ finally_ => do
    withBlock do
      modify fun s => { s with tryCatchIndex := s.tryCatchIndex + 1 }
      let optry ← emit pos OpSetupTry [0, 0]
      compileStmts body
      match catch_ with
      | some (cpos, ident, _, cbody) => do
        (match ident with
         | some name => do emit_ cpos OpNull; defineCatchIdent pos name
         | none => pure ())
        let opjump ← emit pos OpJump [0]
        let catchPos ← curPos
        emit_ cpos OpSetupCatch
        (match ident with
         | some name => defineCatchIdent cpos name
         | none => emit_ cpos OpPop)
        compileStmts cbody
        let finallyPos ← (match finally_ with
          | some (fpos, _, fbody) => do let p ← emit fpos OpSetupFinally; compileStmts fbody; pure p
          | none => emit pos OpSetupFinally)
        changeOperand optry [catchPos, finallyPos]
        changeOperand opjump [finallyPos]
      | none => do
        let finallyPos ← (match finally_ with
          | some (fpos, _, fbody) => do let p ← emit fpos OpSetupFinally; compileStmts fbody; pure p
          | none => emit pos OpSetupFinally)
        changeOperand optry [0, finallyPos]
    emit_ pos OpThrow [0]
    modify fun s => { s with tryCatchIndex := s.tryCatchIndex - 1 }
  | .throw pos e => do
    (match e with | some x => compileExpr x | none => pure ())
    emit_ pos OpThrow [1]
  | .branch pos tok => compileBranch pos tok
  | .return_ pos e =>
    match e with
    | none => do
      let s ← get
      (if s.tryCatchIndex > -1 then emit_ pos OpFinalizer [0] else pure ())
      emit_ pos OpReturn [0]
    | some x => do
      compileExpr x
      let s ← get
      (if s.tryCatchIndex > -1 then emit_ pos OpFinalizer [0] else pure ())
      emit_ pos OpReturn [1]
  | .for_ pos init cond post _ body =>
    withBlock do
      (match init with | some i => compileStmt i | none => pure ())
      let preCondPos ← curPos
      let postCondPos ← (match cond with
        | some c => do compileExpr c; let p ← emit pos OpJumpFalsy [0]; pure (some p)
        | none => pure none)
      let loop ← withLoop (blockOf body (compileStmts body))
      let postBodyPos ← curPos
      (match post with | some p => compileStmt p | none => pure ())
      emit_ pos OpJump [preCondPos]
      let postStmtPos ← curPos
      (match postCondPos with | some j => changeOperand j [postStmtPos] | none => pure ())
      patchAll postStmtPos loop.breaks
      patchAll postBodyPos loop.continues
  | .forin pos key value iter _ body =>
    withBlock do
      let (itSym, exists_) ← defineLocal ":it"
      if exists_ then cerr pos ":it redeclared in this block"
      else do
        compileExpr iter
        emit_ pos OpIterInit
        emit_ pos OpDefineLocal [itSym.index]
        let preCondPos ← curPos
        emit_ pos OpGetLocal [itSym.index]
        emit_ pos OpIterNext
        let postCondPos ← emit pos OpJumpFalsy [0]
        let loop ← withLoop (do
          forinVar pos itSym.index OpIterKey key
          forinVar pos itSym.index OpIterValue value
          blockOf body (compileStmts body))
        let postBodyPos ← curPos
        emit_ pos OpJump [preCondPos]
        let postStmtPos ← curPos
        changeOperand postCondPos [postStmtPos]
        patchAll postStmtPos loop.breaks
        patchAll postBodyPos loop.continues
  | .declParam pos specs => do
    if specs.isEmpty then cerr pos "empty declaration not allowed"
    else if (← get).tables.length > 1 then cerr pos "param not allowed in this scope"
    else do
      declParamVariadic pos specs
      setParams pos (specs.map fun (_, n, _) => n)
  | .declGlobal pos specs => do
    if specs.isEmpty then cerr pos "empty declaration not allowed"
    else if (← get).tables.length > 1 then cerr pos "global not allowed in this scope"
    else declGlobals pos specs
  | .declValue pos tok specs => do
    if specs.isEmpty then cerr pos "empty declaration not allowed"
    else do
      compileValueSpecs pos tok specs none
      if tok == tConst then modify fun s => { s with iotaVal := -1 }) := by
  cases st with
  | if_ pos init cond bp body els =>
    cases init <;> cases els <;> cases cond <;> first | rfl | (rename_i b; cases b <;> rfl)
  | for_ pos init cond post bp body => cases init <;> cases cond <;> cases post <;> rfl
  | try_ pos bp body c f =>
    cases c with
    | none => cases f with
      | none => rfl
      | some fv => obtain ⟨f1, f2, f3⟩ := fv; rfl
    | some cv =>
      obtain ⟨c1, c2, c3, c4⟩ := cv
      cases f with
      | none => rfl
      | some fv => obtain ⟨f1, f2, f3⟩ := fv; rfl
  | throw pos e => cases e <;> rfl
  | return_ pos e => cases e <;> rfl
  | assign pos tok lhs rhs => cases lhs <;> rfl
  | _ => rfl


structure All (L : Logic) (n : Nat) : Prop where
  expr : ∀ e l, sizeOf e < n → L.Ast (okE e) (labE L.lab l e) (jfE e) → L.GoodE l (compileExpr e)
  exprs : ∀ es l, sizeOf es < n → L.Ast (okEs es) (labEs L.lab l es) (jfEs es) → L.GoodE l (compileExprs es)
  mapElems : ∀ pos {l}, L.At pos l → ∀ ms, sizeOf ms < n → L.Ast (okMs ms) (labMs L.lab l ms) (jfMs ms) →
    L.GoodE l (compileMapElems pos ms)
  indexChain : ∀ e self l, sizeOf e < n → L.Ast (okE e) (labE L.lab l e) (jfE e) → L.GoodE l self →
    L.GoodE l (compileIndexChain e self)
  selChain : ∀ e l, sizeOf e < n → L.Ast (okE e) (labE L.lab l e) (jfE e) → L.GoodE l (compileSelChain e)
  stmts : ∀ ss, sizeOf ss < n → L.Ast (okSs ss) (labSs L.lab ss) (jfSs ss) → L.GoodS (compileStmts ss)
  defineAssign : ∀ pos lhs kw op allow l, sizeOf lhs < n → L.At pos l → L.Ast (okE lhs) (labE L.lab l lhs) (jfE lhs) →
    AllowOK kw allow → L.Good (L.e l) L.s (compileDefineAssign pos lhs kw op allow)
  destructure : ∀ pos kw op num tmp {l}, L.At pos l → ∀ es k found, sizeOf es < n → L.Ast (okEs es) (labEs L.lab l es) (jfEs es) →
    L.GoodS (compileDestructure pos kw op num tmp es k found)
  valueIdents : ∀ pos tok {l}, L.At pos l → ∀ ids vals last, sizeOf vals < n → L.Ast (okVals vals) (labVals L.lab l vals) (jfVals vals) →
    L.LastOK l last → L.GoodP L.s L.s (L.LastOK l) (compileValueIdents pos tok ids vals last)
  valueSpecs : ∀ pos tok {l}, L.At pos l → ∀ specs last, sizeOf specs < n →
    L.Ast (okSpecs specs) (labSpecs L.lab l specs) (jfSpecs specs) → L.LastOK l last → L.GoodS (compileValueSpecs pos tok specs last)
  stmt : ∀ st, sizeOf st < n → L.Ast (okS st) (labS L.lab st) (jfS st) → L.GoodS (compileStmt st)

theorem compileStmts_nil : compileStmts [] = (pure () : CM Unit) := by unfold compileStmts; rfl
theorem compileStmts_cons (st : Stmt) (r : List Stmt) :
    compileStmts (st :: r) = (do compileStmt st; compileStmts r) := by
  conv => lhs; unfold compileStmts

namespace Rules
variable {L : Logic}

theorem sat_of_bind_pure {α} {m : CM α} {s : CState} {Q : α → CState → Prop}
    (h : L.Sat (m >>= Pure.pure) s Q) : L.Sat m s Q := by
  rwa [bind_pure] at h

theorem iteP {α} {X Y : L.M} {c : Prop} [Decidable c] {P : α → Prop} {a b : CM α} (ha : L.GoodP X Y P a)
    (hb : L.GoodP X Y P b) : L.GoodP X Y P (if c then a else b) := by
  split <;> assumption

theorem ast_and {a a' b b' c c' : Bool} (h : L.Ast (a && a') (b && b') (c && c')) : L.Ast a b c ∧ L.Ast a' b' c' :=
  ⟨⟨h.1.and.1, h.2.1.and.1, h.2.2.and.1⟩, h.1.and.2, h.2.1.and.2, h.2.2.and.2⟩

theorem ast_at {a p b c : Bool} (h : L.Ast a (p && b) c) : L.Lb p ∧ L.Ast a b c :=
  ⟨h.2.1.and.1, h.1, h.2.1.and.2, h.2.2⟩

theorem ast_at2 {a a' p b b' c c' : Bool} (h : L.Ast (a && a') (p && b && b') (c && c')) :
    L.Lb p ∧ L.Ast a b c ∧ L.Ast a' b' c' :=
  have h2 := ast_and h
  ⟨(ast_at h2.1).1, (ast_at h2.1).2, h2.2⟩

theorem ast_exf {a b c : Bool} (h : L.Ast a b false) : L.Ast a b c := ⟨h.1, h.2.1, h.2.2.of_false⟩

theorem ast_andF {a a' b b' : Bool} (h : L.Ast (a && a') (b && b') false) : L.Ast a b false ∧ L.Ast a' b' false :=
  ast_and (c := false) (c' := false) h

theorem at_self (pos : Pos) : L.At pos (L.lab pos) := fun _ => beq_self_eq_true _

variable (R : Rules L)
include R

theorem bindP {α β} {X Y Z : L.M} {P : α → Prop} {Q : β → Prop} {m : CM α} {f : α → CM β} (hm : L.GoodP X Y P m)
    (hf : ∀ a, P a → L.GoodP Y Z Q (f a)) : L.GoodP X Z Q (m >>= f) :=
  fun s hs => R.satBind (P := fun a _ => P a) (hm s hs) fun a s1 h1 pa => hf a pa s1 h1

theorem stLast {X Y : L.M} {m : CM Unit} {s0 s : CState} {ps ts ins : List Nat} (hm : L.Good X Y m) (hst : L.St X s0 ps ts ins s) :
    L.Sat m s (fun _ s' => L.Inv Y s' ∧ L.Rel s0 s' ∧ True) :=
  sat_of_bind_pure (R.stGood hm hst fun _ _ _ h => R.satPure (R.done h))

theorem stCerr {α} {X : L.M} {pos : Pos} {msg : String} {s0 s : CState} {ps ts ins : List Nat} {Q : α → CState → Prop}
    (hst : L.St X s0 ps ts ins s) : L.Sat (cerr pos msg : CM α) s Q :=
  sat_of_bind_pure (R.stGood (Y := X) (P := fun _ => False) R.cerrP hst fun _ _ h => h.elim)

theorem stEmit_ {β} {X Y : L.M} {pos : Pos} {op : Nat} {args : List Int} {f : Unit → CM β} {s0 s : CState} {ps ts ins : List Nat}
    {Q : β → CState → Prop} (hst : L.St X s0 ps ts ins s) (hop : op < numOpcodes)
    (ha : StaticArgs op args ∨ (ArgsIn ts args ∧ (isJumpOp op = true ∨ op = OpSetupTry))) (hE : L.Emit X pos op Y)
    (h : ∀ s', L.St Y s0 ps (s.insts.size :: ts) (s.insts.size :: ins) s' → L.Sat (f ()) s' Q) :
    L.Sat (emit_ pos op args >>= f) s Q := by
  unfold emit_
  rw [bind_assoc]
  simp only [pure_bind]
  exact R.stEmitTgt hst hop ha hE h

theorem stPatch1 {β} {X : L.M} {p t : Nat} {f : Unit → CM β} {s0 s : CState} {ps ts ins : List Nat} {Q : β → CState → Prop}
    (hst : L.St X s0 ps ts ins s) (hp : p ∈ ps) (ht : t ∈ ts) (h : ∀ s', L.St X s0 ps ts ins s' → L.Sat (f ()) s' Q) :
    L.Sat (changeOperand p [(t : Int)] >>= f) s Q :=
  R.stPatch hst hp (argsIn_one (.inr ht)) nofun h

theorem stPatchAll {β} {X : L.M} {target : Nat} {l : List Nat} {f : Unit → CM β} {s0 s : CState} {ps ts ins : List Nat}
    {Q : β → CState → Prop} (hst : L.St X s0 ps ts ins s) (hsub : ∀ p ∈ l, p ∈ ps) (ht : target ∈ ts)
    (h : ∀ s', L.St X s0 ps ts ins s' → L.Sat (f ()) s' Q) : L.Sat (patchAll target l >>= f) s Q := by
  induction l generalizing s with
  | nil => rw [patchAll, pure_bind]; exact h s hst
  | cons p r ih =>
    rw [patchAll, bind_assoc]
    exact R.stPatch1 hst (hsub p (by simp)) ht fun _ hst' => ih hst' fun q hq => hsub q (by simp [hq])

theorem stPatch1Last {X : L.M} {p t : Nat} {s0 s : CState} {ps ts ins : List Nat} (hst : L.St X s0 ps ts ins s) (hp : p ∈ ps)
    (ht : t ∈ ts) : L.Sat (changeOperand p [(t : Int)]) s (fun _ s' => L.Inv X s' ∧ L.Rel s0 s' ∧ True) :=
  sat_of_bind_pure (R.stPatch1 hst hp ht fun _ h => R.satPure (R.done h))

theorem stPatchAllLast {X : L.M} {target : Nat} {l : List Nat} {s0 s : CState} {ps ts ins : List Nat} (hst : L.St X s0 ps ts ins s)
    (hsub : ∀ p ∈ l, p ∈ ps) (ht : target ∈ ts) :
    L.Sat (patchAll target l) s (fun _ s' => L.Inv X s' ∧ L.Rel s0 s' ∧ True) :=
  sat_of_bind_pure (R.stPatchAll hst hsub ht fun _ h => R.satPure (R.done h))

theorem emitE_ {l : Nat} (pos : Pos) {op : Nat} (args : List Int) (hp : L.At pos l) (hop : PlainOp op) :
    L.GoodE l (emit_ pos op args) := R.emit_P pos args hop (R.emitE hp)

theorem emitES_ {l : Nat} (pos : Pos) {op : Nat} (args : List Int) (hp : L.At pos l) (hop : PlainOp op)
    (hnc : isCallOp op = false) : L.Good (L.e l) L.s (emit_ pos op args) := R.emit_P pos args hop (R.emitES hp hnc)

theorem emitS_ (pos : Pos) {op : Nat} (args : List Int) (hop : PlainOp op) (hnc : isCallOp op = false) :
    L.GoodS (emit_ pos op args) := R.emit_P pos args hop (R.emitS hnc)

theorem miscP {X : L.M} (f : CState → CState) (h1 : ∀ s, (f s).tables = s.tables := by intro _; rfl)
    (h2 : Blind f := by intro _ _ _; rfl) (h3 : ∀ s, (f s).loops = s.loops := by intro _; rfl)
    (h4 : ∀ s, (f s).constants = s.constants := by intro _; rfl)
    (h5 : ∀ s, (f s).builtins = s.builtins := by intro _; rfl) : L.Good X X (modify f : CM Unit) :=
  R.modifyP h1 h2 h3 h4 h5

theorem blockOfP {X : L.M} {body : List Stmt} {act : CM Unit} (h : L.Good X X act) : L.Good X X (blockOf body act) :=
  iteP (R.pureP trivial) (R.withBlockP h)

theorem emitConstLitP {X Y : L.M} (pos : Pos) (v : CVal) (h : ∀ op, L.Emit X pos op Y) : L.Good X Y (emitConstLit pos v) := by
  unfold emitConstLit
  split
  · exact R.emit_P pos _ (by decide) (h _)
  · exact R.emit_P pos _ (by decide) (h _)
  · exact R.emit_P pos _ (by decide) (h _)
  · exact R.emitConstantP pos v (h _)

/-- in a CONSTLIT symbol without a literal the compiler would panic: `symConstLit` -/
theorem compileIdentP {l : Nat} (pos : Pos) (name : String) (hp : L.At pos l) : L.GoodE l (compileIdent pos name) := by
  intro s hs
  unfold compileIdent
  refine R.satBind (R.resolveS name hs) fun r s1 hs1 hr => ?_
  split
  · exact R.getP (fun _ _ _ => rfl) (fun _ => iteP R.cerrP (R.emitConstantP pos _ (R.emitE hp))) s1 hs1
  · rename_i sym
    have hy := hr sym rfl
    split
    · exact R.emitSymS pos hs1 hy ‹_› .getGlobal (R.emitE hp)
    · exact R.emitSymS pos hs1 hy ‹_› .getLocal (R.emitE hp)
    · exact R.emitSymS pos hs1 hy ‹_› .getBuiltin (R.emitE hp)
    · exact R.emitSymS pos hs1 hy ‹_› .getFree (R.emitE hp)
    · rcases R.symConstLit hy ‹_› with hok | ⟨hc, hv⟩
      · refine iteP ?_ (R.panicP hok) s1 hs1
        split
        · exact R.emitConstLitP pos _ fun _ => R.emitE hp
        · exact R.panicP hok
      · rw [if_pos hc]
        cases hl : sym.constLit with
        | none => rw [hl] at hv; cases hv
        | some v => exact R.emitConstLitP pos v (fun _ => R.emitE hp) s1 hs1

/-- the jump of `break` / `continue` is patched by the enclosing loop statement -/
theorem compileBranchP (pos : Pos) (tok : Nat) (hj : L.Jf false) : L.GoodS (compileBranch pos tok) := by
  refine iteP (R.bindP (P := fun _ => True) (R.getP (fun _ _ _ => rfl) fun _ => R.pureP trivial) fun cl _ => ?_) R.cerrP
  split
  · exact R.cerrP
  · refine R.getP (fun _ _ _ => rfl) fun s0 s hs => ?_
    have hst := R.init hj hs
    apply R.stGood (iteP (R.emitS_ pos _ (by decide) (by decide)) (R.pureP trivial)) hst; intro _ s1 _ hst
    apply R.stEmit hst (by decide) (.inl rfl) (.inl (by opa)) (R.emitS (by decide)); intro s2 hst
    have hm : ∀ f : Loop → Loop, (∀ l q, (q ∈ (f l).breaks → q ∈ l.breaks ∨ q = s1.insts.size) ∧
        (q ∈ (f l).continues → q ∈ l.continues ∨ q = s1.insts.size)) →
        L.Sat (modLoop f) s2 (fun _ s' => L.Inv L.s s' ∧ L.Rel s s' ∧ True) :=
      fun f hf => sat_of_bind_pure (R.stModLoop hst (by simp) hf fun _ h => R.satPure (R.done h))
    split
    · exact hm _ fun l q => by simp; exact fun h => .inl h
    · exact hm _ fun l q => by simp; exact fun h => .inl h

theorem findSymbolSelfP {X : L.M} (name : String) : L.Good X X (findSymbolSelf name) :=
  R.bindP R.headTableP fun _ _ => R.pureP trivial

theorem defineCatchIdentP (pos : Pos) (name : String) : L.GoodS (defineCatchIdent pos name) :=
  R.bindP (R.defineLocalP name) fun _ _ => iteP (R.emitS_ pos _ (by decide) (by decide)) (R.emitS_ pos _ (by decide) (by decide))

theorem forinVarP (pos : Pos) (it : Int) {op : Nat} (name : String) (hop : PlainOp op) (hnc : isCallOp op = false) :
    L.GoodS (forinVar pos it op name) :=
  iteP (R.bindP (R.defineLocalP name) fun _ _ => iteP R.cerrP <|
    R.bindP (R.emitS_ pos _ (by decide) (by decide)) fun _ _ => R.bindP (R.emitS_ pos _ hop hnc) fun _ _ =>
      R.emitS_ pos _ (by decide) (by decide)) (R.pureP trivial)

theorem declParamVariadicP {X : L.M} (pos : Pos) : ∀ l, L.Good X X (declParamVariadic pos l)
  | [] => R.pureP trivial
  | (_, _, _) :: r =>
    R.bindP (iteP (R.getP (fun _ _ _ => rfl) fun _ => iteP R.cerrP (R.miscP _)) (R.pureP trivial)) fun _ _ =>
      declParamVariadicP pos r

theorem compileValueIdentP {l : Nat} (pos : Pos) (tok : Nat) (name : String) {act : CM Unit} (hp : L.At pos l)
    (ha : L.Good L.s (L.e l) act) (sum : VSum) : L.GoodS (compileValueIdent pos tok name act sum) :=
  R.bindP (iteP (R.defineConstLitP name sum) (R.pureP trivial)) fun _ _ =>
    iteP (R.pureP trivial) (R.bindP ha fun _ _ => R.compileDefineP pos name false tok (by intro h; cases h) hp)

theorem lastMatchP {l : Nat} (pos : Pos) (tok : Nat) (ipos : Pos) (name : String) {last : Option (CM Unit × VSum)}
    (hp : L.At pos l) (hl : L.LastOK l last) :
    L.GoodS (match (if tok == tConst then last else none) with
     | some (act, sum) => compileValueIdent pos tok name act sum
     | none => compileValueIdent pos tok name (emit_ ipos OpNull) (.lit .undefined)) := by
  split
  · rename_i act sum h
    refine R.compileValueIdentP pos tok name hp (hl (act, sum) ?_) sum
    split at h
    · exact h
    · cases h
  · exact R.compileValueIdentP pos tok name hp (R.post (R.emitS_ ipos _ (by decide) (by decide))) _

theorem compileIdentsNoValueP {l : Nat} (pos : Pos) (tok : Nat) {last : Option (CM Unit × VSum)} (hp : L.At pos l)
    (hl : L.LastOK l last) : ∀ ids : List (Pos × String), L.GoodS (compileIdentsNoValue pos tok last ids)
  | [] => R.pureP trivial
  | (ipos, name) :: rest => R.bindP (R.lastMatchP pos tok ipos name hp hl) fun _ _ => compileIdentsNoValueP pos tok hp hl rest

theorem compileAssignP {l : Nat} (pos : Pos) (lhs : List Expr) (nrhs : Nat) {rhsAct lhs0Act defAssign0 : CM Unit}
    {destruct : Int → CM Unit} (op : Nat) (hp : L.At pos l) (h1 : L.GoodE l rhsAct) (h2 : L.GoodE l lhs0Act)
    (h3 : L.Good (L.e l) L.s defAssign0) (h4 : ∀ i, L.GoodS (destruct i)) :
    L.GoodS (compileAssign pos lhs nrhs rhsAct lhs0Act defAssign0 destruct op) := by
  refine iteP R.cerrP <| iteP R.cerrP <| iteP ?_ <| iteP ?_ (R.bindP (R.pre h1) fun _ _ => h3)
  · refine R.bindP (R.pre h2) fun _ _ => R.bindP h1 fun _ _ => R.bindP (Y := L.e l) (P := fun _ => True) ?_ fun _ _ => h3
    split
    · exact R.emitE_ pos _ hp (by decide)
    · exact R.pureP trivial
  · exact R.bindP (R.defineLocalP _) fun _ _ => R.bindP (R.makeArrayP pos (R.emitS (by decide))) fun _ _ =>
      R.bindP (R.emitConstantP pos _ (R.emitS (by decide))) fun _ _ => R.bindP (R.pre h1) fun _ _ =>
      R.bindP (R.emitE_ pos _ hp (by decide)) fun _ _ => R.bindP (R.emitES_ pos _ hp (by decide) (by decide)) fun _ _ =>
      R.bindP (h4 _) fun _ _ => R.bindP R.headTableP fun _ _ =>
      iteP (R.bindP (R.emitS_ pos _ (by decide) (by decide)) fun _ _ => R.emitS_ pos _ (by decide) (by decide)) (R.pureP trivial)

theorem optStmtP {n : Nat} (ih : All L n) (o : Option Stmt)
    (h : L.Ast (match o with | some i => okS i | none => true) (match o with | some i => labS L.lab i | none => true) false)
    (hsz : sizeOf o < n) : L.GoodS (match o with | some i => compileStmt i | none => Pure.pure ()) := by
  cases o with
  | none => exact R.pureP trivial
  | some i => exact ih.stmt i (by sz) (ast_exf h)

theorem stIfTail {n : Nat} (ih : All L n) (pos : Pos) (els : Option Stmt)
    (h : L.Ast (match els with | some i => okS i | none => true) (match els with | some i => labS L.lab i | none => true) false)
    (hsz : sizeOf els < n)
    {s0 s : CState} {ps ts ins : List Nat} {j : Nat} (hst : L.St L.s s0 ps ts ins s) (hj : j ∈ ps) :
    L.Sat (match els with
      | some e => do
        let j2 ← emit pos OpJump [0]
        changeOperand j [(← curPos)]
        compileStmt e
        changeOperand j2 [(← curPos)]
      | none => do changeOperand j [(← curPos)]) s (fun _ s' => L.Inv L.s s' ∧ L.Rel s0 s' ∧ True) := by
  cases els with
  | none =>
    simp only
    apply R.stCurPos hst; intro hst
    exact R.stPatch1Last hst hj (by simp)
  | some e =>
    have he := ih.stmt e (by sz) (ast_exf h)
    simp only
    apply R.stEmit hst (by decide) (by jmp) (.inl (by opa)) (R.emitS (by decide)); intro s1 hst
    apply R.stCurPos hst; intro hst
    apply R.stPatch1 hst (by simp [hj]) (by simp); intro s3 hst
    apply R.stGood he hst; intro _ s4 _ hst
    apply R.stCurPos hst; intro hst
    exact R.stPatch1Last hst (by simp) (by simp)

theorem all : ∀ n, All L n
  | 0 => by constructor <;> intros <;> omega
  | n + 1 =>
    have ih := all n
    {
      exprs := fun
      | [], _, _, _ => R.pureP trivial
      | e :: r, l, hsz, h => by
        obtain ⟨he, hr⟩ := ast_and h
        exact R.bindP (ih.expr e l (by sz) he) fun _ _ => ih.exprs r l (by sz) hr
      mapElems := fun pos {l} hp => fun
      | [], _, _ => R.pureP trivial
      | (k, v) :: r, hsz, h => by
        obtain ⟨hv, hr⟩ := ast_and h
        exact R.bindP (R.emitConstantP pos _ (R.emitE hp)) fun _ _ => R.bindP (ih.expr v l (by sz) hv) fun _ _ =>
          ih.mapElems pos hp r (by sz) hr
      stmts := fun
      | [], _, _ => R.pureP trivial
      | st :: r, hsz, h => by
        obtain ⟨hst, hr⟩ := ast_and h
        exact R.bindP (ih.stmt st (by sz) hst) fun _ _ => ih.stmts r (by sz) hr
      indexChain := fun e self l hsz h hself => by
        unfold compileIndexChain
        split
        · rename_i e' i
          obtain ⟨_, he, hi⟩ := ast_at2 h
          exact R.bindP (ih.indexChain e' (compileExpr e') l (by sz) he (ih.expr e' l (by sz) he)) fun _ _ =>
            R.bindP (ih.expr i l (by sz) hi) fun _ _ => R.pureP trivial
        · exact R.bindP hself fun _ _ => R.pureP trivial
      selChain := fun e l hsz h => by
        unfold compileSelChain
        split
        case h_1 | h_2 =>
          rename_i e' i
          obtain ⟨_, he, hi⟩ := ast_at2 h
          exact R.bindP (ih.selChain e' l (by sz) he) fun _ _ => ih.expr i l (by sz) hi
        · exact R.pureP trivial
      defineAssign := fun pos lhs kw op allow l hsz hp h hak => by
        unfold compileDefineAssign
        split
        case h_1 | h_2 =>
          rename_i e last
          obtain ⟨_, he, hlast⟩ := ast_at2 h
          have h1 := ih.selChain e l (by sz) he
          have h2 := ih.expr last l (by sz) hlast
          intro s hs
          refine R.satBind (R.resolveS _ hs) fun r s1 hs1 hr => ?_
          split
          · exact R.cerrP s1 hs1
          · refine R.satBind (P := fun _ _ => True) ?_ fun _ s2 hs2 _ =>
              (R.bindP (iteP (R.bindP h1 fun _ _ => R.emitE_ pos _ hp (by decide)) (R.pureP trivial)) fun _ _ =>
                R.bindP h2 fun _ _ => R.emitES_ pos _ hp (by decide) (by decide)) s2 hs2
            split
            · exact R.emitSymS pos hs1 (hr _ rfl) ‹_› .getLocal (R.emitE hp)
            · exact R.emitSymS pos hs1 (hr _ rfl) ‹_› .getFree (R.emitE hp)
            · exact R.emitSymS pos hs1 (hr _ rfl) ‹_› .getGlobal (R.emitE hp)
            · exact R.cerrP s1 hs1
        · refine iteP (R.compileDefineP pos _ allow kw hak hp) fun s hs => ?_
          refine R.satBind (R.resolveS _ hs) fun r s1 hs1 hr => ?_
          split
          · exact R.cerrP s1 hs1
          · unfold compileAssignSym
            split
            · exact R.cerrP s1 hs1
            · split
              · exact R.emitSymS pos hs1 (hr _ rfl) ‹_› .setLocal (R.emitES hp (by decide))
              · exact R.emitSymS pos hs1 (hr _ rfl) ‹_› .setFree (R.emitES hp (by decide))
              · exact R.emitSymS pos hs1 (hr _ rfl) ‹_› .setGlobal (R.emitES hp (by decide))
              · exact R.cerrP s1 hs1
      destructure := fun pos kw op num tmp {l} hp => fun
      | [], _, _, _, _ => R.pureP trivial
      | e :: r, k, found, hsz, h => by
        obtain ⟨he, hr⟩ := ast_and h
        have h1 := ih.defineAssign pos e kw op (kw != tConst) l (by sz) hp he (by intro h; simpa using h)
        have h2 := fun k f => ih.destructure pos kw op num tmp hp r k f (by sz) hr
        have hfound : L.GoodS (if op == tDefine then
            (match e with
             | .ident _ n => do if (← findSymbolSelf n).isSome then Pure.pure (found + 1) else Pure.pure found
             | _ => Pure.pure found)
          else Pure.pure found) := by
          refine iteP ?_ (R.pureP trivial)
          split
          · exact R.bindP (R.findSymbolSelfP _) fun _ _ => iteP (R.pureP trivial) (R.pureP trivial)
          · exact R.pureP trivial
        -- the three loads of the element are expression code at the label of the statement
        exact R.bindP hfound fun _ _ => iteP R.cerrP <| R.pre <|
          R.bindP (R.emitE_ pos _ hp (by decide)) fun _ _ => R.bindP (R.emitConstantP pos _ (R.emitE hp)) fun _ _ =>
          R.bindP (R.emitE_ pos _ hp (by decide)) fun _ _ => R.bindP h1 fun _ _ => h2 _ _
      valueIdents := fun pos tok {l} hp => fun
      | [], vals, last, _, _, hlast => by
        unfold compileValueIdents
        exact R.pureP hlast
      | id :: irest, [], last, _, _, hlast => R.bindP (R.compileIdentsNoValueP pos tok hp hlast _) fun _ _ => R.pureP hlast
      | (ipos, name) :: irest, some e :: vrest, last, hsz, h, hlast => by
        obtain ⟨hv, hr⟩ := ast_and h
        have he : L.Good L.s (L.e l) (compileExpr e) := R.pre (ih.expr e l (by sz) hv)
        refine R.bindP (R.compileValueIdentP pos tok name hp he _) fun _ _ => ?_
        exact ih.valueIdents pos tok hp irest vrest _ (by sz) hr (fun x hx => by injection hx with hx; subst hx; exact he)
      | (ipos, name) :: irest, none :: vrest, last, hsz, h, hlast =>
        R.bindP (R.lastMatchP pos tok ipos name hp hlast) fun _ _ =>
          ih.valueIdents pos tok hp irest vrest _ (by sz) (ast_and h).2 hlast
      valueSpecs := fun pos tok {l} hp => fun
      | [], _, _, _, _ => R.pureP trivial
      | (iota, ids, vals) :: rest, last, hsz, h, hlast => by
        obtain ⟨hv, hr⟩ := ast_and h
        have h1 := ih.valueIdents pos tok hp ids vals last (by sz) hv hlast
        have h2 := fun last' hlast' => ih.valueSpecs pos tok hp rest last' (by sz) hr hlast'
        have hiota : L.GoodS (if tok == tConst then
            (match iota with
             | some v => modify fun s => { s with iotaVal := v }
             | none => cerr pos "invalid iota value")
          else Pure.pure ()) := by
          refine iteP ?_ (R.pureP trivial)
          split
          · exact R.miscP _
          · exact R.cerrP
        exact R.bindP hiota fun _ _ => R.bindP h1 fun last' hlast' => h2 last' hlast'
      expr := fun e l hsz h => by
        unfold okE labE jfE at h
        unfold compileExpr
        cases e with
        | paren _ e => exact ih.expr e l (by sz) h
        | binary pos tok x y =>
          obtain ⟨hp, ⟨hx1, hx2, hx3⟩, hy⟩ := ast_at2 h
          have h1 := ih.expr x l (by sz) ⟨hx1, hx2, hx3.and.2⟩
          have h2 := ih.expr y l (by sz) hy
          dsimp only
          split
          · rename_i htok
            -- the short-circuit operators are the ones `jfE` excludes
            have hjf : L.Jf false := by
              have h3 := hx3.and.1.and
              rcases (Bool.or_eq_true _ _).mp htok with h | h
              · have : (tok != tLAnd) = false := by simp [bne, h]
                exact this ▸ h3.1
              · have : (tok != tLOr) = false := by simp [bne, h]
                exact this ▸ h3.2
            intro s hs
            have hst := R.init hjf hs
            apply R.stGood h1 hst; intro _ s1 _ hst
            apply R.stEmit hst (by opc) (by jmp) (.inl (by opa)) (R.emitE hp); intro s2 hst
            apply R.stGood h2 hst; intro _ s3 _ hst
            apply R.stCurPos hst; intro hst
            exact R.stPatch1Last hst (by simp) (by simp)
          · exact R.bindP h1 fun _ _ => R.bindP h2 fun _ _ =>
              iteP (R.emitE_ pos _ hp (by decide)) <| iteP (R.emitE_ pos _ hp (by decide)) <|
                iteP R.cerrP (R.emitE_ pos _ hp (by decide))
        | int pos _ | uint pos _ | float pos _ | str pos _ | char pos _ => exact R.emitConstantP pos _ (R.emitE h.2.1)
        | bool pos b => exact iteP (R.emitE_ pos _ h.2.1 (by decide)) (R.emitE_ pos _ h.2.1 (by decide))
        | undef pos => exact R.emitE_ pos _ h.2.1 (by decide)
        | ident pos name => exact R.compileIdentP pos name h.2.1
        | unary pos tok e =>
          obtain ⟨hp, he⟩ := ast_at h
          exact R.bindP (ih.expr e l (by sz) he) fun _ _ => iteP (R.emitE_ pos _ hp (by decide)) R.cerrP
        | array pos es =>
          obtain ⟨hp, he⟩ := ast_at h
          exact R.bindP (ih.exprs es l (by sz) he) fun _ _ => R.emitE_ pos _ hp (by decide)
        | map pos ms =>
          obtain ⟨hp, he⟩ := ast_at h
          exact R.bindP (ih.mapElems pos hp ms (by sz) he) fun _ _ => R.emitE_ pos _ hp (by decide)
        | selector pos e i | index pos e i =>
          obtain ⟨hp, he, hi⟩ := ast_at2 h
          have h0 := ih.expr e l (by sz) he
          have h1 := ih.indexChain e (compileExpr e) l (by sz) he h0
          have h2 := ih.expr i l (by sz) hi
          exact R.bindP h1 fun _ _ => R.bindP h2 fun _ _ => R.emitE_ pos _ hp (by decide)
        | slice pos e lo hi =>
          obtain ⟨hlo', hhi'⟩ := ast_and h
          obtain ⟨hp, he, hlo'⟩ := ast_at2 hlo'
          have h0 := ih.expr e l (by sz) he
          have hlo : L.GoodE l (match lo with | some x => compileExpr x | none => emit_ pos OpNull) := by
            cases lo with
            | none => exact R.emitE_ pos _ hp (by decide)
            | some x => exact ih.expr x l (by sz) hlo'
          have hhi : L.GoodE l (match hi with | some x => compileExpr x | none => emit_ pos OpNull) := by
            cases hi with
            | none => exact R.emitE_ pos _ hp (by decide)
            | some x => exact ih.expr x l (by sz) hhi'
          exact R.bindP h0 fun _ _ => R.bindP hlo fun _ _ => R.bindP hhi fun _ _ => R.emitE_ pos _ hp (by decide)
        | func pos variadic params bp body =>
          obtain ⟨hp, hb⟩ := ast_at h
          exact R.funcLitP pos variadic params hp fun hjb => R.blockOfP (ih.stmts body (by sz) ⟨hb.1, hb.2.1, hjb⟩)
        | call pos ell f args =>
          obtain ⟨hp, hf, ha⟩ := ast_at2 h
          have ha := ih.exprs args l (by sz) ha
          dsimp only
          split
          · rename_i p se ssel
            obtain ⟨_, h1, h2⟩ := ast_at2 hf
            exact R.bindP (ih.expr se l (by sz) h1) fun _ _ => R.bindP ha fun _ _ =>
              R.bindP (ih.expr ssel l (by sz) h2) fun _ _ => R.emitE_ pos _ hp (by decide)
          · exact R.bindP (ih.expr f l (by sz) hf) fun _ _ => R.bindP ha fun _ _ => R.emitE_ pos _ hp (by decide)
        | import_ pos name => exact R.unsupportedP
        | cond pos c t f =>
          have hj := h.2.2
          obtain ⟨hct, hf⟩ := ast_and (c := jfE c && jfE t) (c' := jfE f) (ast_exf h)
          obtain ⟨hp, hc, ht⟩ := ast_at2 hct
          have hc := ih.expr c l (by sz) hc
          have ht := ih.expr t l (by sz) ht
          have hf := ih.expr f l (by sz) hf
          dsimp only
          split
          · exact iteP ht hf
          · intro s hs
            have hst := R.init hj hs
            apply R.stGood hc hst; intro _ s1 _ hst
            apply R.stEmit hst (by decide) (by jmp) (.inl (by opa)) (R.emitE hp); intro s2 hst
            apply R.stGood ht hst; intro _ s3 _ hst
            apply R.stEmit hst (by decide) (by jmp) (.inl (by opa)) (R.emitE hp); intro s4 hst
            apply R.stCurPos hst; intro hst
            apply R.stPatch1 hst (by simp) (by simp); intro s6 hst
            apply R.stGood hf hst; intro _ s7 _ hst
            apply R.stCurPos hst; intro hst
            exact R.stPatch1Last hst (by simp) (by simp)
      stmt := fun st hsz h => by
        unfold okS labS jfS at h
        rw [compileStmt_eq]
        cases st with
        | empty pos => exact R.pureP trivial
        | expr pos e => exact R.bindP (R.pre (ih.expr e _ (by sz) h)) fun _ _ => R.emitES_ pos _ (at_self pos) (by decide) (by decide)
        | incdec pos tok tokPos e =>
          obtain ⟨htp, he⟩ := ast_at h
          have h1 := ih.expr e _ (by sz) he
          have h2 := ih.defineAssign pos e tVar (if tok == tDec then tSubAssign else tAddAssign) false _ (by sz) (at_self pos)
            he (by intro h; cases h)
          have hop : L.GoodE (L.lab pos) (match compoundOp (if tok == tDec then tSubAssign else tAddAssign) with
              | some t => emit_ pos OpBinaryOp [t]
              | none => Pure.pure ()) := by
            split
            · exact R.emitE_ pos _ (at_self pos) (by decide)
            · exact R.pureP trivial
          exact R.bindP (R.pre h1) fun _ _ => R.bindP (R.emitConstantP tokPos _ (R.emitE htp)) fun _ _ =>
            R.bindP hop fun _ _ => h2
        | assign pos tok lhs rhs =>
          obtain ⟨hlhs, hrhs⟩ := ast_and h
          have h1 := ih.exprs rhs _ (by sz) hrhs
          simp only
          cases lhs with
          | nil =>
            have hpanic := hlhs.1.and.1
            exact R.compileAssignP pos _ _ _ (at_self pos) h1 (R.panicP hpanic) (R.panicP hpanic) fun i => R.pureP trivial
          | cons e0 rest =>
            have hl : L.Ast (okEs (e0 :: rest)) (labEs L.lab (L.lab pos) (e0 :: rest)) (jfEs (e0 :: rest)) :=
              ⟨hlhs.1.and.2, hlhs.2⟩
            exact R.compileAssignP pos _ _ _ (at_self pos) h1 (ih.expr e0 _ (by sz) (ast_and hl).1)
              (ih.defineAssign pos e0 tVar tok false _ (by sz) (at_self pos) (ast_and hl).1 (by intro h; cases h))
              fun i => ih.destructure pos tVar tok _ i (at_self pos) (e0 :: rest) 0 0 (by sz) hl
        | block pos body => exact R.blockOfP (ih.stmts body (by sz) h)
        | if_ pos init cond bp body els =>
          have hj := h.2.2
          obtain ⟨h3, hels⟩ := ast_andF h
          obtain ⟨h2, hbody⟩ := ast_andF h3
          obtain ⟨hinit, hcond⟩ := ast_andF h2
          have hinit := R.optStmtP ih init hinit (by sz)
          have hc := ih.expr cond _ (by sz) (ast_exf hcond)
          have hb : L.GoodS (blockOf body (compileStmts body)) := R.blockOfP (ih.stmts body (by sz) (ast_exf hbody))
          have hsze : sizeOf els < n := by sz
          simp only
          apply R.withBlockP
          intro s hs
          have hst := R.init hj hs
          apply R.stGood hinit hst; intro _ s1 _ hst
          split
          · exact R.stLast hb hst
          · apply R.stEmit hst (by decide) (by jmp) (.inl (by opa)) (R.emitS (by decide)); intro s2 hst
            exact R.stIfTail ih pos els hels hsze hst (by simp)
          · apply R.stGood (R.pre hc) hst; intro _ s2 _ hst
            apply R.stEmit hst (by decide) (by jmp) (.inl (by opa)) (R.emitES (at_self pos) (by decide)); intro s3 hst
            apply R.stGood hb hst; intro _ s4 _ hst
            exact R.stIfTail ih pos els hels hsze hst (by simp)
        | for_ pos init cond post bp body =>
          have hj := h.2.2
          obtain ⟨h3, hbody⟩ := ast_andF h
          obtain ⟨h2, hpost⟩ := ast_andF h3
          obtain ⟨hinit, hcond⟩ := ast_andF h2
          have hinit := R.optStmtP ih init hinit (by sz)
          have hpost := R.optStmtP ih post hpost (by sz)
          have hb : L.GoodS (blockOf body (compileStmts body)) := R.blockOfP (ih.stmts body (by sz) (ast_exf hbody))
          simp only
          apply R.withBlockP
          intro s hs
          have hst := R.init hj hs
          apply R.stGood hinit hst; intro _ s1 _ hst
          apply R.stCurPos hst; intro hst
          cases cond with
          | none =>
            simp only [pure_bind]
            apply R.stWithLoop hb hst; intro loop s4 hst
            apply R.stCurPos hst; intro hst
            apply R.stGood hpost hst; intro _ s6 _ hst
            apply R.stEmit_ hst (by decide) (.inr ⟨argsIn_one (.inr (by simp)), .inl rfl⟩) (R.emitS (by decide)); intro s7 hst
            apply R.stCurPos hst; intro hst
            apply R.stPatchAll hst (by intro p hp; simp [hp]) (by simp); intro s9 hst
            exact R.stPatchAllLast hst (by intro p hp; simp [hp]) (by simp)
          | some c =>
            have hc := ih.expr c _ (by sz) (ast_exf hcond)
            simp only [bind_assoc, pure_bind]
            apply R.stGood (R.pre hc) hst; intro _ s3 _ hst
            apply R.stEmit hst (by decide) (by jmp) (.inl (by opa)) (R.emitES (at_self pos) (by decide)); intro s3' hst
            apply R.stWithLoop hb hst; intro loop s4 hst
            apply R.stCurPos hst; intro hst
            apply R.stGood hpost hst; intro _ s6 _ hst
            apply R.stEmit_ hst (by decide) (.inr ⟨argsIn_one (.inr (by simp)), .inl rfl⟩) (R.emitS (by decide)); intro s7 hst
            apply R.stCurPos hst; intro hst
            apply R.stPatch1 hst (by simp) (by simp); intro s9 hst
            apply R.stPatchAll hst (by intro p hp; simp [hp]) (by simp); intro s10 hst
            exact R.stPatchAllLast hst (by intro p hp; simp [hp]) (by simp)
        | forin pos key value iter bp body =>
          have hj := h.2.2
          obtain ⟨hiter, hbody⟩ := ast_andF h
          have hit := ih.expr iter _ (by sz) (ast_exf hiter)
          have hb : L.GoodS (blockOf body (compileStmts body)) := R.blockOfP (ih.stmts body (by sz) (ast_exf hbody))
          simp only
          apply R.withBlockP
          intro s hs
          have hst := R.init hj hs
          apply R.stGood (R.defineLocalP ":it") hst; intro x s1 _ hst
          obtain ⟨itSym, ex⟩ := x
          simp only
          split
          · exact R.stCerr hst
          · apply R.stGood (R.pre hit) hst; intro _ s2 _ hst
            apply R.stGood (R.emitES_ pos _ (at_self pos) (by decide) (by decide)) hst; intro _ s3 _ hst
            apply R.stGood (R.emitS_ pos _ (by decide) (by decide)) hst; intro _ s4 _ hst
            apply R.stCurPos hst; intro hst
            apply R.stGood (R.emitS_ pos _ (by decide) (by decide)) hst; intro _ s6 _ hst
            apply R.stGood (R.emitS_ pos _ (by decide) (by decide)) hst; intro _ s7 _ hst
            apply R.stEmit hst (by decide) (by jmp) (.inl (by opa)) (R.emitS (by decide)); intro s8 hst
            have hbody : L.GoodS (do
                forinVar pos itSym.index OpIterKey key
                forinVar pos itSym.index OpIterValue value
                blockOf body (compileStmts body)) :=
              R.bindP (R.forinVarP pos _ key (by decide) (by decide)) fun _ _ =>
                R.bindP (R.forinVarP pos _ value (by decide) (by decide)) fun _ _ => hb
            apply R.stWithLoop hbody hst; intro loop s9 hst
            apply R.stCurPos hst; intro hst
            apply R.stEmit_ hst (by decide) (.inr ⟨argsIn_one (.inr (by simp)), .inl rfl⟩) (R.emitS (by decide)); intro s11 hst
            apply R.stCurPos hst; intro hst
            apply R.stPatch1 hst (by simp) (by simp); intro s13 hst
            apply R.stPatchAll hst (by intro p hp; simp [hp]) (by simp); intro s14 hst
            exact R.stPatchAllLast hst (by intro p hp; simp [hp]) (by simp)
        | try_ pos bp body c f =>
          have hj := h.2.2
          obtain ⟨h2, hf⟩ := ast_andF h
          obtain ⟨hbody, hc⟩ := ast_andF h2
          have hbody := ih.stmts body (by sz) (ast_exf hbody)
          have htry : ∀ g : Int → Int, L.GoodS (modify (fun s : CState => { s with tryCatchIndex := g s.tryCatchIndex }) : CM Unit) :=
            fun _ => R.miscP _
          -- SETUPFINALLY is never patched; its position is the finally target
          have hfin : ∀ {s0 s : CState} {ps ts ins : List Nat} {Q : Unit → CState → Prop} (g : Nat → CM Unit),
              L.St L.s s0 ps ts ins s →
              (∀ fp s', L.St L.s s0 ps (fp :: ts) (fp :: ins) s' → L.Sat (g fp) s' Q) →
              L.Sat ((match f with
                | some (fpos, _, fbody) => do let p ← emit fpos OpSetupFinally; compileStmts fbody; Pure.pure p
                | none => emit pos OpSetupFinally) >>= g) s Q := by
            intro s0 s ps ts ins Q g hst hg
            cases f with
            | none => exact R.stEmitTgt hst (by decide) (.inl (by opa)) (R.emitS (by decide)) (hg _)
            | some fv =>
              obtain ⟨f1, f2, f3⟩ := fv
              have hfb := ih.stmts f3 (by sz) (ast_exf hf)
              simp only [bind_assoc, pure_bind]
              apply R.stEmitTgt hst (by decide) (.inl (by opa)) (R.emitS (by decide)); intro s' hst
              exact R.stGood hfb hst fun _ s'' _ hst => hg _ s'' hst
          simp only
          refine R.bindP (P := fun _ => True) (R.withBlockP ?_) (fun _ _ =>
            R.bindP (R.emitS_ pos _ (by decide) (by decide)) fun _ _ => htry (· - 1))
          intro s hs
          have hst := R.init hj hs
          apply R.stGood (htry (· + 1)) hst; intro _ s1 _ hst
          apply R.stEmit hst (by decide) (by jmp) (.inl (by opa)) (R.emitS (by decide)); intro s2 hst
          apply R.stGood hbody hst; intro _ s3 _ hst
          cases c with
          | none =>
            simp only
            apply hfin _ hst; intro fp s4 hst
            exact sat_of_bind_pure (R.stPatch hst (by simp) (argsIn_two (t1 := 0) (.inl rfl) (.inr (by simp)))
              (fun _ => argsIn_two (t1 := 0) (.inl rfl) (.inr (by simp))) fun _ h => R.satPure (R.done h))
          | some cv =>
            obtain ⟨cpos, ident, c3, cbody⟩ := cv
            have hcb := ih.stmts cbody (by sz) (ast_exf hc)
            have hid1 : L.GoodS (match ident with
                | some name => do emit_ cpos OpNull; defineCatchIdent pos name
                | none => Pure.pure ()) := by
              cases ident with
              | none => exact R.pureP trivial
              | some name => exact R.bindP (R.emitS_ cpos _ (by decide) (by decide)) fun _ _ => R.defineCatchIdentP pos name
            have hid2 : L.GoodS (match ident with
                | some name => defineCatchIdent cpos name
                | none => emit_ cpos OpPop) := by
              cases ident with
              | none => exact R.emitS_ cpos _ (by decide) (by decide)
              | some name => exact R.defineCatchIdentP cpos name
            simp only
            apply R.stGood hid1 hst; intro _ s4 _ hst
            apply R.stEmit hst (by decide) (by jmp) (.inl (by opa)) (R.emitS (by decide)); intro s5 hst
            apply R.stCurPos hst; intro hst
            -- SETUPCATCH is emitted AT the catch position: from here on it lies strictly inside the stream
            apply R.stEmit_ hst (by decide) (.inl (by opa)) (R.emitS (by decide)); intro s7 hst
            apply R.stGood hid2 hst; intro _ s8 _ hst
            apply R.stGood hcb hst; intro _ s9 _ hst
            apply hfin _ hst; intro fp s10 hst
            apply R.stPatch hst (by simp) (argsIn_two (.inr (by simp)) (.inr (by simp)))
              fun _ => argsIn_two (.inr (by simp)) (.inr (by simp))
            intro s11 hst
            exact R.stPatch1Last hst (by simp) (by simp)
        | throw pos e =>
          cases e with
          | none => exact R.bindP (P := fun _ => True) (R.pureP trivial) fun _ _ => R.emitS_ pos _ (by decide) (by decide)
          | some x => exact R.bindP (R.pre (ih.expr x _ (by sz) h)) fun _ _ => R.emitES_ pos _ (at_self pos) (by decide) (by decide)
        | branch pos tok => exact R.compileBranchP pos tok h.2.2
        | return_ pos e =>
          -- the optional FINALIZER and the RETURN are expression code at the label of the statement
          have hfin : ∀ s0 : CState, L.Good (L.e (L.lab pos)) L.s (do
              (if s0.tryCatchIndex > -1 then emit_ pos OpFinalizer [0] else Pure.pure ())
              emit_ pos OpReturn [if e.isSome then 1 else 0]) := fun _ =>
            R.bindP (iteP (R.emitE_ pos _ (at_self pos) (by decide)) (R.pureP trivial)) fun _ _ =>
              R.emitES_ pos _ (at_self pos) (by decide) (by decide)
          cases e with
          | none => exact R.pre (R.getP (fun _ _ _ => rfl) hfin)
          | some x => exact R.bindP (R.pre (ih.expr x _ (by sz) h)) fun _ _ => R.getP (fun _ _ _ => rfl) hfin
        | declParam pos specs =>
          exact iteP R.cerrP <| R.getP (fun _ _ _ => rfl) fun _ => iteP R.cerrP <|
            R.bindP (R.declParamVariadicP pos specs) fun _ _ => R.setParamsP pos _
        | declGlobal pos specs => exact iteP R.cerrP <| R.getP (fun _ _ _ => rfl) fun _ => iteP R.cerrP (R.declGlobalsP pos specs)
        | declValue pos tok specs =>
          have := ih.valueSpecs pos tok (at_self pos) specs none (by sz) h (fun x hx => by cases hx)
          exact iteP R.cerrP <| R.bindP this fun _ _ => iteP (R.miscP _) (R.pureP trivial) }

theorem compileStmtsP (ss : List Stmt) (h : L.Ast (okSs ss) (labSs L.lab ss) (jfSs ss)) : L.GoodS (compileStmts ss) :=
  (R.all (sizeOf ss + 1)).stmts ss (by omega) h

theorem compileExprP (e : Expr) (l : Nat) (h : L.Ast (okE e) (labE L.lab l e) (jfE e)) : L.GoodE l (compileExpr e) :=
  (R.all (sizeOf e + 1)).expr e l (by omega) h

end Rules

end UgoVerif.Compile

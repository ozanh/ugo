import UgoVerif.Proofs.CompileLogic
/-
  C05: every function of the compiler's mutual block keeps the invariant and never panics, for all
  ASTs with non-empty assignment left-hand sides: the logic `c05` (the judgment `Sat`, the invariant
  `Inv`, Proofs/CompileInv.lean) satisfies the rules of Proofs/CompileLogic.lean.
-/
namespace UgoVerif.Compile
open UgoVerif UgoVerif.Go UgoVerif.Ast

/-- `Sat` excludes Go panics, so the AST must be `ok` -/
def c05 : Logic := .plain @Sat Inv Rel St (fun s y => SymOKx s.constants (fmd s.tables) (fnf s.tables) y) True

theorem c05_rules : Rules c05 where
  toModes := Modes.plain
  satPure := Sat.pure
  pureP := GoodP.pure
  satBind := Sat.bind_good
  getP _ h := GoodP.bind good_get fun a _ => h a
  cerrP {α _ _ P pos msg} := @GoodP.cerr α P pos msg
  unsupportedP {α _ _ P msg} := @GoodP.cunsupported α P msg
  panicP h := nomatch h trivial
  init _ := St.init
  done h := ⟨h.inv, h.rel, trivial⟩
  stGood := st_good_bind
  stCurPos := st_curPos_bind
  stEmitTgt hst hop ha _ h := st_emit_tgt_bind hst hop ha fun s' hst' _ => h s' hst'
  stEmit hst hop hj ha _ := st_emit_bind hst hop hj ha
  stPatch hst hp ha hs h := st_changeOperand_bind hst hp ha h hs
  stWithLoop := st_withLoop_bind
  stModLoop := st_modLoop_bind
  headTableP := good_headTable
  emit_P _ _ args hp _ := good_emit_ hp.1 (hp.static args)
  makeArrayP pos _ := good_emitMakeArray pos
  emitConstantP pos v _ := good_emitConstant pos v
  defineLocalP := good_defineLocal
  modifyP h1 hb h3 h4 h5 := good_modify_misc h1 hb.insts h3 h4 h5
  defineConstLitP := good_defineConstLit
  resolveS name _ hs := sat_resolve name hs
  emitSymS pos _ _ _ _ hs hy hsc hop _ := by
    cases hop with
    | getGlobal | setGlobal => exact sat_emit_global hs rfl hy hsc
    | getFree | setFree => exact sat_emit_free hs rfl hy hsc
    | getLocal | setLocal => exact good_emit_ (by decide) (by opa) _ hs
    | getBuiltin => exact sat_emit_builtin hs (hy.2.2.2.1 hsc)
  symConstLit hy hsc := .inr (hy.1 hsc)
  compileDefineP pos ident allow kw _ _ := good_compileDefine pos ident allow kw
  setParamsP := good_setParams
  declGlobalsP := good_declGlobals
  withBlockP := good_withBlock
  funcLitP pos variadic params body _ _ hb := by
    have hw := goodS_withFn pos variadic params (hb nofun)
    intro s hs
    apply Sat.bind
    apply Sat.mono (hw s hs)
    intro r s1 ⟨hi1, hr1, hfn, horig⟩
    obtain ⟨fn, ft⟩ := r
    simp only at hfn horig ⊢
    apply Sat.bind
    apply Sat.mono (sat_emitFreePtrs pos ft.frees s1 hi1 horig)
    intro _ s2 ⟨hi2, hr2, _⟩
    split
    · exact Sat.throw_err
    · rename_i hle
      apply Sat.mono (sat_emitFnConstant hi2 (Nat.le_of_not_gt hle) (hfn.mono hr2.cpre))
      intro _ s3 ⟨hi3, hr3, _⟩
      exact ⟨hi3, hr1.trans (hr2.trans hr3), trivial⟩

theorem good_compileExpr (e : Expr) (hok : okE e = true) : Good (compileExpr e) :=
  c05_rules.compileExprP e 0 ⟨fun _ => hok, nofun, nofun⟩

theorem good_compileStmt (st : Stmt) (hok : okS st = true) : Good (compileStmt st) :=
  (c05_rules.all (sizeOf st + 1)).stmt st (Nat.lt_succ_self _) ⟨fun _ => hok, nofun, nofun⟩

/-- every statement list with non-empty assignment left-hand sides compiles without a Go panic
    from any state that satisfies the invariant, and re-establishes it -/
theorem good_compileStmts (ss : List Stmt) (hok : okSs ss = true) : Good (compileStmts ss) :=
  c05_rules.compileStmtsP ss ⟨fun _ => hok, nofun, nofun⟩

end UgoVerif.Compile

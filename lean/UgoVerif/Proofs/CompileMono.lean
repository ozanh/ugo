import UgoVerif.Proofs.CompilePrims
/-
  C10: the ROOT symbol table (the last table of the compiler's chain) and the constant pool only grow
  during a compile, whether it ends normally, with an error or with a Go panic: `MonoP`, over `Ext`.
  On normal termination the chain of tables is as long as before.  The walk over the mutual block
  is the instance `mono_rules` (Proofs/CompileMonoMain.lean).
-/
namespace UgoVerif.Compile
open UgoVerif UgoVerif.Go UgoVerif.Ast

def rootOf (ts : List Table) : Table := (ts.getLast?).getD {}

@[simp] theorem rootOf_single (t : Table) : rootOf [t] = t := rfl
@[simp] theorem rootOf_cons_cons (t t2 : Table) (r : List Table) : rootOf (t :: t2 :: r) = rootOf (t2 :: r) := by
  simp [rootOf, List.getLast?_cons_cons]

theorem rootOf_cons_ne {t : Table} {r : List Table} (h : r ≠ []) : rootOf (t :: r) = rootOf r := by
  cases r with
  | nil => exact absurd rfl h
  | cons t2 r2 => simp

/-- what an earlier binding keeps: scope, constness, literal value, name, and the index unless it
    is a global (a `global` re-declaration re-computes the index of the name constant) -/
structure SymKeep (y y' : Symbol) : Prop where
  scope : y'.scope = y.scope
  constant : y'.constant = y.constant
  constLit : y'.constLit = y.constLit
  name : y'.name = y.name
  index : y'.index = y.index ∨ y.scope = .global

theorem SymKeep.refl (y : Symbol) : SymKeep y y := ⟨rfl, rfl, rfl, rfl, .inl rfl⟩

theorem SymKeep.trans {a b c : Symbol} (h : SymKeep a b) (h' : SymKeep b c) : SymKeep a c := by
  refine ⟨h'.scope.trans h.scope, h'.constant.trans h.constant, h'.constLit.trans h.constLit,
    h'.name.trans h.name, ?_⟩
  rcases h'.index with h1 | h1
  · rcases h.index with h2 | h2
    · exact .inl (h1.trans h2)
    · exact .inr h2
  · exact .inr (h.scope ▸ h1)

/-- no global symbol still waits for its name constant (`SetGlobalSymbolsIndex` finds nothing) -/
def NoPending (t : Table) : Prop := ∀ p ∈ t.store, p.2.scope = .global → p.2.index ≠ -1

/-- `t'` extends `t`: every binding of `t` that is not merely the cache of a builtin is kept
    (`SymKeep`), the disabled builtins are the same, the counters of local slots do not go down -/
structure RootExt (t t' : Table) : Prop where
  keep : ∀ n y, lookupSym n t.store = some y → y.scope ≠ .builtin →
    ∃ y', lookupSym n t'.store = some y' ∧ SymKeep y y'
  disabled : t'.disabled = t.disabled
  maxDef : t.maxDefinition ≤ t'.maxDefinition
  numDef : t.numDefinition ≤ t'.numDefinition
  pend : NoPending t → NoPending t'

theorem RootExt.refl (t : Table) : RootExt t t :=
  ⟨fun _ y h _ => ⟨y, h, SymKeep.refl y⟩, rfl, Nat.le_refl _, Nat.le_refl _, id⟩

theorem RootExt.trans {a b c : Table} (h : RootExt a b) (h' : RootExt b c) : RootExt a c := by
  refine ⟨?_, h'.disabled.trans h.disabled, Nat.le_trans h.maxDef h'.maxDef, Nat.le_trans h.numDef h'.numDef,
    fun hp => h'.pend (h.pend hp)⟩
  intro n y hy hb
  obtain ⟨y1, h1, k1⟩ := h.keep n y hy hb
  obtain ⟨y2, h2, k2⟩ := h'.keep n y1 h1 (by rw [k1.scope]; exact hb)
  exact ⟨y2, h2, k1.trans k2⟩

def IsPre (a b : Array Const) : Prop := ∃ ext : Array Const, b = a ++ ext

theorem IsPre.refl (a : Array Const) : IsPre a a := ⟨#[], by simp⟩
theorem IsPre.trans {a b c : Array Const} (h : IsPre a b) (h' : IsPre b c) : IsPre a c := by
  obtain ⟨e1, rfl⟩ := h
  obtain ⟨e2, rfl⟩ := h'
  exact ⟨e1 ++ e2, by simp [Array.append_assoc]⟩
theorem IsPre.push (a : Array Const) (c : Const) : IsPre a (a.push c) := ⟨#[c], by simp⟩

structure Ext (s s' : CState) : Prop where
  ne : s'.tables ≠ []
  root : RootExt (rootOf s.tables) (rootOf s'.tables)
  consts : IsPre s.constants s'.constants

theorem Ext.refl {s : CState} (h : s.tables ≠ []) : Ext s s := ⟨h, RootExt.refl _, IsPre.refl _⟩
theorem Ext.trans {a b c : CState} (h : Ext a b) (h' : Ext b c) : Ext a c :=
  ⟨h'.ne, h.root.trans h'.root, h.consts.trans h'.consts⟩

theorem Ext.of_same {s s' : CState} (hne : s.tables ≠ []) (h1 : s'.tables = s.tables) (h2 : s'.constants = s.constants) :
    Ext s s' := ⟨by rw [h1]; exact hne, by rw [h1]; exact RootExt.refl _, by rw [h2]; exact IsPre.refl _⟩

/-- `SatX m s Q`: `m` from `s` ends normally in a state satisfying `Q`, or abnormally in a state
    that extends `s` -/
def SatX {α} (m : CM α) (s : CState) (Q : α → CState → Prop) : Prop :=
  match runCM m s with
  | (.ok a, s') => Q a s'
  | (.error _, s') => Ext s s'

theorem SatX.pure {α} {a : α} {s : CState} {Q : α → CState → Prop} (h : Q a s) : SatX (Pure.pure a : CM α) s Q := by
  simp [SatX, runCM_pure, h]

theorem SatX.mono {α} {m : CM α} {s : CState} {Q Q' : α → CState → Prop}
    (h : SatX m s Q) (hq : ∀ a s', Q a s' → Q' a s') : SatX m s Q' :=
  SatE.imp (E := fun _ s' => Ext s s') h hq fun _ _ => id

theorem SatX.bind {α β} {m : CM α} {f : α → CM β} {s : CState} {Q : β → CState → Prop}
    (h : SatX m s (fun a s1 => Ext s s1 ∧ SatX (f a) s1 Q)) : SatX (m >>= f) s Q :=
  SatE.bind (E := fun _ s' => Ext s s') <|
    SatE.imp (E := fun _ s' => Ext s s') h
      (fun _ _ h1 => SatE.imp (E := fun _ s' => Ext _ s') h1.2 (fun _ _ => id) fun _ _ => h1.1.trans) fun _ _ => id

theorem SatX.throw {α} {e : CErr} {s : CState} {Q : α → CState → Prop} (h : s.tables ≠ []) :
    SatX (throw e : CM α) s Q := by
  simp [SatX, runCM_throw]; exact Ext.refl h

theorem SatX.ite {α} {c : Prop} [Decidable c] {a b : CM α} {s : CState} {Q : α → CState → Prop}
    (ha : c → SatX a s Q) (hb : ¬c → SatX b s Q) : SatX (if c then a else b) s Q := by
  split
  · exact ha ‹_›
  · exact hb ‹_›

theorem SatX.of_run {α} {m : CM α} {s s' : CState} {a : α} {Q : α → CState → Prop}
    (hr : runCM m s = (.ok a, s')) (h : Q a s') : SatX m s Q := by
  simp [SatX, hr, h]

def MonoP {α} (P : α → Prop) (m : CM α) : Prop :=
  ∀ s, s.tables ≠ [] → SatX m s (fun a s' => s'.tables.length = s.tables.length ∧ Ext s s' ∧ P a)

abbrev Mono {α} (m : CM α) : Prop := MonoP (fun _ => True) m

theorem MonoP.pure {α} {P : α → Prop} {a : α} (h : P a) : MonoP P (Pure.pure a : CM α) :=
  fun _ hs => SatX.pure ⟨rfl, Ext.refl hs, h⟩

theorem MonoP.bind {α β} {P : α → Prop} {R : β → Prop} {m : CM α} {f : α → CM β}
    (hm : MonoP P m) (hf : ∀ a, P a → MonoP R (f a)) : MonoP R (m >>= f) := by
  intro s hs
  apply SatX.bind
  apply SatX.mono (hm s hs)
  intro a s1 ⟨hl, he, hp⟩
  refine ⟨he, ?_⟩
  apply SatX.mono (hf a hp s1 (ne_nil_of_length_eq hl hs))
  intro b s2 ⟨hl2, he2, hb⟩
  exact ⟨hl2.trans hl, he.trans he2, hb⟩

theorem MonoP.weaken {α} {P P' : α → Prop} {m : CM α} (h : MonoP P m) (hp : ∀ a, P a → P' a) : MonoP P' m :=
  fun s hs => SatX.mono (h s hs) fun a _ ⟨h1, h2, h3⟩ => ⟨h1, h2, hp a h3⟩

theorem MonoP.mono {α} {P : α → Prop} {m : CM α} (h : MonoP P m) : Mono m := h.weaken fun _ _ => trivial

theorem MonoP.throw {α} {P : α → Prop} {e : CErr} : MonoP P (throw e : CM α) := fun _ hs => SatX.throw hs
theorem MonoP.cerr {α} {P : α → Prop} {pos : Pos} {msg : String} : MonoP P (cerr pos msg : CM α) := fun _ hs => SatX.throw hs
theorem MonoP.cpanic {α} {P : α → Prop} {msg : String} : MonoP P (cpanic msg : CM α) := fun _ hs => SatX.throw hs
theorem MonoP.cunsupported {α} {P : α → Prop} {msg : String} : MonoP P (cunsupported msg : CM α) :=
  fun _ hs => SatX.throw hs

def Frame {α} (m : CM α) : Prop := ∀ s, (runCM m s).2.tables = s.tables ∧ (runCM m s).2.constants = s.constants

theorem Frame.pure {α} (a : α) : Frame (Pure.pure a : CM α) := fun _ => ⟨rfl, rfl⟩
theorem Frame.throw {α} (e : CErr) : Frame (throw e : CM α) := fun _ => ⟨rfl, rfl⟩
theorem Frame.get : Frame (get : CM CState) := fun _ => ⟨rfl, rfl⟩
theorem Frame.modify {f : CState → CState} (h1 : ∀ s, (f s).tables = s.tables) (h2 : ∀ s, (f s).constants = s.constants) :
    Frame (modify f : CM Unit) := fun s => ⟨h1 s, h2 s⟩
theorem Frame.bind {α β} {m : CM α} {f : α → CM β} (hm : Frame m) (hf : ∀ a, Frame (f a)) : Frame (m >>= f) := by
  intro s
  rw [runCM_bind]
  have := hm s
  cases hr : runCM m s with
  | mk r s1 =>
    rw [hr] at this
    cases r with
    | ok a =>
      have h2 := hf a s1
      simp only
      exact ⟨h2.1.trans this.1, h2.2.trans this.2⟩
    | error e => exact this

theorem Frame.sat {α} {m : CM α} (h : Frame m) (s : CState) (hs : s.tables ≠ []) :
    SatX m s fun _ s' => s'.tables = s.tables ∧ s'.constants = s.constants := by
  have := h s
  unfold SatX
  split
  · rename_i hr; rw [hr] at this; exact this
  · rename_i hr; rw [hr] at this; exact Ext.of_same hs this.1 this.2

theorem Frame.mono {α} {m : CM α} (h : Frame m) : Mono m := fun s hs =>
  (h.sat s hs).mono fun _ _ ⟨h1, h2⟩ => ⟨by rw [h1], Ext.of_same hs h1 h2, trivial⟩

theorem Frame.cpanic {α} (msg : String) : Frame (Compile.cpanic msg : CM α) := fun _ => ⟨rfl, rfl⟩
theorem Frame.ite {α} {c : Prop} [Decidable c] {a b : CM α} (ha : Frame a) (hb : Frame b) : Frame (if c then a else b) := by
  split <;> assumption

theorem Frame.get_set {β} {g : CState → CState} {k : CState → CM β}
    (h1 : ∀ s, (g s).tables = s.tables) (h2 : ∀ s, (g s).constants = s.constants) (hk : ∀ s, Frame (k s)) :
    Frame (do let s ← MonadState.get; set (g s); k s) := by
  intro s
  simp only [runCM_bind, runCM_get, runCM_set]
  have := hk s (g s)
  exact ⟨this.1.trans (h1 s), this.2.trans (h2 s)⟩

theorem frame_emit (pos : Pos) (op : Nat) (args : List Int) : Frame (emit pos op args) := by
  unfold emit
  refine Frame.ite (Frame.cpanic _) ?_
  split
  · exact Frame.ite (Frame.throw _) (Frame.throw _)
  · exact Frame.get_set (g := fun s => { s with insts := _, sourceMap := _ }) (fun _ => rfl) (fun _ => rfl)
      (fun _ => Frame.pure _)

theorem frame_emit_ (pos : Pos) (op : Nat) (args : List Int) : Frame (emit_ pos op args) := by
  unfold emit_
  exact Frame.bind (frame_emit pos op args) fun _ => Frame.pure _

theorem frame_headTable : Frame headTable := by
  unfold headTable
  refine Frame.bind Frame.get fun _ => ?_
  split
  · exact Frame.pure _
  · exact Frame.cpanic _
theorem frame_changeOperand (p : Nat) (args : List Int) : Frame (changeOperand p args) := by
  unfold changeOperand
  intro s
  simp only [runCM_bind, runCM_get]
  split
  · exact ⟨rfl, rfl⟩
  · split
    · exact ⟨rfl, rfl⟩
    · split
      · exact ⟨rfl, rfl⟩
      · exact ⟨rfl, rfl⟩

theorem frame_modLoop (f : Loop → Loop) : Frame (modLoop f) := Frame.modify (fun _ => rfl) (fun _ => rfl)
theorem frame_pushLoop : Frame pushLoop := Frame.modify (fun _ => rfl) (fun _ => rfl)
theorem frame_popLoop : Frame popLoop := by
  unfold popLoop
  exact Frame.get_set (g := fun s => { s with loops := s.loops.drop 1 }) (fun _ => rfl) (fun _ => rfl) (fun _ => Frame.pure _)

theorem frame_finishTail (lastOp : Nat) (pend : List Nat) : Frame (finishTail lastOp pend) :=
  Frame.bind (Frame.ite (frame_emit_ _ _ _) (Frame.pure _)) fun _ => Frame.bind Frame.get fun _ =>
    Frame.bind frame_headTable fun _ => Frame.pure _

theorem frame_finishFn : Frame finishFn := by
  unfold finishFn
  refine Frame.bind Frame.get fun _ => ?_
  split
  · exact Frame.cpanic _
  · exact frame_finishTail _ _

theorem frame_enterFn (v : Bool) : Frame (enterFn v) := by
  unfold enterFn
  exact Frame.get_set
    (g := fun outer => { outer with insts := #[], sourceMap := [], loops := [], tryCatchIndex := -1, iotaVal := -1, variadic := v })
    (fun _ => rfl) (fun _ => rfl) (fun _ => Frame.pure _)

theorem rootExt_putSym {t t' : Table} {name : String} {y : Symbol} (hs : t'.store = putSym name y t.store)
    (hnew : ∀ y0, lookupSym name t.store = some y0 → y0.scope = .builtin ∨ SymKeep y0 y)
    (hd : t'.disabled = t.disabled) (hm : t.maxDefinition ≤ t'.maxDefinition) (hn : t.numDefinition ≤ t'.numDefinition)
    (hp : y.scope = .global → y.index ≠ -1) : RootExt t t' := by
  refine ⟨?_, hd, hm, hn, ?_⟩
  · intro n y0 h0 hb
    by_cases hnn : name = n
    · subst hnn
      rcases hnew y0 h0 with h | h
      · exact absurd h hb
      · exact ⟨y, by rw [hs]; exact lookupSym_putSym_self _ _ _, h⟩
    · exact ⟨y0, by rw [hs, lookupSym_putSym_other n name y hnn]; exact h0, SymKeep.refl _⟩
  · intro hpend
    unfold NoPending
    rw [hs]
    exact putSym_all (P := fun y => y.scope = .global → y.index ≠ -1) hp hpend

theorem rootExt_sameStore {t t' : Table} (hs : t'.store = t.store) (hd : t'.disabled = t.disabled)
    (hm : t.maxDefinition ≤ t'.maxDefinition) (hn : t.numDefinition ≤ t'.numDefinition) : RootExt t t' :=
  ⟨fun n y h _ => ⟨y, by rw [hs]; exact h, SymKeep.refl _⟩, hd, hm, hn, fun hp p h => hp p (by rw [← hs]; exact h)⟩

theorem RootExt.shadow (bs : List (String × Nat)) (n : String) {t t0 : Table} (h : RootExt t t0) :
    RootExt t (shadowBuiltin bs n t0) := by
  unfold shadowBuiltin
  split
  · exact ⟨h.keep, h.disabled, h.maxDef, h.numDef, h.pend⟩
  · exact h

structure TabsExt (ts ts' : List Table) : Prop where
  len : ts'.length = ts.length
  root : RootExt (rootOf ts) (rootOf ts')

theorem TabsExt.refl (ts : List Table) : TabsExt ts ts := ⟨rfl, RootExt.refl _⟩
theorem TabsExt.trans {a b c : List Table} (h : TabsExt a b) (h' : TabsExt b c) : TabsExt a c :=
  ⟨h'.len.trans h.len, h.root.trans h'.root⟩

theorem TabsExt.head {t t' : Table} (r : List Table) (h : RootExt t t') : TabsExt (t :: r) (t' :: r) := by
  refine ⟨rfl, ?_⟩
  cases r with
  | nil => simpa using h
  | cons t2 r2 => simp; exact RootExt.refl _

theorem TabsExt.cons {t t' : Table} {r r' : List Table} (hne : r ≠ []) (h : TabsExt r r') : TabsExt (t :: r) (t' :: r') := by
  have hne' : r' ≠ [] := by
    intro h0; rw [h0] at h; exact hne (List.length_eq_zero_iff.mp h.len.symm)
  exact ⟨by simp [h.len], by rw [rootOf_cons_ne hne, rootOf_cons_ne hne']; exact h.root⟩

theorem Ext.of_tabs {s s' : CState} (hne : s.tables ≠ []) (h : TabsExt s.tables s'.tables)
    (hc : IsPre s.constants s'.constants) : Ext s s' := by
  refine ⟨?_, h.root, hc⟩
  intro h0; have := h.len; rw [h0] at this; exact hne (List.length_eq_zero_iff.mp this.symm)

theorem ext_head {s s' : CState} {t t' : Table} {r r' : List Table} (htr : s.tables = t :: r) (htr' : s'.tables = t' :: r')
    (hr : TabsExt r r') (hh : r = [] → RootExt t t') (hc : IsPre s.constants s'.constants) :
    s'.tables.length = s.tables.length ∧ Ext s s' := by
  have h : TabsExt s.tables s'.tables := by
    rw [htr, htr']
    cases r with
    | nil =>
      obtain rfl : r' = [] := List.length_eq_zero_iff.mp hr.len
      exact TabsExt.head [] (hh rfl)
    | cons t2 r2 => exact TabsExt.cons (by simp) hr
  exact ⟨h.len, Ext.of_tabs (by simp [htr]) h hc⟩

theorem MaxUp.tabsExt : ∀ {a b : List Table}, MaxUp a b → TabsExt a b
  | _, _, .nil => TabsExt.refl _
  | _, _, .cons hm hr => by
    cases hr with
    | nil => exact TabsExt.head [] (rootExt_sameStore rfl rfl hm (Nat.le_refl _))
    | cons hm' hr' => exact TabsExt.cons (List.cons_ne_nil _ _) (MaxUp.cons hm' hr').tabsExt

theorem tabsExt_resolveIn (bs : List (String × Nat)) (d : List String) (n : String) (ts : List Table) :
    TabsExt ts (resolveIn bs d n ts).2 := by
  refine resolveIn_ind (motive := fun ts res => TabsExt ts res.2) ?_ ?_ ?_ ?_ ?_ ?_ ?_ ts
  · exact TabsExt.refl _
  · exact fun _ _ => TabsExt.refl _
  · intro t _ idx hl _ _
    exact TabsExt.head [] (rootExt_putSym (y := { name := n, index := idx, scope := .builtin }) rfl
      (fun y0 h0 => by rw [hl] at h0; cases h0) rfl (Nat.le_refl _) (Nat.le_refl _) (fun h => by cases h))
  · exact fun _ => TabsExt.refl _
  · exact fun _ hne ih => TabsExt.cons hne ih
  · exact fun _ hne ih _ _ _ _ => TabsExt.cons hne ih
  · exact fun _ hne ih _ => TabsExt.cons hne ih

theorem mono_addConstant (k : CVal) : Mono (addConstant k) := fun _ hs =>
  SatE.addConstant k (fun _ _ => ⟨rfl, Ext.refl hs, trivial⟩) fun _ => ⟨rfl, ⟨hs, RootExt.refl _, IsPre.push _ _⟩, trivial⟩

theorem mono_addFnConstant (f : CFn) : Mono (addFnConstant f) := fun _ hs =>
  SatE.addFnConstant f (fun _ _ => ⟨rfl, Ext.refl hs, trivial⟩) fun _ => ⟨rfl, ⟨hs, RootExt.refl _, IsPre.push _ _⟩, trivial⟩

theorem mono_modTables {g : List Table → List Table} (h : ∀ ts, TabsExt ts (g ts)) : Mono (modTables g) := by
  intro s hs
  apply SatX.of_run (runCM_modTables g s)
  exact ⟨(h _).len, Ext.of_tabs hs (h _) (IsPre.refl _), trivial⟩

theorem mono_updateMaxDefs (n : Nat) : Mono (modTables (updateMaxDefs n)) :=
  mono_modTables fun ts => (updateMaxDefs_rel n ts).tabsExt

theorem mono_resolve (name : String) : Mono (resolve name) := by
  intro s hs
  have h := tabsExt_resolveIn s.builtins (rootDisabled s.tables) name s.tables
  exact SatX.of_run (runCM_resolve name s) ⟨h.len, Ext.of_tabs hs h (IsPre.refl _), trivial⟩

theorem mono_modHead {f : Table → Table} (hf : ∀ t, RootExt t (f t)) : Mono (modHead f) := by
  intro s hs
  obtain ⟨t, r, htr⟩ := List.exists_cons_of_ne_nil hs
  exact SatX.of_run (runCM_modHead f htr)
    (and_assoc.mp ⟨ext_head htr rfl (TabsExt.refl r) (fun _ => hf t) (IsPre.refl _), trivial⟩)

theorem satx_step {α β} {m : CM α} {f : α → CM β} {s s1 : CState} {a : α} {P : β → Prop}
    (hr : runCM m s = (.ok a, s1)) (h : s1.tables.length = s.tables.length ∧ Ext s s1) (hf : MonoP P (f a)) :
    SatX (m >>= f) s (fun b s' => s'.tables.length = s.tables.length ∧ Ext s s' ∧ P b) := by
  apply SatX.bind
  apply SatX.of_run hr
  refine ⟨h.2, ?_⟩
  apply SatX.mono (hf s1 h.2.ne)
  intro b s2 ⟨h1, h2, h3⟩
  exact ⟨h1.trans h.1, h.2.trans h2, h3⟩

theorem shadowBuiltin_maxDef (bs : List (String × Nat)) (n : String) (t : Table) :
    (shadowBuiltin bs n t).maxDefinition = t.maxDefinition := shadowBuiltin_maxDefinition bs n t
theorem shadowBuiltin_numDef (bs : List (String × Nat)) (n : String) (t : Table) :
    (shadowBuiltin bs n t).numDefinition = t.numDefinition := shadowBuiltin_numDefinition bs n t

theorem satx_defineLocal {name : String} {s : CState} {t : Table} {r : List Table} (htr : s.tables = t :: r)
    {Q : Symbol × Bool → CState → Prop}
    (hex : ∀ sym, definedSym name t = some sym → Q (sym, true) s)
    (hnew : definedSym name t = none → ∀ t1 r1,
      t1.store = putSym name (newLocal name s.tables) t.store →
      t1.disabled = t.disabled → t.maxDefinition ≤ t1.maxDefinition → t.numDefinition ≤ t1.numDefinition → TabsExt r r1 →
      Q (newLocal name s.tables, false) { s with tables := t1 :: r1 }) :
    SatX (defineLocal name) s Q := by
  cases hd : definedSym name t with
  | some sym => exact SatX.of_run (runCM_defineLocal_ex htr hd) (hex sym hd)
  | none =>
    apply SatX.of_run (runCM_defineLocal_new htr hd)
    have hr := updateMaxDefs_rel (nextIndex s.tables + 1) (defLocalTable s.builtins name (newLocal name s.tables) t :: r)
    rw [updateMaxDefs_cons] at hr ⊢
    cases hr with
    | cons _ hr =>
      exact hnew hd _ _ (by simp [defLocalTable]) (by simp [defLocalTable]) (by simp [defLocalTable]; omega)
        (by simp [defLocalTable]) hr.tabsExt

theorem mono_defineLocal (name : String) : Mono (defineLocal name) := by
  intro s hs
  obtain ⟨t, r, htr⟩ := List.exists_cons_of_ne_nil hs
  apply satx_defineLocal htr
  · intro sym _
    exact ⟨rfl, Ext.refl hs, trivial⟩
  · intro hd t1 r1 h1 h2 h3 h4 h5
    exact and_assoc.mp ⟨ext_head htr rfl h5 (fun _ =>
      rootExt_putSym h1 (fun y0 h0 => .inl (definedSym_none hd y0 h0)) h2 h3 h4 (by intro h; cases h)) (IsPre.refl _), trivial⟩

theorem satx_seq {α β} {P : α → Prop} {m : CM α} {f : α → CM β} {s : CState} {Q : β → CState → Prop}
    (hm : MonoP P m) (hne : s.tables ≠ [])
    (h : ∀ a s', s'.tables.length = s.tables.length → Ext s s' → P a → SatX (f a) s' Q) : SatX (m >>= f) s Q := by
  apply SatX.bind
  apply SatX.mono (hm s hne)
  intro a s' ⟨h1, h2, h3⟩
  exact ⟨h2, h a s' h1 h2 h3⟩

theorem satx_frame {α β} {m : CM α} {f : α → CM β} {s : CState} {Q : β → CState → Prop} (hm : Frame m) (hne : s.tables ≠ [])
    (h : ∀ a s', s'.tables = s.tables → s'.constants = s.constants → SatX (f a) s' Q) : SatX (m >>= f) s Q :=
  SatX.bind ((hm.sat s hne).mono fun a s' ⟨h1, h2⟩ => ⟨Ext.of_same hne h1 h2, h a s' h1 h2⟩)

/-- like `SatX`, with the abnormal outcomes measured against an earlier state `base` -/
abbrev SatB {α} (base : CState) (m : CM α) (s : CState) (Q : α → CState → Prop) : Prop :=
  SatE (fun _ s' => Ext base s') m s Q

theorem SatB.toX {α} {m : CM α} {s : CState} {Q : α → CState → Prop} (h : SatB s m s Q) : SatX m s Q := h
theorem SatB.ofX {α} {m : CM α} {s : CState} {Q : α → CState → Prop} (h : SatX m s Q) : SatB s m s Q := h

theorem SatB.of_mono {α} {base : CState} {P : α → Prop} {m : CM α} {s : CState} (hm : MonoP P m) (he : Ext base s) :
    SatB base m s (fun b s' => s'.tables.length = s.tables.length ∧ Ext base s' ∧ P b) :=
  SatE.imp (E := fun _ s' => Ext s s') (hm s he.ne) (fun _ _ h => ⟨h.1, he.trans h.2.1, h.2.2⟩) fun _ _ => he.trans

theorem SatB.tail {α} {base : CState} {P : α → Prop} {m : CM α} {s : CState} (hm : MonoP P m)
    (h : s.tables.length = base.tables.length ∧ Ext base s) :
    SatB base m s (fun b s' => s'.tables.length = base.tables.length ∧ Ext base s' ∧ P b) :=
  (SatB.of_mono hm h.2).imp (fun _ _ ⟨h1, h2, h3⟩ => ⟨h1.trans h.1, h2, h3⟩) fun _ _ => id

theorem SatB.seq {α β} {base : CState} {P : α → Prop} {m : CM α} {f : α → CM β} {s : CState} {Q : β → CState → Prop}
    (hm : MonoP P m) (he : Ext base s)
    (h : ∀ a s', s'.tables.length = s.tables.length → Ext base s' → P a → SatB base (f a) s' Q) :
    SatB base (m >>= f) s Q :=
  SatE.bind ((SatB.of_mono hm he).imp (fun a s' h1 => h a s' h1.1 h1.2.1 h1.2.2) fun _ _ => id)

theorem ext_push {s : CState} (hs : s.tables ≠ []) (x : Table) : Ext s { s with tables := x :: s.tables } := by
  refine ⟨by simp, ?_, IsPre.refl _⟩
  simp only
  rw [rootOf_cons_ne hs]
  exact RootExt.refl _

theorem ext_pop {s : CState} {t : Table} {r : List Table} (htr : s.tables = t :: r) (hr : r ≠ []) :
    Ext s { s with tables := r } := by
  refine ⟨hr, ?_, IsPre.refl _⟩
  simp only [htr]
  rw [rootOf_cons_ne hr]
  exact RootExt.refl _

theorem mono_withBlock {body : CM Unit} (hb : Mono body) : Mono (withBlock body) := by
  intro s hs
  obtain ⟨t, r, htr⟩ := List.exists_cons_of_ne_nil hs
  unfold withBlock
  apply SatX.bind
  apply SatX.of_run (runCM_forkTable true htr)
  refine ⟨ext_push hs _, ?_⟩
  apply satx_seq hb (by simp)
  intro _ s2 hl2 he2 _
  simp only [List.length_cons] at hl2
  obtain ⟨t2, r2, htr2⟩ := List.exists_cons_of_ne_nil he2.ne
  have hr2 : r2 ≠ [] := by
    intro h0; rw [htr2, h0] at hl2; simp at hl2; exact hs hl2
  apply SatX.bind
  apply SatX.of_run (runCM_popTable htr2)
  refine ⟨ext_pop htr2 hr2, ?_⟩
  apply SatX.pure
  refine ⟨?_, (ext_push hs _).trans (he2.trans (ext_pop htr2 hr2)), trivial⟩
  rw [htr2] at hl2
  simp at hl2 ⊢
  omega

theorem mono_withLoop {body : CM Unit} (hb : Mono body) : Mono (withLoop body) := by
  unfold withLoop
  exact MonoP.bind (Frame.mono frame_pushLoop) fun _ _ => MonoP.bind hb fun _ _ => (Frame.mono frame_popLoop)

theorem tabsExt_len_eq {ts ts' : List Table} (h : TabsExt ts ts') : ts'.length = ts.length := h.len

theorem rootExt_defLocalTable {bs : List (String × Nat)} {name : String} {sym : Symbol} {t : Table}
    (hnew : ∀ y0, lookupSym name t.store = some y0 → y0.scope = .builtin) (hg : sym.scope ≠ .global) :
    RootExt t (defLocalTable bs name sym t) :=
  RootExt.shadow _ _ (rootExt_putSym rfl (fun y0 h0 => .inl (hnew y0 h0)) rfl (Nat.le_refl _) (Nat.le_succ _)
    fun h => absurd h hg)

theorem mono_setParamsLoop (pos : Pos) : ∀ (ps : List String) (k : Nat), Mono (setParamsLoop pos ps k)
  | [], _ => by unfold setParamsLoop; exact MonoP.pure trivial
  | p :: rest, k => by
    intro s hs
    obtain ⟨t, r, htr⟩ := List.exists_cons_of_ne_nil hs
    unfold setParamsLoop
    apply SatB.toX
    apply SatE.bind_run (runCM_get s)
    apply SatE.bind_run (runCM_headTable htr)
    split
    · exact SatB.ofX <| satx_step (runCM_modHead _ htr) (ext_head htr rfl (TabsExt.refl r)
        (fun _ => rootExt_sameStore rfl rfl (Nat.le_refl _) (Nat.le_refl _)) (IsPre.refl _)) MonoP.cerr
    · rename_i hl
      have hnone : lookupSym p t.store = none := by simpa using hl
      have hf : RootExt t (defLocalTable s.builtins p { name := p, index := (nextIndex s.tables : Int), scope := .local_ } t) :=
        rootExt_defLocalTable (fun y0 h0 => by rw [hnone] at h0; cases h0) (by intro h; cases h)
      exact SatB.ofX <| satx_step (runCM_modHead _ htr) (ext_head htr rfl (TabsExt.refl r) (fun _ => hf) (IsPre.refl _))
        (MonoP.bind (mono_updateMaxDefs _) fun _ _ => mono_setParamsLoop pos rest (k + 1))

theorem mono_setParams (pos : Pos) (ps : List String) : Mono (setParams pos ps) := by
  unfold setParams
  split
  · exact MonoP.pure trivial
  · refine MonoP.bind (P := fun _ => True) (Frame.mono frame_headTable) fun t _ => ?_
    split
    · exact MonoP.cerr
    · split
      · exact MonoP.cerr
      · refine MonoP.bind (P := fun _ => True) (mono_setParamsLoop pos ps 0) fun _ _ => ?_
        exact mono_modHead fun t => rootExt_sameStore rfl rfl (Nat.le_refl _) (Nat.le_refl _)

theorem mono_defineConstLitSym (name : String) (v : Option CVal) : Mono (defineConstLitSym name v) := by
  intro s hs
  obtain ⟨t, r, htr⟩ := List.exists_cons_of_ne_nil hs
  unfold defineConstLitSym
  apply SatB.toX
  apply SatE.bind_run (runCM_get s)
  apply SatE.bind_run (runCM_headTable htr)
  split
  · exact SatB.ofX (SatX.pure ⟨rfl, Ext.refl hs, trivial⟩)
  · rename_i hnone
    exact SatB.ofX <| satx_step (runCM_modHead _ htr) (ext_head htr rfl (TabsExt.refl r) (fun _ => RootExt.shadow _ _
      (rootExt_putSym rfl (fun y0 h0 => by rw [hnone] at h0; cases h0) rfl (Nat.le_refl _) (Nat.le_refl _)
        (by intro h; cases h))) (IsPre.refl _)) (MonoP.pure trivial)

theorem satx_defineTail (pos : Pos) (ident : String) (keyword : Nat) {s s1 : CState} {t t1 : Table} {r r1 : List Table}
    {sym : Symbol} (htr : s.tables = t :: r) (htr1 : s1.tables = t1 :: r1) (hr : TabsExt r r1)
    (hc : s1.constants = s.constants) (hl : lookupSym ident t1.store = some sym)
    (hh : r = [] → RootExt t { t1 with store := putSym ident { sym with constant := keyword == tConst && ident != "_" } t1.store }) :
    SatX (do
      let s ← get
      if s.iotaVal > -1 && ident == "iota" && keyword == tConst then cerr pos "assignment to iota"
      else do
        emit_ pos OpDefineLocal [sym.index]
        updateSym ident fun y => { y with constant := keyword == tConst && ident != "_" } : CM Unit) s1
      (fun _ s' => s'.tables.length = s.tables.length ∧ Ext s s' ∧ True) := by
  have hs1 : s1.tables ≠ [] := by simp [htr1]
  apply SatX.bind
  apply SatX.of_run (runCM_get s1)
  refine ⟨Ext.refl hs1, SatX.ite (fun _ => SatX.throw hs1) fun _ => ?_⟩
  apply satx_frame (frame_emit_ _ _ _) hs1
  intro _ s2 ht2 hc2
  apply SatX.of_run (runCM_updateSym (ht2.trans htr1) hl)
  exact and_assoc.mp ⟨ext_head htr rfl hr hh (by simp only [hc2, hc]; exact IsPre.refl _), trivial⟩

/-- `compileDefine`: a new name is put with its final constness; an existing one (only with
    `allowRedefine`, i.e. not for `const`, or `_`) keeps it -/
theorem mono_compileDefine (pos : Pos) (ident : String) (allow : Bool) (keyword : Nat)
    (hak : allow = true → keyword ≠ tConst) : Mono (compileDefine pos ident allow keyword) := by
  intro s hs
  obtain ⟨t, r, htr⟩ := List.exists_cons_of_ne_nil hs
  unfold compileDefine
  apply SatX.bind
  apply satx_defineLocal htr
  · intro sym hd
    obtain ⟨hl, _⟩ := definedSym_some.mp hd
    refine ⟨Ext.refl hs, ?_⟩
    simp only
    refine SatX.ite (fun _ => SatX.throw hs) fun h1 => SatX.ite (fun _ => SatX.throw hs) fun h2 =>
      SatX.ite (fun _ => SatX.throw hs) fun hc => ?_
    have hsc : sym.constant = false := by simpa using hc
    have hcf : (keyword == tConst && ident != "_") = sym.constant := by
      rw [hsc]
      by_cases ha : allow = true
      · have := hak ha
        simp [this]
      · by_cases hid : ident = "_"
        · simp [hid]
        · exfalso
          apply h1
          simp [ha, hid]
    have hng : sym.scope ≠ .global := by
      intro hg
      apply h2
      simp [hg]
    exact satx_defineTail pos ident keyword htr htr (TabsExt.refl r) rfl hl fun _ =>
      rootExt_putSym rfl (fun y0 h0 => by
        rw [hl] at h0; injection h0 with h0; subst h0
        exact .inr ⟨rfl, hcf, rfl, rfl, .inl rfl⟩) rfl (Nat.le_refl _) (Nat.le_refl _) (fun hg => absurd hg hng)
  · -- what `updateSym` puts replaces what `defineLocal` has put
    intro hd t1 r1 h1 h2 h3 h4 h5
    have hb : ∀ y y0, lookupSym ident t.store = some y0 → y0.scope = .builtin ∨ SymKeep y0 y :=
      fun _ y0 h0 => .inl (definedSym_none hd y0 h0)
    refine ⟨(ext_head (s' := { s with tables := t1 :: r1 }) htr rfl h5
      (fun _ => rootExt_putSym h1 (hb _) h2 h3 h4 (by intro h; cases h)) (IsPre.refl _)).2, ?_⟩
    simp only [newLocal, Bool.and_false, Bool.false_and, Bool.false_eq_true, ↓reduceIte]
    exact satx_defineTail pos ident keyword (sym := newLocal ident s.tables) htr rfl h5 rfl
      (by rw [h1]; exact lookupSym_putSym_self _ _ _) fun _ =>
        rootExt_putSym (y := { newLocal ident s.tables with constant := keyword == tConst && ident != "_" })
          (by simp only [h1, putSym_putSym]) (hb _) h2 h3 h4 (by intro h; cases h)

theorem SatE.addConst {β} {E : CErr → CState → Prop} (k : CVal) {f : Nat → CM β} {s : CState} {Q : β → CState → Prop}
    (h : ∀ i cs', IsPre s.constants cs' → SatE E (f i) { s with constants := cs' } Q) :
    SatE E (Compile.addConstant k >>= f) s Q :=
  SatE.bind (SatE.addConstant k (fun i _ => h i _ (IsPre.refl _)) fun _ => h _ _ (IsPre.push _ _))

theorem mono_declGlobals (pos : Pos) : ∀ l : List (Pos × String × Bool), Mono (declGlobals pos l)
  | [] => by unfold declGlobals; exact MonoP.pure trivial
  | (_, name, _) :: rest => by
    have ih := mono_declGlobals pos rest
    intro s hs
    obtain ⟨t, r, htr⟩ := List.exists_cons_of_ne_nil hs
    unfold declGlobals
    apply SatB.toX
    apply SatE.bind_run (runCM_get s)
    apply SatE.bind_run (runCM_headTable htr)
    split
    · rename_i sym hl
      split
      · exact SatB.ofX (SatX.throw hs)
      · rename_i hg
        have hsg : sym.scope = .global := by simpa using hg
        refine SatE.addConst _ fun i cs' hpre => ?_
        refine SatE.bind_run (runCM_updateSym (by exact htr) hl) ?_
        exact SatB.tail ih (ext_head htr rfl (TabsExt.refl r) (fun _ =>
          rootExt_putSym rfl (fun y0 h0 => by
            rw [hl] at h0; injection h0 with h0; subst h0
            exact .inr ⟨rfl, rfl, rfl, rfl, .inr hsg⟩) rfl (Nat.le_refl _) (Nat.le_refl _) (fun _ => by simp)) hpre)
    · rename_i hnone
      apply SatE.bind_run (runCM_modHead _ htr)
      refine SatE.addConst _ fun i cs' hpre => ?_
      refine SatE.bind_run (runCM_updateSym rfl (by rw [shadowBuiltin_store]; exact lookupSym_putSym_self _ _ _)) ?_
      exact SatB.tail ih (ext_head htr rfl (TabsExt.refl r) (fun _ =>
        rootExt_putSym (name := name) (y := { name := name, index := (i : Int), scope := .global })
          (by simp [putSym_putSym]) (fun y0 h0 => by rw [hnone] at h0; cases h0)
          (by simp) (by simp) (by simp) (fun _ => by simp)) hpre)

theorem mono_withFn (pos : Pos) (variadic : Bool) (params : List String) {body : CM Unit} (hb : Mono body) :
    Mono (withFn pos variadic params body) := by
  intro s hs
  obtain ⟨t, r, htr⟩ := List.exists_cons_of_ne_nil hs
  refine SatB.toX (SatE.withFn htr ?_)
  refine SatB.seq (mono_setParams pos params) ⟨List.cons_ne_nil _ _, (ext_push hs _).root, IsPre.refl _⟩ ?_
  intro _ s2 hl2 he2 _
  apply SatB.seq hb he2
  intro _ s4 hl4 he4 _
  refine (SatB.of_mono (Frame.mono frame_finishFn) he4).imp ?_ fun _ _ => id
  intro fn s5 ⟨hl5, he5, _⟩
  obtain ⟨t5, r5, htr5⟩ := List.exists_cons_of_ne_nil he5.ne
  have hlen : r5.length = s.tables.length := by
    have : s5.tables.length = s.tables.length + 1 := by rw [hl5, hl4, hl2]; rfl
    rw [htr5] at this
    simpa using this
  have hr5 : r5 ≠ [] := by
    intro h0; rw [h0] at hlen; exact hs (List.length_eq_zero_iff.mp hlen.symm)
  refine ⟨t5, r5, htr5, hlen, ⟨hr5, ?_, he5.consts⟩, trivial⟩
  have := he5.root
  rw [htr5, rootOf_cons_ne hr5] at this
  exact this

theorem mono_emitConstant (pos : Pos) (v : CVal) : Mono (emitConstant pos v) :=
  MonoP.bind (mono_addConstant v) fun _ _ => Frame.mono (frame_emit_ _ _ _)

theorem tab_mono : TabClosed @Mono where
  pure _ := MonoP.pure trivial
  bind hm hf := MonoP.bind hm fun a _ => hf a
  cerr _ _ := MonoP.cerr
  get _ h := MonoP.bind (Frame.mono Frame.get) fun a _ => h a
  headTable := Frame.mono frame_headTable

theorem mono_emitFnConstant (pos : Pos) (fn : CFn) (n : Nat) : Mono (emitFnConstant pos fn n) :=
  MonoP.bind (mono_addFnConstant fn) fun _ _ =>
    tab_mono.ite (Frame.mono (frame_emit_ _ _ _)) (Frame.mono (frame_emit_ _ _ _))

theorem mono_defineConstLit (name : String) (v : VSum) : Mono (defineConstLit name v) :=
  tab_mono.defineConstLit name v (mono_defineConstLitSym name)

end UgoVerif.Compile

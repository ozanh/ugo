import UgoVerif.Proofs.CompileMono
import UgoVerif.Proofs.CompileMain
/-
  C10: every function of the compiler's mutual block is monotone (`MonoP`, Proofs/CompileMono.lean):
  the root symbol table and the constant pool only grow, whatever the outcome.  `monoLogic`
  satisfies the rules of Proofs/CompileLogic.lean; it looks at tables and constants only, so a
  patching sequence has nothing to track and every instruction-stream helper is a `Frame`.
-/
namespace UgoVerif.Compile
open UgoVerif UgoVerif.Go UgoVerif.Ast

abbrev MSt (s0 s : CState) : Prop := s.tables ≠ [] ∧ s.tables.length = s0.tables.length ∧ Ext s0 s

def monoLogic : Logic :=
  .plain @SatX (fun s => s.tables ≠ []) (fun s s' => s'.tables.length = s.tables.length ∧ Ext s s') (fun s0 _ _ _ s => MSt s0 s)
    (fun _ _ => True) False

theorem MonoP.toLogic {α} {X Y : monoLogic.M} {P : α → Prop} {m : CM α} (h : MonoP P m) : monoLogic.GoodP X Y P m :=
  fun s hs => SatX.mono (h s hs) fun _ _ ⟨hl, he, hp⟩ => ⟨he.ne, ⟨hl, he⟩, hp⟩

theorem MonoP.ofLogic {α} {X Y : monoLogic.M} {P : α → Prop} {m : CM α} (h : monoLogic.GoodP X Y P m) : MonoP P m :=
  fun s hs => SatX.mono (h s hs) fun _ _ ⟨_, ⟨hl, he⟩, hp⟩ => ⟨hl, he, hp⟩

theorem MSt.same {s0 s s' : CState} (h : MSt s0 s) (h1 : s'.tables = s.tables) (h2 : s'.constants = s.constants) :
    MSt s0 s' :=
  ⟨h1 ▸ h.1, h1 ▸ h.2.1, h.2.2.trans (Ext.of_same h.1 h1 h2)⟩

theorem satx_good_bind {α β} {P : α → Prop} {m : CM α} {f : α → CM β} {s0 s : CState} {Q : β → CState → Prop}
    (hm : MonoP P m) (hst : MSt s0 s) (h : ∀ a s', P a → MSt s0 s' → SatX (f a) s' Q) : SatX (m >>= f) s Q := by
  apply SatX.bind
  apply SatX.mono (hm s hst.1)
  intro a s1 ⟨hl, he, hp⟩
  exact ⟨he, h a s1 hp ⟨he.ne, hl.trans hst.2.1, hst.2.2.trans he⟩⟩

theorem satx_emit_bind {β} {pos : Pos} {op : Nat} {args : List Int} {f : Nat → CM β} {s0 s : CState}
    {Q : β → CState → Prop} (hst : MSt s0 s) (h : ∀ s', MSt s0 s' → SatX (f s.insts.size) s' Q) :
    SatX (emit pos op args >>= f) s Q :=
  SatX.bind (SatE.emit (fun _ _ => Ext.refl hst.1) fun _ _ _ _ => ⟨Ext.of_same hst.1 rfl rfl, h _ (hst.same rfl rfl)⟩)

theorem mono_modify_misc {f : CState → CState} (h1 : ∀ s, (f s).tables = s.tables) (h2 : ∀ s, (f s).constants = s.constants) :
    Mono (modify f : CM Unit) := Frame.mono (Frame.modify h1 h2)

theorem mono_rules : Rules monoLogic where
  toModes := Modes.plain
  satPure := SatX.pure
  pureP h := (MonoP.pure h).toLogic
  satBind hm hf := SatX.bind (SatX.mono hm fun a s1 ⟨h1, ⟨hl, he⟩, pa⟩ =>
    ⟨he, SatX.mono (hf a s1 h1 pa) fun _ _ ⟨k1, ⟨kl, ke⟩, kb⟩ => ⟨k1, ⟨kl.trans hl, he.trans ke⟩, kb⟩⟩)
  getP _ h := (MonoP.bind (Frame.mono Frame.get) fun a _ => MonoP.ofLogic (h a)).toLogic
  cerrP := MonoP.cerr.toLogic
  unsupportedP := MonoP.cunsupported.toLogic
  panicP _ := MonoP.cpanic.toLogic
  init _ hs := ⟨hs, rfl, Ext.refl hs⟩
  done h := ⟨h.1, h.2, trivial⟩
  stGood hm := satx_good_bind (MonoP.ofLogic hm)
  stCurPos hst h := SatX.bind (SatX.of_run rfl ⟨Ext.refl hst.1, h hst⟩)
  stEmitTgt hst _ _ _ := satx_emit_bind hst
  stEmit hst _ _ _ _ h := satx_emit_bind hst h
  stPatch hst _ _ _ h := satx_good_bind (frame_changeOperand _ _).mono hst fun _ s' _ hst' => h s' hst'
  stWithLoop hb hst h := satx_good_bind (mono_withLoop (MonoP.ofLogic hb)) hst fun loop s' _ hst' => h loop s' hst'
  stModLoop hst _ _ h := satx_good_bind (frame_modLoop _).mono hst fun _ s' _ hst' => h s' hst'
  headTableP := tab_mono.headTable.toLogic
  emit_P _ _ _ _ _ := (Frame.mono (frame_emit_ _ _ _)).toLogic
  makeArrayP _ _ := (Frame.mono (frame_emit_ _ _ _)).toLogic
  emitConstantP pos v _ := (mono_emitConstant pos v).toLogic
  defineLocalP name := (mono_defineLocal name).toLogic
  defineConstLitP name v := (mono_defineConstLit name v).toLogic
  modifyP h1 _ _ h4 _ := (mono_modify_misc h1 h4).toLogic
  resolveS name _ hs :=
    ((mono_resolve name).weaken (P' := fun r => ∀ y : Symbol, r = some y → True) fun _ _ _ _ => trivial).toLogic _ hs
  emitSymS _ _ _ _ _ hs _ _ _ _ := (Frame.mono (frame_emit_ _ _ _)).toLogic _ hs
  symConstLit _ _ := .inl nofun
  compileDefineP pos ident allow kw hak _ := (mono_compileDefine pos ident allow kw hak).toLogic
  setParamsP pos ps := (mono_setParams pos ps).toLogic
  declGlobalsP pos l := (mono_declGlobals pos l).toLogic
  withBlockP hb := (mono_withBlock (MonoP.ofLogic hb)).toLogic
  funcLitP pos variadic params _ _ _ hb :=
    (MonoP.bind (mono_withFn pos variadic params (MonoP.ofLogic (hb nofun))) fun _ _ =>
      MonoP.bind (tab_mono.emitFreePtrs pos (fun _ _ _ => Frame.mono (frame_emit_ _ _ _)) _) fun _ _ =>
        tab_mono.ite MonoP.throw (mono_emitFnConstant _ _ _)).toLogic

theorem mono_compileStmts (ss : List Stmt) : Mono (compileStmts ss) :=
  MonoP.ofLogic (mono_rules.compileStmtsP ss ⟨nofun, nofun, nofun⟩)

theorem mono_compileExpr (e : Expr) : Mono (compileExpr e) :=
  MonoP.ofLogic (mono_rules.compileExprP e 0 ⟨nofun, nofun, nofun⟩)

end UgoVerif.Compile

import UgoVerif.Proofs.CompileClosed
/-
  C05: the block / loop / function combinators and the non-recursive compile functions that write
  the symbol tables or the constant pool keep the invariant and never panic; an instruction whose
  operand is the index of a resolved symbol is fine (`sat_emit_free`, `sat_emit_global`,
  `sat_emit_builtin`).  The helpers in which a resolved symbol only decides what is emitted are
  walked for every analysis at once, in Proofs/CompileLogic.lean.
-/
namespace UgoVerif.Compile
open UgoVerif UgoVerif.Go UgoVerif.Ast

theorem limsOf_tables {s s' : CState} (hc : s'.constants = s.constants) (h1 : fmd s'.tables = fmd s.tables)
    (h2 : fnf s'.tables = fnf s.tables) : limsOf s' = limsOf s := by
  simp [limsOf, hc, h1, h2]

theorem good_withBlock {body : CM Unit} (hb : Good body) : Good (withBlock body) := by
  intro s hs
  obtain ⟨t, r, htr⟩ := List.exists_cons_of_ne_nil hs.ne
  unfold withBlock
  apply Sat.bind_of_run (runCM_forkTable true htr)
  generalize htn : ({ block := true, disableParams := t.disableParams, hasParentConstLit := t.hasConstLit || t.hasParentConstLit } : Table) = tn
  have hblk : tn.block = true := by subst htn; rfl
  generalize hs1 : ({ s with tables := tn :: s.tables } : CState) = s1
  have ht1 : s1.tables = tn :: s.tables := by subst hs1; rfl
  have hin1 : s1.insts = s.insts := by subst hs1; rfl
  have hl1 : s1.loops = s.loops := by subst hs1; rfl
  have hc1 : s1.constants = s.constants := by subst hs1; rfl
  have hb1 : s1.builtins = s.builtins := by subst hs1; rfl
  have hi1 : Inv s1 := by
    refine hs.of_tables (by rw [ht1]; simp) ?_ ?_ hin1 hl1 hc1 hb1
    · rw [ht1, hc1]; exact chain_fork hs.chain hs.ne tn (by subst htn; rfl) (by subst htn; rfl) (by subst htn; rfl)
    · rw [limsOf_tables hc1 (by rw [ht1]; exact fmd_cons_block hblk) (by rw [ht1]; exact fnf_cons_block hblk)]
      exact Lims.le_refl _
  apply Sat.bind
  apply Sat.mono (hb s1 hi1)
  intro _ s2 ⟨hi2, hr2, _⟩
  obtain ⟨t2, r2, htr2⟩ := List.exists_cons_of_ne_nil hi2.ne
  apply Sat.bind_of_run (runCM_popTable htr2)
  apply Sat.pure
  have hch : ChainLE (tn :: s.tables) (t2 :: r2) := by rw [← ht1, ← htr2]; exact hr2.chain
  have hblk2 : t2.block = true := by rw [hch.1]; exact hblk
  have hrne : r2 ≠ [] := ChainLE.ne_nil hch.tail hs.ne
  have hchain2 : ChainOK s2.constants r2 := by have := hi2.chain; rw [htr2] at this; exact this.tail
  refine ⟨⟨hrne, hchain2, hi2.walk, hi2.loops, hi2.consts, ?_, hi2.bok, hi2.tryLt⟩,
    hr2.transfer hin1 hl1 rfl rfl hch.tail (by rw [← hc1]; exact hr2.cpre), trivial⟩
  have e2 : limsOf { s2 with tables := r2 } = limsOf s2 :=
    limsOf_tables rfl (by rw [htr2]; exact (fmd_cons_block hblk2).symm) (by rw [htr2]; exact (fnf_cons_block hblk2).symm)
  rw [e2]; exact hi2.targets

theorem good_blockOf {body : List Stmt} {act : CM Unit} (h : Good act) : Good (blockOf body act) := by
  unfold blockOf
  split
  · exact GoodP.pure trivial
  · exact good_withBlock h

theorem good_ite {α} {c : Prop} [Decidable c] {P : α → Prop} {a b : CM α} (ha : GoodP P a) (hb : GoodP P b) :
    GoodP P (if c then a else b) := by
  split
  · exact ha
  · exact hb

/-- the body of `Inv.loops` -/
def LoopsOK (a : Array UInt8) (ls : List Loop) : Prop :=
  ∀ l ∈ ls, ∀ p, (p ∈ l.breaks ∨ p ∈ l.continues) → Bd a p ∧ Jumpy a p

theorem loopsOK_push {a : Array UInt8} {ls : List Loop} (h : LoopsOK a ls) (i : Int) :
    LoopsOK a ({ lastTryCatchIndex := i } :: ls) := by
  intro l hl p hp
  rcases List.mem_cons.1 hl with rfl | hl
  · simp at hp
  · exact h l hl p hp

/-- the `popLoop` of `withLoop`: `a`, `ls` before the fresh loop object is pushed, `a2`, `ls2` after the body -/
theorem loops_pop {a0 a a2 : Array UInt8} {ls0 ls ls2 : List Loop} {ps : List Nat} {i : Int} (h0 : LoopRel a0 ls0 a ls)
    (hp : ∀ p ∈ ps, (Bd a p ∧ Jumpy a p) ∧ a0.size ≤ p) (h12 : LoopRel a ({ lastTryCatchIndex := i } :: ls) a2 ls2)
    (hok : LoopsOK a2 ls2) :
    ∃ l2, ls2 = l2 :: ls ∧ Pre a a2 ∧ LoopsOK a2 ls ∧ LoopRel a0 ls0 a2 ls ∧
      ∀ p ∈ l2.breaks ++ l2.continues ++ ps, (Bd a2 p ∧ Jumpy a2 p) ∧ a0.size ≤ p := by
  obtain ⟨l2, hl2⟩ : ∃ l2, ls2 = l2 :: ls := by
    have h1 := h12.llen
    have h2 := h12.ltail
    cases ls2 with
    | nil => simp at h1
    | cons a b => simp at h2; exact ⟨a, by rw [h2]⟩
  subst hl2
  have hpre := h12.pre
  refine ⟨l2, rfl, hpre, fun l hl => hok l (List.mem_cons_of_mem _ hl),
    ⟨h0.pre.trans hpre, h0.llen, h0.ltail, h0.lhead⟩, ?_⟩
  intro p hp'
  simp only [List.mem_append] at hp'
  have hh := h12.lhead _ l2 rfl rfl p
  have hs0 := h0.pre.1
  have hnew : (p ∈ l2.breaks ∨ p ∈ l2.continues) → (Bd a2 p ∧ Jumpy a2 p) ∧ a0.size ≤ p := by
    intro hq
    refine ⟨hok l2 List.mem_cons_self p hq, ?_⟩
    rcases hq with hq | hq
    · rcases hh.1 hq with h' | h'
      · simp at h'
      · omega
    · rcases hh.2 hq with h' | h'
      · simp at h'
      · omega
  rcases hp' with (hq | hq) | hq
  · exact hnew (.inl hq)
  · exact hnew (.inr hq)
  · exact ⟨pend_pre (hp p hq).1 hpre, (hp p hq).2⟩

theorem loops_add {f : Loop → Loop} {p : Nat} {a0 a : Array UInt8} {ls0 ls ls' : List Loop}
    (hls : ls' = match ls with | l :: r => f l :: r | [] => []) (h0 : LoopRel a0 ls0 a ls)
    (hok : LoopsOK a ls) (hbd : Bd a p ∧ Jumpy a p) (hge : a0.size ≤ p)
    (hf : ∀ l q, (q ∈ (f l).breaks → q ∈ l.breaks ∨ q = p) ∧ (q ∈ (f l).continues → q ∈ l.continues ∨ q = p)) :
    LoopsOK a ls' ∧ LoopRel a0 ls0 a ls' := by
  subst hls
  cases ls with
  | nil => exact ⟨fun l h => by simp at h, h0⟩
  | cons l r =>
    refine ⟨?_, h0.pre, h0.llen, h0.ltail, ?_⟩
    · intro l' hl' q hq
      rcases List.mem_cons.1 hl' with rfl | hl'
      · have hold := hok l List.mem_cons_self q
        rcases hq with hq | hq
        · rcases (hf l q).1 hq with h | h
          · exact hold (.inl h)
          · subst h; exact hbd
        · rcases (hf l q).2 hq with h | h
          · exact hold (.inr h)
          · subst h; exact hbd
      · exact hok l' (List.mem_cons_of_mem _ hl') q hq
    · intro l0 l' h0' h' q
      injection h' with h'
      subst h'
      have := h0.lhead l0 l h0' rfl q
      constructor
      · intro hq
        rcases (hf l q).1 hq with h | h
        · exact this.1 h
        · subst h; exact .inr hge
      · intro hq
        rcases (hf l q).2 hq with h | h
        · exact this.2 h
        · subst h; exact .inr hge

theorem st_withLoop_bind {β} {body : CM Unit} {f : Loop → CM β} {s0 s : CState} {ps ts ins : List Nat}
    {Q : β → CState → Prop} (hb : Good body) (hst : St s0 ps ts ins s)
    (h : ∀ loop s', St s0 (loop.breaks ++ loop.continues ++ ps) ts ins s' → Sat (f loop) s' Q) :
    Sat (withLoop body >>= f) s Q := by
  apply Sat.bind
  unfold withLoop pushLoop
  apply Sat.bind
  apply Sat.modify
  have hi := hst.inv
  have hi1 : Inv { s with loops := { lastTryCatchIndex := s.tryCatchIndex } :: s.loops } :=
    ⟨hi.ne, hi.chain, hi.walk, loopsOK_push hi.loops _, hi.consts, hi.targets, hi.bok, hi.tryLt⟩
  apply Sat.bind
  apply Sat.mono (hb _ hi1)
  intro _ s2 ⟨hi2, hr2, _⟩
  unfold popLoop
  apply Sat.bind
  apply Sat.get
  apply Sat.bind
  apply Sat.set
  apply Sat.pure
  obtain ⟨l2, hl2, hpre, hlo, hrel, hpend⟩ := loops_pop hst.rel.loopRel hst.pend hr2.loopRel hi2.loops
  simp only [hl2, List.head?_cons, Option.getD_some, List.drop_succ_cons, List.drop_zero]
  exact h _ _ ⟨⟨hi2.ne, hi2.chain, hi2.walk, hlo, hi2.consts, hi2.targets, hi2.bok, hi2.tryLt⟩,
    ⟨hst.rel.chain.trans hr2.chain, hrel.pre, hrel.llen, hrel.ltail, hrel.lhead, hst.rel.cpre.trans hr2.cpre⟩,
    hpend, fun t ht => (hst.tgt t ht).pre hpre, fun t ht => Nat.lt_of_lt_of_le (hst.ins t ht) hpre.1⟩

/-- side goals `op < numOpcodes` -/
syntax "opc" : tactic
macro_rules | `(tactic| opc) => `(tactic| first | decide | (split <;> decide))

/-- side goals `StaticArgs op args` -/
syntax "opa1" : tactic
macro_rules | `(tactic| opa1) => `(tactic| first
  | exact ⟨fun h => absurd h (by decide), fun h => absurd h (by decide), by decide⟩
  | exact ⟨fun _ => rfl, fun h => absurd h (by decide), by decide⟩
  | exact ⟨fun h => absurd h (by decide), fun _ => rfl, by decide⟩)
syntax "opa" : tactic
macro_rules | `(tactic| opa) => `(tactic| first | opa1 | (split <;> opa1))

theorem cast_of_exists {i : Int} {P : Nat → Prop} (h : ∃ n : Nat, i = (n : Int) ∧ P n) (m : Nat) (hm : i = (m : Int)) : P m := by
  obtain ⟨n, hn, hp⟩ := h
  have : m = n := by rw [hn] at hm; exact_mod_cast hm.symm
  subst this
  exact hp

theorem sat_emit_opnd {pos : Pos} {op : Nat} {i : Int} {s : CState} (hs : Inv s)
    (hop : op < numOpcodes ∧ isJumpOp op = false ∧ op ≠ OpSetupTry ∧ isConstOp op = false)
    (hi : ∀ n : Nat, i = (n : Int) → (isFreeOp op = true → n < fnf s.tables) ∧ (op = OpGetBuiltin → n < NB) ∧
      (isGlobalOp op = true → ∃ b, s.constants[n]? = some (.val (.str b)))) :
    Sat (emit_ pos op [i]) s (fun _ s' => Inv s' ∧ Rel s s' ∧ True) := by
  obtain ⟨h1, h2, h3, h4⟩ := hop
  refine sat_emit_idx hs h1 h2 h3 (fun c => by subst c; exact absurd h4 (by decide)) fun n hn => ?_
  obtain ⟨hf, hb, hg⟩ := hi n hn
  exact ⟨hf, hb, hg, fun c => Bool.noConfusion (h4.symm.trans c), fun c => by subst c; exact absurd h4 (by decide)⟩

theorem freeOp_plain {op : Nat} (h : isFreeOp op = true) :
    (op < numOpcodes ∧ isJumpOp op = false ∧ op ≠ OpSetupTry ∧ isConstOp op = false) ∧ op ≠ OpGetBuiltin ∧ isGlobalOp op = false := by
  have : op = OpGetFree ∨ op = OpSetFree ∨ op = OpGetFreePtr := by simpa [isFreeOp, or_assoc] using h
  rcases this with rfl | rfl | rfl <;> decide

theorem globalOp_plain {op : Nat} (h : isGlobalOp op = true) :
    (op < numOpcodes ∧ isJumpOp op = false ∧ op ≠ OpSetupTry ∧ isConstOp op = false) ∧ op ≠ OpGetBuiltin ∧ isFreeOp op = false := by
  have : op = OpGetGlobal ∨ op = OpSetGlobal := by simpa [isGlobalOp] using h
  rcases this with rfl | rfl <;> decide

theorem sat_emit_freeIdx {pos : Pos} {op : Nat} {i : Int} {s : CState} (hs : Inv s) (hop : isFreeOp op = true)
    (hi : ∃ n : Nat, i = (n : Int) ∧ n < fnf s.tables) :
    Sat (emit_ pos op [i]) s (fun _ s' => Inv s' ∧ Rel s s' ∧ True) := by
  obtain ⟨hp, hnb, hng⟩ := freeOp_plain hop
  exact sat_emit_opnd hs hp fun n hn => ⟨fun _ => cast_of_exists hi n hn, fun c => absurd c hnb, fun c => Bool.noConfusion (hng.symm.trans c)⟩

theorem sat_emit_free {pos : Pos} {op : Nat} {y : Symbol} {s : CState} (hs : Inv s) (hop : isFreeOp op = true)
    (hy : SymOKx s.constants (fmd s.tables) (fnf s.tables) y) (hsc : y.scope = .free) :
    Sat (emit_ pos op [y.index]) s (fun _ s' => Inv s' ∧ Rel s s' ∧ True) :=
  sat_emit_freeIdx hs hop (hy.2.2.1 hsc)

theorem sat_emit_global {pos : Pos} {op : Nat} {y : Symbol} {s : CState} (hs : Inv s) (hop : isGlobalOp op = true)
    (hy : SymOKx s.constants (fmd s.tables) (fnf s.tables) y) (hsc : y.scope = .global) :
    Sat (emit_ pos op [y.index]) s (fun _ s' => Inv s' ∧ Rel s s' ∧ True) := by
  obtain ⟨hp, hnb, hnf⟩ := globalOp_plain hop
  refine sat_emit_opnd hs hp fun n hn => ⟨fun c => Bool.noConfusion (hnf.symm.trans c), fun c => absurd c hnb, fun _ => ?_⟩
  rcases hy.2.2.2.2 hsc with h | ⟨m, b, hm, hb⟩
  · rw [h] at hn; omega
  · exact cast_of_exists (P := fun k => ∃ b, s.constants[k]? = some (.val (.str b))) ⟨m, hm, b, hb⟩ n hn

theorem sat_emit_builtin {pos : Pos} {i : Int} {s : CState} (hs : Inv s) (hi : ∃ n : Nat, i = (n : Int) ∧ n < NB) :
    Sat (emit_ pos OpGetBuiltin [i]) s (fun _ s' => Inv s' ∧ Rel s s' ∧ True) :=
  sat_emit_opnd hs (by decide) fun n hn =>
    ⟨fun c => absurd c (by decide), fun _ => cast_of_exists hi n hn, fun c => absurd c (by decide)⟩

theorem freeBound_of_targets {L : Lims} {a : Array UInt8} (h : TargetsOK L a) : FreeBound L.nf a := by
  intro p op hbd hop hf
  have hcases : op.toNat = OpGetFree ∨ op.toNat = OpSetFree ∨ op.toNat = OpGetFreePtr := by
    simpa [isFreeOp, or_assoc] using hf
  have hw : operandWidths op.toNat = [1] := by rcases hcases with h | h | h <;> rw [h] <;> rfl
  exact ((h p op hbd hop).2.2.1 1 [] hw).1 hf

theorem good_emitConstant (pos : Pos) (v : CVal) : Good (emitConstant pos v) := by
  intro s hs
  unfold emitConstant
  apply Sat.bind
  apply sat_addConstant hs
  intro i s1 hi1 hr1 _ _ hv'
  apply Sat.mono (sat_emit_idx hi1 (by decide) rfl (by decide) (by decide) ?_)
  · intro _ s2 ⟨hi2, hr2, _⟩
    exact ⟨hi2, hr1.trans hr2, trivial⟩
  · intro n hn
    have hn' : n = i := by exact_mod_cast hn.symm
    subst hn'
    have hlt : n < s1.constants.size := by
      rcases Nat.lt_or_ge n s1.constants.size with h | h
      · exact h
      · simp [Array.getElem?_eq_none h] at hv'
    refine ⟨?_, ?_, ?_, fun _ => hlt, ?_⟩
    · intro c; exact absurd c (by decide)
    · intro c; exact absurd c (by decide)
    · intro c; exact absurd c (by decide)
    · intro _ f hf
      simp only [limsOf] at hf
      rw [hv'] at hf; cases hf

theorem sat_emitFnConstant {pos : Pos} {fn : CFn} {nfree : Nat} {s : CState} (hs : Inv s)
    (hl : fn.numLocals ≤ 256) (hf : FinFn s.constants nfree fn) :
    Sat (emitFnConstant pos fn nfree) s (fun _ s' => Inv s' ∧ Rel s s' ∧ True) := by
  unfold emitFnConstant
  apply Sat.bind
  apply sat_addFnConstant hs (fun cs' hc => ⟨hl, nfree, hf.mono hc⟩)
  intro i s1 hi1 hr1 _ _ ⟨g, hg, hge⟩
  have hfb : FreeBound nfree g.insts := by rw [hge]; exact freeBound_of_targets hf.1.1.2
  have hlt : i < s1.constants.size := by
    rcases Nat.lt_or_ge i s1.constants.size with h | h
    · exact h
    · simp [Array.getElem?_eq_none h] at hg
  have hop1 : ∀ (op : Nat), isConstOp op = true → (op = OpConstant → nfree = 0) → ∀ n : Nat, (i : Int) = (n : Int) →
      Opnd1OK (limsOf s1) op n := by
    intro op hc hz n hn
    have hn' : n = i := by exact_mod_cast hn.symm
    subst hn'
    have hcases := isConstOp_cases hc
    refine ⟨?_, ?_, ?_, fun _ => hlt, ?_⟩
    · intro c; rcases hcases with rfl | rfl <;> exact absurd c (by decide)
    · intro c; rcases hcases with rfl | rfl <;> exact absurd c (by decide)
    · intro c; rcases hcases with rfl | rfl <;> exact absurd c (by decide)
    · intro c f hf'
      simp only [limsOf] at hf'
      rw [hg] at hf'
      injection hf' with hf'
      injection hf' with hf'
      subst hf'
      rw [← hz c]; exact hfb
  split
  · unfold emit_
    apply Sat.bind
    apply sat_emit hi1 (by decide)
    · refine ⟨fun c => absurd c (by decide), fun c => absurd c (by decide), ?_, ?_⟩
      · intro n rest hn
        injection hn with hn _
        exact hop1 OpClosure (by decide) (fun c => absurd c (by decide)) n hn
      · intro _ i' n' hargs
        injection hargs with h1 h2
        injection h2 with h2 _
        have e1 : i' = i := by exact_mod_cast h1.symm
        have e2 : n' = nfree := by exact_mod_cast h2.symm
        subst e1 e2
        exact ⟨g, hg, hfb⟩
    · intro s2 hi2 hr2 _ _ _ _ _
      exact Sat.pure ⟨hi2, hr1.trans hr2, trivial⟩
  · rename_i hz
    have hz' : nfree = 0 := by omega
    apply Sat.mono (sat_emit_idx hi1 (by decide) rfl (by decide) (by decide)
      (fun n hn => hop1 OpConstant (by decide) (fun _ => hz') n hn))
    intro _ s2 ⟨hi2, hr2, _⟩
    exact ⟨hi2, hr1.trans hr2, trivial⟩

theorem nextIndex_ge (t : Table) (r : List Table) : t.numDefinition ≤ nextIndex (t :: r) := by
  simp only [nextIndex]; split <;> omega

/-- `s2` is the state in which both `defineLocal` and `setParamsLoop` leave a new local symbol `name` -/
theorem defineNew_state {name : String} {s : CState} {t : Table} {r : List Table} (hs : Inv s) (htr : s.tables = t :: r)
    (s2 : CState) (hs2 : s2 =
      { s with tables := updateMaxDefs (nextIndex s.tables + 1) (defLocalTable s.builtins name (newLocal name s.tables) t :: r) }) :
    Inv s2 ∧ Rel s s2 ∧ ∃ t' r', s2.tables = t' :: r' ∧ lookupSym name t'.store = some (newLocal name s.tables) ∧
      t'.numDefinition = t.numDefinition + 1 ∧ t.numDefinition + 1 ≤ t'.maxDefinition ∧ t'.numParams = t.numParams ∧
      nextIndex s.tables < fmd s2.tables := by
  subst hs2
  obtain ⟨c1, c2, c3⟩ := chain_define (t1 := defLocalTable s.builtins name (newLocal name s.tables) t) (name := name)
    (sym := newLocal name s.tables) (idx := nextIndex s.tables) (htr ▸ hs.chain) (by simp [defLocalTable])
    (by simp [defLocalTable]) (by simp [defLocalTable]) (by simp [defLocalTable]) (by simp [defLocalTable]) rfl rfl
  have hni := nextIndex_ge t r
  rw [← htr] at hni c2
  refine ⟨hs.of_tables (ChainLE.ne_nil c2 hs.ne) c1 (limsOf_le_of_chain c2 rfl) rfl rfl, Rel.of_same c2 rfl rfl, ?_⟩
  simp only [updateMaxDefs_cons]
  exact ⟨_, _, rfl, by simp [defLocalTable, lookupSym_putSym_self], by simp [defLocalTable],
    by simp [defLocalTable]; omega, by simp [defLocalTable], by simpa only [updateMaxDefs_cons] using c3⟩

theorem sat_defineLocal {name : String} {s : CState} {Q : Symbol × Bool → CState → Prop} (hs : Inv s)
    (h : ∀ sym ex s', Inv s' → Rel s s' → s'.insts = s.insts →
      (∃ t r, s'.tables = t :: r ∧ lookupSym name t.store = some sym) →
      SymOKx s'.constants (fmd s'.tables) (fnf s'.tables) sym → sym.scope ≠ .builtin → Q (sym, ex) s') :
    Sat (defineLocal name) s Q := by
  obtain ⟨t, r, htr⟩ := List.exists_cons_of_ne_nil hs.ne
  cases hd : definedSym name t with
  | some sym =>
    obtain ⟨hl, hnb⟩ := definedSym_some.mp hd
    have hch := hs.chain
    rw [htr] at hch
    exact Sat.of_run (runCM_defineLocal_ex htr hd)
      (h sym true s hs (Rel.refl s) rfl ⟨t, r, htr, hl⟩ (by rw [htr]; exact lookupSym_all hch.1 hl) hnb)
  | none =>
    obtain ⟨hi2, hr2, t', r', hu, hlk, _, _, _, hfm⟩ := defineNew_state (name := name) hs htr _ rfl
    exact Sat.of_run (runCM_defineLocal_new htr hd)
      (h _ false _ hi2 hr2 rfl ⟨t', r', hu, hlk⟩ (symOKx_local rfl rfl hfm) (by simp [newLocal]))

theorem good_defineLocal (name : String) : Good (defineLocal name) :=
  fun _ hs => sat_defineLocal hs fun _ _ _ h1 h2 _ _ _ _ => ⟨h1, h2, trivial⟩

theorem good_emitMakeArray (pos : Pos) : Good (emit_ pos OpGetBuiltin [Gen.builtinMakeArray]) :=
  fun _ hs => sat_emit_builtin hs ⟨Gen.builtinMakeArray, rfl, by decide⟩

theorem tab_good : TabClosed @Good where
  pure _ := GoodP.pure trivial
  bind hm hf := GoodP.bind hm fun a _ => hf a
  cerr _ _ := GoodP.cerr
  get _ h := GoodP.bind good_get fun a _ => h a
  headTable := good_headTable

theorem good_findSymbolSelf (name : String) : Good (findSymbolSelf name) := tab_good.findSymbolSelf name

theorem good_hasAnyConstLit : Good hasAnyConstLit := tab_good.hasAnyConstLit

theorem sat_setParamsLoop (pos : Pos) : ∀ (ps : List String) (k : Nat) (s : CState), Inv s →
    (∃ t r, s.tables = t :: r ∧ k ≤ t.numDefinition ∧ k ≤ t.maxDefinition) →
    Sat (setParamsLoop pos ps k) s (fun _ s' => Inv s' ∧ Rel s s' ∧
      ∃ t r, s'.tables = t :: r ∧ k + ps.length ≤ t.maxDefinition)
  | [], k, s, hs, ⟨t, r, htr, _, hk⟩ => by
    unfold setParamsLoop
    exact Sat.pure ⟨hs, Rel.refl s, t, r, htr, by simpa using hk⟩
  | p :: rest, k, s, hs, ⟨t, r, htr, hk1, hk2⟩ => by
    unfold setParamsLoop
    apply Sat.bind
    apply Sat.get
    apply Sat.bind_of_run (runCM_headTable htr)
    split
    · apply Sat.bind_of_run (runCM_modHead _ htr)
      exact Sat.cerr
    · apply Sat.bind_of_run (runCM_modHead _ htr)
      apply Sat.bind_of_run (runCM_modTables _ _)
      obtain ⟨hi2, hr2, t', r', hu, _, hnd, hmd, _, _⟩ := defineNew_state (name := p) hs htr _ rfl
      apply Sat.mono (sat_setParamsLoop pos rest (k + 1) _ hi2 ⟨t', r', hu, by omega, by omega⟩)
      intro _ s3 ⟨hi3, hr3, t3, r3, h3, hle⟩
      exact ⟨hi3, hr2.trans hr3, t3, r3, h3, by simp only [List.length_cons]; omega⟩

theorem chain_setNumParams {cs : Array Const} {t : Table} {r : List Table} (h : ChainOK cs (t :: r)) (n : Nat)
    (hn : n ≤ t.maxDefinition) : ChainOK cs ({ t with numParams := n } :: r) := by
  obtain ⟨h1, _, h3, h4, h5⟩ := h
  exact ⟨h1, hn, h3, h4, h5⟩

theorem good_setParams (pos : Pos) (ps : List String) : Good (setParams pos ps) := by
  intro s hs
  obtain ⟨t, r, htr⟩ := List.exists_cons_of_ne_nil hs.ne
  unfold setParams
  split
  · exact Sat.pure ⟨hs, Rel.refl s, trivial⟩
  · apply Sat.bind_of_run (runCM_headTable htr)
    split
    · exact Sat.cerr
    · split
      · exact Sat.cerr
      · apply Sat.bind
        apply Sat.mono (sat_setParamsLoop pos ps 0 s hs ⟨t, r, htr, Nat.zero_le _, Nat.zero_le _⟩)
        intro _ s1 ⟨hi1, hr1, t1, r1, h1, hle⟩
        apply Sat.of_run (runCM_modHead _ h1)
        have hch : ChainOK s1.constants (t1 :: r1) := by rw [← h1]; exact hi1.chain
        have hle2 : ChainLE s1.tables ({ t1 with numParams := ps.length } :: r1) := by
          rw [h1]; exact chainLE_replaceHead rfl rfl rfl
        exact ⟨hi1.of_tables (by simp) (chain_setNumParams hch _ (by simpa using hle)) (limsOf_le_of_chain hle2 rfl) rfl rfl,
          hr1.trans (Rel.of_same hle2 rfl rfl), trivial⟩

theorem good_defineConstLitSym (name : String) {v : Option CVal} (hv : v.isSome = true) :
    Good (defineConstLitSym name v) := by
  unfold defineConstLitSym
  refine GoodP.bind good_get fun _ _ => GoodP.bind good_headTable fun _ _ => ?_
  split
  · exact GoodP.pure trivial
  · refine GoodP.bind (good_modHead fun cs nl nf t ht => ?_) fun _ _ => GoodP.pure trivial
    rw [shadowBuiltin_store]
    exact putSym_all (symOKx_constLit rfl rfl hv) ht

theorem goodP_get_inv : GoodP (fun st => Inv st) (get : CM CState) := fun s hs => Sat.get ⟨hs, Rel.refl s, hs⟩

/-- the literal a CONSTLIT symbol is defined with is never absent: for a literal copied from another
    symbol that is what the chain invariant says of the symbol found -/
theorem good_defineConstLit (name : String) (v : VSum) : Good (defineConstLit name v) := by
  have hp : ∀ b : Bool, Good (Pure.pure b : CM Bool) := fun _ => GoodP.pure trivial
  have hb : ∀ {k : Option Unit → CM Bool} {w : Option CVal}, w.isSome = true → Good (k (some ())) → Good (k none) →
      Good (defineConstLitSym name w >>= k) :=
    fun hw h1 h2 => GoodP.bind (good_defineConstLitSym name hw) fun r _ => match r with | some () => h1 | none => h2
  unfold defineConstLit
  refine good_ite (hp _) ?_
  cases v with
  | lit cv => exact hb rfl (hp _) (hp _)
  | other => exact hp _
  | ident rn =>
    refine good_ite (GoodP.bind (good_findSymbolSelf _) fun _ _ =>
      good_ite (GoodP.bind good_get fun _ _ => hb rfl (hp _) (hp _)) (hp _)) ?_
    refine good_ite (GoodP.bind good_hasAnyConstLit fun _ _ =>
      good_ite (GoodP.bind goodP_get_inv fun st hst => ?_) (hp _)) (hp _)
    split
    · rename_i s1 hf
      split
      · rename_i hsc
        exact hb (findByNameAll_ok hst.chain hf (by simpa using hsc)).2 (hp _) (hp _)
      · exact hp _
    · exact hp _

theorem sat_updateSym {name : String} {f : Symbol → Symbol} {s : CState} {t : Table} {r : List Table} {sym : Symbol}
    (hs : Inv s) (htr : s.tables = t :: r) (hl : lookupSym name t.store = some sym)
    (hy : SymOKx s.constants (fmd s.tables) (fnf s.tables) (f sym)) :
    Sat (updateSym name f) s (fun _ s' => Inv s' ∧ Rel s s' ∧ True) := by
  apply Sat.of_run (runCM_updateSym htr hl)
  have hch : ChainOK s.constants (t :: r) := by rw [← htr]; exact hs.chain
  rw [htr] at hy
  have hch2 := chain_putHead (t2 := { t with store := putSym name (f sym) t.store }) hch rfl rfl rfl rfl rfl hy
  have hle : ChainLE s.tables ({ t with store := putSym name (f sym) t.store } :: r) := by
    rw [htr]; exact chainLE_replaceHead rfl rfl rfl
  exact ⟨hs.of_tables (by simp) hch2 (limsOf_le_of_chain hle rfl) rfl rfl, Rel.of_same hle rfl rfl, trivial⟩

theorem good_compileDefine (pos : Pos) (ident : String) (allow : Bool) (keyword : Nat) :
    Good (compileDefine pos ident allow keyword) := by
  intro s hs
  unfold compileDefine
  apply Sat.bind
  apply sat_defineLocal hs
  intro sym ex s1 hi1 hr1 _ ⟨t, r, htr, hl⟩ hok _
  simp only
  split
  · exact Sat.cerr
  · split
    · exact Sat.cerr
    · split
      · exact Sat.cerr
      · rename_i hc
        apply Sat.bind
        apply Sat.get
        split
        · exact Sat.cerr
        · apply Sat.bind
          unfold emit_
          apply Sat.bind
          apply sat_emit hi1 (by decide) (StaticArgs.argsOK (by opa) _ _)
          intro s2 hi2 hr2 _ ht2 _ _ _
          apply Sat.pure
          -- the symbol under `ident` in the head table is still `sym`, which is not a CONSTLIT symbol
          have hy := hok.mono hr2.cpre hr2.chain.fmd hr2.chain.fnf
          refine Sat.mono (sat_updateSym hi2 (ht2.trans htr) hl ⟨fun h => absurd (hok.1 h).1 hc, hy.2⟩)
            fun _ s3 ⟨hi3, hr3, _⟩ => ⟨hi3, hr1.trans (hr2.trans hr3), trivial⟩

theorem sat_globalIndex {name : String} {s : CState} {t : Table} {r : List Table} {sym : Symbol} {m : CM Unit}
    (hs : Inv s) (htr : s.tables = t :: r) (hl : lookupSym name t.store = some sym) (hsc : sym.scope = .global)
    (hm : Good m) :
    Sat (addConstant (.str name.toUTF8.toList) >>= fun idx =>
      (updateSym name fun y => { y with index := idx }) >>= fun _ => m) s (fun _ s' => Inv s' ∧ Rel s s' ∧ True) := by
  apply Sat.bind
  apply sat_addConstant hs
  intro i s1 hi1 hr1 _ ht1 hv
  apply Sat.bind
  have hy : SymOKx s1.constants (fmd s1.tables) (fnf s1.tables) { sym with index := (i : Int) } :=
    symOKx_global hsc (.inr ⟨i, _, rfl, hv⟩)
  apply Sat.mono (sat_updateSym (f := fun y => { y with index := (i : Int) }) hi1 (ht1.trans htr) hl hy)
  intro _ s2 ⟨hi2, hr2, _⟩
  apply Sat.mono (hm s2 hi2)
  intro _ s3 ⟨hi3, hr3, _⟩
  exact ⟨hi3, hr1.trans (hr2.trans hr3), trivial⟩

theorem good_declGlobals (pos : Pos) : ∀ l : List (Pos × String × Bool), Good (declGlobals pos l)
  | [] => GoodP.pure trivial
  | (_, name, _) :: rest => by
    have ih := good_declGlobals pos rest
    intro s hs
    obtain ⟨t, r, htr⟩ := List.exists_cons_of_ne_nil hs.ne
    unfold declGlobals
    apply Sat.bind
    apply Sat.get
    apply Sat.bind_of_run (runCM_headTable htr)
    split
    · rename_i sym hl
      split
      · exact Sat.cerr
      · rename_i hsc
        exact sat_globalIndex hs htr hl (by simpa using hsc) ih
    · apply Sat.bind_of_run (runCM_modHead _ htr)
      generalize hgs : ({ name := name, index := -1, scope := Scope.global } : Symbol) = gs
      generalize ht1 : shadowBuiltin s.builtins name { t with store := putSym name gs t.store } = t1
      have hch : ChainOK s.constants (t :: r) := by rw [← htr]; exact hs.chain
      have hch1 : ChainOK s.constants (t1 :: r) :=
        chain_putHead (n := name) (y := gs) hch (by subst ht1; simp) (by subst ht1; simp) (by subst ht1; simp)
          (by subst ht1; simp) (by subst ht1; simp) (symOKx_global (by subst hgs; rfl) (.inl (by subst hgs; rfl)))
      have hle : ChainLE s.tables (t1 :: r) := by
        rw [htr]; exact chainLE_replaceHead (by subst ht1; simp) (by subst ht1; simp) (by subst ht1; simp)
      have hi1 : Inv { s with tables := t1 :: r } := hs.of_tables (by simp) hch1 (limsOf_le_of_chain hle rfl) rfl rfl
      apply Sat.mono (sat_globalIndex (sym := gs) hi1 rfl (by subst ht1; simp; exact lookupSym_putSym_self _ _ _)
        (by subst hgs; rfl) ih)
      intro _ s2 ⟨hi2, hr2, _⟩
      exact ⟨hi2, (Rel.of_same (s' := { s with tables := t1 :: r }) hle rfl rfl).trans hr2, trivial⟩

theorem sat_emitFreePtrs (pos : Pos) : ∀ (l : List Symbol) (s : CState), Inv s →
    (∀ y ∈ l, OrigOK (fmd s.tables) (fnf s.tables) y) →
    Sat (emitFreePtrs pos l) s (fun _ s' => Inv s' ∧ Rel s s' ∧ True)
  | [], s, hs, _ => by unfold emitFreePtrs; exact Sat.pure ⟨hs, Rel.refl s, trivial⟩
  | y :: r, s, hs, hl => by
    unfold emitFreePtrs
    have hrest : ∀ s1, Inv s1 → Rel s s1 → Sat (emitFreePtrs pos r) s1 (fun _ s' => Inv s' ∧ Rel s s' ∧ True) := by
      intro s1 hi1 hr1
      apply Sat.mono (sat_emitFreePtrs pos r s1 hi1 fun z hz =>
        (hl z (by simp [hz])).mono hr1.chain.fmd hr1.chain.fnf)
      intro _ s2 ⟨hi2, hr2, _⟩
      exact ⟨hi2, hr1.trans hr2, trivial⟩
    apply Sat.bind
    split
    · apply Sat.mono (good_emit_ (by decide) (by opa) s hs)
      intro _ s1 ⟨hi1, hr1, _⟩
      exact hrest s1 hi1 hr1
    · rename_i hsc
      apply Sat.mono (sat_emit_freeIdx hs rfl ((hl y (by simp)).2 hsc))
      intro _ s1 ⟨hi1, hr1, _⟩
      exact hrest s1 hi1 hr1
    · exact Sat.pure (hrest s hs (Rel.refl s))

theorem st_modLoop_bind {β} {f : Loop → Loop} {p : Nat} {k : Unit → CM β} {s0 s : CState} {ps ts ins : List Nat}
    {Q : β → CState → Prop} (hst : St s0 ps ts ins s) (hp : p ∈ ps)
    (hf : ∀ l q, (q ∈ (f l).breaks → q ∈ l.breaks ∨ q = p) ∧ (q ∈ (f l).continues → q ∈ l.continues ∨ q = p))
    (h : ∀ s', St s0 ps ts ins s' → Sat (k ()) s' Q) : Sat (modLoop f >>= k) s Q := by
  unfold modLoop
  apply Sat.bind
  apply Sat.modify
  have hi := hst.inv
  obtain ⟨hlo, hrel⟩ := loops_add rfl hst.rel.loopRel hi.loops (hst.pend p hp).1 (hst.pend p hp).2 hf
  exact h _ ⟨⟨hi.ne, hi.chain, hi.walk, hlo, hi.consts, hi.targets, hi.bok, hi.tryLt⟩,
    ⟨hst.rel.chain, hrel.pre, hrel.llen, hrel.ltail, hrel.lhead, hst.rel.cpre⟩, hst.pend, hst.tgt, hst.ins⟩

theorem sat_finishTail (lastOp : Nat) (pend : List Nat) (s : CState) (hs : Inv s) {t : Table} {r : List Table}
    (htr : s.tables = t :: r) (hnb : t.block = false)
    (hp : PendOK s.insts s.insts.size pend)
    (hl : (s.insts.size = 0 ∧ lastOp = 0) ∨ LastAt s.insts s.insts.size lastOp) :
    Sat (finishTail lastOp pend) s (fun fn s' => Inv s' ∧ Rel s s' ∧ s'.tables = s.tables ∧
      FinFn s'.constants t.frees.length fn) := by
  have hlims : ∀ s' : CState, s'.tables = s.tables → limsOf s' = ⟨s'.constants, t.maxDefinition, t.frees.length⟩ := by
    intro s' h'
    simp only [limsOf, h', htr, fmd_cons_fn hnb, fnf_cons_fn hnb]
  unfold finishTail
  by_cases hc : (lastOp != OpReturn || !pend.isEmpty) = true
  · rw [if_pos hc]
    unfold emit_
    apply Sat.bind
    apply Sat.bind
    apply sat_emit hs (by decide) (StaticArgs.argsOK (by opa) _ _)
    intro s1 hi1 hr1 hbd ht1 ⟨opb, hget, hopb⟩ hsz _
    apply Sat.pure
    apply Sat.bind
    apply Sat.get
    apply Sat.bind_of_run (runCM_headTable (ht1.trans htr))
    apply Sat.pure
    have hch := hi1.chain
    rw [ht1, htr] at hch
    refine ⟨hi1, hr1, ht1, ⟨⟨hi1.walk, ?_⟩, ?_, ?_⟩, hch.2.1, hi1.tryLt⟩
    · have := hi1.targets; rw [hlims s1 ht1] at this; exact this
    · exact jumpsStrict_append hs.targets hs.walk hr1.pre (by rw [hsz, hopb]) hget (by rw [hopb]; rfl) (by rw [hopb]; decide)
    · exact endsInReturn_append hs.walk hr1.pre (by rw [hsz, hopb]) hget hopb
  · rw [if_neg hc]
    have hc' : lastOp = OpReturn ∧ pend = [] := by
      simp only [Bool.or_eq_true, bne_iff_ne, ne_eq, Bool.not_eq_true', not_or, Decidable.not_not, Bool.not_eq_false] at hc
      exact ⟨hc.1, by simpa using hc.2⟩
    obtain ⟨hlo, hpe⟩ := hc'
    subst hpe
    apply Sat.bind
    apply Sat.pure
    apply Sat.bind
    apply Sat.get
    apply Sat.bind_of_run (runCM_headTable htr)
    apply Sat.pure
    have hch := hs.chain
    rw [htr] at hch
    refine ⟨hs, Rel.refl s, rfl, ⟨⟨hs.walk, ?_⟩, jumpsStrict_of_pend hp, ?_⟩, hch.2.1, hs.tryLt⟩
    · have := hs.targets; rw [hlims s rfl] at this; exact this
    · rcases hl with ⟨_, h0⟩ | hl
      · rw [hlo] at h0; cases h0
      · rw [hlo] at hl; exact hl

theorem sat_finishFn (s : CState) (hs : Inv s) {t : Table} {r : List Table} (htr : s.tables = t :: r) (hnb : t.block = false) :
    Sat finishFn s (fun fn s' => Inv s' ∧ Rel s s' ∧ s'.tables = s.tables ∧ FinFn s'.constants t.frees.length fn) := by
  unfold finishFn
  apply Sat.bind
  apply Sat.get
  have := scanFn_some (s.insts.size + 1) 0 0 [] hs.walk
  cases hsc : scanFn s.insts (s.insts.size + 1) 0 0 [] with
  | none => rw [hsc] at this; simp at this
  | some r =>
    obtain ⟨l, P⟩ := r
    have hspec := scanFn_spec (s.insts.size + 1) 0 0 [] l P (.refl 0) hs.walk (by omega)
      (fun q t _ hq _ => by omega) (.inl rfl) hsc
    exact sat_finishTail l P s hs htr hnb hspec.1 hspec.2

theorem chainLE_cons_left {t : Table} {r ts' : List Table} (h : ChainLE (t :: r) ts') :
    ∃ t' r', ts' = t' :: r' ∧ t'.block = t.block ∧ ChainLE r r' := by
  cases ts' with
  | nil => exact absurd h (by simp [ChainLE])
  | cons t' r' => exact ⟨t', r', rfl, h.1, h.2.2.2⟩

theorem goodS_withFn (pos : Pos) (variadic : Bool) (params : List String) {body : CM Unit} (hb : Good body) :
    GoodS (fun r s' => FinFn s'.constants r.2.frees.length r.1 ∧
      ∀ y ∈ r.2.frees, OrigOK (fmd s'.tables) (fnf s'.tables) y) (withFn pos variadic params body) := by
  intro s hs
  obtain ⟨t, r, htr⟩ := List.exists_cons_of_ne_nil hs.ne
  refine sat_iff.2 (SatE.withFn htr (sat_iff.1 ?_))
  apply Sat.bind
  refine Sat.mono (good_setParams pos params _ ⟨List.cons_ne_nil _ _, chain_fork hs.chain hs.ne _ rfl rfl rfl, Walk.refl 0,
    fun l hl => by simp at hl, hs.consts, fun p op hbd _ => absurd hbd.2 (by simp), hs.bok, TryLt.empty⟩) ?_
  intro _ s3 ⟨hi3, hr3, _⟩
  apply Sat.bind
  apply Sat.mono (hb s3 hi3)
  intro _ s4 ⟨hi4, hr4, _⟩
  obtain ⟨t4, r4, htr4, hblk4, hle4⟩ := chainLE_cons_left (hr3.chain.trans hr4.chain)
  apply Sat.mono (sat_finishFn s4 hi4 htr4 hblk4)
  intro fn s5 ⟨hi5, hr5, ht5, hfn⟩
  have hcp : CPre s.constants s5.constants := hr3.cpre.trans (hr4.cpre.trans hr5.cpre)
  have hch5 := hi5.chain
  rw [ht5, htr4] at hch5
  exact ⟨t4, r4, ht5.trans htr4,
    ⟨ChainLE.ne_nil hle4 hs.ne, hch5.tail, hs.walk, hs.loops, hi5.consts, hs.targets.mono ⟨hcp, hle4.fmd, hle4.fnf⟩, hs.bok, hs.tryLt⟩,
    Rel.of_same hle4 rfl rfl hcp, hfn, hch5.2.2.1 hblk4⟩

end UgoVerif.Compile

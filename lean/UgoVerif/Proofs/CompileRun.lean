import UgoVerif.Proofs.CompileTables
import UgoVerif.Proofs.CompileWalk
/-
  The primitives of the compiler model that write the instruction stream or the constant pool
  (`emit`, `changeOperand`, `addConstant`, `addFnConstant`) and the fork of a compiler for a function
  literal (`withFn`), each opened once: what it does under any judgement of the `SatE` kind.  An
  analysis says what it accepts of an abnormal end and what it knows of the one state a normal end
  leaves.
-/
namespace UgoVerif.Compile
open UgoVerif UgoVerif.Go UgoVerif.Ast

variable {E : CErr → CState → Prop}

theorem SatE.emit {pos : Pos} {op : Nat} {args : List Int} {s : CState} {Q : Nat → CState → Prop}
    (he : ∀ e, (op < numOpcodes → ∀ msg, e ≠ .panic msg) → E e s)
    (hk : op < numOpcodes → ∀ rest, makeInstruction op args = .ok (UInt8.ofNat op :: rest) → rest.length = opWidth op →
      Q s.insts.size { s with insts := s.insts ++ (UInt8.ofNat op :: rest).toArray,
                              sourceMap := setSourceMap s.sourceMap s.insts.size pos }) :
    SatE E (emit pos op args) s Q := by
  unfold Compile.emit
  split
  · exact he _ fun h => absurd h (by omega)
  · split
    · split <;> exact he _ fun _ _ h => nomatch h
    · rename_i bs hm
      obtain ⟨rest, rfl, hl⟩ := makeInstruction_ok hm
      exact hk (by omega) rest hm hl

theorem SatE.changeOperand {p : Nat} {args : List Int} {s : CState} {Q : Unit → CState → Prop}
    (he : ∀ e, (∀ op, s.insts[p]? = some op → op.toNat < numOpcodes → ∀ msg, e ≠ .panic msg) → E e s)
    (hk : ∀ op rest, s.insts[p]? = some op → makeInstruction op.toNat args = .ok (op :: rest) →
      rest.length = opWidth op.toNat → Q () { s with insts := patch s.insts p (op :: rest) }) :
    SatE E (changeOperand p args) s Q := by
  unfold Compile.changeOperand
  refine SatE.bind_run (runCM_get s) ?_
  cases hop : s.insts[p]? with
  | none => exact he _ fun op h => nomatch hop.symm.trans h
  | some op =>
    simp only
    split
    · rename_i hge
      exact he _ fun op' h hlt => absurd (Option.some.inj (hop.symm.trans h) ▸ hge) (by omega)
    · split
      · exact he _ fun _ _ _ _ h => nomatch h
      · rename_i bs hm
        obtain ⟨rest, rfl, hl⟩ := makeInstruction_ok hm
        rw [show UInt8.ofNat op.toNat = op by simp] at hm ⊢
        exact hk op rest hop hm hl

theorem SatE.addConstant (k : CVal) {s : CState} {Q : Nat → CState → Prop}
    (hf : ∀ i, findConst s.constants k = some i → Q i s)
    (hn : findConst s.constants k = none → Q s.constants.size { s with constants := s.constants.push (.val k) }) :
    SatE E (addConstant k) s Q := by
  refine SatE.bind_run (runCM_get s) ?_
  cases h : findConst s.constants k with
  | some i => exact hf i h
  | none => exact hn h

theorem SatE.addFnConstant (f : CFn) {s : CState} {Q : Nat → CState → Prop}
    (hf : ∀ i, findFn s.constants f = some i → Q i s)
    (hn : findFn s.constants f = none → Q s.constants.size { s with constants := s.constants.push (.fn f) }) :
    SatE E (addFnConstant f) s Q := by
  refine SatE.bind_run (runCM_get s) ?_
  cases h : findFn s.constants f with
  | some i => exact hf i h
  | none => exact hn h

theorem runCM_enterFn (v : Bool) (s : CState) :
    runCM (enterFn v) s = (.ok s, { s with insts := #[], sourceMap := [], loops := [], tryCatchIndex := -1, iotaVal := -1, variadic := v }) := by
  unfold enterFn
  rw [runCM_bind, runCM_get]
  simp only
  rw [runCM_bind, runCM_set]
  simp only [runCM_pure]

theorem runCM_leaveFn (outer : CState) {s : CState} {t : Table} {r : List Table} (htr : s.tables = t :: r) :
    runCM (leaveFn outer) s = (.ok t, { outer with tables := r, constants := s.constants }) := by
  unfold leaveFn
  rw [runCM_bind, runCM_get]
  simp only
  rw [runCM_bind, runCM_popTable htr]
  simp only
  rw [runCM_bind, runCM_get]
  simp only
  rw [runCM_bind, runCM_set]
  simp only [runCM_pure]

theorem SatE.withFn {E : CErr → CState → Prop} {pos : Pos} {variadic : Bool} {params : List String} {body : CM Unit}
    {s : CState} {t : Table} {r : List Table} {Q : CFn × Table → CState → Prop} (htr : s.tables = t :: r)
    (h : SatE E (setParams pos params >>= fun _ => body >>= fun _ => finishFn)
      { s with insts := #[], sourceMap := [], loops := [], tryCatchIndex := -1, iotaVal := -1, variadic := variadic,
               tables := { block := false, disableParams := t.disableParams,
                           hasParentConstLit := t.hasConstLit || t.hasParentConstLit } :: s.tables }
      fun fn s5 => ∃ t5 r5, s5.tables = t5 :: r5 ∧ Q (fn, t5) { s with tables := r5, constants := s5.constants }) :
    SatE E (Compile.withFn pos variadic params body) s Q := by
  have e : Compile.withFn pos variadic params body = enterFn variadic >>= fun outer => forkTable false >>= fun _ =>
      (setParams pos params >>= fun _ => body >>= fun _ => finishFn) >>= fun fn =>
        leaveFn outer >>= fun ft => pure (fn, ft) := by
    simp only [Compile.withFn, bind_assoc]
  rw [e]
  apply SatE.bind_run (runCM_enterFn variadic s)
  refine SatE.bind_run (runCM_forkTable false (by exact htr)) ?_
  apply SatE.bind
  apply h.imp ?_ fun _ _ => id
  intro fn s5 ⟨t5, r5, htr5, hq⟩
  exact SatE.bind_run (runCM_leaveFn s htr5) hq

end UgoVerif.Compile

import UgoVerif.Model.Compile
/-
  Hoare triples on the compiler monad, read off `runCM`.  `SatE E m s Q` has a postcondition `E` for the
  error end, and the judgements of the properties are `SatE` at one `E`.  `Sat` is the one of C05: no Go
  panic, while a compile error or `unsupported` is an acceptable outcome (`sat_iff`: `E = NoPanic`).
-/
namespace UgoVerif.Compile
open UgoVerif UgoVerif.Go UgoVerif.Ast

def runCM {α} (m : CM α) (s : CState) : Except CErr α × CState := (m.run.run s)

def Sat {α} (m : CM α) (s : CState) (Q : α → CState → Prop) : Prop :=
  match runCM m s with
  | (.ok a, s') => Q a s'
  | (.error (.panic _), _) => False
  | (.error _, _) => True

theorem runCM_pure {α} (a : α) (s : CState) : runCM (pure a : CM α) s = (.ok a, s) := rfl

theorem compileFile_run {builtins : List (String × Nat)} {disabled : List String} {file : List Stmt} {bc : Bytecode}
    (h : compileFile builtins disabled file = .ok bc) :
    ∃ s', runCM (compileProg file) (initState builtins disabled) = (.ok bc, s') :=
  ⟨(runCM (compileProg file) (initState builtins disabled)).2, Prod.ext h rfl⟩

theorem runCM_bind {α β} (m : CM α) (f : α → CM β) (s : CState) :
    runCM (m >>= f) s = match runCM m s with
      | (.ok a, s') => runCM (f a) s'
      | (.error e, s') => (.error e, s') := by
  simp only [runCM, ExceptT.run_bind, StateT.run_bind]
  cases h : (StateT.run (ExceptT.run m) s) with
  | mk r s' => cases r <;> rfl

/-- the judgment of which `Sat`, `GB.Sat` and `SatX` are instances -/
def SatE {α} (E : CErr → CState → Prop) (m : CM α) (s : CState) (Q : α → CState → Prop) : Prop :=
  match runCM m s with
  | (.ok a, s') => Q a s'
  | (.error e, s') => E e s'

theorem SatE.imp {α} {E E' : CErr → CState → Prop} {m : CM α} {s : CState} {Q Q' : α → CState → Prop}
    (h : SatE E m s Q) (hq : ∀ a s', Q a s' → Q' a s') (he : ∀ e s', E e s' → E' e s') : SatE E' m s Q' := by
  unfold SatE at h ⊢
  cases hr : runCM m s with
  | mk r s' =>
    rw [hr] at h
    cases r with
    | ok a => exact hq _ _ h
    | error e => exact he _ _ h

theorem SatE.bind {α β} {E : CErr → CState → Prop} {m : CM α} {f : α → CM β} {s : CState} {Q : β → CState → Prop}
    (h : SatE E m s (fun a s' => SatE E (f a) s' Q)) : SatE E (m >>= f) s Q := by
  unfold SatE at h ⊢
  rw [runCM_bind]
  cases hr : runCM m s with
  | mk r s' =>
    rw [hr] at h
    cases r <;> exact h

theorem SatE.bind_run {α β} {E : CErr → CState → Prop} {m : CM α} {f : α → CM β} {s s1 : CState} {a : α}
    {Q : β → CState → Prop} (hr : runCM m s = (.ok a, s1)) (h : SatE E (f a) s1 Q) : SatE E (m >>= f) s Q := by
  unfold SatE at h ⊢
  rw [runCM_bind, hr]
  exact h

theorem SatE.final {α} {A : CState → Prop} {B : α → CState → Prop} {m : CM α} {s : CState}
    (h : SatE (fun _ => A) m s (fun a s' => A s' ∧ B a s')) :
    A (runCM m s).2 ∧ ∀ a, (runCM m s).1 = .ok a → B a (runCM m s).2 := by
  unfold SatE at h
  cases hr : runCM m s with
  | mk r s' =>
    rw [hr] at h
    cases r with
    | ok a => exact ⟨h.1, fun _ e => by injection e with e; exact e ▸ h.2⟩
    | error e => exact ⟨h, fun _ e => by cases e⟩

def Post {α} (m : CM α) (s : CState) (Q : α → CState → Prop) : Prop :=
  ∀ a s', runCM m s = (.ok a, s') → Q a s'

theorem Post.of_satE {α} {m : CM α} {s : CState} {Q : α → CState → Prop} (h : SatE (fun _ _ => True) m s Q) :
    Post m s Q := fun _ _ hr => by simpa only [SatE, hr] using h

def NoPanic (e : CErr) (_ : CState) : Prop := ∀ msg, e ≠ .panic msg

theorem sat_iff {α} {m : CM α} {s : CState} {Q : α → CState → Prop} : Sat m s Q ↔ SatE NoPanic m s Q := by
  unfold Sat SatE
  cases runCM m s with
  | mk r s' =>
    cases r with
    | ok a => exact Iff.rfl
    | error e => cases e <;> simp [NoPanic]

theorem Sat.ok {α} {m : CM α} {s s' : CState} {a : α} {Q : α → CState → Prop}
    (h : Sat m s Q) (hr : runCM m s = (.ok a, s')) : Q a s' := by
  simpa only [Sat, hr] using h

theorem Sat.pure {α} {a : α} {s : CState} {Q : α → CState → Prop} (h : Q a s) : Sat (Pure.pure a : CM α) s Q := by
  simp [Sat, runCM_pure, h]

theorem Sat.bind {α β} {m : CM α} {f : α → CM β} {s : CState} {Q : β → CState → Prop}
    (h : Sat m s (fun a s' => Sat (f a) s' Q)) : Sat (m >>= f) s Q :=
  sat_iff.2 (SatE.bind ((sat_iff.1 h).imp (fun _ _ => sat_iff.1) fun _ _ => id))

theorem Sat.mono {α} {m : CM α} {s : CState} {Q Q' : α → CState → Prop}
    (h : Sat m s Q) (hq : ∀ a s', Q a s' → Q' a s') : Sat m s Q' :=
  sat_iff.2 ((sat_iff.1 h).imp hq fun _ _ => id)

theorem Sat.no_panic {α} {m : CM α} {s : CState} {Q : α → CState → Prop} (h : Sat m s Q) (msg : String) :
    (runCM m s).1 ≠ .error (.panic msg) := by
  intro hc
  unfold Sat at h
  cases hr : runCM m s with
  | mk r s' =>
    rw [hr] at h hc
    simp only at hc
    subst hc
    exact h

theorem Sat.of_bind_pure {α} {m : CM α} {s : CState} {Q : α → CState → Prop}
    (h : Sat (m >>= Pure.pure) s Q) : Sat m s Q := by
  simpa using h

theorem runCM_get (s : CState) : runCM (get : CM CState) s = (.ok s, s) := rfl
theorem runCM_set (s t : CState) : runCM (set t : CM Unit) s = (.ok (), t) := rfl
theorem runCM_modify (f : CState → CState) (s : CState) : runCM (modify f : CM Unit) s = (.ok (), f s) := rfl
theorem runCM_throw {α} (e : CErr) (s : CState) : runCM (throw e : CM α) s = (.error e, s) := rfl

theorem Sat.get {s : CState} {Q : CState → CState → Prop} (h : Q s s) : Sat (get : CM CState) s Q := by
  simp [Sat, runCM_get, h]
theorem Sat.set {s t : CState} {Q : Unit → CState → Prop} (h : Q () t) : Sat (set t : CM Unit) s Q := by
  simp [Sat, runCM_set, h]
theorem Sat.modify {f : CState → CState} {s : CState} {Q : Unit → CState → Prop} (h : Q () (f s)) :
    Sat (modify f : CM Unit) s Q := by
  simp [Sat, runCM_modify, h]
theorem Sat.cerr {α} {pos : Pos} {msg : String} {s : CState} {Q : α → CState → Prop} : Sat (cerr pos msg : CM α) s Q := by
  simp [Sat, Compile.cerr, runCM_throw]
theorem Sat.throw_err {α} {pos : Pos} {msg : String} {s : CState} {Q : α → CState → Prop} :
    Sat (throw (CErr.err pos msg) : CM α) s Q := by
  simp [Sat, runCM_throw]
theorem Sat.throw_bare {α} {msg : String} {s : CState} {Q : α → CState → Prop} :
    Sat (throw (CErr.bare msg) : CM α) s Q := by
  simp [Sat, runCM_throw]
theorem Sat.cunsupported {α} {msg : String} {s : CState} {Q : α → CState → Prop} : Sat (cunsupported msg : CM α) s Q := by
  simp [Sat, Compile.cunsupported, runCM_throw]

end UgoVerif.Compile

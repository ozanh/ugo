import UgoVerif.Proofs.CompileWalk
/-
  C05 helper: what the scan of `Bytecode()` (`scanFn`) computes.  A jump whose target is the end
  of the stream is still pending when the scan ends, so a RETURN is appended behind it: in the
  finished function every jump target lies strictly inside the stream; and the finished stream
  ends with a RETURN instruction.
-/
namespace UgoVerif.Compile
open UgoVerif UgoVerif.Go UgoVerif.Ast

def JT (a : Array UInt8) (q t : Nat) : Prop :=
  Bd a q ∧ ∃ op, a[q]? = some op ∧ isJumpOp op.toNat = true ∧ readBE a (q + 1) 4 = t

def PendOK (a : Array UInt8) (i : Nat) (pend : List Nat) : Prop := ∀ q t, JT a q t → q < i → i ≤ t → t ∈ pend

def LastAt (a : Array UInt8) (i l : Nat) : Prop :=
  ∃ q b, Walk a 0 q ∧ a[q]? = some b ∧ b.toNat = l ∧ q + 1 + opWidth l = i

theorem isJumpOp_iff (op : Nat) :
    (op == OpJump || op == OpJumpFalsy || op == OpAndJump || op == OpOrJump) = isJumpOp op := rfl

theorem scanFn_spec {a : Array UInt8} : ∀ (fuel i lo : Nat) (pend : List Nat) (l : Nat) (P : List Nat),
    Walk a 0 i → Walk a i a.size → a.size - i < fuel → PendOK a i pend → (i = 0 ∨ LastAt a i lo) →
    scanFn a fuel i lo pend = some (l, P) →
    PendOK a a.size P ∧ ((a.size = 0 ∧ l = lo) ∨ LastAt a a.size l)
  | 0, _, _, _, _, _, _, _, hf, _, _, _ => by omega
  | fuel + 1, i, lo, pend, l, P, h0, hw, hf, hp, hl, hs => by
    cases hw with
    | refl =>
      simp only [scanFn, Array.getElem?_eq_none (Nat.le_refl _)] at hs
      injection hs with hs
      injection hs with h1 h2
      subst h1 h2
      refine ⟨hp, ?_⟩
      rcases hl with hl | hl
      · exact .inl ⟨hl, rfl⟩
      · exact .inr hl
    | step op h1 h2 h3 h4 =>
      simp only [scanFn, h1] at hs
      rw [if_neg (by omega), if_neg (by omega)] at hs
      have hi : i < a.size := getElem?_lt_of_some h1
      have hnext : i + opWidth op.toNat + 1 = i + 1 + opWidth op.toNat := by omega
      rw [hnext] at hs
      have h0' : Walk a 0 (i + 1 + opWidth op.toNat) := h0.trans (.step op h1 h2 h3 (.refl _))
      have hrec := scanFn_spec fuel _ op.toNat _ l P h0' h4 (by omega) ?_ ?_ hs
      · refine ⟨hrec.1, ?_⟩
        rcases hrec.2 with ⟨h, _⟩ | h
        · omega
        · exact .inr h
      · intro q t hjt hq ht
        have hqb := hjt.1
        -- q is a boundary below the next one: q ≤ i
        have hqi : q ≤ i := by
          rcases Nat.lt_or_ge i q with hlt | hge
          · have := (h0.next hqb.1 h1 hlt).le; omega
          · exact hge
        simp only [List.mem_filter, bne_iff_ne, ne_eq]
        refine ⟨?_, by omega⟩
        rcases Nat.lt_or_ge q i with hlt | hge
        · have hmem := hp q t hjt hlt (by omega)
          split
          · split
            · exact hmem
            · exact List.mem_cons_of_mem _ hmem
          · exact hmem
        · have hqe : q = i := by omega
          subst hqe
          obtain ⟨_, op', g1, g2, g3⟩ := hjt
          have : op' = op := by rw [h1] at g1; injection g1 with g; exact g.symm
          subst this
          rw [isJumpOp_iff, g2]
          simp only [if_true, g3]
          split
          · rename_i hc; simpa using hc
          · exact List.mem_cons_self
      · exact .inr ⟨i, op, h0, h1, rfl, rfl⟩

def JumpsStrict (a : Array UInt8) : Prop :=
  ∀ p op, Bd a p → a[p]? = some op → isJumpOp op.toNat = true → readBE a (p + 1) 4 < a.size

def EndsInReturn (a : Array UInt8) : Prop := LastAt a a.size OpReturn

theorem jumpsStrict_of_pend {a : Array UInt8} (hp : PendOK a a.size []) :
    JumpsStrict a := by
  intro p op hbd hop hj
  rcases Nat.lt_or_ge (readBE a (p + 1) 4) a.size with h | h
  · exact h
  · have := hp p _ ⟨hbd, op, hop, hj, rfl⟩ hbd.2 h
    simp at this

theorem jumpsStrict_append {nc : Lims} {a a' : Array UInt8} {opb : UInt8} (ht : TargetsOK nc a) (hw : Walk a 0 a.size)
    (hpre : Pre a a') (hsz : a'.size = a.size + 1 + opWidth opb.toNat) (hop : a'[a.size]? = some opb)
    (hnj : isJumpOp opb.toNat = false) (hlt : opb.toNat < numOpcodes) : JumpsStrict a' := by
  intro p op hbd hget hj
  rcases Walk.append_cases hw hpre hsz hop hbd.1 hget with ⟨hbdp, hgeta, hb⟩ | ⟨rfl, rfl⟩
  · have hle := ((ht p op hbdp hgeta).1 hj).le_size (Nat.zero_le _)
    have e : readBE a' (p + 1) 4 = readBE a (p + 1) 4 :=
      readBE_congr_off hb (o := 0) (Nat.le_of_eq (opWidth_jump hj).symm)
    omega
  · rw [hnj] at hj; cases hj

theorem endsInReturn_append {a a' : Array UInt8} {opb : UInt8} (hw : Walk a 0 a.size) (hpre : Pre a a')
    (hsz : a'.size = a.size + 1 + opWidth opb.toNat) (hop : a'[a.size]? = some opb) (hr : opb.toNat = OpReturn) :
    EndsInReturn a' :=
  ⟨a.size, opb, hw.pre hpre, hop, hr, by rw [hsz, hr]⟩

end UgoVerif.Compile

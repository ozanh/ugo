import UgoVerif.Proofs.CompileMonoMain
/-
  C10 helper (`compile_append_partial`): compiling from a state whose instruction stream already holds a
  prefix `pre` (the batch compile after the earlier fragments) and compiling from the same state
  without the prefix (the session's compile of the next fragment) do the same thing to the
  tables and the constant pool, return the same result, and append the same bytes — for every
  construct that, outside function literals, neither emits a jump nor patches an operand.
-/
namespace UgoVerif.Compile
open UgoVerif UgoVerif.Go UgoVerif.Ast

@[reducible] def withPre (pre : Array UInt8) (M : List (Nat × Nat)) (s : CState) : CState :=
  { s with insts := pre ++ s.insts, sourceMap := M }

/-- outcomes of the two runs: the same result; on normal termination the final state of the run
    with the prefix is the other final state with the prefix in front; after an error tables and
    constants agree (inside a function literal the stream is the function's in both runs) -/
def EquiOut {α} (pre : Array UInt8) (o o' : Except CErr α × CState) : Prop :=
  match o, o' with
  | (.ok a, t), (.ok a', t') => a' = a ∧ ∃ M', t' = withPre pre M' t
  | (.error e, t), (.error e', t') => e' = e ∧ t'.tables = t.tables ∧ t'.constants = t.constants
  | _, _ => False

def Equi {α} (m : CM α) : Prop :=
  ∀ (pre : Array UInt8) (M : List (Nat × Nat)) (s : CState), EquiOut pre (runCM m s) (runCM m (withPre pre M s))

def EquiAt {α} (m : CM α) (s : CState) (Q : α → CState → Prop) : Prop :=
  (∀ pre M, EquiOut pre (runCM m s) (runCM m (withPre pre M s))) ∧ ∀ a s', runCM m s = (.ok a, s') → Q a s'

theorem Equi.at {α} {m : CM α} (h : Equi m) (s : CState) : EquiAt m s fun _ _ => True :=
  ⟨fun pre M => h pre M s, fun _ _ _ => trivial⟩

theorem EquiAt.mono {α} {m : CM α} {s : CState} {Q Q' : α → CState → Prop} (h : EquiAt m s Q)
    (hq : ∀ a s', Q a s' → Q' a s') : EquiAt m s Q' := ⟨h.1, fun a s' hr => hq a s' (h.2 a s' hr)⟩

theorem EquiAt.pure {α} {a : α} {s : CState} {Q : α → CState → Prop} (h : Q a s) : EquiAt (Pure.pure a : CM α) s Q :=
  ⟨fun _ M => ⟨rfl, M, rfl⟩, fun _ _ hr => by rw [runCM_pure] at hr; cases hr; exact h⟩

theorem EquiAt.throw {α} (e : CErr) {s : CState} {Q : α → CState → Prop} : EquiAt (throw e : CM α) s Q :=
  ⟨fun _ _ => ⟨rfl, rfl, rfl⟩, fun _ _ hr => by rw [runCM_throw] at hr; cases hr⟩

theorem EquiAt.bind {α β} {m : CM α} {f : α → CM β} {s : CState} {Q : β → CState → Prop}
    (h : EquiAt m s fun a s1 => EquiAt (f a) s1 Q) : EquiAt (m >>= f) s Q := by
  refine ⟨fun pre M => ?_, fun b s' hr => ?_⟩
  · have h1 := h.1 pre M
    rw [runCM_bind, runCM_bind]
    unfold EquiOut at h1
    cases hr : runCM m s with
    | mk r s1 =>
      cases hr' : runCM m (withPre pre M s) with
      | mk r' s1' =>
        rw [hr, hr'] at h1
        cases r with
        | ok a =>
          cases r' with
          | ok a' =>
            obtain ⟨rfl, M1, rfl⟩ := h1
            exact (h.2 a' s1 hr).1 pre M1
          | error e' => exact h1.elim
        | error e =>
          cases r' with
          | ok a' => exact h1.elim
          | error e' => exact h1
  · rw [runCM_bind] at hr
    cases h1 : runCM m s with
    | mk r s1 =>
      rw [h1] at hr
      cases r with
      | ok x => exact (h.2 x s1 h1).2 b s' hr
      | error e => simp at hr

theorem EquiAt.get_bind {β} {f : CState → CM β} {s : CState} {Q : β → CState → Prop}
    (h1 : ∀ pre M, f (withPre pre M s) = f s) (h : EquiAt (f s) s Q) : EquiAt (MonadState.get >>= f) s Q := by
  refine ⟨fun pre M => ?_, fun b s' hr => ?_⟩
  · rw [runCM_bind, runCM_bind, runCM_get, runCM_get]
    simp only [h1]
    exact h.1 pre M
  · rw [runCM_bind, runCM_get] at hr
    exact h.2 b s' hr

theorem Equi.pure {α} (a : α) : Equi (Pure.pure a : CM α) := fun _ M _ => ⟨rfl, M, rfl⟩
theorem Equi.throw {α} (e : CErr) : Equi (throw e : CM α) := fun _ _ _ => ⟨rfl, rfl, rfl⟩
theorem Equi.cerr {α} (pos : Pos) (msg : String) : Equi (Compile.cerr pos msg : CM α) := Equi.throw _
theorem Equi.cpanic {α} (msg : String) : Equi (Compile.cpanic msg : CM α) := Equi.throw _

theorem Equi.bind {α β} {m : CM α} {f : α → CM β} (hm : Equi m) (hf : ∀ a, Equi (f a)) : Equi (m >>= f) :=
  fun pre M s => (EquiAt.bind ((hm.at s).mono fun a s1 _ => (hf a).at s1)).1 pre M

theorem Equi.ite {α} {c : Prop} [Decidable c] {a b : CM α} (ha : Equi a) (hb : Equi b) :
    Equi (if c then a else b) := by
  split
  · exact ha
  · exact hb

theorem Equi.get_bind {β} {f : CState → CM β} (h2 : ∀ s, Equi (f s))
    (h1 : ∀ pre M s, f (withPre pre M s) = f s := by intros; rfl) :
    Equi (MonadState.get >>= f) :=
  fun pre M s => (EquiAt.get_bind (fun pre M => h1 pre M s) ((h2 s).at s)).1 pre M

theorem Equi.modify {g : CState → CState} (hg : ∀ pre M s, g (withPre pre M s) = withPre pre M (g s) := by intros; rfl) :
    Equi (modify g : CM Unit) := by
  intro pre M s
  rw [runCM_modify, runCM_modify, hg]
  exact ⟨rfl, M, rfl⟩

theorem equi_addConstant {k : CVal} : Equi (addConstant k) := by
  intro pre M s
  unfold addConstant
  simp only [runCM_bind, runCM_get, withPre]
  split
  · exact ⟨rfl, M, rfl⟩
  · exact ⟨rfl, M, rfl⟩

theorem equi_addFnConstant {f : CFn} : Equi (addFnConstant f) := by
  intro pre M s
  unfold addFnConstant
  simp only [runCM_bind, runCM_get, withPre]
  split
  · exact ⟨rfl, M, rfl⟩
  · exact ⟨rfl, M, rfl⟩

theorem equi_emit_ {pos : Pos} {op : Nat} {args : List Int} : Equi (emit_ pos op args) := by
  intro pre M s
  unfold emit_ emit
  split
  · exact ⟨rfl, rfl, rfl⟩
  · split
    · split <;> exact ⟨rfl, rfl, rfl⟩
    · simp only [runCM_bind, runCM_get, runCM_set, runCM_pure, withPre]
      exact ⟨rfl, _, by simp [Array.append_assoc]; rfl⟩

theorem equi_resolve {name : String} : Equi (resolve name) := by
  intro pre M s
  unfold resolve
  simp only [runCM_bind, runCM_get, withPre]
  exact ⟨rfl, M, rfl⟩

theorem equi_headTable : Equi headTable := by
  unfold headTable
  refine Equi.get_bind fun s0 => ?_
  split
  · exact Equi.pure _
  · exact Equi.cpanic _

theorem equi_tabFree : TabFree @Equi where
  pure := Equi.pure
  bind := Equi.bind
  cerr := Equi.cerr
  get hb h := Equi.get_bind h fun _ _ _ => hb _ _ _
  headTable := equi_headTable
  modTables _ := Equi.modify

theorem equi_emitConstant {pos : Pos} {v : CVal} : Equi (emitConstant pos v) :=
  Equi.bind equi_addConstant fun _ => equi_emit_

theorem equi_emitFnConstant {pos : Pos} {fn : CFn} {n : Nat} : Equi (emitFnConstant pos fn n) :=
  Equi.bind equi_addFnConstant fun _ => Equi.ite equi_emit_ equi_emit_

theorem equi_compileDefine {pos : Pos} {ident : String} {allow : Bool} {kw : Nat} :
    Equi (compileDefine pos ident allow kw) :=
  Equi.bind (equi_tabFree.defineLocal ident) fun _ => Equi.ite (Equi.cerr _ _) <| Equi.ite (Equi.cerr _ _) <|
    Equi.ite (Equi.cerr _ _) <| Equi.get_bind fun _ => Equi.ite (Equi.cerr _ _) <|
      Equi.bind equi_emit_ fun _ => equi_tabFree.updateSym _ _

theorem runCM_leaveFn_nil {s : CState} (h : s.tables = []) :
    ∃ e, ∀ outer, runCM (leaveFn outer) s = (.error e, s) := by
  refine ⟨?_, fun outer => ?eq⟩
  case eq =>
    unfold leaveFn popTable headTable
    simp only [runCM_bind, runCM_get, h]
    rfl

theorem equiOut_same_start {α β} {pre : Array UInt8} {m : CM α} {k k' : α → CM β} (e : CState)
    (h : ∀ a s1, EquiOut pre (runCM (k a) s1) (runCM (k' a) s1)) :
    EquiOut pre (runCM (m >>= k) e) (runCM (m >>= k') e) := by
  rw [runCM_bind, runCM_bind]
  cases hr : runCM m e with
  | mk r s1 =>
    cases r with
    | error e' => exact ⟨rfl, rfl, rfl⟩
    | ok a => exact h a s1

/-- a function literal: its body is compiled from a fresh stream in both runs, so ANY body will do -/
theorem equi_withFn (pos : Pos) (variadic : Bool) (params : List String) (body : CM Unit) :
    Equi (withFn pos variadic params body) := by
  intro pre M s2
  unfold withFn
  rw [runCM_bind, runCM_bind, runCM_enterFn, runCM_enterFn]
  simp only
  -- both runs continue from the same state; only the saved outer state differs
  generalize ({ tables := s2.tables, constants := s2.constants, variadic := variadic, builtins := s2.builtins } : CState) = e2
  apply equiOut_same_start; intro _ s3
  apply equiOut_same_start; intro _ s3'
  apply equiOut_same_start; intro _ s3''
  apply equiOut_same_start; intro fn s4
  rw [runCM_bind, runCM_bind]
  cases ht : s4.tables with
  | nil =>
    obtain ⟨e, he⟩ := runCM_leaveFn_nil ht
    rw [he, he]
    exact ⟨rfl, rfl, rfl⟩
  | cons t r =>
    rw [runCM_leaveFn s2 ht, runCM_leaveFn (withPre pre M s2) ht]
    simp only [runCM_pure]
    exact ⟨rfl, M, rfl⟩

end UgoVerif.Compile

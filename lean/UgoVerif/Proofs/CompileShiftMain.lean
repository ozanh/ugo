import UgoVerif.Proofs.CompileShift
/-
  C10 (`compile_append_partial`): the statements whose compilation, outside function literals,
  emits no jump and patches no operand (`jfS`, Proofs/AstJf.lean), are insensitive to a prefix in
  front of the instruction stream (`Equi`).  `Equi` is a logic (`equiLogic`) that satisfies the rules
  of Proofs/CompileLogic.lean: its judgment is a triple strengthened by the equivariance of the run
  it speaks of.  It cannot follow `curPos` and `changeOperand` (absolute positions), so it has no
  patching sequences (`St` is empty) and asks the syntax to be jump free (`Jf b` is `b = true`).
-/
namespace UgoVerif.Compile
open UgoVerif UgoVerif.Go UgoVerif.Ast

def equiLogic : Logic where
  Sat := EquiAt
  M := Unit
  Inv _ _ := True
  Rel _ _ := True
  St _ _ _ _ _ _ := False
  Sym _ _ := True
  ok := False
  lab _ := 0
  lb := False
  jf := True
  e _ := ()
  s := ()
  Emit _ _ _ _ := True

theorem equi_iff {α} {X Y : Unit} {m : CM α} : equiLogic.Good X Y m ↔ Equi m :=
  ⟨fun h pre M s => (h s trivial).1 pre M, fun h s _ => (h.at s).mono fun _ _ _ => ⟨trivial, trivial, trivial⟩⟩

theorem equi_rules : Rules equiLogic where
  pre h := h
  post h := h
  emitE _ := trivial
  emitES _ _ := trivial
  emitS _ := trivial
  satPure := EquiAt.pure
  pureP hp _ _ := EquiAt.pure ⟨trivial, trivial, hp⟩
  satBind hm hf := EquiAt.bind (hm.mono fun a s1 h => (hf a s1 trivial h.2.2).mono fun _ _ k => ⟨trivial, trivial, k.2.2⟩)
  getP hb h s _ := EquiAt.get_bind (fun _ _ => hb _ _ _) (h s s trivial)
  cerrP _ _ := EquiAt.throw _
  unsupportedP _ _ := EquiAt.throw _
  panicP _ _ _ := EquiAt.throw _
  init h := nomatch h trivial
  done h := h.elim
  stGood _ h := h.elim
  stCurPos h := h.elim
  stEmitTgt h := h.elim
  stEmit h := h.elim
  stPatch h := h.elim
  stWithLoop _ h := h.elim
  stModLoop h := h.elim
  headTableP := equi_iff.2 equi_headTable
  emit_P _ _ _ _ _ := equi_iff.2 equi_emit_
  makeArrayP _ _ := equi_iff.2 equi_emit_
  emitConstantP _ _ _ := equi_iff.2 equi_emitConstant
  defineLocalP name := equi_iff.2 (equi_tabFree.defineLocal name)
  modifyP {_ f} _ hb _ _ _ := equi_iff.2 (Equi.modify fun pre M s => by
    have h := hb s (pre ++ s.insts) M
    have hi : withPre pre M (f s) = { f s with insts := pre ++ s.insts, sourceMap := M } := by
      unfold withPre; rw [hb.insts s]
    rw [hi]; exact h)
  defineConstLitP name v := equi_iff.2 (equi_tabFree.defineConstLit name v)
  resolveS _ s _ := ⟨fun pre M => equi_resolve pre M s, fun _ _ _ => ⟨trivial, trivial, fun _ _ => trivial⟩⟩
  emitSymS _ _ _ _ _ hs _ _ _ _ := equi_iff.2 equi_emit_ _ hs
  symConstLit _ _ := .inl nofun
  compileDefineP _ _ _ _ _ _ := equi_iff.2 equi_compileDefine
  setParamsP pos ps := equi_iff.2 (equi_tabFree.setParams pos ps)
  declGlobalsP pos l := equi_iff.2 (equi_tabFree.declGlobals pos (fun _ => equi_addConstant) l)
  withBlockP h := equi_iff.2 (equi_tabFree.withBlock (equi_iff.1 h))
  funcLitP pos variadic params body _ _ _ := equi_iff.2 <|
    Equi.bind (equi_withFn pos variadic params body) fun _ => Equi.bind (equi_tabFree.emitFreePtrs pos (fun _ _ _ => equi_emit_) _) fun _ =>
      Equi.ite (Equi.throw _) equi_emitFnConstant

theorem equi_compileStmts (ss : List Stmt) (hok : jfSs ss = true) : Equi (compileStmts ss) :=
  equi_iff.1 (equi_rules.compileStmtsP ss ⟨nofun, nofun, fun _ => hok⟩)

end UgoVerif.Compile

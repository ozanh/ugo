import UgoVerif.Proofs.CompileSat
/-
  The symbol-table operations of the compiler model (`symbol_table.go`), each characterised once.
  The analyses of the compiler (C05 `ChainOK`, C13 `TablesOK`, C10 `TabsExt`, C02 `Tl`) take what
  they know of `lookupSym` / `putSym`, `updateMaxDefs`, `resolveIn` / `resolve` and `defineLocal`
  from here and add only what their own invariant says.
-/
namespace UgoVerif.Compile
open UgoVerif UgoVerif.Go UgoVerif.Ast

theorem lookupSym_mem {n : String} {y : Symbol} : ∀ {st : List (String × Symbol)}, lookupSym n st = some y → (n, y) ∈ st
  | [], h => nomatch h
  | (k, v) :: r, h => by
    simp only [lookupSym] at h
    split at h
    · rename_i hk
      injection h with h
      rw [← eq_of_beq hk, ← h]
      exact List.mem_cons_self
    · exact List.mem_cons_of_mem _ (lookupSym_mem h)

theorem mem_putSym {n : String} {y : Symbol} {p : String × Symbol} :
    ∀ {st : List (String × Symbol)}, p ∈ putSym n y st → p = (n, y) ∨ p ∈ st
  | [], h => .inl (List.mem_singleton.mp h)
  | (k, v) :: r, h => by
    simp only [putSym] at h
    split at h
    · exact (List.mem_cons.mp h).imp_right (List.mem_cons_of_mem _)
    · rcases List.mem_cons.mp h with h | h
      · exact .inr (h ▸ List.mem_cons_self)
      · exact (mem_putSym h).imp_right (List.mem_cons_of_mem _)

theorem lookupSym_all {P : Symbol → Prop} {n : String} {y : Symbol} {st : List (String × Symbol)}
    (hs : ∀ p ∈ st, P p.2) (h : lookupSym n st = some y) : P y := hs _ (lookupSym_mem h)

theorem putSym_all {P : Symbol → Prop} {n : String} {y : Symbol} {st : List (String × Symbol)} (hy : P y)
    (hs : ∀ p ∈ st, P p.2) : ∀ p ∈ putSym n y st, P p.2 :=
  fun p hp => (mem_putSym hp).elim (fun e => e ▸ hy) (hs p)

theorem lookupSym_putSym (n m : String) (y : Symbol) :
    ∀ st, lookupSym m (putSym n y st) = if n == m then some y else lookupSym m st
  | [] => by simp only [putSym, lookupSym]
  | (k, v) :: r => by
    simp only [putSym]
    split
    · rename_i hk
      rw [eq_of_beq hk]
      simp only [lookupSym]
      split <;> rfl
    · rename_i hk
      simp only [lookupSym, lookupSym_putSym n m y r]
      split
      · rename_i hkm
        rw [← eq_of_beq hkm, if_neg (fun h => hk (by rw [eq_of_beq h, beq_self_eq_true]))]
      · rfl

theorem lookupSym_putSym_self (n : String) (y : Symbol) (st : List (String × Symbol)) :
    lookupSym n (putSym n y st) = some y := by
  rw [lookupSym_putSym, if_pos (beq_self_eq_true n)]

theorem lookupSym_putSym_other (n m : String) (y : Symbol) (hne : m ≠ n) (st : List (String × Symbol)) :
    lookupSym n (putSym m y st) = lookupSym n st := by
  rw [lookupSym_putSym, if_neg fun h => hne (eq_of_beq h)]

theorem putSym_putSym (n : String) (x y : Symbol) : ∀ st, putSym n y (putSym n x st) = putSym n y st
  | [] => by simp [putSym]
  | (k, v) :: r => by
    by_cases h : k = n
    · simp [putSym, h]
    · have h' : (k == n) = false := by simpa using h
      simp [putSym, h', putSym_putSym n x y r]

inductive MaxUp : List Table → List Table → Prop
  | nil : MaxUp [] []
  | cons {t : Table} {m : Nat} {r r' : List Table} : t.maxDefinition ≤ m → MaxUp r r' →
      MaxUp (t :: r) ({ t with maxDefinition := m } :: r')

theorem MaxUp.refl : ∀ ts : List Table, MaxUp ts ts
  | [] => .nil
  | t :: r => .cons (t := t) (Nat.le_refl _) (MaxUp.refl r)

theorem updateMaxDefs_cons (n : Nat) (t : Table) (r : List Table) : updateMaxDefs n (t :: r) =
    { t with maxDefinition := max n t.maxDefinition } :: (if t.block then updateMaxDefs n r else r) := by
  have h : (if n > t.maxDefinition then { t with maxDefinition := n } else t) =
      { t with maxDefinition := max n t.maxDefinition } := by
    split
    · rw [Nat.max_eq_left (by omega)]
    · rw [Nat.max_eq_right (by omega)]
  simp only [updateMaxDefs, h]
  split <;> rfl

theorem updateMaxDefs_head (n : Nat) (t : Table) (r : List Table) :
    ∃ t' r', updateMaxDefs n (t :: r) = t' :: r' ∧ t'.store = t.store ∧ t'.numDefinition = t.numDefinition ∧
      t'.numParams = t.numParams ∧ n ≤ t'.maxDefinition ∧ t.maxDefinition ≤ t'.maxDefinition ∧
      t'.disabled = t.disabled :=
  ⟨_, _, updateMaxDefs_cons n t r, rfl, rfl, rfl, Nat.le_max_left _ _, Nat.le_max_right _ _, rfl⟩

theorem updateMaxDefs_rel (n : Nat) : ∀ ts : List Table, MaxUp ts (updateMaxDefs n ts)
  | [] => .nil
  | t :: r => by
    rw [updateMaxDefs_cons]
    refine .cons (Nat.le_max_right _ _) ?_
    split
    · exact updateMaxDefs_rel n r
    · exact MaxUp.refl r

theorem ne_nil_of_length_eq {α β} {a : List α} {b : List β} (h : a.length = b.length) (hb : b ≠ []) : a ≠ [] := by
  intro h0; rw [h0] at h; exact hb (List.length_eq_zero_iff.mp h.symm)

theorem rootDisabled_cons_ne {t : Table} {r : List Table} (h : r ≠ []) : rootDisabled (t :: r) = rootDisabled r := by
  cases r with
  | nil => exact absurd rfl h
  | cons t2 r2 => rfl

theorem rootDisabled_head {t t' : Table} (r : List Table) (h : t'.disabled = t.disabled) :
    rootDisabled (t' :: r) = rootDisabled (t :: r) := by
  cases r with
  | nil => exact h
  | cons t2 r2 => rfl

theorem MaxUp.rootDisabled : ∀ {a b : List Table}, MaxUp a b → rootDisabled b = rootDisabled a
  | _, _, .nil => rfl
  | _, _, .cons _ hr => by
    cases hr with
    | nil => rfl
    | cons hm hr => exact (MaxUp.cons hm hr).rootDisabled

@[simp] theorem shadowBuiltin_store (bs : List (String × Nat)) (n : String) (t : Table) :
    (shadowBuiltin bs n t).store = t.store := by unfold shadowBuiltin; split <;> rfl
@[simp] theorem shadowBuiltin_numParams (bs : List (String × Nat)) (n : String) (t : Table) :
    (shadowBuiltin bs n t).numParams = t.numParams := by unfold shadowBuiltin; split <;> rfl
@[simp] theorem shadowBuiltin_maxDefinition (bs : List (String × Nat)) (n : String) (t : Table) :
    (shadowBuiltin bs n t).maxDefinition = t.maxDefinition := by unfold shadowBuiltin; split <;> rfl
@[simp] theorem shadowBuiltin_block (bs : List (String × Nat)) (n : String) (t : Table) :
    (shadowBuiltin bs n t).block = t.block := by unfold shadowBuiltin; split <;> rfl
@[simp] theorem shadowBuiltin_disabled (bs : List (String × Nat)) (n : String) (t : Table) :
    (shadowBuiltin bs n t).disabled = t.disabled := by unfold shadowBuiltin; split <;> rfl
@[simp] theorem shadowBuiltin_frees (bs : List (String × Nat)) (n : String) (t : Table) :
    (shadowBuiltin bs n t).frees = t.frees := by unfold shadowBuiltin; split <;> rfl
@[simp] theorem shadowBuiltin_numDefinition (bs : List (String × Nat)) (n : String) (t : Table) :
    (shadowBuiltin bs n t).numDefinition = t.numDefinition := by unfold shadowBuiltin; split <;> rfl

theorem resolveIn_found {bs : List (String × Nat)} {d : List String} {n : String} {t : Table} {sym : Symbol}
    (rest : List Table) (h : lookupSym n t.store = some sym) : resolveIn bs d n (t :: rest) = (some sym, t :: rest) := by
  unfold resolveIn
  rw [h]

theorem resolveIn_root {bs : List (String × Nat)} {d : List String} {n : String} {t : Table}
    (h : lookupSym n t.store = none) : resolveIn bs d n [t] =
      if !d.contains n then
        match bs.find? (·.1 == n) with
        | some (_, idx) =>
          (some { name := n, index := idx, scope := .builtin },
           [{ t with store := putSym n { name := n, index := idx, scope := .builtin } t.store }])
        | none => (none, [t])
      else (none, [t]) := by
  rw [resolveIn, h]
  rfl

theorem resolveIn_cons {bs : List (String × Nat)} {d : List String} {n : String} {t : Table} {rest : List Table}
    (hne : rest ≠ []) (h : lookupSym n t.store = none) : resolveIn bs d n (t :: rest) =
      match resolveIn bs d n rest with
      | (none, rest') => (none, t :: rest')
      | (some sym, rest') =>
        if !t.block && sym.scope != .global && sym.scope != .builtin && sym.scope != .constLit then
          (some { name := sym.name, index := t.frees.length, scope := .free, constant := sym.constant },
           shadowBuiltin bs sym.name { t with
             frees := t.frees ++ [sym],
             store := putSym sym.name { name := sym.name, index := t.frees.length, scope := .free, constant := sym.constant } t.store }
             :: rest')
        else (some sym, t :: rest') := by
  rw [resolveIn, h]
  · rcases resolveIn bs d n rest with ⟨_ | sym, rest'⟩ <;> rfl
  · exact hne

theorem resolveIn_ind {bs : List (String × Nat)} {d : List String} {n : String}
    {motive : List Table → Option Symbol × List Table → Prop}
    (nil : motive [] (none, []))
    (found : ∀ {t sym} rest, lookupSym n t.store = some sym → motive (t :: rest) (some sym, t :: rest))
    (builtin : ∀ {t k idx}, lookupSym n t.store = none → d.contains n = false → bs.find? (·.1 == n) = some (k, idx) →
      motive [t] (some { name := n, index := idx, scope := .builtin },
        [{ t with store := putSym n { name := n, index := idx, scope := .builtin } t.store }]))
    (unbound : ∀ {t}, lookupSym n t.store = none → motive [t] (none, [t]))
    (miss : ∀ {t rest rest'}, lookupSym n t.store = none → rest ≠ [] → motive rest (none, rest') →
      motive (t :: rest) (none, t :: rest'))
    (capture : ∀ {t rest sym rest'}, lookupSym n t.store = none → rest ≠ [] → motive rest (some sym, rest') →
      t.block = false → sym.scope ≠ .global → sym.scope ≠ .builtin → sym.scope ≠ .constLit →
      motive (t :: rest) (some { name := sym.name, index := t.frees.length, scope := .free, constant := sym.constant },
        shadowBuiltin bs sym.name { t with
          frees := t.frees ++ [sym],
          store := putSym sym.name { name := sym.name, index := t.frees.length, scope := .free, constant := sym.constant } t.store }
          :: rest'))
    (pass : ∀ {t rest sym rest'}, lookupSym n t.store = none → rest ≠ [] → motive rest (some sym, rest') →
      (t.block = false → sym.scope = .global ∨ sym.scope = .builtin ∨ sym.scope = .constLit) →
      motive (t :: rest) (some sym, t :: rest')) :
    ∀ ts, motive ts (resolveIn bs d n ts)
  | [] => nil
  | t :: rest => by
    cases hl : lookupSym n t.store with
    | some sym => rw [resolveIn_found rest hl]; exact found rest hl
    | none =>
      cases rest with
      | nil =>
        rw [resolveIn_root hl]
        split
        · rename_i hd
          split
          · rename_i hf
            exact builtin hl (by simpa using hd) hf
          · exact unbound hl
        · exact unbound hl
      | cons t2 r2 =>
        have hne : t2 :: r2 ≠ [] := List.cons_ne_nil _ _
        have ih := resolveIn_ind nil found builtin unbound miss capture pass (t2 :: r2)
        rw [resolveIn_cons hne hl]
        generalize resolveIn bs d n (t2 :: r2) = res at ih
        rcases res with ⟨_ | sym, rest'⟩
        · exact miss hl hne ih
        · simp only
          split
          · rename_i hc
            simp only [Bool.and_eq_true, Bool.not_eq_true', bne_iff_ne, ne_eq] at hc
            exact capture hl hne ih hc.1.1.1 hc.1.1.2 hc.1.2 hc.2
          · rename_i hc
            refine pass hl hne ih fun hb => ?_
            simp only [hb, Bool.not_false, Bool.true_and, Bool.and_eq_true, bne_iff_ne, ne_eq, not_and,
              Decidable.not_not] at hc
            by_cases hg : sym.scope = .global
            · exact .inl hg
            · by_cases hbi : sym.scope = .builtin
              · exact .inr (.inl hbi)
              · exact .inr (.inr (hc ⟨hg, hbi⟩))

theorem resolveIn_shape (bs : List (String × Nat)) (d : List String) (n : String) (ts : List Table) :
    (resolveIn bs d n ts).2.length = ts.length ∧ rootDisabled (resolveIn bs d n ts).2 = rootDisabled ts := by
  have below : ∀ {x t : Table} {rest rest' : List Table}, rest ≠ [] →
      rest'.length = rest.length ∧ rootDisabled rest' = rootDisabled rest →
      (x :: rest').length = (t :: rest).length ∧ rootDisabled (x :: rest') = rootDisabled (t :: rest) := fun hne h => by
    rw [rootDisabled_cons_ne hne, rootDisabled_cons_ne (ne_nil_of_length_eq h.1 hne), h.2]
    exact ⟨congrArg (· + 1) h.1, rfl⟩
  refine resolveIn_ind (motive := fun ts res => res.2.length = ts.length ∧ rootDisabled res.2 = rootDisabled ts)
    ?_ ?_ ?_ ?_ ?_ ?_ ?_ ts
  · exact ⟨rfl, rfl⟩
  · exact fun _ _ => ⟨rfl, rfl⟩
  · exact fun _ _ _ => ⟨rfl, rfl⟩
  · exact fun _ => ⟨rfl, rfl⟩
  · exact fun _ hne ih => below hne ih
  · exact fun _ hne ih _ _ _ _ => below hne ih
  · exact fun _ hne ih _ => below hne ih

theorem runCM_resolve (name : String) (s : CState) : runCM (resolve name) s =
    (.ok (resolveIn s.builtins (rootDisabled s.tables) name s.tables).1,
     { s with tables := (resolveIn s.builtins (rootDisabled s.tables) name s.tables).2 }) := rfl

theorem runCM_headTable {s : CState} {t : Table} {r : List Table} (h : s.tables = t :: r) :
    runCM headTable s = (.ok t, s) := by
  unfold headTable
  rw [runCM_bind, runCM_get]
  simp only [h]
  rfl

theorem runCM_modTables (g : List Table → List Table) (s : CState) :
    runCM (modTables g) s = (.ok (), { s with tables := g s.tables }) := rfl

theorem runCM_modHead (f : Table → Table) {s : CState} {t : Table} {r : List Table} (h : s.tables = t :: r) :
    runCM (modHead f) s = (.ok (), { s with tables := f t :: r }) := by
  unfold modHead
  rw [runCM_modTables, h]

theorem runCM_updateSym {name : String} {g : Symbol → Symbol} {s : CState} {t : Table} {r : List Table} {y : Symbol}
    (htr : s.tables = t :: r) (hl : lookupSym name t.store = some y) :
    runCM (updateSym name g) s = (.ok (), { s with tables := { t with store := putSym name (g y) t.store } :: r }) := by
  unfold updateSym
  rw [runCM_modHead _ htr]
  simp only [hl]

theorem definedSym_none {name : String} {t : Table} (h : definedSym name t = none) :
    ∀ y0, lookupSym name t.store = some y0 → y0.scope = .builtin := by
  intro y0 hl
  unfold definedSym at h
  rw [hl] at h
  simp only at h
  split at h
  · rename_i hb; simpa using hb
  · cases h

theorem definedSym_some {name : String} {t : Table} {sym : Symbol} :
    definedSym name t = some sym ↔ lookupSym name t.store = some sym ∧ sym.scope ≠ .builtin := by
  unfold definedSym
  cases lookupSym name t.store with
  | none => simp
  | some y =>
    by_cases hb : y.scope = .builtin
    · simp only [hb, beq_self_eq_true, if_true, Option.some.injEq]
      exact ⟨fun h => (nomatch h), fun h => absurd (h.1 ▸ hb) h.2⟩
    · simp only [beq_iff_eq, hb, if_false, Option.some.injEq]
      exact ⟨fun h => ⟨h, h ▸ hb⟩, fun h => h.1⟩

/-- the head table after `DefineLocal` of a new name, before `updateMaxDefs` -/
def defLocalTable (bs : List (String × Nat)) (name : String) (sym : Symbol) (t : Table) : Table :=
  shadowBuiltin bs name { t with numDefinition := t.numDefinition + 1, store := putSym name sym t.store }

def newLocal (name : String) (ts : List Table) : Symbol := { name := name, index := (nextIndex ts : Int), scope := .local_ }

theorem runCM_defineLocal_ex {name : String} {s : CState} {t : Table} {r : List Table} (htr : s.tables = t :: r)
    {sym : Symbol} (hd : definedSym name t = some sym) : runCM (defineLocal name) s = (.ok (sym, true), s) := by
  unfold defineLocal
  rw [runCM_bind, runCM_get]
  simp only
  rw [runCM_bind, runCM_headTable htr]
  simp only [hd, runCM_pure]

theorem runCM_defineLocal_new {name : String} {s : CState} {t : Table} {r : List Table} (htr : s.tables = t :: r)
    (hd : definedSym name t = none) :
    runCM (defineLocal name) s = (.ok (newLocal name s.tables, false),
      { s with tables := updateMaxDefs (nextIndex s.tables + 1) (defLocalTable s.builtins name (newLocal name s.tables) t :: r) }) := by
  unfold defineLocal
  rw [runCM_bind, runCM_get]
  simp only
  rw [runCM_bind, runCM_headTable htr]
  simp only [hd]
  rw [runCM_bind, runCM_modHead _ htr]
  simp only
  rw [runCM_bind, runCM_modTables]
  simp only [runCM_pure]
  rfl

theorem runCM_forkTable {s : CState} {t : Table} {r : List Table} (block : Bool) (h : s.tables = t :: r) :
    runCM (forkTable block) s = (.ok (), { s with tables :=
      { block := block, disableParams := t.disableParams, hasParentConstLit := t.hasConstLit || t.hasParentConstLit } :: s.tables }) := by
  unfold forkTable
  rw [runCM_bind, runCM_headTable h]
  rfl

theorem runCM_popTable {s : CState} {t : Table} {r : List Table} (h : s.tables = t :: r) :
    runCM popTable s = (.ok t, { s with tables := r }) := by
  unfold popTable
  rw [runCM_bind, runCM_headTable h]
  simp only
  rw [runCM_bind]
  unfold modTables
  rw [runCM_modify]
  simp [h, runCM_pure]

end UgoVerif.Compile

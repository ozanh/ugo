import UgoVerif.Proofs.CompileWalk
/-
  C05 / C16: both operands of every SETUPTRY lie STRICTLY inside the instruction stream
  (`TryLt`).  The predicate is kept by appending an instruction whose SETUPTRY operands are
  boundaries of the old stream (`emit`: the new stream is longer) and by patching an instruction
  whose SETUPTRY operands are strictly below the current length (`changeOperand`).
-/
namespace UgoVerif.Compile
open UgoVerif UgoVerif.Go UgoVerif.Ast

def TryLt (a : Array UInt8) : Prop :=
  ∀ p op, Bd a p → a[p]? = some op → op.toNat = OpSetupTry →
    readBE a (p + 1) 4 < a.size ∧ readBE a (p + 5) 4 < a.size

theorem TryLt.empty : TryLt #[] := fun _ _ hbd _ _ => absurd hbd.2 (by simp)

theorem TryLt.of_cases {a a' : Array UInt8} {P : Nat} {opn : UInt8} (ht : TryLt a) (hsz : a.size ≤ a'.size)
    (hnew : opn.toNat = OpSetupTry → readBE a' (P + 1) 4 < a'.size ∧ readBE a' (P + 5) 4 < a'.size)
    (hc : ∀ p op, Walk a' 0 p → a'[p]? = some op → OldInst a a' p op ∨ (p = P ∧ op = opn)) : TryLt a' := by
  intro p op hbd hget htry
  rcases hc p op hbd.1 hget with ⟨hbdp, hgeta, hb⟩ | ⟨rfl, rfl⟩
  · rw [htry] at hb
    have := ht p op hbdp hgeta htry
    rw [readBE_congr_off hb (o := 0) (w := 4) (by decide), readBE_congr_off hb (o := 4) (w := 4) (by decide)]
    exact ⟨Nat.lt_of_lt_of_le this.1 hsz, Nat.lt_of_lt_of_le this.2 hsz⟩
  · exact hnew htry

theorem TryLt.append_inst {L : Lims} {a : Array UInt8} {op : Nat} {args : List Int} {bs : List UInt8}
    (hw : Walk a 0 a.size) (ht : TryLt a) (hop : op < numOpcodes)
    (hm : makeInstruction op args = .ok bs) (ha : ArgsOK L a op args) : TryLt (a ++ bs.toArray) := by
  obtain ⟨rest, hbs, hl⟩ := makeInstruction_ok hm
  subst hbs
  have hto := toNat_ofNat_op hop
  have hsz := size_append_inst a hop hl
  refine ht.of_cases (opn := UInt8.ofNat op) (P := a.size) (by omega) ?_
    fun p op => Walk.append_cases hw (Pre.append _ _) hsz (by simp)
  intro htry
  rw [hto] at htry
  subst htry
  obtain ⟨t1, t2, hargs, h1, h2⟩ := ha.2.1 rfl
  obtain ⟨e1, e2⟩ := inst_read_try hm hargs (InstAt.append _ _)
  have l1 := h1.le_size (Nat.zero_le _)
  have l2 := h2.le_size (Nat.zero_le _)
  rw [e1, e2, hsz]
  omega

theorem TryLt.patch_inst {a : Array UInt8} {q : Nat} {opq : UInt8} {args : List Int} {bs : List UInt8}
    (hw : Walk a 0 a.size) (ht : TryLt a) (hq : Walk a 0 q) (hop : a[q]? = some opq)
    (hm : makeInstruction opq.toNat args = .ok bs)
    (ha : opq.toNat = OpSetupTry → ∃ t1 t2 : Nat, args = [(t1 : Int), (t2 : Int)] ∧ t1 < a.size ∧ t2 < a.size) :
    TryLt (patch a q bs) := by
  obtain ⟨rest, hbs, hl⟩ := makeInstruction_ok hm
  subst hbs
  rw [show UInt8.ofNat opq.toNat = opq by simp] at hm ⊢
  have hfit := Bd.fit ⟨hq, getElem?_lt_of_some hop⟩ hw hop
  refine ht.of_cases (Nat.le_of_eq (size_patch _ _ _).symm) ?_ fun p op => Walk.patch_cases hw hq hop hl
  intro htry
  obtain ⟨t1, t2, hargs, h1, h2⟩ := ha htry
  rw [htry] at hm
  obtain ⟨e1, e2⟩ := inst_read_try (a := patch a q (opq :: rest)) (p := q) hm hargs
    fun k hk => patch_get_mid _ _ _ _ hk (by simp [hl]; omega)
  rw [e1, e2, size_patch]
  exact ⟨h1, h2⟩

end UgoVerif.Compile

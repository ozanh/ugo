import UgoVerif.Model.Compile
import UgoVerif.Proofs.Bytecode
/-
  The instruction boundaries of a byte stream (`Walk`) and the operand conditions of C05 over them
  (`TargetsOK`).  The compiler changes a stream in two ways only: it appends an instruction, or it
  patches one under the same opcode.  After either, the instructions are the old ones with their bytes
  unchanged (`OldInst`) and the written one: `Walk.append_cases`, `Walk.patch_cases`.  An invariant
  that speaks per instruction is therefore checked for the written instruction alone
  (`TargetsOK.of_cases`).
-/
namespace UgoVerif.Compile
open UgoVerif UgoVerif.Go UgoVerif.Ast

theorem beBytes_length (w v : Nat) : (beBytes w v).length = w := by simp [beBytes]

theorem encodeOperands_cons_ok {w : Nat} {ws : List Nat} {a : Int} {as : List Int} {bs : List UInt8} :
    encodeOperands (w :: ws) (a :: as) = .ok bs ↔
      (0 ≤ a ∧ a ≤ maxOf w) ∧ ∃ bs', encodeOperands ws as = .ok bs' ∧ bs = beBytes w a.toNat ++ bs' := by
  simp only [encodeOperands]
  constructor
  · intro h
    split at h
    · cases h
    · split at h
      · cases h
      · split at h
        · rename_i bs' hb
          injection h with h
          exact ⟨⟨by omega, by omega⟩, bs', hb, h.symm⟩
        · cases h
  · rintro ⟨⟨h1, h2⟩, bs', hb, rfl⟩
    rw [if_neg (by omega), if_neg (by omega), hb]

theorem encodeOperands_length : ∀ (ws : List Nat) (as : List Int) (bs : List UInt8),
    ws.length = as.length → encodeOperands ws as = .ok bs → bs.length = ws.sum
  | [], [], bs, _, h => by simp [encodeOperands] at h; simp [← h]
  | [], _ :: _, _, hl, _ => by simp at hl
  | _ :: _, [], _, hl, _ => by simp at hl
  | w :: ws, a :: as, bs, hl, h => by
    obtain ⟨_, bs', hb, rfl⟩ := encodeOperands_cons_ok.mp h
    simp [beBytes_length, encodeOperands_length ws as bs' (by simpa using hl) hb]

theorem makeInstruction_ok_iff {op : Nat} {args : List Int} {bs : List UInt8} :
    makeInstruction op args = .ok bs ↔ (operandWidths op).length = args.length ∧
      ∃ rest, encodeOperands (operandWidths op) args = .ok rest ∧ bs = UInt8.ofNat op :: rest := by
  unfold makeInstruction
  constructor
  · intro h
    split at h
    · cases h
    · rename_i hl
      split at h
      · rename_i rest hr
        injection h with h
        exact ⟨by simpa using hl, rest, hr, h.symm⟩
      · cases h
  · rintro ⟨hl, rest, hr, rfl⟩
    rw [if_neg (by simpa using hl), hr]

theorem makeInstruction_len {op : Nat} {args : List Int} {bs : List UInt8} (h : makeInstruction op args = .ok bs) :
    (operandWidths op).length = args.length := (makeInstruction_ok_iff.mp h).1

theorem makeInstruction_ok {op : Nat} {args : List Int} {bs : List UInt8}
    (h : makeInstruction op args = .ok bs) :
    ∃ rest, bs = UInt8.ofNat op :: rest ∧ rest.length = opWidth op := by
  obtain ⟨hl, rest, hr, hbs⟩ := makeInstruction_ok_iff.mp h
  exact ⟨rest, hbs, encodeOperands_length _ _ _ hl hr⟩

def beVal (bs : List UInt8) : Nat := bs.foldl (fun acc b => acc * 256 + b.toNat) 0

/-- decoder of the operand bytes of an instruction (`ReadOperands`) -/
def readOperands : List Nat → List UInt8 → List Int
  | [], _ => []
  | w :: ws, bs => Int.ofNat (beVal (bs.take w)) :: readOperands ws (bs.drop w)

theorem forall_mem_ite {α} {c : Prop} [Decidable c] {x y : List α} {P : α → Prop} (hx : ∀ w ∈ x, P w)
    (hy : ∀ w ∈ y, P w) : ∀ w ∈ (if c then x else y), P w := by
  split <;> assumption

theorem operandWidths_mem (op w : Nat) (h : w ∈ operandWidths op) : w = 1 ∨ w = 2 ∨ w = 4 := by
  revert w
  unfold operandWidths
  -- one branch of the table after the other
  iterate 7 refine forall_mem_ite (by decide) ?_
  decide

theorem u8_toNat_mod (x : Nat) : (UInt8.ofNat (x % 256)).toNat = x % 256 := by
  simp [UInt8.toNat_ofNat']

theorem beBytes_eq : ∀ w v : Nat, beBytes w v = Model.Bytecode.beBytes w v
  | 0, _ => rfl
  | w + 1, v => by
    have ih := beBytes_eq w v
    simp only [beBytes, Model.Bytecode.beBytes, List.range_succ_eq_map, List.map_cons, List.map_map] at ih ⊢
    rw [← ih]
    refine congr (congrArg _ ?_) (List.map_congr_left fun i hi => ?_)
    · exact UInt8.toNat_inj.mp (by rw [u8_toNat_mod]; simp [UInt8.toNat_ofNat'])
    · have := List.mem_range.mp hi
      simp only [Function.comp]
      rw [show w + 1 - 1 - (i + 1) = w - 1 - i by omega]

theorem beVal_beBytes (w v : Nat) (hw : w = 1 ∨ w = 2 ∨ w = 4) (hv : (v : Int) ≤ maxOf w) : beVal (beBytes w v) = v := by
  rw [beBytes_eq]
  refine Proofs.Bytecode.beVal_beBytes_lt ?_
  rcases hw with rfl | rfl | rfl <;> simp [maxOf] at hv ⊢ <;> omega

theorem readOperands_encode : ∀ (ws : List Nat) (as : List Int) (bs : List UInt8),
    (∀ w ∈ ws, w = 1 ∨ w = 2 ∨ w = 4) → ws.length = as.length → encodeOperands ws as = .ok bs →
    readOperands ws bs = as
  | [], [], bs, _, _, _ => by simp [readOperands]
  | [], _ :: _, _, _, hl, _ => by simp at hl
  | _ :: _, [], _, _, hl, _ => by simp at hl
  | w :: ws, a :: as, bs, hw, hl, h => by
    obtain ⟨⟨h0, hmax⟩, bs', hb, rfl⟩ := encodeOperands_cons_ok.mp h
    have ih := readOperands_encode ws as bs' (fun w' hw' => hw w' (by simp [hw'])) (by simpa using hl) hb
    have hnat : ((a.toNat : Nat) : Int) = a := Int.toNat_of_nonneg h0
    simp only [readOperands]
    rw [List.take_left' (beBytes_length _ _), List.drop_left' (beBytes_length _ _), ih,
      beVal_beBytes w a.toNat (hw w (by simp)) (by omega)]
    simp [hnat]

theorem makeInstruction_read {op : Nat} {args : List Int} {opb : UInt8} {rest : List UInt8}
    (h : makeInstruction op args = .ok (opb :: rest)) : readOperands (operandWidths op) rest = args := by
  obtain ⟨hl, rest', hr, hbs⟩ := makeInstruction_ok_iff.mp h
  injection hbs with _ hbs
  subst hbs
  exact readOperands_encode _ _ _ (operandWidths_mem op) hl hr

def operandsFit : List Nat → List Int → Prop
  | w :: ws, a :: as => (0 ≤ a ∧ a ≤ maxOf w) ∧ operandsFit ws as
  | _, _ => True

theorem encodeOperands_ok_iff : ∀ (ws : List Nat) (as : List Int),
    (∃ bs, encodeOperands ws as = .ok bs) ↔ operandsFit ws as
  | [], _ => by simp [encodeOperands, operandsFit]
  | _ :: _, [] => by simp [encodeOperands, operandsFit]
  | w :: ws, a :: as => by
    simp only [operandsFit, ← encodeOperands_ok_iff ws as, encodeOperands_cons_ok]
    constructor
    · rintro ⟨_, hf, bs', hb, _⟩
      exact ⟨hf, bs', hb⟩
    · rintro ⟨hf, bs', hb⟩
      exact ⟨_, hf, bs', hb, rfl⟩

theorem getElem?_lt_of_some {α : Type} {a : Array α} {i : Nat} {b : α} (h : a[i]? = some b) : i < a.size := by
  rcases Nat.lt_or_ge i a.size with h' | h'
  · exact h'
  · simp [Array.getElem?_eq_none h'] at h

theorem size_patch : ∀ (bs : List UInt8) (a : Array UInt8) (p : Nat), (patch a p bs).size = a.size
  | [], _, _ => rfl
  | b :: r, a, p => by simp [patch, size_patch r]

theorem patch_get_off : ∀ (bs : List UInt8) (a : Array UInt8) (p k : Nat), k < p ∨ p + bs.length ≤ k →
    (patch a p bs)[k]? = a[k]?
  | [], _, _, _, _ => rfl
  | b :: r, a, p, k, h => by
    simp only [patch]
    simp only [List.length_cons] at h
    rw [patch_get_off r _ (p + 1) k (by omega)]
    simp [Array.getElem?_setIfInBounds]
    omega

theorem patch_get_lt (bs : List UInt8) (a : Array UInt8) (p k : Nat) (h : k < p) : (patch a p bs)[k]? = a[k]? :=
  patch_get_off bs a p k (.inl h)

theorem patch_get_ge (bs : List UInt8) (a : Array UInt8) (p k : Nat) (h : p + bs.length ≤ k) :
    (patch a p bs)[k]? = a[k]? :=
  patch_get_off bs a p k (.inr h)

theorem patch_get_head (b : UInt8) (r : List UInt8) (a : Array UInt8) (p : Nat) (h : p < a.size) :
    (patch a p (b :: r))[p]? = some b := by
  simp only [patch]
  rw [patch_get_lt r _ (p + 1) p (by omega)]
  simp [h]

theorem patch_get_mid : ∀ (bs : List UInt8) (a : Array UInt8) (p k : Nat), k < bs.length → p + bs.length ≤ a.size →
    (patch a p bs)[p + k]? = bs[k]?
  | [], _, _, _, h, _ => by simp at h
  | b :: r, a, p, 0, _, hs => by
    simp only [List.length_cons] at hs
    rw [Nat.add_zero, patch_get_head b r a p (by omega)]
    rfl
  | b :: r, a, p, k + 1, h, hs => by
    simp only [List.length_cons] at h hs
    simp only [patch]
    have := patch_get_mid r (a.setIfInBounds p b) (p + 1) k (by omega) (by simp; omega)
    rw [show p + (k + 1) = p + 1 + k by omega, this]
    rfl

/-- `Walk a i j`: decoding instructions of `a` from offset `i` reaches offset `j` exactly; every
    opcode on the way is a known opcode and every instruction is complete. -/
inductive Walk (a : Array UInt8) : Nat → Nat → Prop
  | refl (i : Nat) : Walk a i i
  | step {i j : Nat} (op : UInt8) (h1 : a[i]? = some op) (h2 : op.toNat < numOpcodes)
      (h3 : i + 1 + opWidth op.toNat ≤ a.size) (h4 : Walk a (i + 1 + opWidth op.toNat) j) : Walk a i j

theorem Walk.le {a : Array UInt8} {i j : Nat} (h : Walk a i j) : i ≤ j := by
  induction h with
  | refl => exact Nat.le_refl _
  | step op h1 h2 h3 h4 ih => omega

theorem Walk.le_size {a : Array UInt8} {i j : Nat} (h : Walk a i j) (hi : i ≤ a.size) : j ≤ a.size := by
  induction h with
  | refl => exact hi
  | step op h1 h2 h3 h4 ih => exact ih h3

theorem Walk.trans {a : Array UInt8} {i j k : Nat} (h : Walk a i j) (h' : Walk a j k) : Walk a i k := by
  induction h with
  | refl => exact h'
  | step op h1 h2 h3 h4 ih => exact .step op h1 h2 h3 (ih h')

theorem Walk.comparable {a : Array UInt8} {i j k : Nat} (h : Walk a i j) (h' : Walk a i k) :
    Walk a j k ∨ Walk a k j := by
  induction h generalizing k with
  | refl => exact .inl h'
  | step op h1 h2 h3 h4 ih =>
    cases h' with
    | refl => exact .inr (.step op h1 h2 h3 h4)
    | step op' h1' h2' h3' h4' =>
      have : op' = op := by rw [h1] at h1'; injection h1' with h; exact h.symm
      subst this
      exact ih h4'

theorem Walk.succ_next {a : Array UInt8} {i j k : Nat} {op : UInt8} (hj : Walk a i j) (hk : Walk a i k)
    (hop : a[j]? = some op) (hlt : j < k) :
    Walk a i (j + 1 + opWidth op.toNat) ∧ Walk a (j + 1 + opWidth op.toNat) k := by
  rcases hj.comparable hk with h | h
  · cases h with
    | refl => exact absurd hlt (Nat.lt_irrefl _)
    | step op' h1 h2 h3 h4 =>
      obtain rfl : op' = op := Option.some.inj (h1.symm.trans hop)
      exact ⟨hj.trans (.step op' h1 h2 h3 (.refl _)), h4⟩
  · exact absurd h.le (Nat.not_le.mpr hlt)

theorem Walk.next {a : Array UInt8} {i j k : Nat} {op : UInt8} (hj : Walk a i j) (hk : Walk a i k)
    (hop : a[j]? = some op) (hlt : j < k) : Walk a (j + 1 + opWidth op.toNat) k :=
  (hj.succ_next hk hop hlt).2

theorem Walk.succ {a : Array UInt8} {i j k : Nat} {op : UInt8} (hj : Walk a i j) (hk : Walk a i k)
    (hop : a[j]? = some op) (hlt : j < k) : Walk a i (j + 1 + opWidth op.toNat) :=
  (hj.succ_next hk hop hlt).1

def Pre (a a' : Array UInt8) : Prop := a.size ≤ a'.size ∧ ∀ k, k < a.size → a'[k]? = a[k]?

theorem Pre.refl (a : Array UInt8) : Pre a a := ⟨Nat.le_refl _, fun _ _ => rfl⟩
theorem Pre.trans {a b c : Array UInt8} (h : Pre a b) (h' : Pre b c) : Pre a c :=
  ⟨Nat.le_trans h.1 h'.1, fun k hk => by rw [h'.2 k (by have := h.1; omega), h.2 k hk]⟩

theorem Pre.append (a b : Array UInt8) : Pre a (a ++ b) :=
  ⟨by simp, fun k hk => by rw [Array.getElem?_append_left hk]⟩

theorem Pre.patch {a0 a : Array UInt8} {p : Nat} {bs : List UInt8} (h : Pre a0 a) (hp : a0.size ≤ p) :
    Pre a0 (patch a p bs) :=
  ⟨by rw [size_patch]; exact h.1, fun k hk => by rw [patch_get_lt _ _ _ _ (by omega)]; exact h.2 k hk⟩

theorem Walk.pre {a a' : Array UInt8} {i j : Nat} (h : Walk a i j) (hp : Pre a a') : Walk a' i j := by
  induction h with
  | refl => exact .refl _
  | step op h1 h2 h3 h4 ih =>
    exact .step op (by rw [hp.2 _ (getElem?_lt_of_some h1)]; exact h1) h2 (by have := hp.1; omega) ih

theorem Walk.of_pre {a a' : Array UInt8} {i p : Nat} (hp : Pre a a') (h' : Walk a' i p) (hle : p ≤ a.size) :
    Walk a i p := by
  induction h' with
  | refl => exact .refl _
  | step op h1 h2 h3 h4 ih =>
    have := h4.le
    exact .step op (by rw [← hp.2 _ (by omega)]; exact h1) h2 (by omega) (ih hle)

def Bd (a : Array UInt8) (p : Nat) : Prop := Walk a 0 p ∧ p < a.size

theorem Bd.pre {a a' : Array UInt8} {p : Nat} (h : Bd a p) (hp : Pre a a') : Bd a' p :=
  ⟨h.1.pre hp, by have := hp.1; have := h.2; omega⟩

theorem Bd.fit {a : Array UInt8} {p : Nat} {op : UInt8} (h : Bd a p) (hw : Walk a 0 a.size) (hop : a[p]? = some op) :
    p + 1 + opWidth op.toNat ≤ a.size := (h.1.next hw hop h.2).le

theorem Walk.congr {a a' : Array UInt8} {i j : Nat} (h : Walk a i j) (hs : a'.size = a.size)
    (hag : ∀ k, Walk a i k → k < j → a'[k]? = a[k]?) : Walk a' i j := by
  induction h with
  | refl => exact .refl _
  | step op h1 h2 h3 h4 ih =>
    rename_i i j
    have hij : i < j := by have := h4.le; omega
    refine .step op (by rw [hag i (.refl _) hij]; exact h1) h2 (by omega) (ih ?_)
    intro k hk hkj
    exact hag k (.step op h1 h2 h3 hk) hkj

theorem toNat_ofNat_op {op : Nat} (hop : op < numOpcodes) : (UInt8.ofNat op).toNat = op := by
  simp only [UInt8.toNat_ofNat']
  unfold numOpcodes at hop
  omega

theorem size_append_inst (a : Array UInt8) {op : Nat} {rest : List UInt8} (hop : op < numOpcodes)
    (hl : rest.length = opWidth op) :
    (a ++ (UInt8.ofNat op :: rest).toArray).size = a.size + 1 + opWidth (UInt8.ofNat op).toNat := by
  simp [toNat_ofNat_op hop, hl]; omega

theorem Walk.append_inst {a : Array UInt8} {op : Nat} {rest : List UInt8} (h : Walk a 0 a.size)
    (hop : op < numOpcodes) (hl : rest.length = opWidth op) :
    Walk (a ++ (UInt8.ofNat op :: rest).toArray) 0 (a ++ (UInt8.ofNat op :: rest).toArray).size := by
  have hsz := size_append_inst a hop hl
  rw [hsz]
  exact (h.pre (Pre.append _ _)).trans
    (.step (UInt8.ofNat op) (by simp) (by rw [toNat_ofNat_op hop]; exact hop) (Nat.le_of_eq hsz.symm) (.refl _))

theorem Bd.append_inst {a : Array UInt8} {op : Nat} {rest : List UInt8} (h : Walk a 0 a.size) :
    Bd (a ++ (UInt8.ofNat op :: rest).toArray) a.size :=
  ⟨h.pre (Pre.append _ _), by simp⟩

theorem Walk.patch_get {a : Array UInt8} {i p k : Nat} {op : UInt8} {rest : List UInt8}
    (hk : Walk a i k) (hp : Walk a i p) (hop : a[p]? = some op) (hl : rest.length = opWidth op.toNat) :
    (patch a p (op :: rest))[k]? = a[k]? := by
  rcases Nat.lt_trichotomy k p with h | h | h
  · exact patch_get_lt _ _ _ _ h
  · subst h
    rw [patch_get_head _ _ _ _ (getElem?_lt_of_some hop), hop]
  · have := (hp.next hk hop h).le
    exact patch_get_ge _ _ _ _ (by simp [hl]; omega)

theorem Walk.patch_inst {a : Array UInt8} {p j : Nat} {op : UInt8} {rest : List UInt8}
    (hj : Walk a 0 j) (hp : Walk a 0 p) (hop : a[p]? = some op) (hl : rest.length = opWidth op.toNat) :
    Walk (patch a p (op :: rest)) 0 j :=
  hj.congr (size_patch _ _ _) fun _ hk _ => hk.patch_get hp hop hl

theorem Walk.unpatch_inst {a : Array UInt8} {p j : Nat} {op : UInt8} {rest : List UInt8}
    (hj : Walk (patch a p (op :: rest)) 0 j) (hp : Walk a 0 p) (hop : a[p]? = some op)
    (hl : rest.length = opWidth op.toNat) (_ : p + 1 + opWidth op.toNat ≤ a.size) : Walk a 0 j := by
  -- along a walk of the patched stream the offset stays a boundary of `a`, where the opcode byte is the old one
  suffices ∀ i, Walk (patch a p (op :: rest)) i j → Walk a 0 i → Walk a i j from this 0 hj (.refl 0)
  clear hj
  intro i hij
  induction hij with
  | refl => exact fun _ => .refl _
  | step op' h1 h2 h3 h4 ih =>
    intro hi
    rw [hi.patch_get hp hop hl] at h1
    rw [size_patch] at h3
    exact .step op' h1 h2 h3 (ih (hi.trans (.step op' h1 h2 h3 (.refl _))))

def OldInst (a a' : Array UInt8) (p : Nat) (op : UInt8) : Prop :=
  Bd a p ∧ a[p]? = some op ∧ ∀ k, k < opWidth op.toNat → a'[p + 1 + k]? = a[p + 1 + k]?

theorem Walk.append_cases {a a' : Array UInt8} {opn : UInt8} (hw : Walk a 0 a.size) (hpre : Pre a a')
    (hsz : a'.size = a.size + 1 + opWidth opn.toNat) (hnew : a'[a.size]? = some opn) {p : Nat} {op : UInt8}
    (hp : Walk a' 0 p) (hget : a'[p]? = some op) : OldInst a a' p op ∨ (p = a.size ∧ op = opn) := by
  rcases Nat.lt_trichotomy p a.size with hlt | heq | hgt
  · have hbd : Bd a p := ⟨Walk.of_pre hpre hp (Nat.le_of_lt hlt), hlt⟩
    have hgeta : a[p]? = some op := by rw [← hpre.2 p hlt]; exact hget
    have := hbd.fit hw hgeta
    exact .inl ⟨hbd, hgeta, fun k hk => hpre.2 _ (by omega)⟩
  · subst heq
    rw [hnew] at hget
    injection hget with hget
    exact .inr ⟨rfl, hget.symm⟩
  · have := ((hw.pre hpre).next hp hnew hgt).le
    have := getElem?_lt_of_some hget
    omega

theorem Walk.patch_cases {a : Array UInt8} {q : Nat} {opq : UInt8} {rest : List UInt8} (hw : Walk a 0 a.size)
    (hq : Walk a 0 q) (hop : a[q]? = some opq) (hl : rest.length = opWidth opq.toNat) {p : Nat} {op : UInt8}
    (hp : Walk (patch a q (opq :: rest)) 0 p) (hget : (patch a q (opq :: rest))[p]? = some op) :
    OldInst a (patch a q (opq :: rest)) p op ∨ (p = q ∧ op = opq) := by
  have hfit := Bd.fit ⟨hq, getElem?_lt_of_some hop⟩ hw hop
  have hp' : Walk a 0 p := hp.unpatch_inst hq hop hl hfit
  rw [hp'.patch_get hq hop hl] at hget
  have hbd : Bd a p := ⟨hp', getElem?_lt_of_some hget⟩
  rcases Nat.lt_trichotomy p q with hlt | heq | hgt
  · have := (hp'.next hq hget hlt).le
    exact .inl ⟨hbd, hget, fun k hk => patch_get_lt _ _ _ _ (by omega)⟩
  · subst heq
    rw [hop] at hget
    injection hget with hget
    exact .inr ⟨rfl, hget.symm⟩
  · have := (hq.next hp' hop hgt).le
    exact .inl ⟨hbd, hget, fun k hk => patch_get_ge _ _ _ _ (by simp [hl]; omega)⟩

theorem scanFn_some {a : Array UInt8} : ∀ (fuel i lastOp : Nat) (pend : List Nat),
    Walk a i a.size → (scanFn a fuel i lastOp pend).isSome
  | 0, _, _, _, _ => by simp [scanFn]
  | fuel + 1, i, lastOp, pend, h => by
    cases h with
    | refl => simp [scanFn]
    | step op h1 h2 h3 h4 =>
      simp only [scanFn, h1]
      rw [if_neg (by omega), if_neg (by omega)]
      have : i + opWidth op.toNat + 1 = i + 1 + opWidth op.toNat := by omega
      rw [this]
      exact scanFn_some fuel _ _ _ h4

def isJumpOp (op : Nat) : Bool := op == OpJump || op == OpJumpFalsy || op == OpAndJump || op == OpOrJump

/-- the first (2-byte) operand indexes the constant pool -/
def isConstOp (op : Nat) : Bool := op == OpConstant || op == OpClosure

def isLocalOp (op : Nat) : Bool := op == OpGetLocal || op == OpSetLocal || op == OpDefineLocal || op == OpGetLocalPtr
def isFreeOp (op : Nat) : Bool := op == OpGetFree || op == OpSetFree || op == OpGetFreePtr
def isGlobalOp (op : Nat) : Bool := op == OpGetGlobal || op == OpSetGlobal

/-- number of builtin objects (regenerated: `Gen.numBuiltins`) -/
abbrev NB : Nat := Gen.numBuiltins

/-- every GETFREE / SETFREE / GETFREEPTR of the stream addresses one of `n` free variables -/
def FreeBound (n : Nat) (a : Array UInt8) : Prop :=
  ∀ p op, Bd a p → a[p]? = some op → isFreeOp op.toNat = true → readBE a (p + 1) 1 < n

def CPre (cs cs' : Array Const) : Prop := cs.size ≤ cs'.size ∧ ∀ i, i < cs.size → cs'[i]? = cs[i]?

theorem CPre.refl (cs : Array Const) : CPre cs cs := ⟨Nat.le_refl _, fun _ _ => rfl⟩
theorem CPre.trans {a b c : Array Const} (h : CPre a b) (h' : CPre b c) : CPre a c :=
  ⟨Nat.le_trans h.1 h'.1, fun i hi => by rw [h'.2 i (by have := h.1; omega), h.2 i hi]⟩
theorem CPre.push (cs : Array Const) (c : Const) : CPre cs (cs.push c) :=
  ⟨by simp, fun i hi => by simp [Array.getElem?_push, hi]; omega⟩
theorem CPre.get {cs cs' : Array Const} (h : CPre cs cs') {i : Nat} {c : Const} (hc : cs[i]? = some c) : cs'[i]? = some c := by
  rw [h.2 i (getElem?_lt_of_some hc)]; exact hc

/-- the quantities the operand conditions refer to: the constant pool, the number of locals of the
    function being compiled (`maxDefinition` of its table), the number of its free variables -/
structure Lims where
  cs : Array Const
  nl : Nat
  nf : Nat

def Lims.le (L L' : Lims) : Prop := CPre L.cs L'.cs ∧ L.nl ≤ L'.nl ∧ L.nf ≤ L'.nf
theorem Lims.le_refl (L : Lims) : L.le L := ⟨CPre.refl _, Nat.le_refl _, Nat.le_refl _⟩
theorem Lims.le_trans {a b c : Lims} (h : a.le b) (h' : b.le c) : a.le c :=
  ⟨h.1.trans h'.1, Nat.le_trans h.2.1 h'.2.1, Nat.le_trans h.2.2 h'.2.2⟩

/-- condition on the first operand `v` of an instruction that carries an index:
    free-variable slot, builtin number, constant index of a global's name, constant index.
    (Local slots are not covered: `DefineLocal(":array")` and a `catch` identifier may return an
    existing symbol of any scope, whose index the compiler emits as a local slot; ruling that out
    needs identifier hygiene of the AST — see `Props.C05.C05_full`.) -/
def Opnd1OK (L : Lims) (op v : Nat) : Prop :=
  (isFreeOp op = true → v < L.nf) ∧ (op = OpGetBuiltin → v < NB) ∧
  (isGlobalOp op = true → ∃ b, L.cs[v]? = some (.val (.str b))) ∧
  (isConstOp op = true → v < L.cs.size) ∧
  (op = OpConstant → ∀ f, L.cs[v]? = some (.fn f) → FreeBound 0 f.insts)

theorem Opnd1OK.mono {L L' : Lims} {op v : Nat} (h : Opnd1OK L op v) (hl : L.le L') : Opnd1OK L' op v := by
  obtain ⟨h2, h3, h4, h5, h6⟩ := h
  refine ⟨fun c => Nat.lt_of_lt_of_le (h2 c) hl.2.2, h3, ?_, ?_, ?_⟩
  · intro c; obtain ⟨b, hb⟩ := h4 c; exact ⟨b, hl.1.get hb⟩
  · intro c; exact Nat.lt_of_lt_of_le (h5 c) hl.1.1
  · intro c f hf
    have hv : v < L.cs.size := h5 (by rw [c]; rfl)
    rw [hl.1.2 v hv] at hf
    exact h6 c f hf

def PlainIdx (op : Nat) : Prop :=
  isFreeOp op = false ∧ op ≠ OpGetBuiltin ∧ isGlobalOp op = false ∧ isConstOp op = false

instance (op : Nat) : Decidable (PlainIdx op) := by unfold PlainIdx; infer_instance

theorem PlainIdx.opnd {op : Nat} (h : PlainIdx op) (L : Lims) (v : Nat) : Opnd1OK L op v := by
  obtain ⟨h2, h3, h4, h5⟩ := h
  refine ⟨fun c => ?_, fun c => absurd c h3, fun c => ?_, fun c => ?_, fun c => ?_⟩
  · rw [h2] at c; cases c
  · rw [h4] at c; cases c
  · rw [h5] at c; cases c
  · rw [c] at h5; cases h5

/-- operand condition of the instruction at `p`: the operand of a jump-class instruction and both
    operands of SETUPTRY are instruction boundaries (0 = "no catch" is one); an index operand is in
    range (`Opnd1OK`); the function a CLOSURE instantiates uses no more free variables than the
    CLOSURE supplies -/
def TgtOK (L : Lims) (a : Array UInt8) (p op : Nat) : Prop :=
  (isJumpOp op = true → Walk a 0 (readBE a (p + 1) 4)) ∧
  (op = OpSetupTry → Walk a 0 (readBE a (p + 1) 4) ∧ Walk a 0 (readBE a (p + 5) 4)) ∧
  (∀ w ws, operandWidths op = w :: ws → Opnd1OK L op (readBE a (p + 1) w)) ∧
  (op = OpClosure → ∃ f, L.cs[readBE a (p + 1) 2]? = some (.fn f) ∧ FreeBound (readBE a (p + 3) 1) f.insts)

def TargetsOK (L : Lims) (a : Array UInt8) : Prop := ∀ p op, Bd a p → a[p]? = some op → TgtOK L a p op.toNat

/-- what `emit` / `changeOperand` must be given for such an instruction -/
def ArgsOK (L : Lims) (a : Array UInt8) (op : Nat) (args : List Int) : Prop :=
  (isJumpOp op = true → ∃ t : Nat, args = [(t : Int)] ∧ Walk a 0 t) ∧
  (op = OpSetupTry → ∃ t1 t2 : Nat, args = [(t1 : Int), (t2 : Int)] ∧ Walk a 0 t1 ∧ Walk a 0 t2) ∧
  (∀ (i : Nat) (rest : List Int), args = (i : Int) :: rest → Opnd1OK L op i) ∧
  (op = OpClosure → ∀ (i n : Nat), args = [(i : Int), (n : Int)] →
    ∃ f, L.cs[i]? = some (.fn f) ∧ FreeBound n f.insts)

theorem readBE_eq_beVal (a : Array UInt8) (i w : Nat) :
    readBE a i w = beVal ((List.range w).map fun k => a[i + k]?.getD 0) := by
  simp [readBE, beVal, List.foldl_map]

theorem readBE_congr {a a' : Array UInt8} {i w : Nat} (h : ∀ k, k < w → a'[i + k]? = a[i + k]?) :
    readBE a' i w = readBE a i w := by
  rw [readBE_eq_beVal, readBE_eq_beVal]
  congr 1
  exact List.map_congr_left fun k hk => by rw [h k (List.mem_range.mp hk)]

theorem readBE_congr_off {a a' : Array UInt8} {i n : Nat} (h : ∀ k, k < n → a'[i + k]? = a[i + k]?) {o w : Nat}
    (hle : o + w ≤ n) : readBE a' (i + o) w = readBE a (i + o) w :=
  readBE_congr fun k hk => by rw [Nat.add_assoc]; exact h (o + k) (by omega)

theorem readBE_take {a : Array UInt8} {i w : Nat} {bs : List UInt8} (hl : w ≤ bs.length)
    (h : ∀ k, k < w → a[i + k]? = bs[k]?) : readBE a i w = beVal (bs.take w) := by
  rw [readBE_eq_beVal]
  congr 1
  apply List.ext_getElem
  · simp; omega
  · intro k h1 h2
    have hk : k < w := by simpa using h1
    simp [h k hk, List.getElem?_eq_getElem (Nat.lt_of_lt_of_le hk hl)]

theorem readBE_one {a : Array UInt8} {i : Nat} {b : UInt8} (h : a[i]? = some b) : readBE a i 1 = b.toNat := by
  rw [readBE_eq_beVal]
  simp [beVal, h]

theorem readBE4 (a : Array UInt8) (i : Nat) : readBE a i 4 =
    (((a[i]?.getD 0).toNat * 256 + (a[i + 1]?.getD 0).toNat) * 256 + (a[i + 2]?.getD 0).toNat) * 256
      + (a[i + 3]?.getD 0).toNat := by
  simp [readBE, List.range, List.range.loop]

theorem readBE4_bytes {a : Array UInt8} {i : Nat} {b0 b1 b2 b3 : UInt8} (h0 : a[i]? = some b0)
    (h1 : a[i + 1]? = some b1) (h2 : a[i + 2]? = some b2) (h3 : a[i + 3]? = some b3) :
    readBE a i 4 = beVal [b0, b1, b2, b3] := by
  rw [readBE4, h0, h1, h2, h3]
  simp [beVal]

def InstAt (a : Array UInt8) (p : Nat) (bs : List UInt8) : Prop := ∀ k, k < bs.length → a[p + k]? = bs[k]?

theorem InstAt.append (a : Array UInt8) (bs : List UInt8) : InstAt (a ++ bs.toArray) a.size bs := by
  intro k hk
  rw [Array.getElem?_append_right (by omega)]
  simp

def readArgs (a : Array UInt8) : Nat → List Nat → List Int
  | _, [] => []
  | q, w :: ws => Int.ofNat (readBE a q w) :: readArgs a (q + w) ws

theorem readOperands_stream {a : Array UInt8} : ∀ (ws : List Nat) (bs : List UInt8) (q : Nat), ws.sum ≤ bs.length →
    (∀ k, k < bs.length → a[q + k]? = bs[k]?) → readOperands ws bs = readArgs a q ws
  | [], _, _, _, _ => rfl
  | w :: ws, bs, q, hl, h => by
    simp only [List.sum_cons] at hl
    simp only [readOperands, readArgs]
    rw [readBE_take (by omega) (fun k hk => h k (by omega)),
      readOperands_stream ws (bs.drop w) (q + w) (by simp; omega) (fun k hk => by
        simp only [List.length_drop] at hk
        rw [Nat.add_assoc, h (w + k) (by omega), List.getElem?_drop])]

theorem inst_read {a : Array UInt8} {p op : Nat} {args : List Int} {opb : UInt8} {rest : List UInt8}
    (h : makeInstruction op args = .ok (opb :: rest)) (hat : InstAt a p (opb :: rest)) :
    args = readArgs a (p + 1) (operandWidths op) := by
  obtain ⟨rest', hbs, hl⟩ := makeInstruction_ok h
  injection hbs with _ hbs
  subst hbs
  rw [← makeInstruction_read h]
  refine readOperands_stream _ rest (p + 1) (Nat.le_of_eq hl.symm) fun k hk => ?_
  rw [Nat.add_assoc, hat (1 + k) (by simp; omega), Nat.add_comm 1 k]
  rfl

theorem isJumpOp_widths {op : Nat} (h : isJumpOp op = true) : operandWidths op = [4] := by
  simp [isJumpOp] at h
  rcases h with ((h | h) | h) | h <;> subst h <;> rfl

theorem opWidth_jump {op : Nat} (h : isJumpOp op = true) : opWidth op = 4 := by simp [opWidth, isJumpOp_widths h]

theorem inst_read_jump {a : Array UInt8} {p op : Nat} {args : List Int} {opb : UInt8} {rest : List UInt8} {t : Nat}
    (h : makeInstruction op args = .ok (opb :: rest)) (hj : isJumpOp op = true) (ha : args = [(t : Int)])
    (hat : InstAt a p (opb :: rest)) : readBE a (p + 1) 4 = t := by
  have hr := inst_read h hat
  rw [isJumpOp_widths hj, ha] at hr
  injection hr with hr _
  exact (Int.ofNat.inj hr).symm

theorem inst_read_try {a : Array UInt8} {p : Nat} {args : List Int} {opb : UInt8} {rest : List UInt8} {t1 t2 : Nat}
    (h : makeInstruction OpSetupTry args = .ok (opb :: rest)) (ha : args = [(t1 : Int), (t2 : Int)])
    (hat : InstAt a p (opb :: rest)) : readBE a (p + 1) 4 = t1 ∧ readBE a (p + 5) 4 = t2 := by
  have hr := inst_read h hat
  rw [show operandWidths OpSetupTry = [4, 4] from rfl, ha] at hr
  injection hr with h1 hr
  injection hr with h2 _
  exact ⟨(Int.ofNat.inj h1).symm, (Int.ofNat.inj h2).symm⟩

theorem isConstOp_cases {op : Nat} (h : isConstOp op = true) : op = OpConstant ∨ op = OpClosure := by
  simpa [isConstOp] using h

theorem TgtOK.transfer {L L' : Lims} {a a' : Array UInt8} {p op : Nat} (h : TgtOK L a p op) (hn : L.le L')
    (hw : ∀ t, Walk a 0 t → Walk a' 0 t)
    (hb : ∀ k, k < opWidth op → a'[p + 1 + k]? = a[p + 1 + k]?) : TgtOK L' a' p op := by
  have hrd : ∀ w ws, operandWidths op = w :: ws → readBE a' (p + 1) w = readBE a (p + 1) w := fun w ws hws =>
    readBE_congr_off hb (o := 0) (by simp [opWidth, hws])
  refine ⟨?_, ?_, ?_, ?_⟩
  · intro hj
    rw [hrd 4 [] (isJumpOp_widths hj)]
    exact hw _ (h.1 hj)
  · intro ht
    subst ht
    rw [hrd 4 [4] rfl, readBE_congr_off hb (o := 4) (w := 4) (by decide)]
    exact ⟨hw _ (h.2.1 rfl).1, hw _ (h.2.1 rfl).2⟩
  · intro w ws hws
    rw [hrd w ws hws]
    exact (h.2.2.1 w ws hws).mono hn
  · intro hc
    subst hc
    obtain ⟨f, hf, hfb⟩ := h.2.2.2 rfl
    rw [hrd 2 [1] rfl, readBE_congr_off hb (o := 2) (w := 1) (by decide)]
    exact ⟨f, hn.1.get hf, hfb⟩

theorem TargetsOK.mono {L L' : Lims} {a : Array UInt8} (h : TargetsOK L a) (hn : L.le L') : TargetsOK L' a :=
  fun p op hbd hop => (h p op hbd hop).transfer hn (fun _ h => h) (fun _ _ => rfl)

theorem tgtOK_of_args {L : Lims} {a a' : Array UInt8} {P op : Nat} {args : List Int} {opb : UInt8} {rest : List UInt8}
    (hm : makeInstruction op args = .ok (opb :: rest)) (ha : ArgsOK L a op args) (hat : InstAt a' P (opb :: rest))
    (hfw : ∀ t, Walk a 0 t → Walk a' 0 t) : TgtOK L a' P op := by
  have hr := inst_read hm hat
  refine ⟨?_, ?_, ?_, ?_⟩
  · intro hj
    obtain ⟨t, hargs, hwt⟩ := ha.1 hj
    rw [inst_read_jump hm hj hargs hat]
    exact hfw _ hwt
  · intro htry
    subst htry
    obtain ⟨t1, t2, hargs, h1, h2⟩ := ha.2.1 rfl
    obtain ⟨e1, e2⟩ := inst_read_try hm hargs hat
    rw [e1, e2]
    exact ⟨hfw _ h1, hfw _ h2⟩
  · intro w ws hws
    rw [hws] at hr
    exact ha.2.2.1 _ _ hr
  · intro hc
    subst hc
    exact ha.2.2.2 rfl _ _ hr

theorem TargetsOK.of_cases {L : Lims} {a a' : Array UInt8} {P : Nat} {opn : UInt8} {args : List Int} {rest : List UInt8}
    (ht : TargetsOK L a) (hfw : ∀ t, Walk a 0 t → Walk a' 0 t)
    (hm : makeInstruction opn.toNat args = .ok (opn :: rest)) (ha : ArgsOK L a opn.toNat args)
    (hat : InstAt a' P (opn :: rest))
    (hc : ∀ p op, Walk a' 0 p → a'[p]? = some op → OldInst a a' p op ∨ (p = P ∧ op = opn)) : TargetsOK L a' := by
  intro p op hbd hget
  rcases hc p op hbd.1 hget with ⟨hbdp, hgeta, hb⟩ | ⟨rfl, rfl⟩
  · exact (ht p op hbdp hgeta).transfer (Lims.le_refl _) hfw hb
  · exact tgtOK_of_args hm ha hat hfw

theorem TargetsOK.append_inst {L : Lims} {a : Array UInt8} {op : Nat} {args : List Int} {bs : List UInt8}
    (hw : Walk a 0 a.size) (ht : TargetsOK L a) (hop : op < numOpcodes)
    (hm : makeInstruction op args = .ok bs) (ha : ArgsOK L a op args) : TargetsOK L (a ++ bs.toArray) := by
  obtain ⟨rest, hbs, hl⟩ := makeInstruction_ok hm
  subst hbs
  have hto := toNat_ofNat_op hop
  exact ht.of_cases (opn := UInt8.ofNat op) (fun t h => h.pre (Pre.append _ _)) (by rw [hto]; exact hm)
    (by rw [hto]; exact ha) (InstAt.append _ _)
    fun p op => Walk.append_cases hw (Pre.append _ _) (size_append_inst a hop hl) (by simp)

theorem TargetsOK.patch_inst {L : Lims} {a : Array UInt8} {q : Nat} {opq : UInt8} {args : List Int} {bs : List UInt8}
    (hw : Walk a 0 a.size) (ht : TargetsOK L a) (hq : Walk a 0 q) (hop : a[q]? = some opq)
    (hm : makeInstruction opq.toNat args = .ok bs) (ha : ArgsOK L a opq.toNat args) : TargetsOK L (patch a q bs) := by
  obtain ⟨rest, hbs, hl⟩ := makeInstruction_ok hm
  subst hbs
  rw [show UInt8.ofNat opq.toNat = opq by simp] at hm ⊢
  have hfit := Bd.fit ⟨hq, getElem?_lt_of_some hop⟩ hw hop
  exact ht.of_cases (fun t h => h.patch_inst hq hop hl) hm ha
    (fun k hk => patch_get_mid _ _ _ _ hk (by simp [hl]; omega)) fun p op => Walk.patch_cases hw hq hop hl

/-- the instructions the compiler patches with `changeOperand` -/
def Jumpy (a : Array UInt8) (p : Nat) : Prop :=
  ∃ op, a[p]? = some op ∧ (isJumpOp op.toNat = true ∨ op.toNat = OpSetupTry)

theorem Jumpy.pre {a a' : Array UInt8} {p : Nat} (h : Jumpy a p) (hp : Pre a a') : Jumpy a' p := by
  obtain ⟨op, h1, h2⟩ := h
  exact ⟨op, by rw [hp.2 p (getElem?_lt_of_some h1)]; exact h1, h2⟩

theorem jumpy_plain {op : Nat} (h : isJumpOp op = true ∨ op = OpSetupTry) : PlainIdx op := by
  rcases h with h | h
  · simp [isJumpOp] at h
    rcases h with ((h | h) | h) | h <;> subst h <;> decide
  · subst h; decide

theorem findConst_lt {cs : Array Const} {k : CVal} {i : Nat} (h : findConst cs k = some i) : i < cs.size := by
  unfold findConst at h
  split at h
  · cases h
  · have := List.mem_of_find?_eq_some h
    simpa using this

theorem findFn_lt {cs : Array Const} {f : CFn} {i : Nat} (h : findFn cs f = some i) : i < cs.size := by
  unfold findFn at h
  have := List.mem_of_find?_eq_some h
  simpa using this

end UgoVerif.Compile

import UgoVerif.Model.Conc
/-
  The inductive invariant `Inv` of the abort protocol (Model/Conc; C09).  `Inv` reads of R's pc five
  abstractions only (`Core`, `inv_iff`), so what a step of R does is stated on `Core`, once per KIND of
  effect and for whatever pc has the right abstractions (`Core.goto`, `reset`, `instr`, `lock`, `register`,
  `exposed`, `enterBody`, `drop`, `unregister`); a step of R is one of these or two in a row, and
  `stepR_inv` is the table of sync points over them.
-/
namespace UgoVerif.Proofs.Conc
open UgoVerif.Model.Conc

/-- the child VM R currently works with and that is registered in the pool -/
def cur : RPc → Option Nat
  | .invBefore _ c | .invAfter _ c | .kEnter _ c | .kBeforeReset _ c | .kAfterReset _ c
  | .kLoopEnter _ c | .kBody _ c _ | .relOut _ c | .relIn _ c => some c
  | _ => none

def isBody : RPc → Bool
  | .body _ | .kBody .. => true
  | _ => false

def holdsR : RPc → Bool
  | .acqIn .. | .relIn .. => true
  | _ => false

def holdsC : CPc → Bool
  | .chEnter .. | .chBetween .. => true
  | _ => false

def postReset : RPc → Bool
  | .idle | .enter | .beforeReset => false
  | _ => true

/-- children the controller still has to store 1 into -/
def pend : CPc → List Nat
  | .chEnter c r | .chBetween c r => c :: r
  | _ => []

/-- `phi` is what C09 claims: once an abort that counts is armed, at most one more instruction runs.  The
    other clauses carry it through the steps: by `j1` such an abort has flagged the root past its reset, by
    `okc` it (or one whose last store, into the root flag, is next) has flagged the current child outside
    its reset window, so the next loop-condition load sees 1; `j4` is `okc` while the controller is inside
    the pool, where the current child may also be one it still has to visit. -/
structure Inv (s : State) : Prop where
  muR : s.poolMu = some .R ↔ holdsR s.rpc = true
  muC : s.poolMu = some .C ↔ holdsC s.cpc = true
  curIn : ∀ c, cur s.rpc = some c → c ∈ s.pool
  j1 : s.armedOK = true → s.rootFlag = 1 ∧ postReset s.rpc = true
  okc : (s.armedOK = true ∨ (s.cpc = .between ∧ s.excl = false)) → s.lateAcq = false →
        ∀ c, cur s.rpc = some c → s.childFlag c = 1 ∧ childWin s.rpc c = false
  j4 : holdsC s.cpc = true → s.excl = false → s.lateAcq = false →
        ∀ c, cur s.rpc = some c → c ∈ pend s.cpc ∨ (s.childFlag c = 1 ∧ childWin s.rpc c = false)
  phi : s.armedOK = true → s.lateAcq = false → s.extraOK + (if isBody s.rpc then 1 else 0) ≤ 1
  l1 : postReset s.rpc = true → s.storesSinceReset = 0 → s.rootFlag = 0
  e0 : s.armedOK = false → s.extraOK = 0

/-- The clauses of `Inv` with what they read of R's pc as parameters: `R` R holds pool.mu, `ch`
    the child R works with, `P` past the root reset, `B` an instruction is still to run after its
    loop-condition load, `W c` inside the window of child `c`. -/
structure Core (s : State) (R : Bool) (ch : Option Nat) (P B : Bool) (W : Nat → Bool) : Prop where
  muR : s.poolMu = some .R ↔ R = true
  muC : s.poolMu = some .C ↔ holdsC s.cpc = true
  curIn : ∀ c, ch = some c → c ∈ s.pool
  j1 : s.armedOK = true → s.rootFlag = 1 ∧ P = true
  okc : (s.armedOK = true ∨ (s.cpc = .between ∧ s.excl = false)) → s.lateAcq = false →
        ∀ c, ch = some c → s.childFlag c = 1 ∧ W c = false
  j4 : holdsC s.cpc = true → s.excl = false → s.lateAcq = false →
        ∀ c, ch = some c → c ∈ pend s.cpc ∨ (s.childFlag c = 1 ∧ W c = false)
  phi : s.armedOK = true → s.lateAcq = false → s.extraOK + (if B then 1 else 0) ≤ 1
  l1 : P = true → s.storesSinceReset = 0 → s.rootFlag = 0
  e0 : s.armedOK = false → s.extraOK = 0

theorem inv_iff (s : State) : Inv s ↔
    Core s (holdsR s.rpc) (cur s.rpc) (postReset s.rpc) (isBody s.rpc) (childWin s.rpc) :=
  ⟨fun ⟨a, b, c, d, e, f, g, h, i⟩ => ⟨a, b, c, d, e, f, g, h, i⟩,
   fun ⟨a, b, c, d, e, f, g, h, i⟩ => ⟨a, b, c, d, e, f, g, h, i⟩⟩

/-- what a state must satisfy, independently of R's pc, for R to continue at a callback
    sync point (or to return to the root loop) with current child `ch` -/
abbrev Pre (s : State) (ch : Option Nat) : Prop := Core s false ch true false fun _ => false

/-- `pool.mu` has one holder -/
theorem not_holds {mu : Option Tid} {t : Tid} {b : Bool} (h : mu = some t ↔ b = true)
    (hmu : mu ≠ some t) : b = false := by
  cases b with
  | false => rfl
  | true => exact absurd (h.2 rfl) hmu

theorem inv_init : Inv init := by
  constructor <;> simp [init, holdsR, holdsC, cur, postReset, isBody]

theorem cbNext_spec (ip : Nat) (ops : List CbOp) (ch : Option Nat) (d : Bool) (pc : RPc)
    (h : cbNext ip ops ch d = some pc) :
    (∃ cb p t, pc = .acqOut cb p t) ∨ (∃ cb c, ch = some c ∧ (pc = .invBefore cb c ∨ pc = .relOut cb c)) := by
  fun_induction cbNext ip ops ch d
  · cases h
  · cases h; exact .inl ⟨_, _, _, rfl⟩
  next ih => exact ih h
  · cases h; exact .inl ⟨_, _, _, rfl⟩
  · cases h; exact .inr ⟨_, _, rfl, .inl rfl⟩
  · cases h; exact .inr ⟨_, _, rfl, .inr rfl⟩
  -- after a release that does not reach the pool R has no child any more
  next ih => exact (ih h).imp_right fun ⟨_, _, e, _⟩ => nomatch e
  next ih => exact ih h

theorem finishRun_inv {s : State} {o : Outcome} (muR : s.poolMu = some .R ↔ false = true)
    (muC : s.poolMu = some .C ↔ holdsC s.cpc = true) : Inv (finishRun s o) := by
  constructor <;> simp [finishRun, holdsR, cur, postReset, isBody, muR, muC]

namespace Core
variable {s : State} {R : Bool} {ch : Option Nat} {P B : Bool} {W : Nat → Bool} {pc : RPc} {c : Nat}

/-- `Core` does not read R's pc -/
theorem goto (k : Core s R ch P B W) : Core { s with rpc := pc } R ch P B W := { k with }

/-- the controller is not inside the pool while R holds `pool.mu` -/
theorem notC (k : Core s true ch P B W) : holdsC s.cpc = false :=
  not_holds k.muC (by simp [k.muR.2 rfl])

/-- `abort.Store(0)` of the root: before it no abort is armed (`j1`) -/
theorem reset (k : Core s R none false B W) :
    Core { s with rootFlag := 0, storesSinceReset := 0, rpc := pc } R none true B W :=
  { k with l1 := fun _ _ => rfl, j1 := fun hA => nomatch (k.j1 hA).2 }

/-- one instruction is executed: it was the one allowed after its loop-condition load -/
theorem instr (k : Core s R ch P true W) : Core (count s) R ch P false W :=
  { k with
    phi := fun (hA : s.armedOK = true) hL => by
      have := k.phi hA hL; simp [count, hA] at this ⊢; omega,
    e0 := fun (hA : s.armedOK = false) => by simp [count, hA, k.e0 hA] }

/-- R takes `pool.mu` -/
theorem lock (k : Core s false ch P B W) (hmu : s.poolMu = none) :
    Core { s with poolMu := some .R, rpc := pc } true ch P B W :=
  { k with muR := by simp, muC := by simpa [hmu] using k.muC }

/-- `_acquire` under the lock: a child registered while an abort is armed or between the pool and
    the root flag counts as late, so `lateAcq` stays false only if neither is the case -/
theorem register (k : Core s true none true false W) :
    Pre { s with pool := s.nextChild :: s.pool, nextChild := s.nextChild + 1,
                 childFlag := setFlag s.childFlag s.nextChild 0, poolMu := none,
                 lateAcq := s.lateAcq || (s.cpc == .between) || (s.rootFlag == 1), rpc := pc }
      (some s.nextChild) :=
  have hL : (s.lateAcq || s.cpc == .between || s.rootFlag == 1) = false →
      s.armedOK = false ∧ s.cpc ≠ .between := fun hl => by
    simp at hl
    exact ⟨Bool.eq_false_iff.2 fun hA => hl.2 (k.j1 hA).1, hl.1.2⟩
  { k with
    muR := by simp
    muC := by simp [k.notC]
    curIn := by simp
    okc := fun h1 h2 => by rcases h1 with h1 | h1 <;> simp [hL h2] at h1
    j4 := fun h1 => by simp [k.notC] at h1
    phi := fun h1 h2 => by simp [hL h2] at h1 }

/-- The current child is not covered by an abort: its flag is not 1 (`child.Aborted()` saw 0) or R
    is inside its window (`abort.Store(0)` of the child).  Then no abort that counts has stored
    into it (`okc` is void) and the controller still has it ahead (`j4`); its flag and window may
    change at will. -/
theorem exposed (k : Core s R (some c) P B W) (hx : ¬(s.childFlag c = 1 ∧ W c = false))
    (f : Nat → Nat) (W' : Nat → Bool) : Core { s with childFlag := f, rpc := pc } R (some c) P B W' :=
  { k with
    okc := fun h1 h2 => absurd (k.okc h1 h2 c rfl) hx
    j4 := fun h1 h2 h3 _ hc =>
      Option.some.inj hc ▸ Or.inl ((k.j4 h1 h2 h3 c rfl).resolve_right hx) }

/-- a loop-condition load saw 0: no abort that counts is armed (`hn`, from `j1` or `okc`) -/
theorem enterBody (k : Core s R ch P false W) (hn : s.armedOK = true → s.lateAcq = false → False) :
    Core { s with rpc := pc } R ch P true W :=
  { k with phi := fun h1 h2 => (hn h1 h2).elim }

/-- the clauses about the current child are void when there is none -/
theorem drop (k : Core s R ch P B W) (f : Nat → Nat) :
    Core { s with childFlag := f, rpc := pc } R none P B W :=
  { k with curIn := nofun, okc := fun _ _ => nofun, j4 := fun _ _ _ => nofun }

/-- `_release` under the lock -/
theorem unregister (k : Core s true (some c) true false W) :
    Pre { s with pool := s.pool.erase c, poolMu := none, rpc := pc } none :=
  { k with muR := by simp, muC := by simp [k.notC], curIn := nofun, okc := fun _ _ => nofun,
           j4 := fun _ _ _ => nofun }

/-- the loop-condition load of the root -/
theorem rootGo {n : Nat} (p : Pre s ch) :
    Inv (if s.rootFlag = 0 then { s with rpc := .body n } else finishRun s .aborted) := by
  split
  · next h0 =>
    exact (inv_iff _).2 ((p.drop s.childFlag).enterBody fun hA _ => by have := (p.j1 hA).1; omega)
  · exact finishRun_inv p.muR p.muC

/-- the loop-condition load of a child -/
theorem childGo (k : Pre s (some c)) (h0 : s.childFlag c = 0) :
    Core { s with rpc := pc } false (some c) true true fun _ => false :=
  k.enterBody fun hA hL => by have := (k.okc (Or.inl hA) hL c rfl).1; omega

end Core

theorem afterCb_inv {s : State} {ip : Nat} {ops : List CbOp} {ch : Option Nat} {d : Bool}
    (p : Pre s ch) : Inv (afterCb s ip (cbNext ip ops ch d)) := by
  cases h : cbNext ip ops ch d with
  | none => exact p.rootGo
  | some pc =>
    -- at each of the three possible sync points the pc abstractions are those of `Pre`
    simp only [afterCb]
    rw [inv_iff]
    rcases cbNext_spec ip ops ch d pc h with ⟨cb, pl, t, rfl⟩ | ⟨cb, c, rfl, rfl | rfl⟩
    · exact p.drop s.childFlag
    all_goals exact p.goto

theorem stepR_inv {cfg : Cfg} {s s' : State} (i : Inv s) (h : stepR cfg s = some s') : Inv s' := by
  have k := (inv_iff s).1 i
  unfold stepR at h
  cases hpc : s.rpc <;> simp only [hpc] at h k
  case idle | enter | afterReset | invAfter | kEnter | kAfterReset => cases h; exact (inv_iff _).2 k.goto
  case beforeReset => cases h; exact (inv_iff _).2 k.reset
  case loopEnter => cases h; exact k.rootGo
  case body =>
    have kc := k.instr
    split at h <;> cases h
    · exact kc.rootGo
    · exact finishRun_inv kc.muR kc.muC
    · exact afterCb_inv kc
  case acqOut | relOut =>
    split at h <;> cases h
    exact (inv_iff _).2 (k.lock ‹_›)
  case acqIn =>
    split at h <;> cases h
    · exact (inv_iff _).2 k.register
    · exact afterCb_inv k.register
  case invBefore =>
    split at h <;> cases h
    · exact afterCb_inv k
    · exact (inv_iff _).2 (k.exposed (fun x => absurd x.1 ‹_›) _ _)
  case kBeforeReset => cases h; exact (inv_iff _).2 (k.exposed (fun x => by simp [childWin] at x) _ _)
  case kLoopEnter =>
    split at h <;> cases h
    · exact (inv_iff _).2 (k.childGo ‹_›)
    · exact afterCb_inv k
  case kBody =>
    have kc := k.instr
    split at h
    · split at h <;> cases h
      · exact (inv_iff _).2 (kc.childGo ‹_›)
      · exact afterCb_inv kc
    · cases h; exact afterCb_inv kc
  case relIn => cases h; exact (inv_iff _).2 k.unregister
  case relAfter => cases h; exact afterCb_inv (k.drop _)

theorem sameMembers_mem {order pool : List Nat} (h : sameMembers order pool = true) {c : Nat}
    (hc : c ∈ pool) : c ∈ order := by
  simp [sameMembers] at h
  exact h.2 c hc

theorem setFlag_one (f : Nat → Nat) (c x : Nat) : setFlag f c 1 x = 1 ↔ (x = c ∨ f x = 1) := by
  unfold setFlag; split <;> simp_all

theorem postReset_of_not_rootWin {pc : RPc} (h1 : pc ≠ .idle) (h2 : rootWin pc = false) :
    postReset pc = true := by
  cases pc <;> first | rfl | exact absurd rfl h1 | cases h2

/-- each sync point of Abort; the clauses named are those its step changes -/
theorem stepC_inv {s s' : State} {order : List Nat} (i : Inv s) (h : stepC s order = some s') : Inv s' := by
  have okc' {x : Prop} (hx : ¬x) : s.armedOK = true ∨ x → _ := fun h1 => i.okc (h1.elim Or.inl (absurd · hx))
  unfold stepC at h
  cases hpc : s.cpc <;> simp only [hpc] at h
  case idle =>
    cases h
    exact { i with muC := by simpa [holdsC, hpc] using i.muC, okc := okc' (by simp), j4 := by simp [holdsC] }
  case enter =>
    -- lock, snapshot
    split at h
    · rename_i hc
      simp at hc
      have hin c (h : cur s.rpc = some c) : c ∈ order := sameMembers_mem hc.2 (i.curIn c h)
      split at h <;> cases h
      · -- no child registered
        exact { i with muC := by simp [holdsC, hc.1], j4 := by simp [holdsC], okc := fun _ _ c h => nomatch hin c h }
      · exact { i with muR := by simp [not_holds i.muR (by simp [hc.1])], muC := by simp [holdsC],
                       okc := okc' (by simp), j4 := fun _ _ _ c h => Or.inl (hin c h) }
    · cases h
  case chEnter =>
    cases h
    exact { i with muC := by simpa [holdsC, hpc] using i.muC, okc := okc' (by simp),
                   j4 := by simpa [holdsC, pend, hpc] using i.j4 }
  case chBetween c rest =>
    -- store 1 into child c
    have hR : holdsR s.rpc = false := not_holds i.muR (by simp [i.muC.2 (by simp [hpc, holdsC])])
    -- after the store the current child is flagged outside its window: by an abort armed earlier,
    -- or, if no store of this abort is excluded so far, unless it is still to visit
    have arm (hA : s.armedOK = true) (hl : s.lateAcq = false) c0 (h0 : cur s.rpc = some c0) :
        setFlag s.childFlag c 1 c0 = 1 ∧ childWin s.rpc c0 = false :=
      have := i.okc (Or.inl hA) hl c0 h0
      ⟨(setFlag_one ..).2 (Or.inr this.1), this.2⟩
    have key (hx : (s.excl || childWin s.rpc c) = false) (hl : s.lateAcq = false) c0
        (h0 : cur s.rpc = some c0) :
        c0 ∈ rest ∨ (setFlag s.childFlag c 1 c0 = 1 ∧ childWin s.rpc c0 = false) := by
      simp at hx
      rw [setFlag_one]
      rcases i.j4 (by simp [hpc, holdsC]) hx.1 hl c0 h0 with h | h
      · rcases List.mem_cons.1 (by simpa [hpc, pend] using h) with rfl | h
        · exact Or.inr ⟨Or.inl rfl, hx.2⟩
        · exact Or.inl h
      · exact Or.inr ⟨Or.inr h.1, h.2⟩
    split at h <;> cases h
    · exact { i with muR := by simp [hR], muC := by simp [holdsC], j4 := by simp [holdsC],
                     okc := fun hx hl c0 h0 => hx.elim (arm · hl c0 h0) fun hx =>
                       (key hx.2 hl c0 h0).resolve_left (by simp) }
    · exact { i with muC := by simp [holdsC, i.muC.2 (by simp [hpc, holdsC])],
                     okc := fun hx => arm (hx.resolve_right (by simp)),
                     j4 := fun _ => key }
  case between =>
    -- store 1 into the root flag
    cases h
    have hC : s.poolMu ≠ some .C := fun hh => by simpa [holdsC, hpc] using i.muC.1 hh
    refine { i with muC := by simp [holdsC, hC], j4 := by simp [holdsC], j1 := ?_, okc := ?_, phi := ?_,
                    l1 := by simp, e0 := ?_ } <;> simp
    · rintro (h1 | ⟨h1, h2, h3⟩)
      · exact (i.j1 h1).2
      · exact postReset_of_not_rootWin h1 h3
    · rintro (h1 | ⟨_, h2, _⟩) h3 c0 hc0
      · exact i.okc (Or.inl h1) h3 c0 hc0
      · exact i.okc (Or.inr ⟨hpc, h2⟩) h3 c0 hc0
    · rintro (h1 | ⟨h1, h2, h3⟩) h4
      · exact i.phi h1 h4
      · cases hA : s.armedOK with
        | true => exact i.phi hA h4
        | false => rw [i.e0 hA]; split <;> omega
    · intro h1 _; exact i.e0 h1

theorem step_inv {cfg : Cfg} {s s' : State} {l : Label} (i : Inv s) (h : step cfg s l = some s') : Inv s' := by
  cases l with
  | r => exact stepR_inv i h
  | c order => exact stepC_inv i h

theorem inv_reach {cfg : Cfg} {s : State} (h : Reach cfg s) : Inv s := by
  induction h with
  | init => exact inv_init
  | step l _ hs ih => exact step_inv ih hs

theorem rootLoad_frame (s : State) (ip : Nat) :
    (rootLoad s ip).cpc = s.cpc ∧ (rootLoad s ip).pool = s.pool := by
  unfold rootLoad; split <;> simp [finishRun]

theorem afterCb_frame (s : State) (ip : Nat) (x : Option RPc) :
    (afterCb s ip x).cpc = s.cpc ∧ (afterCb s ip x).pool = s.pool := by
  cases x <;> simp [afterCb, rootLoad_frame]

theorem stepR_frame {cfg : Cfg} {s s' : State} (h : stepR cfg s = some s') :
    s'.cpc = s.cpc ∧ (holdsR s.rpc = false → s'.pool = s.pool) := by
  simp only [stepR] at h
  repeat' split at h
  all_goals cases h
  all_goals simp [*, holdsR, afterCb_frame, rootLoad_frame, finishRun, count]

/-- what a step of Abort writes besides its own pc, the mutex and the ghosts: 1 into the root
    flag or into the flag of a child it still had to visit; the children it has to visit next
    were to visit before or are its snapshot of the pool -/
theorem stepC_writes {s s' : State} {order : List Nat} (h : stepC s order = some s') :
    s'.rpc = s.rpc ∧ s'.pool = s.pool ∧ (s'.rootFlag = s.rootFlag ∨ s'.rootFlag = 1) ∧
    (∀ x, s'.childFlag x = s.childFlag x ∨ x ∈ pend s.cpc ∧ s'.childFlag x = 1) ∧
    ∀ x, x ∈ pend s'.cpc → x ∈ pend s.cpc ∨ x ∈ s.pool := by
  have hf (c : Nat) (rest : List Nat) (x : Nat) :
      setFlag s.childFlag c 1 x = s.childFlag x ∨ x ∈ c :: rest ∧ setFlag s.childFlag c 1 x = 1 := by
    unfold setFlag; split <;> simp [*]
  unfold stepC at h
  split at h
  · cases h; simp [pend]
  · split at h
    · rename_i hc
      simp [sameMembers] at hc
      split at h <;> cases h <;> simp [pend]
      exact ⟨Or.inr (hc.2.1 _ (by simp)), fun a ha => Or.inr (hc.2.1 a (by simp [ha]))⟩
    · cases h
  · rename_i hpc; cases h; simp only [hpc, pend]; simp +contextual
  · rename_i c rest hpc
    simp only at h
    split at h <;> cases h <;> simp only [hpc, pend, true_and, hf c, true_or, implies_true]
    · simp
    · exact fun x hx => Or.inl (List.mem_cons_of_mem _ hx)
  · cases h; simp [pend]

/-- the children the controller still has to visit are registered (the pool cannot change
    while the controller holds pool.mu) -/
theorem pend_in_pool {cfg : Cfg} {s : State} (h : Reach cfg s) : ∀ c, c ∈ pend s.cpc → c ∈ s.pool := by
  induction h with
  | init => simp [init, pend]
  | step l hr hs ih =>
    rename_i s0 s1
    intro c hc
    cases l with
    | c order =>
      obtain ⟨-, k, -, -, k'⟩ := stepC_writes hs
      exact k ▸ (k' c hc).elim (ih c) id
    | r =>
      -- R changes the pool only while holding pool.mu, which excludes the controller holding it
      have i := inv_reach hr
      obtain ⟨k1, k2⟩ := stepR_frame hs
      rw [k1] at hc
      by_cases hh : holdsC s0.cpc = true
      · rw [k2 (not_holds i.muR (by simp [i.muC.2 hh]))]; exact ih c hc
      · cases hp : s0.cpc <;> simp_all [pend, holdsC]

end UgoVerif.Proofs.Conc

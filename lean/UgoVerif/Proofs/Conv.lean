import UgoVerif.Model.Conv
/-
  C20 by mutual induction over nested `Obj` / `GoVal` values.  For the two
  conversions from Go values there is one statement each (`toObject_outcome`, `toObjectAlt_outcome`),
  in the judgement `Outcome`, which composes along the element loops; round trip, absence of panics
  and "success means nothing unsupported" are its projections.
-/
namespace UgoVerif.Proofs.Conv
open UgoVerif UgoVerif.Go UgoVerif.Gen.Conv UgoVerif.Model.Conv

mutual
theorem rt_obj (C : ConvOps) (o : Obj) (h : plain o = true) :
    ∃ g, toInterface o = .ok g ∧ canon g = true ∧ toObject C g = .ok (normObj o) := by
  cases o <;> simp [plain] at h
  case array xs =>
    obtain ⟨gs, h1, h2, h3⟩ := rt_list C xs h
    exact ⟨.slice gs, by simp [toInterface, h1], by simp [canon, h2], by simp [toObject, h3, normObj]⟩
  case map kvs =>
    obtain ⟨gs, h1, h2, h3⟩ := rt_kvs C kvs h
    exact ⟨.map gs, by simp [toInterface, h1], by simp [canon, h2], by simp [toObject, h3, normObj]⟩
  all_goals first
    | (simp [toInterface, toObject, normObj, canon]; done)
    | (rename_i b; cases b <;> simp [toInterface, toObject, normObj, canon])
theorem rt_list (C : ConvOps) (xs : List Obj) (h : plainList xs = true) :
    ∃ gs, toInterface_list xs = .ok gs ∧ canonList gs = true ∧ toObject_list C gs = .ok (normObjList xs) := by
  cases xs with
  | nil => exact ⟨[], by simp [toInterface_list], by simp [canonList], by simp [toObject_list, normObjList]⟩
  | cons x xs =>
    simp [plainList] at h
    obtain ⟨g, h1, h2, h3⟩ := rt_obj C x h.1
    obtain ⟨gs, k1, k2, k3⟩ := rt_list C xs h.2
    exact ⟨g :: gs, by simp [toInterface_list, h1, k1], by simp [canonList, h2, k2],
      by simp [toObject_list, h3, k3, normObjList]⟩
theorem rt_kvs (C : ConvOps) (kvs : List (Bytes × Obj)) (h : plainKvs kvs = true) :
    ∃ gs, toInterface_kvs kvs = .ok gs ∧ canonKvs gs = true ∧ toObject_kvs C gs = .ok (normObjKvs kvs) := by
  cases kvs with
  | nil => exact ⟨[], by simp [toInterface_kvs], by simp [canonKvs], by simp [toObject_kvs, normObjKvs]⟩
  | cons p rest =>
    obtain ⟨k, x⟩ := p
    simp [plainKvs] at h
    obtain ⟨g, h1, h2, h3⟩ := rt_obj C x h.1
    obtain ⟨gs, k1, k2, k3⟩ := rt_kvs C rest h.2
    exact ⟨(k, g) :: gs, by simp [toInterface_kvs, h1, k1], by simp [canonKvs, h2, k2],
      by simp [toObject_kvs, h3, k3, normObjKvs]⟩
end

mutual
theorem rtAlt_obj (C : ConvOps) (o : Obj) (h : plainAlt o = true) :
    ∃ g, toInterface o = .ok g ∧ canonAlt g = true ∧ toObjectAlt C g = .ok (normObj o) := by
  cases o <;> simp [plainAlt] at h
  case array xs =>
    obtain ⟨gs, h1, h2, h3⟩ := rtAlt_list C xs h
    exact ⟨.slice gs, by simp [toInterface, h1], by simp [canonAlt, h2], by simp [toObjectAlt, h3, normObj]⟩
  case map kvs =>
    obtain ⟨gs, h1, h2, h3⟩ := rtAlt_kvs C kvs h
    exact ⟨.map gs, by simp [toInterface, h1], by simp [canonAlt, h2], by simp [toObjectAlt, h3, normObj]⟩
  all_goals first
    | (simp [toInterface, toObjectAlt, normObj, canonAlt]; done)
    | (rename_i b; cases b <;> simp [toInterface, toObjectAlt, normObj, canonAlt])
theorem rtAlt_list (C : ConvOps) (xs : List Obj) (h : plainAltList xs = true) :
    ∃ gs, toInterface_list xs = .ok gs ∧ canonAltList gs = true ∧ toObjectAlt_list C gs = .ok (normObjList xs) := by
  cases xs with
  | nil => exact ⟨[], by simp [toInterface_list], by simp [canonAltList], by simp [toObjectAlt_list, normObjList]⟩
  | cons x xs =>
    simp [plainAltList] at h
    obtain ⟨g, h1, h2, h3⟩ := rtAlt_obj C x h.1
    obtain ⟨gs, k1, k2, k3⟩ := rtAlt_list C xs h.2
    exact ⟨g :: gs, by simp [toInterface_list, h1, k1], by simp [canonAltList, h2, k2],
      by simp [toObjectAlt_list, h3, k3, normObjList]⟩
theorem rtAlt_kvs (C : ConvOps) (kvs : List (Bytes × Obj)) (h : plainAltKvs kvs = true) :
    ∃ gs, toInterface_kvs kvs = .ok gs ∧ canonAltKvs gs = true ∧ toObjectAlt_kvs C gs = .ok (normObjKvs kvs) := by
  cases kvs with
  | nil => exact ⟨[], by simp [toInterface_kvs], by simp [canonAltKvs], by simp [toObjectAlt_kvs, normObjKvs]⟩
  | cons p rest =>
    obtain ⟨k, x⟩ := p
    simp [plainAltKvs] at h
    obtain ⟨g, h1, h2, h3⟩ := rtAlt_obj C x h.1
    obtain ⟨gs, k1, k2, k3⟩ := rtAlt_kvs C rest h.2
    exact ⟨(k, g) :: gs, by simp [toInterface_kvs, h1, k1], by simp [canonAltKvs, h2, k2],
      by simp [toObjectAlt_kvs, h3, k3, normObjKvs]⟩
end



theorem normGo_of_not_container {g : GoVal} (h : isContainer g = false) : normGo g = g := by
  cases g <;> first | rfl | cases h

theorem isContainer_normGo (g : GoVal) : isContainer (normGo g) = isContainer g := by
  cases g <;> simp [normGo, isContainer]

mutual
theorem normGo_idem (g : GoVal) : normGo (normGo g) = normGo g := by
  cases g
  case slice xs => simp [normGo, normGoList_idem xs]
  case map kvs => simp [normGo, normGoKvs_idem kvs]
  all_goals simp [normGo, normGoList, normGoKvs]
theorem normGoList_idem (xs : List GoVal) : normGoList (normGoList xs) = normGoList xs := by
  cases xs with
  | nil => simp [normGoList]
  | cons x xs => simp [normGoList, normGo_idem x, normGoList_idem xs]
theorem normGoKvs_idem (kvs : List (Bytes × GoVal)) : normGoKvs (normGoKvs kvs) = normGoKvs kvs := by
  cases kvs with
  | nil => simp [normGoKvs]
  | cons p rest =>
    obtain ⟨k, x⟩ := p
    simp [normGoKvs, normGo_idem x, normGoKvs_idem rest]
end

theorem sim_of_eq_norm {g g' : GoVal} (h : g' = normGo g) : g' ≃ g := by
  unfold GoSim; rw [h, normGo_idem]

theorem toInterfaceDefault_total (o : Obj) : ∃ g, toInterfaceDefault o = .ok g := by
  cases o <;>
    simp [toInterfaceDefault, regToInterface, objRegType, regFind, Gen.ConvReg.registry, anyConverter]
  case location l => cases l <;> simp
  case rawMessage b => cases b <;> simp
  case scanArg a =>
    rcases a with _ | ⟨tn, id⟩ <;> simp



/-! `ToInterface` has no error result and, on the tree with the repair of DESIGN §6 (nil pointers of
    registry types), no panic: it is total. -/
mutual
theorem toInterface_total (o : Obj) : ∃ g, toInterface o = .ok g := by
  cases o
  case array xs =>
    obtain ⟨gs, h⟩ := toInterface_list_total xs
    exact ⟨.slice gs, by simp [toInterface, h]⟩
  case map kvs =>
    obtain ⟨gs, h⟩ := toInterface_kvs_total kvs
    exact ⟨.map gs, by simp [toInterface, h]⟩
  case syncMap kvs =>
    obtain ⟨gs, h⟩ := toInterface_kvs_total kvs
    exact ⟨.map gs, by simp [toInterface, h]⟩
  all_goals first
    | (simp [toInterface]; done)
    | (simp only [toInterface]; exact toInterfaceDefault_total _)
theorem toInterface_list_total (xs : List Obj) : ∃ gs, toInterface_list xs = .ok gs := by
  cases xs with
  | nil => exact ⟨[], by simp [toInterface_list]⟩
  | cons x xs =>
    obtain ⟨g, h⟩ := toInterface_total x
    obtain ⟨gs, k⟩ := toInterface_list_total xs
    exact ⟨g :: gs, by simp [toInterface_list, h, k]⟩
theorem toInterface_kvs_total (kvs : List (Bytes × Obj)) : ∃ gs, toInterface_kvs kvs = .ok gs := by
  cases kvs with
  | nil => exact ⟨[], by simp [toInterface_kvs]⟩
  | cons p rest =>
    obtain ⟨k, x⟩ := p
    obtain ⟨g, h⟩ := toInterface_total x
    obtain ⟨gs, hk⟩ := toInterface_kvs_total rest
    exact ⟨(k, g) :: gs, by simp [toInterface_kvs, h, hk]⟩
end

theorem toObjectDefault_unsupported (g : GoVal) (h : hasUnsupported g = true) (hc : isContainer g = false) :
    toObjectDefault g = .err (.other "error" ("cannot convert to object: " ++ g.typeName)) := by
  cases g <;> simp [hasUnsupported, isContainer] at h hc <;>
    simp [toObjectDefault, regToObject, goRegType]

/-- what a conversion of `g` may do: succeed — then nothing in `g` is unsupported, and a
    canonical `g` gave a plain object that converts back to `normGo g` — or report an error,
    and then `g` was not canonical.  (No third case: no panic.) -/
def Outcome {β} (r : Res β) (unsup can : Bool) (back : β → Prop) : Prop :=
  (∃ o, r = .ok o ∧ unsup = false ∧ (can = true → back o)) ∨ (∃ e, r = .err e ∧ can = false)

section
variable {β γ δ : Type} {r : Res β} {rs : Res γ} {u us c cs : Bool} {back b1 : β → Prop} {b2 : γ → Prop}

theorem Outcome.no_panic (h : Outcome r u c back) : r.isPanic = false := by
  rcases h with ⟨o, h, _⟩ | ⟨e, h, _⟩ <;> simp [h, Res.isPanic]

theorem Outcome.supported (h : Outcome r u c back) {o : β} (ho : r = .ok o) : u = false := by
  rcases h with ⟨o, _, hu, _⟩ | ⟨e, h, _⟩
  · exact hu
  · rw [h] at ho; cases ho

theorem Outcome.rt (h : Outcome r u c back) (hc : c = true) : ∃ o, r = .ok o ∧ back o := by
  rcases h with ⟨o, h, _, hb⟩ | ⟨e, _, hn⟩
  · exact ⟨o, h, hb hc⟩
  · rw [hn] at hc; cases hc

theorem Outcome.err_of_unsup (h : Outcome r true c back) : ∃ e, r = .err e := by
  rcases h with ⟨_, _, hu, _⟩ | ⟨e, h, _⟩
  · cases hu
  · exact ⟨e, h⟩

/-- the `[]any` / `map[string]any` arms -/
theorem Outcome.map {b : γ → Prop} {f : β → γ} (h : Outcome r u c b1) (hb : ∀ a, b1 a → b (f a)) :
    Outcome (do let a ← r; .ok (f a)) u c b := by
  rcases h with ⟨o, h, hu, hk⟩ | ⟨e, h, hn⟩
  · exact .inl ⟨f o, by simp [h], hu, fun hc => hb o (hk hc)⟩
  · exact .inr ⟨e, by simp [h, bind, Res.bind], hn⟩

/-- rule for one turn of an element loop -/
theorem Outcome.cons {b : δ → Prop} {f : β → γ → δ} (h1 : Outcome r u c b1) (h2 : Outcome rs us cs b2)
    (hb : ∀ o os, b1 o → b2 os → b (f o os)) :
    Outcome (do let o ← r; let os ← rs; .ok (f o os)) (u || us) (c && cs) b := by
  rcases h1 with ⟨o, h, hu, hk⟩ | ⟨e, h, hn⟩
  · rcases h2 with ⟨os, k, ku, kk⟩ | ⟨e, k, kn⟩
    · exact .inl ⟨f o os, by simp [h, k], by simp [hu, ku], fun hc => by
        simp at hc; exact hb o os (hk hc.1) (kk hc.2)⟩
    · exact .inr ⟨e, by simp [h, k, bind, Res.bind], by simp [kn]⟩
  · exact .inr ⟨e, by simp [h, bind, Res.bind], by simp [hn]⟩

theorem Outcome.nil {b : List β → Prop} (hb : b []) : Outcome (.ok []) false true b :=
  .inl ⟨[], rfl, rfl, fun _ => hb⟩

end

/-- the `default:` arm shared by both switches: an object from the registry, or the error -/
theorem toObjectDefault_outcome (g : GoVal) {b : Obj → Prop} :
    Outcome (toObjectDefault g) (hasUnsupported g) false b := by
  cases g <;> simp [Outcome, toObjectDefault, regToObject, goRegType, regFind, Gen.ConvReg.registry, objConverter,
    hasUnsupported]

mutual
theorem toObject_outcome (C : ConvOps) (g : GoVal) :
    Outcome (toObject C g) (hasUnsupported g) (canon g)
      (fun o => plain o = true ∧ toInterface o = .ok (normGo g)) := by
  cases g
  case slice xs =>
    simp only [toObject, hasUnsupported, canon]
    exact (toObject_list_outcome C xs).map fun os h => by simp [plain, toInterface, normGo, h]
  case map kvs =>
    simp only [toObject, hasUnsupported, canon]
    exact (toObject_kvs_outcome C kvs).map fun os h => by simp [plain, toInterface, normGo, h]
  case bool b => cases b <;> simp [Outcome, toObject, hasUnsupported, canon, plain, toInterface, normGo]
  all_goals first
    | (simp only [toObject, canon]; exact toObjectDefault_outcome _)
    | simp [Outcome, toObject, toObject_list, toObject_kvs, hasUnsupported, canon, plain, plainList, plainKvs, toInterface,
        toInterface_list, toInterface_kvs, normGo]
theorem toObject_list_outcome (C : ConvOps) (xs : List GoVal) :
    Outcome (toObject_list C xs) (hasUnsupportedList xs) (canonList xs)
      (fun os => plainList os = true ∧ toInterface_list os = .ok (normGoList xs)) := by
  cases xs with
  | nil => simp only [toObject_list, hasUnsupportedList, canonList]; exact .nil (by simp [plainList, toInterface_list, normGoList])
  | cons x xs =>
    simp only [toObject_list, hasUnsupportedList, canonList]
    exact (toObject_outcome C x).cons (toObject_list_outcome C xs) fun o os h k => by
      simp [plainList, toInterface_list, normGoList, h, k]
theorem toObject_kvs_outcome (C : ConvOps) (kvs : List (Bytes × GoVal)) :
    Outcome (toObject_kvs C kvs) (hasUnsupportedKvs kvs) (canonKvs kvs)
      (fun os => plainKvs os = true ∧ toInterface_kvs os = .ok (normGoKvs kvs)) := by
  cases kvs with
  | nil => simp only [toObject_kvs, hasUnsupportedKvs, canonKvs]; exact .nil (by simp [plainKvs, toInterface_kvs, normGoKvs])
  | cons p rest =>
    obtain ⟨k, x⟩ := p
    simp only [toObject_kvs, hasUnsupportedKvs, canonKvs]
    exact (toObject_outcome C x).cons (toObject_kvs_outcome C rest) fun o os h k => by
      simp [plainKvs, toInterface_kvs, normGoKvs, h, k]
end

theorem rt_goList (C : ConvOps) (xs : List GoVal) (h : canonList xs = true) :
    ∃ os, toObject_list C xs = .ok os ∧ plainList os = true ∧ toInterface_list os = .ok (normGoList xs) :=
  (toObject_list_outcome C xs).rt h
theorem rt_goKvs (C : ConvOps) (kvs : List (Bytes × GoVal)) (h : canonKvs kvs = true) :
    ∃ os, toObject_kvs C kvs = .ok os ∧ plainKvs os = true ∧ toInterface_kvs os = .ok (normGoKvs kvs) :=
  (toObject_kvs_outcome C kvs).rt h
theorem toObject_list_no_panic (C : ConvOps) (xs : List GoVal) : (toObject_list C xs).isPanic = false :=
  (toObject_list_outcome C xs).no_panic
theorem toObject_kvs_no_panic (C : ConvOps) (kvs : List (Bytes × GoVal)) : (toObject_kvs C kvs).isPanic = false :=
  (toObject_kvs_outcome C kvs).no_panic
theorem toObject_list_ok_supported (C : ConvOps) (xs : List GoVal) (os : List Obj) (h : toObject_list C xs = .ok os) :
    hasUnsupportedList xs = false :=
  (toObject_list_outcome C xs).supported h
theorem toObject_kvs_ok_supported (C : ConvOps) (kvs : List (Bytes × GoVal)) (os : List (Bytes × Obj))
    (h : toObject_kvs C kvs = .ok os) : hasUnsupportedKvs kvs = false :=
  (toObject_kvs_outcome C kvs).supported h

mutual
theorem toObjectAlt_outcome (C : ConvOps) (g : GoVal) :
    Outcome (toObjectAlt C g) (hasUnsupported g) (canonAlt g)
      (fun o => plainAlt o = true ∧ toInterface o = .ok (normGo g)) := by
  cases g
  case slice xs =>
    simp only [toObjectAlt, hasUnsupported, canonAlt]
    exact (toObjectAlt_list_outcome C xs).map fun os h => by simp [plainAlt, toInterface, normGo, h]
  case map kvs =>
    simp only [toObjectAlt, hasUnsupported, canonAlt]
    exact (toObjectAlt_kvs_outcome C kvs).map fun os h => by simp [plainAlt, toInterface, normGo, h]
  case bool b => cases b <;> simp [Outcome, toObjectAlt, hasUnsupported, canonAlt, plainAlt, toInterface, normGo]
  all_goals first
    | (simp only [toObjectAlt, canonAlt]; exact toObjectDefault_outcome _)
    | simp [Outcome, toObjectAlt, toObjectAlt_list, toObjectAlt_kvs, hasUnsupported, canonAlt, plainAlt, plainAltList, plainAltKvs, toInterface,
        toInterface_list, toInterface_kvs, normGo]
theorem toObjectAlt_list_outcome (C : ConvOps) (xs : List GoVal) :
    Outcome (toObjectAlt_list C xs) (hasUnsupportedList xs) (canonAltList xs)
      (fun os => plainAltList os = true ∧ toInterface_list os = .ok (normGoList xs)) := by
  cases xs with
  | nil => simp only [toObjectAlt_list, hasUnsupportedList, canonAltList]; exact .nil (by simp [plainAltList, toInterface_list, normGoList])
  | cons x xs =>
    simp only [toObjectAlt_list, hasUnsupportedList, canonAltList]
    exact (toObjectAlt_outcome C x).cons (toObjectAlt_list_outcome C xs) fun o os h k => by
      simp [plainAltList, toInterface_list, normGoList, h, k]
theorem toObjectAlt_kvs_outcome (C : ConvOps) (kvs : List (Bytes × GoVal)) :
    Outcome (toObjectAlt_kvs C kvs) (hasUnsupportedKvs kvs) (canonAltKvs kvs)
      (fun os => plainAltKvs os = true ∧ toInterface_kvs os = .ok (normGoKvs kvs)) := by
  cases kvs with
  | nil => simp only [toObjectAlt_kvs, hasUnsupportedKvs, canonAltKvs]; exact .nil (by simp [plainAltKvs, toInterface_kvs, normGoKvs])
  | cons p rest =>
    obtain ⟨k, x⟩ := p
    simp only [toObjectAlt_kvs, hasUnsupportedKvs, canonAltKvs]
    exact (toObjectAlt_outcome C x).cons (toObjectAlt_kvs_outcome C rest) fun o os h k => by
      simp [plainAltKvs, toInterface_kvs, normGoKvs, h, k]
end

theorem rtAlt_goList (C : ConvOps) (xs : List GoVal) (h : canonAltList xs = true) :
    ∃ os, toObjectAlt_list C xs = .ok os ∧ plainAltList os = true ∧ toInterface_list os = .ok (normGoList xs) :=
  (toObjectAlt_list_outcome C xs).rt h
theorem rtAlt_goKvs (C : ConvOps) (kvs : List (Bytes × GoVal)) (h : canonAltKvs kvs = true) :
    ∃ os, toObjectAlt_kvs C kvs = .ok os ∧ plainAltKvs os = true ∧ toInterface_kvs os = .ok (normGoKvs kvs) :=
  (toObjectAlt_kvs_outcome C kvs).rt h
theorem toObjectAlt_list_no_panic (C : ConvOps) (xs : List GoVal) : (toObjectAlt_list C xs).isPanic = false :=
  (toObjectAlt_list_outcome C xs).no_panic
theorem toObjectAlt_kvs_no_panic (C : ConvOps) (kvs : List (Bytes × GoVal)) : (toObjectAlt_kvs C kvs).isPanic = false :=
  (toObjectAlt_kvs_outcome C kvs).no_panic
theorem toObjectAlt_list_ok_supported (C : ConvOps) (xs : List GoVal) (os : List Obj) (h : toObjectAlt_list C xs = .ok os) :
    hasUnsupportedList xs = false :=
  (toObjectAlt_list_outcome C xs).supported h
theorem toObjectAlt_kvs_ok_supported (C : ConvOps) (kvs : List (Bytes × GoVal)) (os : List (Bytes × Obj))
    (h : toObjectAlt_kvs C kvs = .ok os) : hasUnsupportedKvs kvs = false :=
  (toObjectAlt_kvs_outcome C kvs).supported h

end UgoVerif.Proofs.Conv

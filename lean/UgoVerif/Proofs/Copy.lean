import UgoVerif.VM.Copy
/-
  `Copy()` (VM/Copy.lean).  One induction over `copyVal` (`copyVal_rule`) serves every fact about it.  Read off
  here: the heap is extended and a function cell behind the old ones is the copy of an old one (`Grown`:
  relocation, control-flow integrity), the copy consists of fresh containers (`freshRule`, Props/C12.copy_fresh);
  in Proofs/C08Prims.lean: the copy is private (`privRule`).
-/
namespace UgoVerif.VM.Cfi
open UgoVerif UgoVerif.Go

theorem push_fn_iff (heap : Array Cell) (c : Cell) (a' k : Nat) (f : Option (List Addr)) :
    (heap.push c)[a']? = some (Cell.fn k f) ↔ (heap[a']? = some (Cell.fn k f) ∨ (a' = heap.size ∧ c = Cell.fn k f)) := by
  rw [Array.getElem?_push]
  by_cases he : a' = heap.size
  · subst he
    simp
  · simp [he]

def FnFrom (h h' : Array Cell) : Prop :=
  ∀ (a c : Nat) (f : Option (List Addr)), h'[a]? = some (Cell.fn c f) → ∃ (a' : Nat) (f' : Option (List Addr)), h[a']? = some (Cell.fn c f')

theorem FnFrom.refl (h : Array Cell) : FnFrom h h := fun a _ f hx => ⟨a, f, hx⟩
theorem FnFrom.trans {h1 h2 h3 : Array Cell} (a : FnFrom h1 h2) (b : FnFrom h2 h3) : FnFrom h1 h3 := by
  intro x c f hx
  obtain ⟨x', f', hx'⟩ := b x c f hx
  exact a x' c f' hx'
theorem FnFrom.push (h : Array Cell) (c : Cell) (hc : c.kind ≠ 3) : FnFrom h (h.push c) := by
  intro a' k f hs
  rcases (push_fn_iff h c a' k f).mp hs with h1 | ⟨_, h2⟩
  · exact ⟨a', f, h1⟩
  · subst h2; exact absurd rfl hc

end UgoVerif.VM.Cfi

namespace UgoVerif.Proofs.Copy
open UgoVerif UgoVerif.Go UgoVerif.VM

def Ext (h h' : Array Cell) : Prop := h.size ≤ h'.size ∧ ∀ i, i < h.size → h'[i]? = h[i]?

theorem Ext.refl (h : Array Cell) : Ext h h := ⟨Nat.le_refl _, fun _ _ => rfl⟩
theorem Ext.trans {a b c : Array Cell} (h1 : Ext a b) (h2 : Ext b c) : Ext a c :=
  ⟨Nat.le_trans h1.1 h2.1, fun i hi => by rw [h2.2 i (Nat.lt_of_lt_of_le hi h1.1), h1.2 i hi]⟩
theorem Ext.push (h : Array Cell) (c : Cell) : Ext h (h.push c) :=
  ⟨by simp, fun i hi => by simp [Array.getElem?_push]; omega⟩

/-- every container/function/error object reachable from `v` through arrays and maps (to depth
    `d`) lives at an address in `[n, h.size)`.  Boxes (`*ObjectPtr`) are not traversed:
    `Copy()` shares them on purpose. -/
def FreshVal (n : Nat) (h : Array Cell) : Nat → V → Prop
  | 0, _ => True
  | d+1, .arr a off len => n ≤ a ∧ a < h.size ∧
      ∀ xs, h[a]? = some (.arr xs) → ∀ x ∈ (xs.toList.drop off).take len, FreshVal n h d x
  | d+1, .map a => n ≤ a ∧ a < h.size ∧
      ∀ kvs, h[a]? = some (.map kvs) → ∀ p ∈ kvs, FreshVal n h d p.2
  | _+1, .cfun a => n ≤ a ∧ a < h.size
  | _+1, .err a => n ≤ a ∧ a < h.size
  | _+1, .rterr a => n ≤ a ∧ a < h.size ∧ ∀ e, h[a]? = some (.rterr (some e)) → n ≤ e ∧ e < h.size
  | _+1, _ => True

theorem fresh_weaken {n n' : Nat} {h h' : Array Cell} (hn : n ≤ n') (he : Ext h h') :
    ∀ d v, FreshVal n' h d v → FreshVal n h' d v := by
  intro d
  induction d with
  | zero => intro v _; simp [FreshVal]
  | succ d ih =>
    intro v hv
    have lt {a} (ha : a < h.size) : a < h'.size := Nat.lt_of_lt_of_le ha he.1
    cases v <;> simp only [FreshVal] at hv ⊢ <;> try trivial
    · obtain ⟨h1, h2, h3⟩ := hv
      refine ⟨Nat.le_trans hn h1, lt h2, fun xs hx x hxm => ih x (h3 xs ?_ x hxm)⟩
      rwa [he.2 _ h2] at hx
    · obtain ⟨h1, h2, h3⟩ := hv
      refine ⟨Nat.le_trans hn h1, lt h2, fun kvs hx p hpm => ih p.2 (h3 kvs ?_ p hpm)⟩
      rwa [he.2 _ h2] at hx
    · exact ⟨Nat.le_trans hn hv.1, lt hv.2⟩
    · exact ⟨Nat.le_trans hn hv.1, lt hv.2⟩
    · obtain ⟨h1, h2, h3⟩ := hv
      refine ⟨Nat.le_trans hn h1, lt h2, fun e hx => ?_⟩
      rw [he.2 _ h2] at hx
      exact ⟨Nat.le_trans hn (h3 e hx).1, lt (h3 e hx).2⟩

theorem mapHeapKV_vals (f : Array Cell → V → Option (V × Array Cell)) :
    ∀ xs h ys h', mapHeapKV f h xs = some (ys, h') → mapHeap f h (xs.map (·.2)) = some (ys.map (·.2), h') := by
  intro xs
  induction xs with
  | nil => intro h ys h' hm; simp [mapHeapKV] at hm; obtain ⟨rfl, rfl⟩ := hm; rfl
  | cons x xs ih =>
    intro h ys h' hm
    simp only [mapHeapKV] at hm
    split at hm
    · cases hm
    · rename_i y h1 hx
      split at hm
      · cases hm
      · rename_i ys' h2 hxs
        simp at hm
        obtain ⟨rfl, rfl⟩ := hm
        simp [mapHeap, hx, ih _ _ _ hxs]

/-
  Every fact about `Copy()` has one shape: an invariant `I` of the heap is kept, and the copy of a value that
  satisfies `A` satisfies `Q` on the heap after.  What has to be shown for it is what `copyVal` does at each
  kind of value (`CopyRule`); the recursion, the threading of the heap through the elements and the inversion
  of the `Option`s are done once (`copyVal_rule`), together with what holds of the heap whatever `I`, `A`, `Q`
  are (`Grown`).
-/

/-- the kinds of value that are Copiers in objects.go (`host`: outside the model) -/
def Copier : V → Prop
  | .arr .. | .map _ | .cfun _ | .err _ | .rterr _ | .host _ => True
  | _ => False

structure CopyRule (I : Array Cell → Prop) (A : V → Prop) (Q : Array Cell → V → Prop) : Prop where
  mono : ∀ {h h' v}, Ext h h' → Q h v → Q h' v
  arrElems : ∀ {h} {a : Addr} {off len : Nat} {xs : Array V}, I h → A (.arr a off len) → h[a]? = some (.arr xs) → ∀ x ∈ xs.toList, A x
  mapElems : ∀ {h} {a : Addr} {kvs : List (Bytes × V)}, I h → A (.map a) → h[a]? = some (.map kvs) → ∀ p ∈ kvs, A p.2
  arr : ∀ {h} {ys : List V}, I h → (∀ y ∈ ys, Q h y) →
    I (h.push (.arr ys.toArray)) ∧ Q (h.push (.arr ys.toArray)) (.arr h.size 0 ys.length)
  map : ∀ {h} {kvs : List (Bytes × V)}, I h → (∀ p ∈ kvs, Q h p.2) → I (h.push (.map kvs)) ∧ Q (h.push (.map kvs)) (.map h.size)
  fn : ∀ {h} {a : Addr} {c : Nat} {free : Option (List Addr)}, I h → h[a]? = some (.fn c free) → I (h.push (.fn c free)) ∧ Q (h.push (.fn c free)) (.cfun h.size)
  err : ∀ {h n m c}, I h → I (h.push (.err n m c)) ∧ Q (h.push (.err n m c)) (.err h.size)
  rterr : ∀ {h e}, I h → (∀ x, e = some x → Q h (.err x)) → I (h.push (.rterr e)) ∧ Q (h.push (.rterr e)) (.rterr h.size)
  leaf : ∀ {h v}, I h → A v → ¬ Copier v → Q h v

def Grown (h h' : Array Cell) : Prop := Ext h h' ∧ Cfi.FnFrom h h'

theorem Grown.refl (h : Array Cell) : Grown h h := ⟨Ext.refl h, Cfi.FnFrom.refl h⟩
theorem Grown.trans {a b c : Array Cell} (h1 : Grown a b) (h2 : Grown b c) : Grown a c :=
  ⟨h1.1.trans h2.1, h1.2.trans h2.2⟩
theorem Grown.push (h : Array Cell) (c : Cell) (hc : c.kind ≠ 3) : Grown h (h.push c) :=
  ⟨Ext.push h c, Cfi.FnFrom.push h c hc⟩
theorem Grown.push_fn {h : Array Cell} {a : Nat} {c : Nat} {free : Option (List Addr)} (ha : h[a]? = some (.fn c free)) :
    Grown h (h.push (.fn c free)) := by
  refine ⟨Ext.push h _, fun a' k f hs => ?_⟩
  rcases (Cfi.push_fn_iff h _ a' k f).mp hs with h1 | ⟨_, h2⟩
  · exact ⟨a', f, h1⟩
  · cases h2; exact ⟨a, _, ha⟩

section
variable {I : Array Cell → Prop} {A : V → Prop} {Q : Array Cell → V → Prop}

def CopyOut (I : Array Cell → Prop) (Q : Array Cell → V → Prop) (h : Array Cell) (v' : V) (h' : Array Cell) : Prop :=
  Grown h h' ∧ I h' ∧ Q h' v'

theorem mapHeap_rule (L : CopyRule I A Q) {f : Array Cell → V → Option (V × Array Cell)}
    (hf : ∀ h v v' h', I h → A v → f h v = some (v', h') → CopyOut I Q h v' h') :
    ∀ xs h ys h', I h → (∀ x ∈ xs, A x) → mapHeap f h xs = some (ys, h') → Grown h h' ∧ I h' ∧ ∀ y ∈ ys, Q h' y := by
  intro xs
  induction xs with
  | nil => intro h ys h' hi _ hm; cases hm; exact ⟨Grown.refl _, hi, by simp⟩
  | cons x xs ih =>
    intro h ys h' hi ha hm
    simp only [mapHeap] at hm
    split at hm
    · cases hm
    · rename_i y h1 hx
      split at hm
      · cases hm
      · rename_i ys' h2 hxs
        cases hm
        obtain ⟨g1, i1, q1⟩ := hf h x y h1 hi (ha x (by simp)) hx
        obtain ⟨g2, i2, q2⟩ := ih h1 _ _ i1 (fun z hz => ha z (by simp [hz])) hxs
        refine ⟨g1.trans g2, i2, fun z hz => ?_⟩
        rcases List.mem_cons.mp hz with rfl | hz
        · exact L.mono g2.1 q1
        · exact q2 z hz

theorem copyVal_rule (L : CopyRule I A Q) : ∀ fuel h v v' h', I h → A v → copyVal fuel h v = some (v', h') →
    CopyOut I Q h v' h' := by
  intro fuel
  induction fuel with
  | zero => intro h v v' h' _ _ hc; cases hc
  | succ fuel ih =>
    intro h v v' h' hi ha hc
    by_cases hcop : Copier v
    · cases v <;> simp only [Copier] at hcop <;> simp only [copyVal] at hc
      case arr a off len =>
        split at hc
        · rename_i xs hxs
          split at hc
          · rename_i ys h1 hm
            cases hc
            obtain ⟨g1, i1, q1⟩ := mapHeap_rule L ih _ _ _ _ hi
              (fun x hx => L.arrElems hi ha hxs x (List.mem_of_mem_drop (List.mem_of_mem_take hx))) hm
            exact ⟨g1.trans (.push _ _ (by simp [Cell.kind])), L.arr i1 q1⟩
          · cases hc
        · cases hc
      case map a =>
        split at hc
        · rename_i kvs hk
          split at hc
          · rename_i kvs' h1 hm
            cases hc
            obtain ⟨g1, i1, q1⟩ := mapHeap_rule L ih _ _ _ _ hi
              (fun x hx => by obtain ⟨p, hp, rfl⟩ := List.mem_map.mp hx; exact L.mapElems hi ha hk p hp)
              (mapHeapKV_vals _ _ _ _ _ hm)
            exact ⟨g1.trans (.push _ _ (by simp [Cell.kind])), L.map i1 fun p hp => q1 _ (List.mem_map_of_mem hp)⟩
          · cases hc
        · cases hc
      case cfun a =>
        split at hc
        · rename_i c free hfn
          cases hc
          exact ⟨.push_fn hfn, L.fn hi hfn⟩
        · cases hc
      case err a =>
        split at hc
        · cases hc
          exact ⟨.push _ _ (by simp [Cell.kind]), L.err hi⟩
        · cases hc
      case rterr a =>
        split at hc
        · cases hc
          exact ⟨.push _ _ (by simp [Cell.kind]), L.rterr hi (fun _ e => nomatch e)⟩
        · split at hc
          · cases hc
            obtain ⟨i1, q1⟩ := L.err (n := _) (m := _) (c := _) hi
            exact ⟨(Grown.push _ _ (by simp [Cell.kind])).trans (.push _ _ (by simp [Cell.kind])),
              L.rterr i1 (fun x e => by cases e; exact q1)⟩
          · cases hc
        · cases hc
      case host => cases hc
    · have : copyVal (fuel + 1) h v = some (v, h) := by cases v <;> first | rfl | exact absurd trivial hcop
      rw [this] at hc
      cases hc
      exact ⟨.refl _, hi, L.leaf hi ha hcop⟩
end

theorem freshRule (n : Nat) : CopyRule (fun h => n ≤ h.size) (fun _ => True) (fun h v => ∀ d, FreshVal n h d v) where
  mono e q d := fresh_weaken (Nat.le_refl _) e d _ (q d)
  arrElems _ _ _ _ _ := trivial
  mapElems _ _ _ _ _ := trivial
  arr {h ys} hi q := by
    refine ⟨by simp; omega, fun d => ?_⟩
    cases d with
    | zero => simp [FreshVal]
    | succ d =>
      simp only [FreshVal]
      refine ⟨hi, by simp, fun zs hz x hx => ?_⟩
      simp at hz
      subst hz
      simp at hx
      exact fresh_weaken (Nat.le_refl _) (Ext.push _ _) d x (q x hx d)
  map {h kvs} hi q := by
    refine ⟨by simp; omega, fun d => ?_⟩
    cases d with
    | zero => simp [FreshVal]
    | succ d =>
      simp only [FreshVal]
      refine ⟨hi, by simp, fun zs hz p hp => ?_⟩
      simp at hz
      subst hz
      exact fresh_weaken (Nat.le_refl _) (Ext.push _ _) d p.2 (q p hp d)
  fn hi _ := ⟨by simp; omega, fun d => by cases d <;> simp [FreshVal]; exact hi⟩
  err hi := ⟨by simp; omega, fun d => by cases d <;> simp [FreshVal]; exact hi⟩
  rterr {h e} hi q := by
    refine ⟨by simp; omega, fun d => ?_⟩
    cases d <;> simp [FreshVal]
    refine ⟨hi, fun x hx => ?_⟩
    have := q x hx 1
    simp only [FreshVal] at this
    exact ⟨this.1, Nat.lt_succ_of_lt this.2⟩
  leaf {h v} _ _ hv d := by cases d <;> cases v <;> simp [FreshVal, Copier] at hv ⊢

theorem copyVal_grown {fuel : Nat} {h h' : Array Cell} {v v' : V} (hc : copyVal fuel h v = some (v', h')) : Grown h h' :=
  (copyVal_rule (freshRule 0) fuel h v v' h' (Nat.zero_le _) trivial hc).1

theorem copyVal_spec (fuel : Nat) (h : Array Cell) (v v' : V) (h' : Array Cell) (hc : copyVal fuel h v = some (v', h')) :
    Ext h h' ∧ ∀ d, FreshVal h.size h' d v' :=
  have r := copyVal_rule (freshRule h.size) fuel h v v' h' (Nat.le_refl _) trivial hc
  ⟨r.1.1, r.2.2⟩

end UgoVerif.Proofs.Copy

namespace UgoVerif.VM.Cfi
open UgoVerif UgoVerif.Go

theorem copyVal_fnFrom : ∀ (fuel : Nat) (h : Array Cell) (x y : V) (h' : Array Cell),
    copyVal fuel h x = some (y, h') → FnFrom h h' :=
  fun _ _ _ _ _ e => (UgoVerif.Proofs.Copy.copyVal_grown e).2

end UgoVerif.VM.Cfi

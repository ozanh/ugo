import UgoVerif.VM.Step
/-
  The `switch` of the VM loop, once: a property of `dispatch F op` is a table with one row per opcode
  function, each under the equation that selects it.  Every analysis of one instruction proves its `dispatch`
  theorem by giving its table.
-/
namespace UgoVerif.VM
open UgoVerif UgoVerif.Go

theorem dispatch_cases {P : M Ctl → Prop} (F : FloatOps) (op : Nat)
    (hConstant : op = OpConstant → P execConstant)
    (hGetLocal : op = OpGetLocal → P execGetLocal)
    (hSetLocal : op = OpSetLocal → P execSetLocal)
    (hBinaryOp : op = OpBinaryOp → P (execBinaryOp F))
    (hAndJump : op = OpAndJump → P execAndJump)
    (hOrJump : op = OpOrJump → P execOrJump)
    (hEqual : op = OpEqual ∨ op = OpNotEqual → P (execEqual F op))
    (hTrue : op = OpTrue → P execTrue)
    (hFalse : op = OpFalse → P execFalse)
    (hCall : op = OpCall → P execCall)
    (hCallName : op = OpCallName → P execCallName)
    (hReturn : op = OpReturn → P execReturn)
    (hGetBuiltin : op = OpGetBuiltin → P execGetBuiltin)
    (hClosure : op = OpClosure → P execClosure)
    (hJump : op = OpJump → P execJump)
    (hJumpFalsy : op = OpJumpFalsy → P execJumpFalsy)
    (hGetGlobal : op = OpGetGlobal → P execGetGlobal)
    (hSetGlobal : op = OpSetGlobal → P execSetGlobal)
    (hArray : op = OpArray → P execArray)
    (hMap : op = OpMap → P execMap)
    (hGetIndex : op = OpGetIndex → P execGetIndex)
    (hSetIndex : op = OpSetIndex → P execSetIndex)
    (hSliceIndex : op = OpSliceIndex → P execSliceIndex)
    (hGetFree : op = OpGetFree → P execGetFree)
    (hSetFree : op = OpSetFree → P execSetFree)
    (hGetLocalPtr : op = OpGetLocalPtr → P execGetLocalPtr)
    (hGetFreePtr : op = OpGetFreePtr → P execGetFreePtr)
    (hDefineLocal : op = OpDefineLocal → P execDefineLocal)
    (hNull : op = OpNull → P execNull)
    (hPop : op = OpPop → P execPop)
    (hIterInit : op = OpIterInit → P execIterInit)
    (hIterNext : (op = OpIterNext ∨ op = OpIterKey) ∨ op = OpIterValue → P (execIterNext op))
    (hLoadModule : op = OpLoadModule → P execLoadModule)
    (hStoreModule : op = OpStoreModule → P execStoreModule)
    (hSetupTry : op = OpSetupTry → P execSetupTry)
    (hSetupCatch : op = OpSetupCatch → P execSetupCatch)
    (hSetupFinally : op = OpSetupFinally → P execSetupFinally)
    (hThrow : op = OpThrow → P execThrow)
    (hFinalizer : op = OpFinalizer → P execFinalizer)
    (hUnary : op = OpUnary → P (execUnary F))
    (hNoOp : op = OpNoOp → P execNoOp)
    (hUnknown : P (execUnknown op)) : P (dispatch F op) := by
  unfold dispatch
  repeat' refine iteInduction ?_ fun _ => ?_
  all_goals first | (simp only [beq_iff_eq, Bool.or_eq_true]; with_reducible assumption) | with_reducible assumption

end UgoVerif.VM

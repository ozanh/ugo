import UgoVerif.Proofs.EncBytecode
/-
  The summed allocation of the decoder on arrays nested k deep grows quadratically in k:
  the witness against `Props.C18.C18_alloc_full`.
-/
namespace UgoVerif.Proofs.Enc
open UgoVerif.Go UgoVerif.Model.Enc UgoVerif.Gen.EncTags UgoVerif.Spec.Enc

def sumL (l : List Nat) : Nat := l.foldl (· + ·) 0

theorem foldl_add_init (l : List Nat) (a : Nat) : l.foldl (· + ·) a = a + sumL l := by
  induction l generalizing a with
  | nil => simp [sumL]
  | cons x xs ih => simp only [List.foldl_cons, sumL]; rw [ih, ih (0 + x)]; omega

theorem sumL_append (a b : List Nat) : sumL (a ++ b) = sumL a + sumL b := by
  simp only [sumL, List.foldl_append]; rw [foldl_add_init]; rfl

theorem total_eq {α} (x : DM α) : x.total = sumL x.allocs := rfl

theorem total_bind_ok {α β} (x : DM α) (f : α → DM β) (a : α) (h : x.res = .ok a) :
    (x >>= f).total = x.total + (f a).total := by
  rw [total_eq, allocs_bind, h, sumL_append]; rfl

theorem total_liftM {α} (r : Res α) : (liftM r : DM α).total = 0 := rfl
theorem total_pure {α} (a : α) : (pure a : DM α).total = 0 := rfl
theorem total_tick (n : Nat) : (DM.tick n).total = n := by simp [DM.tick, total_eq, sumL]

def nest : Nat → Obj
  | 0 => .array []
  | k + 1 => .array [nest k]

theorem nest_encodable (C : Ctx) : ∀ k, Encodable C (nest k)
  | 0 => by simp [nest, Encodable, EncodableL]
  | k + 1 => by simp [nest, Encodable, EncodableL, nest_encodable C k]

theorem nest_norm : ∀ k, norm (nest k) = nest k
  | 0 => by simp [nest, norm, normList]
  | k + 1 => by simp [nest, norm, normList, nest_norm k]

theorem nest_need : ∀ k, need (nest k) = 3 * k + 2
  | 0 => by simp [nest, need, needL]
  | k + 1 => by simp [nest, need, needL, nest_need k]; omega

theorem nest_enc_succ (C : Ctx) (k : Nat) :
    encodeObject C (nest (k + 1)) =
      binArrayV1 :: toBytes ((toBytes 1 ++ (encodeObject C (nest k) ++ [])).length : Int) ++
        (toBytes 1 ++ (encodeObject C (nest k) ++ [])) := by
  simp [nest, encodeObject, encodeList]

theorem nest_len (C : Ctx) : ∀ k, k < 2 ^ 58 →
    5 * k + 2 ≤ (encodeObject C (nest k)).length ∧ (encodeObject C (nest k)).length ≤ 24 * k + 2
  | 0, _ => by simp [nest, encodeObject]
  | k + 1, hk => by
    obtain ⟨h1, h2⟩ := nest_len C k (by omega)
    rw [nest_enc_succ]
    have hone := toBytes_length 1 (by decide)
    have hin : inInt64 ((toBytes 1 ++ (encodeObject C (nest k) ++ [])).length : Int) = true := by
      apply inInt64_ofNat
      simp only [List.length_append, List.length_nil]
      omega
    have ht := toBytes_length _ hin
    simp only [List.length_cons, List.length_append, List.length_nil] at ht ⊢
    omega

theorem total_bind_ge {α β} (x : DM α) (f : α → DM β) : x.total ≤ (x >>= f).total := by
  rw [total_eq, total_eq, allocs_bind, sumL_append]; exact Nat.le_add_right _ _

/-- the summand is the lower bound of `nest_len` -/
def nestSum : Nat → Nat
  | 0 => 0
  | k + 1 => nestSum k + (5 * k + 2)

theorem total_tick_bind {β} (n : Nat) (f : Unit → DM β) : (DM.tick n >>= f).total = n + (f ()).total := by
  rw [total_bind_ok _ _ () rfl, total_tick]

/-- the first summand: `DecodeObject` (encoder/encoder.go) copies the payload into a fresh
    buffer `bb` before `Array.UnmarshalBinary` decodes it -/
theorem array_total_ge (C : Ctx) (xs : List Obj) (n : Nat) (rest : Bytes) (hne : xs.length ≠ 0)
    (hsmall : (toBytes xs.length ++ encodeList C xs).length < 2 ^ 63) :
    (toBytes xs.length ++ encodeList C xs).length + (arrayLoopF C n (encodeList C xs)).total ≤
      (decodeObjectF C (n + 1) (encodeObject C (.array xs) ++ rest)).total := by
  rw [array_encD C xs n rest hne hsmall, total_tick_bind]
  have h1 := total_bind_ge ((DM.tick (16 * xs.length) >>= fun _ => arrayLoopF C n (encodeList C xs)) >>= fun ys =>
    pure (Obj.array ys)) (fun o => pure (o, rest))
  have h2 := total_bind_ge (DM.tick (16 * xs.length) >>= fun _ => arrayLoopF C n (encodeList C xs))
    (fun ys => pure (Obj.array ys))
  rw [total_tick_bind] at h2
  omega

theorem nest_total (C : Ctx) : ∀ (k fuel : Nat) (rest : Bytes), k < 2 ^ 58 → need (nest k) ≤ fuel →
    nestSum k ≤ (decodeObjectF C fuel (encodeObject C (nest k) ++ rest)).total
  | 0, _, _, _, _ => Nat.zero_le _
  | k + 1, fuel, rest, hk, hf => by
    rw [nest_need] at hf
    obtain ⟨n, rfl⟩ := succ_of_pos (show 1 ≤ fuel by omega)
    obtain ⟨m, rfl⟩ := succ_of_pos (show 1 ≤ n by omega)
    obtain ⟨hl1, hl2⟩ := nest_len C k (by omega)
    have hone := toBytes_length 1 (by decide)
    have hsmall : (toBytes ([nest k].length : Int) ++ encodeList C [nest k]).length < 2 ^ 63 := by
      simp only [encodeList, List.length_append, List.length_nil, List.length_singleton, Int.natCast_one] at *
      omega
    have ih := nest_total C k m [] (by omega) (by rw [nest_need]; omega)
    have hA := array_total_ge C [nest k] (m + 1) rest (by simp) hsmall
    have h4 : (decodeObjectF C m (encodeObject C (nest k) ++ [])).total ≤
        (arrayLoopF C (m + 1) (encodeList C [nest k])).total := by
      simp only [encodeList]
      rw [arrayLoopF_pos _ _ _ (by simp only [List.length_append]; omega)]
      exact total_bind_ge _ _
    have hlen : (encodeObject C (nest k)).length ≤
        (toBytes ([nest k].length : Int) ++ encodeList C [nest k]).length := by
      simp only [encodeList, List.length_append, List.length_nil]; omega
    show nestSum (k + 1) ≤ (decodeObjectF C (m + 1 + 1) (encodeObject C (.array [nest k]) ++ rest)).total
    simp only [nestSum]
    omega

def nestBC (k : Nat) : BC := { constants := some [nest k] }

theorem nestBC_enc (C : Ctx) (k : Nat) :
    encodeBytecode C (nestBC k) = [0, 117, 71, 79, 0, 2] ++ (2 :: (encodeObject C (nest (k + 1)) ++ [])) := by
  unfold encodeBytecode encodeBytecodeBody nestBC
  rw [header2_eq]
  simp [nest]

theorem nestBC_total (C : Ctx) (conv : BC → Res BC) (mods : Mods) (k fuel : Nat) (hk : k + 1 < 2 ^ 58)
    (hf : 3 * k + 6 ≤ fuel) :
    nestSum (k + 1) ≤ (decodeBytecodeF C conv mods fuel (encodeBytecode C (nestBC k))).total := by
  obtain ⟨n, rfl⟩ := succ_of_pos (show 1 ≤ fuel by omega)
  have hobj := nest_total C (k + 1) n [] hk (by rw [nest_need]; omega)
  rw [nestBC_enc, ← header2_eq, decodeBytecodeF_header2]
  have hb : (decodeObjectF C n (encodeObject C (nest (k + 1)) ++ [])).total ≤
      (bcLoopF C (n + 1) (2 :: (encodeObject C (nest (k + 1)) ++ [])) {}).total := by
    rw [bcLoopF_f2]
    exact total_bind_ge _ _
  have := total_bind_ge (bcLoopF C (n + 1) (2 :: (encodeObject C (nest (k + 1)) ++ [])) {})
    (fun bc => (liftM (fixObjects mods bc) : DM BC))
  omega

theorem nestBC_len (C : Ctx) (k : Nat) (hk : k + 1 < 2 ^ 58) :
    (encodeBytecode C (nestBC k)).length ≤ 24 * k + 33 := by
  rw [nestBC_enc]
  have := (nest_len C (k + 1) hk).2
  simp only [List.length_append, List.length_cons, List.length_nil]
  omega

theorem nestSum_closed : ∀ k, 2 * nestSum k + k = 5 * (k * k)
  | 0 => rfl
  | k + 1 => by
    have ih := nestSum_closed k
    have e : (k + 1) * (k + 1) = k * k + 2 * k + 1 := by
      rw [Nat.add_mul, Nat.mul_add]; omega
    simp only [nestSum]
    rw [e]; omega

end UgoVerif.Proofs.Enc

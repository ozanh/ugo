import UgoVerif.Proofs.EncRoundtrip
/-
  The bytecode level of the round trip: source files and file sets are read back exactly,
  the field loop `bcLoopF` reads `encodeBytecodeBody C bc` back as `normBC bc`.
  `need_le`: the fuel `3 * r.length + 16` of `decodeObject` and `decodeBytecode` suffices.
-/
namespace UgoVerif.Proofs.Enc
open UgoVerif.Go UgoVerif.Model.Enc UgoVerif.Gen.EncTags UgoVerif.Spec.Enc

def encLines (ls : List (BitVec 64)) : Bytes := (ls.map fun l => toBytes l.toInt).flatten

theorem encLines_length (ls : List (BitVec 64)) : 2 * ls.length ≤ (encLines ls).length := by
  induction ls with
  | nil => simp [encLines]
  | cons l ls ih =>
    have h1 := toBytes_length l.toInt (inInt64_toInt _)
    simp only [encLines, List.map_cons, List.flatten_cons, List.length_append, List.length_cons] at ih ⊢
    omega

theorem linesLoop_enc (ls : List (BitVec 64)) (tl : Bytes) :
    linesLoop ls.length (encLines ls ++ tl) = .ok (ls, tl) := by
  induction ls with
  | nil => simp [linesLoop, encLines]
  | cons l ls ih =>
    simp only [encLines, List.map_cons, List.flatten_cons, List.length_cons, linesLoop, List.append_assoc] at ih ⊢
    rw [viRead_toBytes _ _ (inInt64_toInt _)]
    simp only [ok_bind]
    rw [ih]
    simp [BitVec.ofInt_toInt]

theorem encodeSrcFile_eq (sf : SrcFile) :
    encodeSrcFile sf = encodeSized binStringV1 sf.name ++ (toBytes sf.base.toInt ++ (toBytes sf.size.toInt ++
      (toBytes sf.lines.length ++ (encLines sf.lines ++ [])))) := by
  simp [encodeSrcFile, encLines]

theorem unmarshalSourceFile_enc (C : Ctx) (n : Nat) (sf : SrcFile) (hs : (encodeSrcFile sf).length < 2 ^ 63) :
    (unmarshalSourceFile (decodeObjectF C (n + 1)) (encodeSrcFile sf)).res = .ok sf := by
  rw [encodeSrcFile_eq] at hs ⊢
  simp only [List.length_append] at hs
  have hname : sf.name.length < 2 ^ 63 := by
    have := (encodeSized_length binStringV1 sf.name).2
    omega
  have hl := encLines_length sf.lines
  have hlin := inInt64_ofNat sf.lines.length (by omega)
  unfold unmarshalSourceFile
  simp only [res_bind, rt_str C n sf.name _ hname, ok_bind, res_liftM, viRead_toBytes _ _ (inInt64_toInt _),
    viRead_toBytes _ _ hlin]
  rw [res_ite, if_neg (by simp only [List.length_append]; omega)]
  have hnat : ((sf.lines.length : Int)).toNat = sf.lines.length := by omega
  simp only [res_bind, res_tick, ok_bind, res_liftM, hnat, linesLoop_enc]
  simp [BitVec.ofInt_toInt]

def encFiles (fs : List SrcFile) : Bytes :=
  (fs.map fun f => let d := encodeSrcFile f; toBytes d.length ++ d).flatten

theorem encFiles_cons (f : SrcFile) (fs : List SrcFile) :
    encFiles (f :: fs) = toBytes (encodeSrcFile f).length ++ (encodeSrcFile f ++ encFiles fs) := by
  simp [encFiles]

theorem filesLoop_enc (C : Ctx) (n : Nat) : ∀ (fs : List SrcFile) (tl : Bytes), (encFiles fs).length < 2 ^ 63 →
    (filesLoop (decodeObjectF C (n + 1)) fs.length (encFiles fs ++ tl)).res = .ok (fs, tl) := by
  intro fs
  induction fs with
  | nil => intro tl _; simp [filesLoop, encFiles]
  | cons f fs ih =>
    intro tl hs
    rw [encFiles_cons] at hs ⊢
    simp only [List.length_append] at hs
    have hd : (encodeSrcFile f).length < 2 ^ 63 := by omega
    have hin := inInt64_ofNat _ hd
    simp only [List.length_cons, filesLoop, List.append_assoc, res_bind, res_liftM, viRead_toBytes _ _ hin, ok_bind]
    rw [res_ite, if_neg (by simp only [List.length_append]; omega)]
    have hnat : (((encodeSrcFile f).length : Int)).toNat = (encodeSrcFile f).length := by omega
    simp only [res_bind, res_tick, ok_bind, res_liftM, hnat, readFull_append, unmarshalSourceFile_enc C n f hd,
      ih tl (by omega), res_pure]

theorem encFiles_length (fs : List SrcFile) : 2 * fs.length ≤ (encFiles fs).length := by
  induction fs with
  | nil => simp [encFiles]
  | cons f fs ih =>
    rw [encFiles_cons]
    have := toBytes_length_ge (encodeSrcFile f).length
    have : 1 ≤ (encodeSrcFile f).length := by
      have := (encodeSized_length binStringV1 f.name).1
      rw [encodeSrcFile_eq]; simp only [List.length_append]; omega
    simp only [List.length_append, List.length_cons]; omega

theorem encodeFileSet_eq (fs : FileSet) :
    encodeFileSet fs = toBytes fs.base.toInt ++ (toBytes fs.files.length ++ (encFiles fs.files ++ [])) := by
  simp [encodeFileSet, encFiles]

theorem unmarshalFileSet_enc (C : Ctx) (n : Nat) (fs : FileSet) (hs : (encodeFileSet fs).length < 2 ^ 63) :
    (unmarshalFileSet (decodeObjectF C (n + 1)) (encodeFileSet fs)).res = .ok fs := by
  rw [encodeFileSet_eq] at hs ⊢
  simp only [List.length_append] at hs
  have hl := encFiles_length fs.files
  have hin := inInt64_ofNat fs.files.length (by omega)
  unfold unmarshalFileSet
  simp only [res_bind, res_liftM, viRead_toBytes _ _ (inInt64_toInt _), viRead_toBytes _ _ hin, ok_bind]
  rw [res_ite, if_neg (by simp only [List.length_append]; omega)]
  have hnat : ((fs.files.length : Int)).toNat = fs.files.length := by omega
  simp only [res_bind, res_tick, ok_bind, hnat, filesLoop_enc C n fs.files [] (by omega)]
  simp [BitVec.ofInt_toInt]

theorem bc_end (C : Ctx) (bc : BC) : Reads (bcLoopF C) 1 [] bc (.ok bc) := by
  intro m hm
  obtain ⟨m, rfl⟩ := succ_of_pos hm
  rw [bcLoopF_nil]; rfl

theorem encodeInt_length_le (v : BitVec 64) : (encodeInt v).length ≤ 12 := by
  unfold encodeInt; split
  · simp
  · have := (putVarint_len _ (inInt64_toInt v)).2
    simp only [List.length_cons]; omega

theorem rt_int (C : Ctx) (n : Nat) (v : BitVec 64) (rest : Bytes) :
    (decodeObjectF C (n + 1) (encodeInt v ++ rest)).res = .ok (.int v, rest) :=
  rt_obj C (.int v) (n + 1) rest trivial (Nat.le_add_left _ _) (by
    have := encodeInt_length_le v
    simp only [encodeObject]; omega)

theorem bc_step0 (C : Ctx) (n : Nat) (fs : FileSet) (tl : Bytes) (bc : BC) (hn : 1 ≤ n)
    (hs : (encodeFileSet fs).length < 2 ^ 63) :
    (bcLoopF C (n + 1) (0 :: encodeInt (BitVec.ofNat 64 (encodeFileSet fs).length) ++ encodeFileSet fs ++ tl) bc).res =
      (bcLoopF C n tl { bc with fileSet := some fs }).res := by
  obtain ⟨n, rfl⟩ := succ_of_pos hn
  have hpos : 1 ≤ (encodeFileSet fs).length := by
    rw [encodeFileSet_eq]; simp [toBytes]
  have hnat : (BitVec.ofNat 64 (encodeFileSet fs).length).toNat = (encodeFileSet fs).length := by
    simp only [BitVec.toNat_ofNat]; omega
  have hint := toInt_ofNat_small _ hs
  rw [List.cons_append, List.cons_append, List.append_assoc, bcLoopF_f0]
  simp only [res_bind, rt_int, ok_bind]
  rw [res_ite, if_neg (by omega), res_ite, if_neg (by rw [hint]; simp only [List.length_append]; omega)]
  simp only [res_bind, res_tick, ok_bind, res_liftM, hnat, readFull_append,
    unmarshalFileSet_enc C n fs hs]

theorem bc_step1 (C : Ctx) (n : Nat) (f : CF) (tl : Bytes) (bc : BC) (hn : 7 ≤ n)
    (hs : (encodeCF f).length < 2 ^ 63) :
    (bcLoopF C (n + 1) (1 :: encodeCF f ++ tl) bc).res =
      (bcLoopF C n tl { bc with main := some (normCF f) }).res := by
  obtain ⟨m, rfl⟩ := succ_of_pos (show 1 ≤ n by omega)
  rw [List.cons_append, bcLoopF_f1]
  simp only [res_bind, rt_cf C f m (by omega) tl hs, ok_bind]

theorem bc_step2 (C : Ctx) (n : Nat) (cs : List Obj) (tl : Bytes) (bc : BC)
    (hE : EncodableL C cs) (hn : need (.array cs) ≤ n)
    (hs : (encodeObject C (.array cs)).length < 2 ^ 63) :
    (bcLoopF C (n + 1) (2 :: encodeObject C (.array cs) ++ tl) bc).res =
      (bcLoopF C n tl { bc with constants := some (normList cs) }).res := by
  have hdec := rt_obj C (.array cs) n tl (by simpa [Encodable] using hE) hn hs
  simp only [norm] at hdec
  rw [List.cons_append, bcLoopF_f2]
  simp only [res_bind, hdec, ok_bind]

theorem bc_step3 (C : Ctx) (n : Nat) (nm : BitVec 64) (tl : Bytes) (bc : BC) (hn : 1 ≤ n) :
    (bcLoopF C (n + 1) (3 :: encodeInt nm ++ tl) bc).res =
      (bcLoopF C n tl { bc with numModules := nm }).res := by
  obtain ⟨n, rfl⟩ := succ_of_pos hn
  rw [List.cons_append, bcLoopF_f3]
  simp only [res_bind, rt_int, ok_bind]

def needBC (bc : BC) : Nat :=
  16 + (match bc.constants with
        | some cs => need (.array cs)
        | none => 0)

/-- `small`: every length the encoder writes fits Go's `int` -/
structure EncodableBC (C : Ctx) (bc : BC) : Prop where
  consts : ∀ cs, bc.constants = some cs → EncodableL C cs
  small : (encodeBytecodeBody C bc).length < 2 ^ 63

theorem body_bounds (C : Ctx) (bc : BC) :
    (∀ fs, bc.fileSet = some fs → (encodeFileSet fs).length ≤ (encodeBytecodeBody C bc).length) ∧
    (∀ f, bc.main = some f → (encodeCF f).length ≤ (encodeBytecodeBody C bc).length) ∧
    (∀ cs, bc.constants = some cs → (encodeObject C (.array cs)).length ≤ (encodeBytecodeBody C bc).length) := by
  refine ⟨?_, ?_, ?_⟩
  · intro fs h; unfold encodeBytecodeBody; rw [h]; simp only [List.length_append, List.length_cons]; omega
  · intro f h; unfold encodeBytecodeBody; rw [h]; simp only [List.length_append, List.length_cons]; omega
  · intro cs h; unfold encodeBytecodeBody; rw [h]; simp only [List.length_append, List.length_cons]; omega

theorem rt_bcLoop (C : Ctx) (bc : BC) (hE : EncodableBC C bc) :
    Reads (bcLoopF C) (needBC bc) (encodeBytecodeBody C bc) {} (.ok (normBC bc)) := by
  obtain ⟨hb0, hb1, hb2⟩ := body_bounds C bc
  obtain ⟨hc, hsm⟩ := hE
  obtain ⟨fs, mn, cs, nm⟩ := bc
  have hcs : ∀ a, cs = some a → need (.array a) + 16 ≤ needBC ⟨fs, mn, cs, nm⟩ := fun a h => by
    subst h; simp only [needBC]; omega
  obtain ⟨K, hK⟩ : ∃ K, needBC ⟨fs, mn, cs, nm⟩ = K + 16 := ⟨_, Nat.add_comm _ _⟩
  rw [hK] at hcs ⊢
  rw [← List.append_nil (encodeBytecodeBody _ _)]
  simp only [encodeBytecodeBody, List.append_assoc]
  refine Reads.field (g' := ({ fileSet := fs } : BC)) (by
    cases fs with
    | none => exact .inl ⟨rfl, rfl⟩
    | some a => exact .inr fun m hm => bc_step0 C m a _ _ (by omega) (by have := hb0 a rfl; omega)) ?_
  refine Reads.field (g' := ({ fileSet := fs, main := mn.map normCF } : BC)) (by
    cases mn with
    | none => exact .inl ⟨rfl, rfl⟩
    | some a => exact .inr fun m hm => bc_step1 C m a _ _ (by omega) (by have := hb1 a rfl; omega)) ?_
  refine Reads.field (g' := ({ fileSet := fs, main := mn.map normCF, constants := cs.map normList } : BC)) (by
    cases cs with
    | none => exact .inl ⟨rfl, rfl⟩
    | some a => exact .inr fun m hm =>
        bc_step2 C m a _ _ (hc a rfl) (by have := hcs a rfl; omega) (by have := hb2 a rfl; omega)) ?_
  refine Reads.field (g' := normBC ⟨fs, mn, cs, nm⟩) (by
    unfold normBC
    split
    · exact .inr fun m hm => bc_step3 C m nm _ _ (by omega)
    · exact .inl ⟨rfl, rfl⟩) ?_
  exact (bc_end C _).mono (by omega)

theorem header2_eq : header BytecodeVersion2 = [0, 117, 71, 79, 0, 2] := by decide

theorem decodeBytecodeF_header2 (C : Ctx) (conv : BC → Res BC) (mods : Mods) (n : Nat) (body : Bytes) :
    decodeBytecodeF C conv mods n (header BytecodeVersion2 ++ body) =
      (do let bc ← bcLoopF C n body {}; (fixObjects mods bc : Res _)) := by
  unfold decodeBytecodeF
  rw [header2_eq]
  simp only [List.cons_append, List.nil_append, List.length_cons]
  rw [if_neg (by omega)]
  have h1 : beNat (List.take 4 (0 :: 117 :: 71 :: 79 :: 0 :: 2 :: body)) = BytecodeSignature := rfl
  rw [if_neg (by rw [h1]; simp)]
  have h2 : beNat (List.take 2 (List.drop 4 (0 :: 117 :: 71 :: 79 :: 0 :: 2 :: body))) = BytecodeVersion2 := rfl
  have h3 : List.drop 6 (0 :: 117 :: 71 :: 79 :: 0 :: 2 :: body) = body := rfl
  simp only [h2, h3, if_true]

theorem rt_bytecode (C : Ctx) (conv : BC → Res BC) (mods : Mods) (bc : BC) (n : Nat) (hn : needBC bc ≤ n)
    (hE : EncodableBC C bc) :
    (decodeBytecodeF C conv mods n (encodeBytecode C bc)).res = fixObjects mods (normBC bc) := by
  unfold encodeBytecode
  rw [decodeBytecodeF_header2]
  simp only [res_bind, rt_bcLoop C bc hE n hn, ok_bind, res_liftM]

end UgoVerif.Proofs.Enc

namespace UgoVerif.Proofs.Enc
open UgoVerif.Go UgoVerif.Model.Enc UgoVerif.Gen.EncTags UgoVerif.Spec.Enc

theorem encodeCF_length_ge (f : CF) : 3 ≤ (encodeCF f).length := by
  rw [encodeCF_eq]
  have := toBytes_length_ge (cfTmp f).length
  simp only [List.length_cons, List.length_append]; omega

mutual
theorem need_le (C : Ctx) : ∀ o : Obj, need o + 1 ≤ 3 * (encodeObject C o).length
  | .array xs => by
    have := needL_le C xs
    simp only [need, encodeObject]
    split
    · rename_i h0
      have : xs = [] := List.eq_nil_of_length_eq_zero h0
      subst this; simp [needL]
    · have h1 := toBytes_length_ge ((toBytes (xs.length : Int) ++ encodeList C xs).length : Int)
      have h2 := toBytes_length_ge (xs.length : Int)
      simp only [List.length_cons, List.length_append] at h1 ⊢; omega
  | .map kvs => by
    have := needKV_le C kvs
    have h1 := toBytes_length_ge ((encodeKVs C kvs).length : Int)
    simp only [need, encodeObject, List.length_cons, List.length_append]; omega
  | .syncMap true kvs => by simp [need, encodeObject]
  | .syncMap false kvs => by
    have := needKV_le C kvs
    have h1 := toBytes_length_ge ((encodeKVs C kvs).length : Int)
    simp only [need, encodeObject, List.length_cons, List.length_append]; omega
  | .compiledFunction f => by
    have := encodeCF_length_ge f
    simp only [need, encodeObject]; omega
  | .nil | .undefined | .bool _ | .int _ | .uint _ | .char _ | .float _ | .str _ | .bytes _ | .function _
  | .builtinFunction _ | .gob _ _ => by
    simp only [need]
    exact Nat.le_trans (by decide) (Nat.mul_le_mul_left 3 (encodeObject_length_pos C _))
theorem needL_le (C : Ctx) : ∀ xs : List Obj, needL xs ≤ 3 * (encodeList C xs).length
  | [] => by simp [needL]
  | x :: xs => by
    have h1 := need_le C x
    have h2 := needL_le C xs
    simp only [needL, encodeList, List.length_append]; omega
theorem needKV_le (C : Ctx) : ∀ kvs : List (Bytes × Obj), needKV kvs ≤ 3 * (encodeKVs C kvs).length
  | [] => by simp [needKV]
  | (k, v) :: kvs => by
    have h1 := need_le C v
    have h2 := needKV_le C kvs
    simp only [needKV, encodeKVs, List.length_append]; omega
end

end UgoVerif.Proofs.Enc

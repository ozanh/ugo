import UgoVerif.Proofs.EncVM
import UgoVerif.Model.Eval
/-
  C04 for compiler output: the bytecode of the (total) compile model `Model/Compile.lean` as a
  value of the serializer model.  The compile model's function constants (`Compile.CFn`) have no
  `Free` field at all: the compiler never puts free variables into a constant — closures are
  built at run time by OpClosure from the constant and the captured cells (`emitFnConstant`
  emits `OpClosure idx nfree` and stores the bare function) — so their image has `numFree = 0`
  and `Free = nil` in the VM (`Model/Eval.allocFn`).  Imports are outside the compile model, so
  its constants are scalars and functions only.
-/
namespace UgoVerif.Proofs.Enc
open UgoVerif UgoVerif.Go UgoVerif.Model.Enc UgoVerif.Spec.Enc UgoVerif.Spec.EncVM UgoVerif.VM UgoVerif.Gen.EncTags

/-- `*ugo.CompiledFunction` of the compile model as the serializer sees it -/
def cfOfCFn (f : Compile.CFn) : CF :=
  { numParams := BitVec.ofNat 64 f.numParams
    numLocals := BitVec.ofNat 64 f.numLocals
    instructions := some f.insts.toList
    variadic := f.variadic
    numFree := 0
    -- the compile model lists the assignments `sourceMap[ip] = pos` (`setSourceMap`): the Go map
    -- they denote
    sourceMap := some (mapOfList (f.sourceMap.map fun kv => (BitVec.ofNat 64 kv.1, BitVec.ofNat 64 kv.2))) }

def objOfCVal : Compile.CVal → Obj
  | .int v => .int v
  | .uint v => .uint v
  | .float v => .float v
  | .char v => .char v
  | .bool b => .bool b
  | .str s => .str s
  | .undefined => .undefined

def objOfConst : Compile.Const → Obj
  | .val v => objOfCVal v
  | .fn f => .compiledFunction (cfOfCFn f)

/-- `ugo.Bytecode` returned by `Compile` (no imports: `NumModules = 0`); `fs` is the file set
    of the parser, which the compile model does not touch -/
def toEnc (fs : Option FileSet) (cbc : Compile.Bytecode) : BC :=
  { fileSet := fs
    main := some (cfOfCFn cbc.main)
    constants := some (cbc.constants.toList.map objOfConst)
    numModules := 0 }

theorem constants_no_free (cbc : Compile.Bytecode) :
    (cfOfCFn cbc.main).numFree = 0 ∧
    ∀ c ∈ cbc.constants.toList, ∀ f, objOfConst c = .compiledFunction f → f.numFree = 0 := by
  refine ⟨rfl, ?_⟩
  intro c _ f h
  cases c with
  | val v => cases v <;> simp [objOfConst, objOfCVal] at h
  | fn g => simp only [objOfConst, Obj.compiledFunction.injEq] at h; rw [← h]; rfl

theorem objOfConst_encodable (C : Ctx) (c : Compile.Const) : Encodable C (objOfConst c) := by
  cases c with
  | val v => cases v <;> simp [objOfConst, objOfCVal, Encodable]
  | fn g => simp [objOfConst, Encodable]

theorem consts_encodable (C : Ctx) : ∀ cs : List Compile.Const, EncodableL C (cs.map objOfConst)
  | [] => by simp [EncodableL]
  | c :: rest => by
    simp only [List.map_cons, EncodableL]
    exact ⟨objOfConst_encodable C c, consts_encodable C rest⟩

theorem toEnc_encodable (C : Ctx) (fs : Option FileSet) (cbc : Compile.Bytecode)
    (hsmall : (encodeBytecodeBody C (toEnc fs cbc)).length < 2 ^ 63) : EncodableBC C (toEnc fs cbc) := by
  refine ⟨?_, hsmall⟩
  intro cs h
  simp only [toEnc, Option.some.injEq] at h
  subst h
  exact consts_encodable C _

theorem objOfConst_notModule (c : Compile.Const) : NotModule (norm (objOfConst c)) := by
  cases c with
  | val v => cases v <;> simp [objOfConst, objOfCVal, norm, NotModule]
  | fn g => simp [objOfConst, norm, NotModule]

theorem toEnc_FixOK (mods : Mods) (fs : Option FileSet) (cbc : Compile.Bytecode) :
    ∀ cs, (toEnc fs cbc).constants = some cs → ∀ c ∈ cs, FixOK mods c := by
  intro cs h c hc
  simp only [toEnc, Option.some.injEq] at h
  subst h
  obtain ⟨k, _, rfl⟩ := List.mem_map.mp hc
  exact FixOK_notModule mods _ (objOfConst_notModule k)

/-- the counts of a function fit Go's `int` (the compiler bounds NumLocals by 256) -/
def SmallFn (f : Compile.CFn) : Prop := f.numParams < 2 ^ 63 ∧ f.numLocals < 2 ^ 63

def SmallCounts (cbc : Compile.Bytecode) : Prop :=
  SmallFn cbc.main ∧ ∀ c ∈ cbc.constants.toList, ∀ f, c = .fn f → SmallFn f

theorem cfOfCFn_WF (f : Compile.CFn) (h : SmallFn f) : WFCF (cfOfCFn f) := by
  refine ⟨?_, ?_, rfl, ?_⟩
  · simp only [cfOfCFn, toInt_ofNat_small _ h.1]; omega
  · simp only [cfOfCFn, toInt_ofNat_small _ h.2]; omega
  · intro sm hsm
    simp only [cfOfCFn, Option.some.injEq] at hsm
    subst hsm
    exact nodup_keys_mapOfList _

theorem objOfConst_WF (c : Compile.Const) (h : ∀ f, c = .fn f → SmallFn f) : WF (objOfConst c) := by
  cases c with
  | val v => cases v <;> simp [objOfConst, objOfCVal, WF]
  | fn g => simp only [objOfConst, WF]; exact cfOfCFn_WF g (h g rfl)

theorem consts_WF : ∀ cs : List Compile.Const, (∀ c ∈ cs, ∀ f, c = .fn f → SmallFn f) → WFL (cs.map objOfConst)
  | [], _ => by simp [WFL]
  | c :: rest, h => by
    simp only [List.map_cons, WFL]
    exact ⟨objOfConst_WF c (h c (List.mem_cons_self ..)),
      consts_WF rest (fun c' hc' => h c' (List.mem_cons_of_mem _ hc'))⟩

theorem toEnc_WF (fs : Option FileSet) (cbc : Compile.Bytecode) (hs : SmallCounts cbc) : WFBC (toEnc fs cbc) := by
  refine ⟨?_, ?_, (by show (0 : Int) ≤ (0#64 : BitVec 64).toInt; decide)⟩
  · intro f h
    simp only [toEnc, Option.some.injEq] at h
    subst h
    exact cfOfCFn_WF _ hs.1
  · intro cs h
    simp only [toEnc, Option.some.injEq] at h
    subst h
    exact consts_WF _ hs.2

theorem fixObjects_toEnc (mods : Mods) (fs : Option FileSet) (cbc : Compile.Bytecode) (hs : SmallCounts cbc) :
    fixObjects mods (normBC (toEnc fs cbc)) = .ok (toEnc fs cbc) := by
  rw [normBC_of_WF _ (toEnc_WF fs cbc hs)]
  apply fixObjects_id
  intro cs h c hc
  simp only [toEnc, Option.some.injEq] at h
  subst h
  obtain ⟨k, _, rfl⟩ := List.mem_map.mp hc
  have := objOfConst_notModule k
  rwa [norm_of_WF _ (objOfConst_WF k (fun f hf => hs.2 k (by assumption) f hf))] at this

theorem encodeSized_length_le (tag : UInt8) (s : Bytes) (h : s.length < 2 ^ 63) :
    (encodeSized tag s).length ≤ 12 + s.length := by
  unfold encodeSized
  split
  · simp <;> omega
  · have := toBytes_length s.length (inInt64_ofNat _ h)
    simp only [List.length_cons, List.length_append]; omega

theorem encPairs_length_le (sm : List (BitVec 64 × BitVec 64)) : (encPairs sm).length ≤ 22 * sm.length := by
  induction sm with
  | nil => simp [encPairs]
  | cons kv sm ih =>
    have h1 := toBytes_length kv.1.toInt (inInt64_toInt _)
    have h2 := toBytes_length kv.2.toInt (inInt64_toInt _)
    rw [encPairs_cons]; simp only [List.length_append, List.length_cons]; omega

theorem encodeCF_length_le (f : CF) (n m : Nat)
    (hi : ∀ i, f.instructions = some i → i.length ≤ n) (hs : ∀ sm, f.sourceMap = some sm → sm.length ≤ m)
    (hn : n + 22 * m < 2 ^ 62) : (encodeCF f).length ≤ 64 + n + 22 * m := by
  have htmp : (cfTmp f).length ≤ 52 + n + 22 * m := by
    have h0 := toBytes_length f.numParams.toInt (inInt64_toInt _)
    have h1 := toBytes_length f.numLocals.toInt (inInt64_toInt _)
    have p0 : (if 0 < f.numParams.toInt then 0 :: toBytes f.numParams.toInt else []).length ≤ 12 := by
      split <;> simp <;> omega
    have p1 : (if 0 < f.numLocals.toInt then 1 :: toBytes f.numLocals.toInt else []).length ≤ 12 := by
      split <;> simp <;> omega
    have p3 : (if f.variadic then [3] else ([] : Bytes)).length ≤ 1 := by split <;> simp
    unfold cfTmp
    cases hfi : f.instructions with
    | none =>
      cases hfs : f.sourceMap with
      | none => simp only [List.length_append, List.length_nil]; omega
      | some sm =>
        have := hs sm hfs
        have := encPairs_length_le sm
        have := toBytes_length ((sm.length : Int) * 2) (by simp [inInt64]; omega)
        simp only [List.length_append, List.length_nil, List.length_cons]; omega
    | some i =>
      have := hi i hfi
      have := encodeSized_length_le binBytesV1 i (by omega)
      cases hfs : f.sourceMap with
      | none => simp only [List.length_append, List.length_nil, List.length_cons]; omega
      | some sm =>
        have := hs sm hfs
        have := encPairs_length_le sm
        have := toBytes_length ((sm.length : Int) * 2) (by simp [inInt64]; omega)
        simp only [List.length_append, List.length_cons]; omega
  rw [encodeCF_eq]
  have := toBytes_length ((cfTmp f).length : Int) (inInt64_ofNat _ (by omega))
  simp only [List.length_cons, List.length_append]; omega

theorem toNat_ofNat_small (n : Nat) (h : n < 2 ^ 63) : (BitVec.ofNat 64 n).toInt.toNat = n := by
  rw [toInt_ofNat_small n h, Int.toNat_natCast]

theorem codeOfCF_cfOfCFn (f : Compile.CFn) (h : SmallFn f) : codeOfCF (cfOfCFn f) = Eval.codeOfCFn f := by
  unfold codeOfCF cfOfCFn Eval.codeOfCFn
  simp only [Option.getD_some, Array.toArray_toList, toNat_ofNat_small _ h.1, toNat_ofNat_small _ h.2]

def matStep (acc : Array V × State) (c : Compile.Const) : Array V × State :=
  match c with
  | .val v => (acc.1.push (Eval.scalarOfCVal v), acc.2)
  | .fn f => let (v, vm') := Eval.allocFn acc.2 f; (acc.1.push v, vm')

theorem materialize_def (vm : State) (cs : List Compile.Const) :
    Eval.materialize vm cs = cs.foldl matStep (#[], vm) := rfl

theorem materialize_eq (H : Host) : ∀ (cs : List Compile.Const) (acc : Array V) (vm : State),
    (∀ c ∈ cs, ∀ f, c = .fn f → SmallFn f) →
    cs.foldl matStep (acc, vm) =
    (acc ++ (loadList H (cs.map objOfConst) ⟨vm.codes, vm.heap⟩).1.toArray,
     { vm with codes := (loadList H (cs.map objOfConst) ⟨vm.codes, vm.heap⟩).2.codes,
               heap := (loadList H (cs.map objOfConst) ⟨vm.codes, vm.heap⟩).2.heap })
  | [], acc, vm, _ => by simp [loadList]
  | c :: rest, acc, vm, h => by
    have hrest := fun c' hc' => h c' (List.mem_cons_of_mem _ hc')
    cases c with
    | val v =>
      have hstep : matStep (acc, vm) (.val v) = (acc.push (Eval.scalarOfCVal v), vm) := rfl
      have hl : loadObj H (objOfConst (.val v)) ⟨vm.codes, vm.heap⟩ = (Eval.scalarOfCVal v, ⟨vm.codes, vm.heap⟩) := by
        cases v <;> rfl
      rw [List.foldl_cons, hstep, materialize_eq H rest _ vm hrest]
      simp only [List.map_cons, loadList, hl]
      simp
    | fn g =>
      have hg := h (.fn g) (List.mem_cons_self ..) g rfl
      have hstep : matStep (acc, vm) (.fn g) =
          (acc.push (.cfun vm.heap.size),
            { vm with codes := vm.codes.push (Eval.codeOfCFn g), heap := vm.heap.push (.fn vm.codes.size none) }) := rfl
      have hl : loadObj H (objOfConst (.fn g)) ⟨vm.codes, vm.heap⟩ =
          (.cfun vm.heap.size, ⟨vm.codes.push (Eval.codeOfCFn g), vm.heap.push (.fn vm.codes.size none)⟩) := by
        simp only [objOfConst, loadObj, allocCF, codeOfCF_cfOfCFn g hg]
      rw [List.foldl_cons, hstep, materialize_eq H rest _ _ hrest]
      simp only [List.map_cons, loadList, hl]
      simp

/-- `Eval.setBytecode` on a new VM is `NewVM(bc)` as modelled for C10: constants in index order,
    then Main -/
theorem load_toEnc (H : Host) (fs : Option FileSet) (cbc : Compile.Bytecode) (hs : SmallCounts cbc) :
    load H (toEnc fs cbc) = Eval.setBytecode (newState #[] #[] #[] 0 0) cbc.main 0 cbc.constants #[] := by
  rw [load_of_WF H _ (toEnc_WF fs cbc hs)]
  unfold Eval.setBytecode
  rw [materialize_def, List.drop_zero, materialize_eq H _ _ _ hs.2]
  unfold loadRaw toEnc
  simp only [Option.getD_some, allocCF, Eval.allocFn, codeOfCF_cfOfCFn _ hs.1, newState]
  simp

end UgoVerif.Proofs.Enc

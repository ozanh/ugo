import UgoVerif.Model.Enc
/-
  What the decoder model computes on each form of input: one equation per tag of
  `DecodeObject`, per field number of the two field loops, per tag of the size-prefixed
  dispatch, per loop; all hold by computation on the literal tag bytes.  The round-trip proofs
  (C04) and the safety proofs (C18) start from these, so that none unfolds the `if` cascades.
  `res_bind` and `allocs_bind` are the two places where `DM.bind` is unfolded.
-/
namespace UgoVerif.Proofs.Enc
open UgoVerif.Go UgoVerif.Model.Enc UgoVerif.Gen.EncTags

@[simp] theorem res_bind {α β} (x : DM α) (f : α → DM β) :
    (x >>= f).res = x.res >>= fun a => (f a).res := by
  show (DM.bind x f).res = _
  unfold DM.bind
  cases h : x.res <;> simp
@[simp] theorem res_pure {α} (a : α) : (pure a : DM α).res = .ok a := rfl
@[simp] theorem res_liftM {α} (r : Res α) : (liftM r : DM α).res = r := rfl
@[simp] theorem res_ofRes {α} (r : Res α) : (DM.ofRes r).res = r := rfl
@[simp] theorem res_tick (n : Nat) : (DM.tick n).res = .ok () := rfl
theorem res_ite {α} (c : Prop) [Decidable c] (x y : DM α) :
    (if c then x else y).res = if c then x.res else y.res := by split <;> rfl

@[simp] theorem ok_bind {α β} (a : α) (f : α → Res β) : (Res.ok a >>= f) = f a := rfl

theorem lift_ok_bind {α β} (a : α) (f : α → DM β) : (liftM (Res.ok a) : DM α) >>= f = f a := rfl

theorem allocs_bind {α β} (x : DM α) (f : α → DM β) :
    (x >>= f).allocs = x.allocs ++ match x.res with
      | .ok a => (f a).allocs
      | _ => [] := by
  show (DM.bind x f).allocs = _
  unfold DM.bind
  cases x.res <;> simp

/-- slicing is the one Go operation of the decoder, besides `data[0]`, that can panic -/
theorem slice_ok (data : Bytes) (lo hi : Nat) (h1 : lo ≤ hi) (h2 : hi ≤ data.length) :
    slice data lo hi = .ok ((data.drop lo).take (hi - lo)) := if_pos ⟨h1, h2⟩

variable (C : Ctx) (n : Nat) (r rd : Bytes)

theorem decodeObjectF_nil : decodeObjectF C (n + 1) [] = liftM (fail "EOF") := by
  rw [decodeObjectF]; rfl

theorem decodeObjectF_undefined : decodeObjectF C (n + 1) (binUndefinedV1 :: r) = pure (.undefined, r) := by
  rw [decodeObjectF]; rfl

theorem decodeObjectF_bool (b : Bool) :
    decodeObjectF C (n + 1) ((if b then binTrueV1 else binFalseV1) :: r) = pure (.bool b, r) := by
  rw [decodeObjectF]; cases b <;> rfl

theorem decodeObjectF_num (t : UInt8) (h : isNumTag t = true) :
    decodeObjectF C (n + 1) (t :: r) = decodeNum t r := by
  simp only [isNumTag, Bool.or_eq_true, decide_eq_true_eq] at h
  rw [decodeObjectF]
  rcases h with (((rfl | rfl) | rfl) | rfl) <;> rfl

theorem decodeObjectF_sized (t : UInt8) (h : isSizedTag t = true) :
    decodeObjectF C (n + 1) (t :: r) = decodeSized C (cfLoopF C n) (arrayLoopF C n) (mapLoopF C n) t r := by
  simp only [isSizedTag, Bool.or_eq_true, decide_eq_true_eq] at h
  rw [decodeObjectF]
  rcases h with (((((((rfl | rfl) | rfl) | rfl) | rfl) | rfl) | rfl) | rfl) <;> rfl

theorem decodeObjectF_gob : decodeObjectF C (n + 1) (binUnkownType :: r) = decodeGob C r := by
  rw [decodeObjectF]; rfl

theorem arrayLoopF_nil : arrayLoopF C (n + 1) [] = pure [] := by rw [arrayLoopF]; rfl

theorem arrayLoopF_pos (h : 0 < rd.length) : arrayLoopF C (n + 1) rd =
    decodeObjectF C n rd >>= fun p => arrayLoopF C n p.2 >>= fun rest => pure (p.1 :: rest) := by
  cases rd with
  | nil => exact absurd h (Nat.lt_irrefl 0)
  | cons b rd => rw [arrayLoopF]; rfl

theorem mapLoopF_nil : mapLoopF C (n + 1) [] = pure [] := by rw [mapLoopF]; rfl

theorem mapLoopF_pos (h : 0 < rd.length) : mapLoopF C (n + 1) rd =
    liftM (viRead rd) >>= fun k => DM.tick (min k.1.toNat k.2.length) >>= fun _ =>
      liftM (if k.1 > 0 then readFull k.1.toNat k.2 else .ok ([], k.2)) >>= fun q =>
        decodeObjectF C n q.2 >>= fun p => mapLoopF C n p.2 >>= fun rest => pure ((q.1, p.1) :: rest) := by
  cases rd with
  | nil => exact absurd h (Nat.lt_irrefl 0)
  | cons b rd => rw [mapLoopF]; rfl

section sized
variable (cfL : Bytes → CF → DM CF) (arrL : Bytes → DM (List Obj)) (mapL : Bytes → DM (List (Bytes × Obj)))
  (rb p : Bytes)

theorem decodeSizedBuf_cf : decodeSizedBuf C cfL arrL mapL binCompiledFunctionV1 rb p =
    unmarshalCF cfL (binCompiledFunctionV1 :: rb ++ p) >>= fun f => pure (.compiledFunction f) := rfl

theorem decodeSizedBuf_array : decodeSizedBuf C cfL arrL mapL binArrayV1 rb p =
    unmarshalArray arrL (binArrayV1 :: rb ++ p) >>= fun xs => pure (.array xs) := rfl

theorem decodeSizedBuf_bytes : decodeSizedBuf C cfL arrL mapL binBytesV1 rb p =
    liftM (unmarshalBytes (binBytesV1 :: rb ++ p)) >>= fun s => pure (.bytes s) := rfl

theorem decodeSizedBuf_str : decodeSizedBuf C cfL arrL mapL binStringV1 rb p =
    liftM (unmarshalString (binStringV1 :: rb ++ p)) >>= fun s => pure (.str s) := rfl

theorem decodeSizedBuf_map : decodeSizedBuf C cfL arrL mapL binMapV1 rb p =
    unmarshalMap mapL (binMapV1 :: rb ++ p) >>= fun m => pure (.map m) := rfl

theorem decodeSizedBuf_syncMap_nil : decodeSizedBuf C cfL arrL mapL binSyncMapV1 [] p =
    liftM (fail "invalid ugo.SyncMap data") := rfl

theorem decodeSizedBuf_syncMap (a : UInt8) (b : Bytes) : decodeSizedBuf C cfL arrL mapL binSyncMapV1 (a :: b) p =
    if a = 0 then pure (.syncMap true [])
    else unmarshalMap mapL (binMapV1 :: (a :: b) ++ p) >>= fun m => pure (.syncMap false m) := rfl

theorem decodeSizedBuf_function : decodeSizedBuf C cfL arrL mapL binFunctionV1 rb p =
    liftM (unmarshalFuncName binFunctionV1 "ugo.Function" (binFunctionV1 :: rb ++ p)) >>= fun s =>
      pure (.function s) := rfl

theorem decodeSizedBuf_builtin : decodeSizedBuf C cfL arrL mapL binBuiltinFunctionV1 rb p =
    liftM (unmarshalFuncName binBuiltinFunctionV1 "ugo.BuiltinFunction" (binBuiltinFunctionV1 :: rb ++ p)) >>=
      fun s => if C.isBuiltinFn s then pure (.builtinFunction s) else liftM (fail "builtin not found") := rfl

end sized

section cf
variable (f : CF)

theorem cfLoopF_nil : cfLoopF C (n + 1) [] f = pure f := by rw [cfLoopF]; rfl

theorem cfLoopF_f0 : cfLoopF C (n + 1) (0 :: rd) f =
    liftM (viRead rd) >>= fun p => cfLoopF C n p.2 { f with numParams := BitVec.ofInt 64 p.1 } := by
  rw [cfLoopF]; rfl

theorem cfLoopF_f1 : cfLoopF C (n + 1) (1 :: rd) f =
    liftM (viRead rd) >>= fun p => cfLoopF C n p.2 { f with numLocals := BitVec.ofInt 64 p.1 } := by
  rw [cfLoopF]; rfl

theorem cfLoopF_f2 : cfLoopF C (n + 1) (2 :: rd) f =
    decodeObjectF C n rd >>= fun p =>
      match p.1 with
      | .bytes insts => cfLoopF C n p.2 { f with instructions := some insts }
      | _ => liftM (fail "invalid instructions type") := by
  rw [cfLoopF]; rfl

theorem cfLoopF_f3 : cfLoopF C (n + 1) (3 :: rd) f = cfLoopF C n rd { f with variadic := true } := by
  rw [cfLoopF]; rfl

theorem cfLoopF_f4 : cfLoopF C (n + 1) (4 :: rd) f = liftM (fail "unexpected field #4") := by
  rw [cfLoopF]; rfl

theorem cfLoopF_f5 : cfLoopF C (n + 1) (5 :: rd) f =
    liftM (viRead rd) >>= fun p =>
      if p.1 < 0 ∨ p.1 > (p.2.length : Int) then liftM (fail "invalid source map length")
      else DM.tick (24 * (p.1 / 2).toNat) >>= fun _ =>
        liftM (smLoop (p.1 / 2).toNat p.2) >>= fun q =>
          cfLoopF C n q.2 { f with sourceMap := some (mapOfList q.1) } := by
  rw [cfLoopF]; rfl

theorem cfLoopF_other (field : UInt8)
    (h : field ≠ 0 ∧ field ≠ 1 ∧ field ≠ 2 ∧ field ≠ 3 ∧ field ≠ 4 ∧ field ≠ 5) :
    cfLoopF C (n + 1) (field :: rd) f = liftM (fail "unknown field") := by
  obtain ⟨h0, h1, h2, h3, h4, h5⟩ := h
  rw [cfLoopF]
  show (if field = 0 then _ else if field = 1 then _ else if field = 2 then _ else if field = 3 then _
    else if field = 4 then _ else if field = 5 then _ else _) = _
  rw [if_neg h0, if_neg h1, if_neg h2, if_neg h3, if_neg h4, if_neg h5]

end cf

section bc
variable (bc : BC)

theorem bcLoopF_nil : bcLoopF C (n + 1) [] bc = pure bc := by rw [bcLoopF]

theorem bcLoopF_f0 : bcLoopF C (n + 1) (0 :: r) bc =
    decodeObjectF C n r >>= fun p =>
      match p.1 with
      | .int sz =>
        if sz.toInt ≤ 0 then bcLoopF C n p.2 bc
        else if sz.toInt > (p.2.length : Int) then liftM (fail "unexpected EOF")
        else DM.tick sz.toNat >>= fun _ =>
          liftM (readFull sz.toNat p.2) >>= fun q =>
            unmarshalFileSet (decodeObjectF C n) q.1 >>= fun fs =>
              bcLoopF C n q.2 { bc with fileSet := some fs }
      | _ => liftM (fail "invalid file set size type") := by
  rw [bcLoopF]; rfl

theorem bcLoopF_f1 : bcLoopF C (n + 1) (1 :: r) bc =
    decodeObjectF C n r >>= fun p =>
      match p.1 with
      | .compiledFunction f => bcLoopF C n p.2 { bc with main := some f }
      | _ => liftM (fail "invalid main function type") := by
  rw [bcLoopF]; rfl

theorem bcLoopF_f2 : bcLoopF C (n + 1) (2 :: r) bc =
    decodeObjectF C n r >>= fun p =>
      match p.1 with
      | .array xs => bcLoopF C n p.2 { bc with constants := some xs }
      | _ => liftM (fail "invalid constants type") := by
  rw [bcLoopF]; rfl

theorem bcLoopF_f3 : bcLoopF C (n + 1) (3 :: r) bc =
    decodeObjectF C n r >>= fun p =>
      match p.1 with
      | .int k => bcLoopF C n p.2 { bc with numModules := k }
      | _ => liftM (fail "invalid number of modules type") := by
  rw [bcLoopF]; rfl

theorem bcLoopF_other (field : UInt8) (h : field ≠ 0 ∧ field ≠ 1 ∧ field ≠ 2 ∧ field ≠ 3) :
    bcLoopF C (n + 1) (field :: r) bc = liftM (fail "unknown field") := by
  obtain ⟨h0, h1, h2, h3⟩ := h
  rw [bcLoopF]
  show (if field = 0 then _ else if field = 1 then _ else if field = 2 then _ else if field = 3 then _ else _) = _
  rw [if_neg h0, if_neg h1, if_neg h2, if_neg h3]

end bc

end UgoVerif.Proofs.Enc

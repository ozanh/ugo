import UgoVerif.Spec.EncNorm
/-
  `mapOfList` (Go map assignments in list order) is the identity on lists without repeated
  keys, and its result is such a list.  `norm` is the identity on well-formed values
  (`norm_of_WF`) and its result is one (`norm_WF`): a retraction onto `WF`, so idempotence,
  at every level, is `norm_of_WF` at a normal form.
-/
namespace UgoVerif.Proofs.Enc
open UgoVerif.Go UgoVerif.Model.Enc UgoVerif.Spec.Enc

section mapset
variable {κ ν : Type} [BEq κ] [LawfulBEq κ]

def keys (m : List (κ × ν)) : List κ := m.map (·.1)

theorem mapSet_notin (m : List (κ × ν)) (k : κ) (v : ν) (h : k ∉ keys m) : mapSet m k v = m ++ [(k, v)] := by
  induction m with
  | nil => rfl
  | cons kv rest ih =>
    obtain ⟨k', v'⟩ := kv
    simp only [keys, List.map_cons, List.mem_cons, not_or] at h
    have hne : (k' == k) = false := by
      rw [beq_eq_false_iff_ne]; exact fun e => h.1 e.symm
    simp only [mapSet, hne, Bool.false_eq_true, if_false, List.cons_append]
    rw [ih (by simpa [keys] using h.2)]

theorem keys_mapSet_mem (m : List (κ × ν)) (k : κ) (v : ν) (h : k ∈ keys m) : keys (mapSet m k v) = keys m := by
  induction m with
  | nil => simp [keys] at h
  | cons kv rest ih =>
    obtain ⟨k', v'⟩ := kv
    by_cases hk : k' = k
    · subst hk; simp [mapSet, keys]
    · have hne : (k' == k) = false := by rw [beq_eq_false_iff_ne]; exact hk
      have hmem : k ∈ keys rest := by
        simp only [keys, List.map_cons, List.mem_cons] at h
        rcases h with h | h
        · exact absurd h.symm hk
        · exact h
      simp only [mapSet, hne, Bool.false_eq_true, if_false, keys, List.map_cons]
      have := ih hmem
      simp only [keys] at this
      rw [this]

theorem nodup_keys_mapSet (m : List (κ × ν)) (k : κ) (v : ν) (h : (keys m).Nodup) : (keys (mapSet m k v)).Nodup := by
  by_cases hk : k ∈ keys m
  · rw [keys_mapSet_mem m k v hk]; exact h
  · rw [mapSet_notin m k v hk]
    simp only [keys, List.map_append, List.map_cons, List.map_nil]
    rw [List.nodup_append]
    refine ⟨h, by simp, ?_⟩
    intro a ha b hb
    simp at hb; subst hb
    intro e; subst e; exact hk ha

theorem foldl_mapSet_nodup (l : List (κ × ν)) : ∀ acc : List (κ × ν), (keys acc).Nodup →
    (keys (l.foldl (fun m kv => mapSet m kv.1 kv.2) acc)).Nodup := by
  induction l with
  | nil => intro acc h; exact h
  | cons kv rest ih => intro acc h; exact ih _ (nodup_keys_mapSet acc kv.1 kv.2 h)

theorem nodup_keys_mapOfList (l : List (κ × ν)) : (keys (mapOfList l)).Nodup :=
  foldl_mapSet_nodup l [] (by simp [keys])

theorem foldl_mapSet_of_nodup (l : List (κ × ν)) : ∀ acc : List (κ × ν), (keys (acc ++ l)).Nodup →
    l.foldl (fun m kv => mapSet m kv.1 kv.2) acc = acc ++ l := by
  induction l with
  | nil => intro acc _; simp
  | cons kv rest ih =>
    intro acc h
    obtain ⟨k, v⟩ := kv
    have hk : k ∉ keys acc := by
      simp only [keys, List.map_append, List.map_cons] at h
      rw [List.nodup_append] at h
      intro hmem
      exact h.2.2 k (by simpa [keys] using hmem) k (by simp) rfl
    simp only [List.foldl_cons]
    rw [mapSet_notin acc k v hk, ih _ (by simpa using h)]
    simp

theorem mapOfList_of_nodup (l : List (κ × ν)) (h : (keys l).Nodup) : mapOfList l = l := by
  have := foldl_mapSet_of_nodup l [] (by simpa using h)
  simpa [mapOfList] using this

theorem mapOfList_idem (l : List (κ × ν)) : mapOfList (mapOfList l) = mapOfList l :=
  mapOfList_of_nodup _ (nodup_keys_mapOfList l)

theorem mem_mapSet (m : List (κ × ν)) (k : κ) (v : ν) (x : κ × ν) (h : x ∈ mapSet m k v) : x ∈ m ∨ x = (k, v) := by
  induction m with
  | nil => exact .inr (List.mem_singleton.1 h)
  | cons kv rest ih =>
    obtain ⟨k', v'⟩ := kv
    unfold mapSet at h
    split at h
    · rename_i hk
      cases eq_of_beq hk
      exact (List.mem_cons.1 h).symm.imp (List.mem_cons_of_mem _) id
    · rcases List.mem_cons.1 h with rfl | h
      · exact .inl List.mem_cons_self
      · exact (ih h).imp (List.mem_cons_of_mem _) id

theorem mem_foldl_mapSet (l : List (κ × ν)) (x : κ × ν) : ∀ acc : List (κ × ν),
    x ∈ l.foldl (fun m kv => mapSet m kv.1 kv.2) acc → x ∈ acc ∨ x ∈ l := by
  induction l with
  | nil => exact fun _ => .inl
  | cons kv rest ih =>
    intro acc h
    rcases ih _ h with h | h
    · exact (mem_mapSet acc kv.1 kv.2 x h).imp id fun (e : x = kv) => e ▸ List.mem_cons_self
    · exact .inr (List.mem_cons_of_mem _ h)

theorem mem_mapOfList (l : List (κ × ν)) (x : κ × ν) (h : x ∈ mapOfList l) : x ∈ l :=
  (mem_foldl_mapSet l x [] h).resolve_left (List.not_mem_nil)

end mapset

theorem posOrZero_nonneg (v : BitVec 64) : 0 ≤ (if 0 < v.toInt then v else 0).toInt := by
  split
  · omega
  · decide

theorem posOrZero_of_nonneg {v : BitVec 64} (h : 0 ≤ v.toInt) : (if 0 < v.toInt then v else 0) = v := by
  split
  · rfl
  · have : v.toInt = 0 := by omega
    exact (BitVec.toInt_inj.mp (by simpa using this)).symm

/-- well-formed compiled function: what the compiler produces as a constant -/
structure WFCF (f : CF) : Prop where
  params : 0 ≤ f.numParams.toInt
  locals : 0 ≤ f.numLocals.toInt
  noFree : f.numFree = 0
  smKeys : ∀ sm, f.sourceMap = some sm → (keys sm).Nodup

theorem normCF_of_WF (f : CF) (h : WFCF f) : normCF f = f := by
  obtain ⟨np, nl, ins, va, nf, sm⟩ := f
  obtain ⟨h1, h2, h3, h4⟩ := h
  simp only at h1 h2 h3 h4
  unfold normCF
  simp only
  rw [posOrZero_of_nonneg h1, posOrZero_of_nonneg h2, h3]
  cases sm with
  | none => rfl
  | some sm => simp [mapOfList_of_nodup sm (h4 sm rfl)]

theorem normCF_WF (f : CF) : WFCF (normCF f) :=
  ⟨posOrZero_nonneg _, posOrZero_nonneg _, rfl, fun sm h => by
    obtain ⟨sm', _, rfl⟩ := Option.map_eq_some_iff.1 h
    exact nodup_keys_mapOfList sm'⟩

mutual
/-- well-formed values: map keys are unique (they are Go maps), a nil SyncMap has no entries,
    compiled functions are well-formed -/
def WF : Obj → Prop
  | .array xs => WFL xs
  | .map kvs => (keys kvs).Nodup ∧ WFKV kvs
  | .syncMap true kvs => kvs = []
  | .syncMap false kvs => (keys kvs).Nodup ∧ WFKV kvs
  | .compiledFunction f => WFCF f
  | _ => True
def WFL : List Obj → Prop
  | [] => True
  | x :: xs => WF x ∧ WFL xs
def WFKV : List (Bytes × Obj) → Prop
  | [] => True
  | (_, v) :: rest => WF v ∧ WFKV rest
end

mutual
theorem norm_of_WF : ∀ o : Obj, WF o → norm o = o
  | .array xs, h => by simp only [norm]; rw [normList_of_WF xs (by simpa [WF] using h)]
  | .map kvs, h => by
    simp only [WF] at h
    simp only [norm]
    rw [normKVs_of_WF kvs h.2, mapOfList_of_nodup kvs h.1]
  | .syncMap true kvs, h => by simp only [WF] at h; subst h; rfl
  | .syncMap false kvs, h => by
    simp only [WF] at h
    simp only [norm]
    rw [normKVs_of_WF kvs h.2, mapOfList_of_nodup kvs h.1]
  | .compiledFunction f, h => by simp only [norm]; rw [normCF_of_WF f (by simpa [WF] using h)]
  | .nil, _ | .undefined, _ | .bool _, _ | .int _, _ | .uint _, _ | .char _, _ | .float _, _ | .str _, _ | .bytes _, _
  | .function _, _ | .builtinFunction _, _ | .gob _ _, _ => rfl
theorem normList_of_WF : ∀ xs : List Obj, WFL xs → normList xs = xs
  | [], _ => rfl
  | x :: xs, h => by
    simp only [WFL] at h
    simp only [normList]; rw [norm_of_WF x h.1, normList_of_WF xs h.2]
theorem normKVs_of_WF : ∀ kvs : List (Bytes × Obj), WFKV kvs → normKVs kvs = kvs
  | [], _ => rfl
  | (k, v) :: kvs, h => by
    simp only [WFKV] at h
    simp only [normKVs]; rw [norm_of_WF v h.1, normKVs_of_WF kvs h.2]
end

theorem normKVs_eq_map (kvs : List (Bytes × Obj)) : normKVs kvs = kvs.map (fun kv => (kv.1, norm kv.2)) := by
  induction kvs with
  | nil => rfl
  | cons kv rest ih => obtain ⟨k, v⟩ := kv; simp [normKVs, ih]

theorem WFKV_iff : ∀ kvs : List (Bytes × Obj), WFKV kvs ↔ ∀ kv ∈ kvs, WF kv.2
  | [] => by simp [WFKV]
  | (k, v) :: kvs => by simp [WFKV, WFKV_iff kvs]

theorem WFKV.mapOfList {kvs : List (Bytes × Obj)} (h : WFKV kvs) : WFKV (mapOfList kvs) :=
  (WFKV_iff _).2 fun kv hkv => (WFKV_iff kvs).1 h kv (mem_mapOfList kvs kv hkv)

mutual
theorem norm_WF : ∀ o : Obj, WF (norm o)
  | .array xs => by simp only [norm, WF]; exact normList_WF xs
  | .map kvs | .syncMap false kvs => by
    simp only [norm, WF]; exact ⟨nodup_keys_mapOfList _, (normKVs_WF kvs).mapOfList⟩
  | .syncMap true _ => by simp only [norm, WF]
  | .compiledFunction f => by simp only [norm, WF]; exact normCF_WF f
  | .nil | .undefined | .bool _ | .int _ | .uint _ | .char _ | .float _ | .str _ | .bytes _ | .function _
  | .builtinFunction _ | .gob _ _ => by simp only [norm, WF]
theorem normList_WF : ∀ xs : List Obj, WFL (normList xs)
  | [] => trivial
  | x :: xs => ⟨norm_WF x, normList_WF xs⟩
theorem normKVs_WF : ∀ kvs : List (Bytes × Obj), WFKV (normKVs kvs)
  | [] => trivial
  | (_, v) :: kvs => ⟨norm_WF v, normKVs_WF kvs⟩
end

theorem norm_idem : ∀ o : Obj, norm (norm o) = norm o := fun o => norm_of_WF _ (norm_WF o)

theorem normKVs_idem : ∀ kvs : List (Bytes × Obj), normKVs (normKVs kvs) = normKVs kvs :=
  fun kvs => normKVs_of_WF _ (normKVs_WF kvs)

/-- well-formed bytecode: what `Compile` returns, as far as the serializer can tell — compiled
    functions are well-formed (`WFCF`: counts ≥ 0, no free variables, source-map keys unique),
    constants are well-formed values, the module count is not negative -/
structure WFBC (bc : BC) : Prop where
  main : ∀ f, bc.main = some f → WFCF f
  consts : ∀ cs, bc.constants = some cs → WFL cs
  mods : 0 ≤ bc.numModules.toInt

theorem normBC_of_WF (bc : BC) (h : WFBC bc) : normBC bc = bc := by
  obtain ⟨fs, mn, cs, nm⟩ := bc
  obtain ⟨h1, h2, h3⟩ := h
  simp only at h1 h2 h3
  unfold normBC
  simp only
  rw [posOrZero_of_nonneg h3]
  cases mn with
  | none =>
    cases cs with
    | none => rfl
    | some cs => simp [normList_of_WF cs (h2 cs rfl)]
  | some f =>
    cases cs with
    | none => simp [normCF_of_WF f (h1 f rfl)]
    | some cs => simp [normCF_of_WF f (h1 f rfl), normList_of_WF cs (h2 cs rfl)]

theorem normBC_WF (bc : BC) : WFBC (normBC bc) :=
  ⟨fun f h => by obtain ⟨g, _, rfl⟩ := Option.map_eq_some_iff.1 h; exact normCF_WF g,
   fun cs h => by obtain ⟨xs, _, rfl⟩ := Option.map_eq_some_iff.1 h; exact normList_WF xs,
   posOrZero_nonneg _⟩

theorem normBC_idem (bc : BC) : normBC (normBC bc) = normBC bc := normBC_of_WF _ (normBC_WF bc)

end UgoVerif.Proofs.Enc

namespace UgoVerif.Proofs.Enc
open UgoVerif.Go UgoVerif.Model.Enc UgoVerif.Spec.Enc

theorem goType_norm (o : Obj) : goType (norm o) = goType o := by
  cases o with
  | syncMap b kvs => cases b <;> rfl
  | _ => rfl

theorem lookupKV_normKVs (k : Bytes) (kvs : List (Bytes × Obj)) :
    lookupKV k (normKVs kvs) = (lookupKV k kvs).map norm := by
  induction kvs with
  | nil => rfl
  | cons kv rest ih =>
    obtain ⟨k', v⟩ := kv
    simp only [normKVs, lookupKV]
    split
    · rfl
    · exact ih

theorem fixItems_rebinds (attrs : List (Bytes × Obj)) (name : Bytes) : ∀ (items : List (Bytes × Obj)),
    (∀ k v, (k, v) ∈ items → (k = attrModuleName ∧ v = .str name) ∨
      (k ≠ attrModuleName ∧ lookupKV k attrs = some v)) →
    fixItems attrs (normKVs items) = .ok items := by
  intro items
  induction items with
  | nil => intro _; rfl
  | cons kv rest ih =>
    intro h
    obtain ⟨k, v⟩ := kv
    have hrest := ih (fun k' v' hm => h k' v' (List.mem_cons_of_mem _ hm))
    simp only [normKVs, fixItems]
    rcases h k v (List.mem_cons_self ..) with ⟨hk, hv⟩ | ⟨hk, hv⟩
    · subst hk; subst hv
      simp [hrest, norm]
    · have hne : (k == attrModuleName) = false := by rw [beq_eq_false_iff_ne]; exact hk
      simp only [hne, Bool.false_eq_true, if_false, hv, Option.getD_some, goType_norm, bne_self_eq_false, hrest]
      rfl

theorem fix_rebinds (mods : Mods) (name : Bytes) (attrs items : List (Bytes × Obj))
    (hm : mods name = some attrs)
    (hname : lookupKV attrModuleName items = some (.str name))
    (hitems : ∀ k v, (k, v) ∈ items → (k = attrModuleName ∧ v = .str name) ∨
      (k ≠ attrModuleName ∧ lookupKV k attrs = some v)) :
    fixConst mods (.map (normKVs items)) = .ok (.map items) := by
  unfold fixConst
  simp only [lookupKV_normKVs, hname, Option.map_some, norm, hm, fixItems_rebinds attrs name items hitems]
  rfl

end UgoVerif.Proofs.Enc

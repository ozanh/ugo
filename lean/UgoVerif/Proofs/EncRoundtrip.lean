import UgoVerif.Proofs.EncVarint
import UgoVerif.Proofs.EncEqs
import UgoVerif.Spec.EncNorm
/-
  The decoder model applied to the encoder model's output: `rt_obj` (with `rt_list`, `rt_kvs`)
  reads `encodeObject C o` back as `norm o`.  The four numeric kinds share one buffer shape
  (`rt_numBuf`), the size-prefixed kinds go through `decodeSized_encD`, the field loops of
  compiled functions and bytecode through `Reads.field`.
-/
namespace UgoVerif.Proofs.Enc
open UgoVerif.Go UgoVerif.Model.Enc UgoVerif.Gen.EncTags UgoVerif.Spec.Enc

/-- discharge `if`s whose conditions are linear arithmetic facts -/
macro "ifs" : tactic =>
  `(tactic| repeat (first | rw [if_neg (by omega)] | rw [if_pos (by omega)]))

theorem tags_distinct : (allTags.map (·.2)).Nodup := by decide

theorem inInt64_toInt (v : BitVec 64) : inInt64 v.toInt = true := by
  have h1 := BitVec.toInt_lt (x := v)
  have h2 := BitVec.le_toInt (x := v)
  simp [inInt64]; omega

theorem inInt64_toInt32 (v : BitVec 32) : inInt64 v.toInt = true ∧ inInt32 v.toInt = true := by
  have h1 := BitVec.toInt_lt (x := v)
  have h2 := BitVec.le_toInt (x := v)
  simp [inInt64, inInt32]; omega

theorem inInt64_ofNat (n : Nat) (h : n < 2 ^ 63) : inInt64 (n : Int) = true := by
  simp [inInt64]; omega

theorem toInt_ofNat_small (n : Nat) (h : n < 2 ^ 63) : (BitVec.ofNat 64 n).toInt = (n : Int) := by
  rw [BitVec.toInt_eq_toNat_cond]
  simp only [BitVec.toNat_ofNat]
  have : n % 2 ^ 64 = n := Nat.mod_eq_of_lt (by omega)
  rw [this]
  split <;> omega

theorem readFull_append (p rest : Bytes) : readFull p.length (p ++ rest) = .ok (p, rest) := by
  unfold readFull
  rw [if_neg (by simp)]
  simp

/-- the payload read that is skipped for an empty payload (`DecodeObject`, map keys) -/
theorem readFull_opt_append (c : Prop) [Decidable c] (p rest : Bytes) (h : ¬ c → p.length = 0) :
    (if c then readFull p.length (p ++ rest) else .ok ([], p ++ rest)) = .ok (p, rest) := by
  split
  · exact readFull_append p rest
  · rw [List.eq_nil_of_length_eq_zero (h ‹_›)]; rfl

/-- the shape of the four numeric `MarshalBinary` -/
def numBuf (t : UInt8) (z : Prop) [Decidable z] (p : Bytes) : Bytes :=
  if z then [t, 0] else t :: UInt8.ofNat p.length :: p

theorem rt_numBuf (C : Ctx) (n : Nat) (t : UInt8) (ht : isNumTag t = true) (z : Prop) [Decidable z] (p rest : Bytes)
    (hp : p.length ≤ 10) :
    (decodeObjectF C (n + 1) (numBuf t z p ++ rest)).res =
      if t = binIntV1 then unmarshalInt (numBuf t z p) >>= fun v => .ok (.int v, rest)
      else if t = binUintV1 then unmarshalUint (numBuf t z p) >>= fun v => .ok (.uint v, rest)
      else if t = binFloatV1 then unmarshalFloat (numBuf t z p) >>= fun v => .ok (.float v, rest)
      else unmarshalChar (numBuf t z p) >>= fun v => .ok (.char v, rest) := by
  obtain ⟨sz, q, he, hsz⟩ : ∃ sz q, numBuf t z p = t :: sz :: q ∧ sz.toNat = q.length := by
    unfold numBuf; split
    · exact ⟨0, [], rfl, rfl⟩
    · exact ⟨_, _, rfl, lenByte _ hp⟩
  rw [he, List.cons_append, List.cons_append, decodeObjectF_num _ _ _ _ ht]
  unfold decodeNum
  simp only [readByte, res_bind, res_liftM, ok_bind, res_tick, hsz, readFull_opt_append (q.length > 0) q rest (by omega),
    res_ite, res_pure]

theorem unmarshalInt_enc (v : BitVec 64) : unmarshalInt (encodeInt v) = .ok v := by
  unfold encodeInt; split
  · rename_i h; subst h; rfl
  · obtain ⟨h1, h10⟩ := putVarint_len v.toInt (inInt64_toInt v)
    have hv := varint_put v.toInt [] (inInt64_toInt v)
    rw [List.append_nil] at hv
    simp [unmarshalInt, lenByte _ h10, lenByte_ne_zero _ h1 h10, hv]
    ifs

theorem unmarshalUint_enc (v : BitVec 64) : unmarshalUint (encodeUint v) = .ok v := by
  unfold encodeUint; split
  · rename_i h; subst h; rfl
  · have h1 := putUvarint_length_pos v.toNat
    have h10 := putUvarint_len10 v.toNat v.isLt
    have hv := uvarint_put v.toNat [] v.isLt
    rw [List.append_nil] at hv
    simp [unmarshalUint, lenByte _ h10, lenByte_ne_zero _ h1 h10, hv]
    ifs

theorem unmarshalFloat_enc (v : F64) : unmarshalFloat (encodeFloat v) = .ok v := by
  unfold encodeFloat; split
  · rename_i h; subst h; rfl
  · have h1 := putUvarint_length_pos v.toNat
    have h10 := putUvarint_len10 v.toNat v.isLt
    have hv := uvarint_put v.toNat [] v.isLt
    rw [List.append_nil] at hv
    simp [unmarshalFloat, lenByte _ h10, lenByte_ne_zero _ h1 h10, hv]
    ifs

theorem unmarshalChar_enc (v : BitVec 32) : unmarshalChar (encodeChar v) = .ok v := by
  unfold encodeChar; split
  · rename_i h; subst h; rfl
  · obtain ⟨hi64, hi32⟩ := inInt64_toInt32 v
    obtain ⟨h1, h10⟩ := putVarint_len v.toInt hi64
    have hv := varint_put v.toInt [] hi64
    rw [List.append_nil] at hv
    simp [unmarshalChar, lenByte _ h10, lenByte_ne_zero _ h1 h10, hv, hi32]
    ifs

/-- `rb` is any size prefix that reads as the payload length: `[0]` in the short form `[tag, 0]`, else
    `toBytes p.length` -/
theorem decodeSized_encD (C : Ctx) (cfL arrL mapL) (btype : UInt8) (rb p rest : Bytes)
    (hrb : viReadBytes (rb ++ (p ++ rest)) = .ok ((p.length : Int), rb, p ++ rest)) :
    decodeSized C cfL arrL mapL btype (rb ++ p ++ rest) =
      DM.tick (1 + rb.length + p.length) >>= fun _ =>
        decodeSizedBuf C cfL arrL mapL btype rb p >>= fun o => pure (o, rest) := by
  unfold decodeSized
  rw [List.append_assoc, hrb, lift_ok_bind]
  dsimp only
  rw [if_neg (by omega), Int.toNat_natCast, readFull_opt_append _ p rest (by omega), List.length_append,
    Nat.min_eq_left (Nat.le_add_right _ _)]
  rfl

theorem slice_mid (a p : Bytes) : slice (a ++ p) a.length (a.length + p.length) = .ok p := by
  rw [slice_ok _ _ _ (Nat.le_add_right _ _) (by simp)]
  simp

theorem slice_payload (tag : UInt8) (a p : Bytes) (hi : Nat) (h : hi = 1 + a.length + p.length) :
    slice (tag :: a ++ p) (1 + a.length) hi = .ok p := by
  subst h
  have := slice_mid (tag :: a) p
  rwa [List.length_cons, Nat.add_comm a.length 1] at this

theorem sizedPayload_enc (tag : UInt8) (what : String) (p : Bytes) (h0 : 0 < p.length) (hp : p.length < 2 ^ 63) :
    sizedPayload tag what (tag :: toBytes p.length ++ p) = .ok (some p) := by
  have hin := inInt64_ofNat p.length hp
  have hv := toVarint_toBytes p.length p hin
  have hs := slice_payload tag (toBytes p.length) p
  obtain ⟨a, b, hab⟩ : ∃ a b, toBytes p.length = a :: b := ⟨_, _, rfl⟩
  rw [hab] at hv hs
  simp only [List.cons_append, List.length_cons] at hv hs
  simp only [sizedPayload, hab, List.cons_append, ne_eq, not_true_eq_false, if_false, hv, List.length_cons,
    List.length_append]
  rw [if_neg (by omega), if_neg (by omega), if_neg (by omega), hs _ (by omega)]
theorem sizedPayload_zero (tag : UInt8) (what : String) : sizedPayload tag what [tag, 0] = .ok none := by
  simp [sizedPayload, toVarint]

/-- empty payload written in the long form `tag :: toBytes 0` (maps) -/
theorem sizedPayload_toBytes0 (tag : UInt8) (what : String) :
    sizedPayload tag what (tag :: toBytes 0 ++ []) = .ok none := by
  have := toVarint_toBytes 0 [] (by decide)
  unfold sizedPayload
  cases htb : toBytes 0 with
  | nil => simp [toBytes] at htb
  | cons a b =>
    rw [htb] at this
    simp only [List.append_nil] at this ⊢
    rw [if_neg (by simp), this]
    simp

theorem unmarshalString_enc (s : Bytes) (hp : s.length < 2 ^ 63) :
    unmarshalString (encodeSized binStringV1 s) = .ok s := by
  unfold encodeSized unmarshalString
  by_cases h0 : s.length = 0
  · have : s = [] := List.eq_nil_of_length_eq_zero h0
    subst this
    rw [if_pos h0, sizedPayload_zero]
  · rw [if_neg h0, sizedPayload_enc _ _ s (by omega) hp]

theorem unmarshalBytes_enc (s : Bytes) (hp : s.length < 2 ^ 63) :
    unmarshalBytes (encodeSized binBytesV1 s) = .ok s := by
  unfold encodeSized unmarshalBytes
  by_cases h0 : s.length = 0
  · have : s = [] := List.eq_nil_of_length_eq_zero h0
    subst this
    rw [if_pos h0, sizedPayload_zero]
  · rw [if_neg h0, sizedPayload_enc _ _ s (by omega) hp]

theorem encodeSized_length (tag : UInt8) (s : Bytes) :
    2 ≤ (encodeSized tag s).length ∧ s.length ≤ (encodeSized tag s).length := by
  unfold encodeSized
  split
  · simp only [List.length_cons, List.length_nil]; omega
  · have := toBytes_length_ge s.length
    simp only [List.length_cons, List.length_append]; omega

theorem unmarshalFuncName_enc (tag : UInt8) (what : String) (name : Bytes)
    (hs : (encodeSized binStringV1 name).length < 2 ^ 63) :
    unmarshalFuncName tag what (encodeFuncName tag name) = .ok name := by
  obtain ⟨h2, hname⟩ := encodeSized_length binStringV1 name
  replace hname : name.length < 2 ^ 63 := Nat.lt_of_le_of_lt hname hs
  have hin := inInt64_ofNat _ hs
  have hv := toVarint_toBytes _ (encodeSized binStringV1 name) hin
  have hsl := slice_payload tag (toBytes (encodeSized binStringV1 name).length) (encodeSized binStringV1 name)
  obtain ⟨a, b, hab⟩ : ∃ a b, toBytes (encodeSized binStringV1 name).length = a :: b := ⟨_, _, rfl⟩
  rw [hab] at hv hsl
  simp only [List.cons_append, List.length_cons] at hv hsl
  simp only [unmarshalFuncName, encodeFuncName, hab, List.cons_append, ne_eq, not_true_eq_false, if_false, hv, ok_bind,
    List.length_cons, List.length_append]
  rw [if_neg (by omega), hsl _ (by omega)]
  exact unmarshalString_enc name hname

theorem rt_prefixed (C : Ctx) (n : Nat) (t : UInt8) (rb p rest : Bytes) (ht : isSizedTag t = true)
    (hrb : viReadBytes (rb ++ (p ++ rest)) = .ok ((p.length : Int), rb, p ++ rest)) :
    (decodeObjectF C (n + 1) (t :: rb ++ p ++ rest)).res =
      (decodeSizedBuf C (cfLoopF C n) (arrayLoopF C n) (mapLoopF C n) t rb p).res >>= fun o => .ok (o, rest) := by
  rw [List.cons_append, List.cons_append, decodeObjectF_sized _ _ _ _ ht, decodeSized_encD _ _ _ _ _ _ _ _ hrb]
  simp only [res_bind, res_tick, ok_bind, res_pure]

theorem rt_sized (C : Ctx) (n : Nat) (t : UInt8) (p rest : Bytes) (ht : isSizedTag t = true) (hp : p.length < 2 ^ 63) :
    (decodeObjectF C (n + 1) (t :: toBytes p.length ++ p ++ rest)).res =
      (decodeSizedBuf C (cfLoopF C n) (arrayLoopF C n) (mapLoopF C n) t (toBytes p.length) p).res >>=
        fun o => .ok (o, rest) :=
  rt_prefixed C n t _ p rest ht (viReadBytes_toBytes _ _ (inInt64_ofNat _ hp))

theorem rt_sized_zero (C : Ctx) (n : Nat) (t : UInt8) (rest : Bytes) (ht : isSizedTag t = true) :
    (decodeObjectF C (n + 1) (t :: 0 :: rest)).res =
      (decodeSizedBuf C (cfLoopF C n) (arrayLoopF C n) (mapLoopF C n) t [0] []).res >>= fun o => .ok (o, rest) :=
  rt_prefixed C n t [0] [] rest ht rfl

theorem cons_tail_of_head {t : UInt8} {l : Bytes} (h : l.head? = some t) : l = t :: l.tail := by
  cases l with
  | nil => simp at h
  | cons a b => simp at h; subst h; rfl

theorem rt_encodeSized (C : Ctx) (n : Nat) (t : UInt8) (s rest : Bytes) (ht : isSizedTag t = true)
    (hp : s.length < 2 ^ 63) :
    ∃ rb p, encodeSized t s = t :: rb ++ p ∧
      (decodeObjectF C (n + 1) (encodeSized t s ++ rest)).res =
        (decodeSizedBuf C (cfLoopF C n) (arrayLoopF C n) (mapLoopF C n) t rb p).res >>= fun o => .ok (o, rest) := by
  unfold encodeSized
  split
  · exact ⟨[0], [], rfl, rt_sized_zero C n t rest ht⟩
  · exact ⟨_, _, rfl, rt_sized C n t s rest ht hp⟩

theorem rt_bytes (C : Ctx) (n : Nat) (s rest : Bytes) (hp : s.length < 2 ^ 63) :
    (decodeObjectF C (n + 1) (encodeSized binBytesV1 s ++ rest)).res = .ok (.bytes s, rest) := by
  obtain ⟨rb, p, he, hd⟩ := rt_encodeSized C n binBytesV1 s rest rfl hp
  rw [hd, decodeSizedBuf_bytes, ← he]
  simp only [res_bind, res_liftM, res_pure, unmarshalBytes_enc s hp, ok_bind]

theorem rt_str (C : Ctx) (n : Nat) (s rest : Bytes) (hp : s.length < 2 ^ 63) :
    (decodeObjectF C (n + 1) (encodeSized binStringV1 s ++ rest)).res = .ok (.str s, rest) := by
  obtain ⟨rb, p, he, hd⟩ := rt_encodeSized C n binStringV1 s rest rfl hp
  rw [hd, decodeSizedBuf_str, ← he]
  simp only [res_bind, res_liftM, res_pure, unmarshalString_enc s hp, ok_bind]

theorem encodeFuncName_small (tag : UInt8) (name : Bytes) (h : (encodeFuncName tag name).length < 2 ^ 63) :
    (encodeSized binStringV1 name).length < 2 ^ 63 := by
  unfold encodeFuncName at h
  simp only [List.length_cons, List.length_append] at h
  omega

theorem rt_function (C : Ctx) (n : Nat) (name rest : Bytes)
    (hsmall : (encodeFuncName binFunctionV1 name).length < 2 ^ 63) :
    (decodeObjectF C (n + 1) (encodeFuncName binFunctionV1 name ++ rest)).res = .ok (.function name, rest) := by
  have hs := encodeFuncName_small _ _ hsmall
  have hu := unmarshalFuncName_enc binFunctionV1 "ugo.Function" name hs
  dsimp only [encodeFuncName] at hu ⊢
  rw [rt_sized _ _ _ _ _ rfl hs, decodeSizedBuf_function]
  simp only [res_bind, res_liftM, res_pure, hu, ok_bind]

theorem rt_builtin (C : Ctx) (n : Nat) (name rest : Bytes) (hb : C.isBuiltinFn name = true)
    (hsmall : (encodeFuncName binBuiltinFunctionV1 name).length < 2 ^ 63) :
    (decodeObjectF C (n + 1) (encodeFuncName binBuiltinFunctionV1 name ++ rest)).res =
      .ok (.builtinFunction name, rest) := by
  have hs := encodeFuncName_small _ _ hsmall
  have hu := unmarshalFuncName_enc binBuiltinFunctionV1 "ugo.BuiltinFunction" name hs
  dsimp only [encodeFuncName] at hu ⊢
  rw [rt_sized _ _ _ _ _ rfl hs, decodeSizedBuf_builtin]
  simp only [res_bind, res_liftM, res_pure, hu, ok_bind, hb, if_true]

theorem succ_of_pos {n : Nat} (h : 1 ≤ n) : ∃ m, n = m + 1 := ⟨n - 1, by omega⟩

/-- Both field loops (`cfLoopF`, `bcLoopF`) read a sequence of optional fields written in
    ascending order.  A field that is present costs one unit of fuel and changes the state;
    an absent one leaves both alone (`Reads.field`). -/
def Reads {σ} (loop : Nat → Bytes → σ → DM σ) (k : Nat) (r : Bytes) (g : σ) (R : Res σ) : Prop :=
  ∀ m, k ≤ m → (loop m r g).res = R

section reads
variable {σ : Type} {loop : Nat → Bytes → σ → DM σ} {k : Nat} {s tl : Bytes} {g g' : σ} {R : Res σ}

theorem Reads.mono {k'} (h : Reads loop k tl g R) (hk : k ≤ k') : Reads loop k' tl g R :=
  fun m hm => h m (Nat.le_trans hk hm)

theorem Reads.field (hs : (s = [] ∧ g' = g) ∨ ∀ m, k ≤ m → (loop (m + 1) (s ++ tl) g).res = (loop m tl g').res)
    (h : Reads loop k tl g' R) : Reads loop (k + 1) (s ++ tl) g R := by
  rcases hs with ⟨rfl, rfl⟩ | hstep
  · exact h.mono (Nat.le_succ k)
  · intro m hm
    obtain ⟨m, rfl⟩ := succ_of_pos (show 1 ≤ m by omega)
    rw [hstep m (by omega)]; exact h m (by omega)

end reads

def encPairs (sm : List (BitVec 64 × BitVec 64)) : Bytes :=
  (sm.map fun kv => toBytes kv.1.toInt ++ toBytes kv.2.toInt).flatten

theorem encPairs_cons (kv : BitVec 64 × BitVec 64) (sm) :
    encPairs (kv :: sm) = toBytes kv.1.toInt ++ toBytes kv.2.toInt ++ encPairs sm := by
  simp [encPairs]

theorem encPairs_length (sm : List (BitVec 64 × BitVec 64)) : 4 * sm.length ≤ (encPairs sm).length := by
  induction sm with
  | nil => simp [encPairs]
  | cons kv sm ih =>
    have h1 := toBytes_length kv.1.toInt (inInt64_toInt _)
    have h2 := toBytes_length kv.2.toInt (inInt64_toInt _)
    rw [encPairs_cons]; simp only [List.length_append, List.length_cons]; omega

theorem smLoop_enc (sm : List (BitVec 64 × BitVec 64)) (tl : Bytes) :
    smLoop sm.length (encPairs sm ++ tl) = .ok (sm, tl) := by
  induction sm with
  | nil => simp [smLoop, encPairs]
  | cons kv sm ih =>
    rw [encPairs_cons]
    simp only [List.length_cons, smLoop, List.append_assoc, viRead_toBytes _ _ (inInt64_toInt _), ok_bind, ih,
      BitVec.ofInt_toInt]
    rfl

theorem cf_end (C : Ctx) (g : CF) : Reads (cfLoopF C) 1 [] g (.ok g) := by
  intro m hm
  obtain ⟨m, rfl⟩ := succ_of_pos hm
  rw [cfLoopF_nil]; rfl

theorem cf_step0 (C : Ctx) (n : Nat) (v : BitVec 64) (tl : Bytes) (g : CF) :
    (cfLoopF C (n + 1) (0 :: toBytes v.toInt ++ tl) g).res =
      (cfLoopF C n tl { g with numParams := v }).res := by
  rw [List.cons_append, cfLoopF_f0]
  simp only [res_bind, res_liftM, viRead_toBytes _ _ (inInt64_toInt _), ok_bind, BitVec.ofInt_toInt]

theorem cf_step1 (C : Ctx) (n : Nat) (v : BitVec 64) (tl : Bytes) (g : CF) :
    (cfLoopF C (n + 1) (1 :: toBytes v.toInt ++ tl) g).res =
      (cfLoopF C n tl { g with numLocals := v }).res := by
  rw [List.cons_append, cfLoopF_f1]
  simp only [res_bind, res_liftM, viRead_toBytes _ _ (inInt64_toInt _), ok_bind, BitVec.ofInt_toInt]

theorem cf_step3 (C : Ctx) (n : Nat) (tl : Bytes) (g : CF) :
    (cfLoopF C (n + 1) (3 :: tl) g).res = (cfLoopF C n tl { g with variadic := true }).res := by
  rw [cfLoopF_f3]

theorem cf_step2 (C : Ctx) (n : Nat) (i : Bytes) (tl : Bytes) (g : CF) (hn : 1 ≤ n) (hi : i.length < 2 ^ 63) :
    (cfLoopF C (n + 1) (2 :: encodeSized binBytesV1 i ++ tl) g).res =
      (cfLoopF C n tl { g with instructions := some i }).res := by
  obtain ⟨n, rfl⟩ := succ_of_pos hn
  rw [List.cons_append, cfLoopF_f2]
  simp only [res_bind, rt_bytes C n i tl hi, ok_bind]

theorem cf_step5 (C : Ctx) (n : Nat) (sm : List (BitVec 64 × BitVec 64)) (tl : Bytes) (g : CF)
    (hsm : (encPairs sm).length < 2 ^ 63) :
    (cfLoopF C (n + 1) (5 :: toBytes ((sm.length : Int) * 2) ++ encPairs sm ++ tl) g).res =
      (cfLoopF C n tl { g with sourceMap := some (mapOfList sm) }).res := by
  have hl := encPairs_length sm
  have hin : inInt64 ((sm.length : Int) * 2) = true := by simp [inInt64]; omega
  have hsz : ((sm.length : Int) * 2 / 2).toNat = sm.length := by omega
  rw [List.cons_append, List.cons_append, List.append_assoc, cfLoopF_f5]
  simp only [res_bind, res_liftM, viRead_toBytes _ _ hin, ok_bind]
  rw [res_ite, if_neg (by simp only [List.length_append]; omega)]
  simp only [res_bind, res_tick, ok_bind, res_liftM, hsz, smLoop_enc]

/-- `tmpBuf` of `(*CompiledFunction).MarshalBinary` (encoder/encoder.go) -/
def cfTmp (f : CF) : Bytes :=
  (if 0 < f.numParams.toInt then 0 :: toBytes f.numParams.toInt else []) ++
  (if 0 < f.numLocals.toInt then 1 :: toBytes f.numLocals.toInt else []) ++
  (match f.instructions with
   | some i => 2 :: encodeSized binBytesV1 i
   | none => []) ++
  (if f.variadic then [3] else []) ++
  (match f.sourceMap with
   | some sm => 5 :: toBytes ((sm.length : Int) * 2) ++ encPairs sm
   | none => [])

theorem encodeCF_eq (f : CF) : encodeCF f = binCompiledFunctionV1 :: toBytes (cfTmp f).length ++ cfTmp f := rfl

theorem rt_cf_loop (C : Ctx) (f : CF) (hi : ∀ i, f.instructions = some i → i.length < 2 ^ 63)
    (hs : ∀ sm, f.sourceMap = some sm → (encPairs sm).length < 2 ^ 63) :
    Reads (cfLoopF C) 6 (cfTmp f) {} (.ok (normCF f)) := by
  obtain ⟨np, nl, ins, va, nf, sm⟩ := f
  rw [← List.append_nil (cfTmp _)]
  simp only [cfTmp, List.append_assoc]
  refine Reads.field (g' := ⟨if 0 < np.toInt then np else 0, 0, none, false, 0, none⟩) (by
    split
    · exact .inr fun m _ => cf_step0 C m np _ _
    · exact .inl ⟨rfl, rfl⟩) ?_
  refine Reads.field (g' := ⟨if 0 < np.toInt then np else 0, if 0 < nl.toInt then nl else 0, none, false, 0, none⟩) (by
    split
    · exact .inr fun m _ => cf_step1 C m nl _ _
    · exact .inl ⟨rfl, rfl⟩) ?_
  refine Reads.field (g' := ⟨if 0 < np.toInt then np else 0, if 0 < nl.toInt then nl else 0, ins, false, 0, none⟩) (by
    cases ins with
    | none => exact .inl ⟨rfl, rfl⟩
    | some i => exact .inr fun m hm => cf_step2 C m i _ _ (by omega) (hi i rfl)) ?_
  refine Reads.field (g' := ⟨if 0 < np.toInt then np else 0, if 0 < nl.toInt then nl else 0, ins, va, 0, none⟩) (by
    cases va
    · exact .inl ⟨rfl, rfl⟩
    · exact .inr fun m _ => cf_step3 C m _ _) ?_
  refine Reads.field (g' := ⟨if 0 < np.toInt then np else 0, if 0 < nl.toInt then nl else 0, ins, va, 0, sm.map mapOfList⟩)
    (by
      cases sm with
      | none => exact .inl ⟨rfl, rfl⟩
      | some sm' => exact .inr fun m _ => cf_step5 C m sm' _ _ (hs sm' rfl)) ?_
  exact cf_end C _

theorem cfTmp_bounds (f : CF) :
    (∀ i, f.instructions = some i → i.length ≤ (cfTmp f).length) ∧
    (∀ sm, f.sourceMap = some sm → (encPairs sm).length ≤ (cfTmp f).length) := by
  refine ⟨?_, ?_⟩
  · intro i hi
    unfold cfTmp
    rw [hi]
    simp only [List.length_append, List.length_cons]
    have := (encodeSized_length binBytesV1 i).2
    omega
  · intro sm hs
    unfold cfTmp
    rw [hs]
    simp only [List.length_append, List.length_cons]
    omega

theorem rt_cf (C : Ctx) (f : CF) (n : Nat) (hn : 6 ≤ n) (rest : Bytes) (hsmall : (encodeCF f).length < 2 ^ 63) :
    (decodeObjectF C (n + 1) (encodeCF f ++ rest)).res = .ok (.compiledFunction (normCF f), rest) := by
  rw [encodeCF_eq] at hsmall ⊢
  have htmp : (cfTmp f).length < 2 ^ 63 := by
    simp only [List.length_cons, List.length_append] at hsmall; omega
  obtain ⟨hb1, hb2⟩ := cfTmp_bounds f
  have hloop := rt_cf_loop C f (fun i hi => by have := hb1 i hi; omega)
    (fun sm hs => by have := hb2 sm hs; omega) n hn
  rw [rt_sized _ _ _ _ _ rfl htmp, decodeSizedBuf_cf, res_bind]
  unfold unmarshalCF
  by_cases h0 : (cfTmp f).length = 0
  · -- no field was written: the loop is not entered, and `normCF f` is the zero value
    have hnil : cfTmp f = [] := List.eq_nil_of_length_eq_zero h0
    rw [hnil] at hloop ⊢
    rw [cf_end C {} n (by omega)] at hloop
    injection hloop with hd
    rw [List.length_nil, Int.natCast_zero, sizedPayload_toBytes0, ← hd]
    rfl
  · rw [sizedPayload_enc _ _ _ (by omega) htmp]
    simp only [hloop, ok_bind, res_pure]

theorem encodeObject_length_pos (C : Ctx) (o : Obj) : 1 ≤ (encodeObject C o).length := by
  cases o with
  | bool b => cases b <;> exact Nat.le_refl _
  | syncMap b _ => cases b <;> simp [encodeObject]
  | _ =>
    simp only [encodeObject, encodeInt, encodeUint, encodeChar, encodeFloat, encodeSized, encodeCF, encodeFuncName]
    first | split <;> simp | simp

theorem encodeList_length (C : Ctx) : ∀ xs : List Obj, xs.length ≤ (encodeList C xs).length
  | [] => Nat.le_refl _
  | x :: xs => by
    have h1 := encodeObject_length_pos C x
    have h2 := encodeList_length C xs
    simp only [encodeList, List.length_append, List.length_cons]; omega

theorem unmarshalArray_encD (C : Ctx) (loop : Bytes → DM (List Obj)) (xs : List Obj)
    (hsmall : (toBytes xs.length ++ encodeList C xs).length < 2 ^ 63) :
    unmarshalArray loop (binArrayV1 :: toBytes (toBytes xs.length ++ encodeList C xs).length ++
      (toBytes xs.length ++ encodeList C xs)) =
      DM.tick (16 * xs.length) >>= fun _ => loop (encodeList C xs) := by
  have hlen := encodeList_length C xs
  have hin := inInt64_ofNat xs.length (by simp only [List.length_append] at hsmall; omega)
  have hl2 := toBytes_length_ge xs.length
  unfold unmarshalArray
  rw [sizedPayload_enc _ _ _ (by simp only [List.length_append]; omega) hsmall]
  dsimp only
  rw [viRead_toBytes _ _ hin, lift_ok_bind]
  dsimp only
  rw [if_neg (by omega), Int.toNat_natCast]

/-- a non-empty array, as written by the encoder: payload copied, `make`, then the element loop
    (the bracketing is the model's: `DM` appends logs, so `>>=` is not associative up to `rfl`) -/
theorem array_encD (C : Ctx) (xs : List Obj) (n : Nat) (rest : Bytes) (hne : xs.length ≠ 0)
    (hsmall : (toBytes xs.length ++ encodeList C xs).length < 2 ^ 63) :
    decodeObjectF C (n + 1) (encodeObject C (.array xs) ++ rest) =
      DM.tick (1 + (toBytes ((toBytes xs.length ++ encodeList C xs).length : Int)).length +
          (toBytes xs.length ++ encodeList C xs).length) >>= fun _ =>
        ((DM.tick (16 * xs.length) >>= fun _ => arrayLoopF C n (encodeList C xs)) >>= fun ys =>
          pure (.array ys)) >>= fun o => pure (o, rest) := by
  simp only [encodeObject]
  rw [if_neg hne, List.cons_append, List.cons_append, decodeObjectF_sized _ _ _ _ rfl,
    decodeSized_encD _ _ _ _ _ _ _ _ (viReadBytes_toBytes _ _ (inInt64_ofNat _ hsmall)), decodeSizedBuf_array,
    unmarshalArray_encD C _ xs hsmall]

theorem encodeKVs_nil_of_length (C : Ctx) (kvs : List (Bytes × Obj)) (h : (encodeKVs C kvs).length = 0) : kvs = [] := by
  cases kvs with
  | nil => rfl
  | cons kv rest =>
    obtain ⟨k, v⟩ := kv
    have := encodeObject_length_pos C v
    simp only [encodeKVs, List.length_append] at h
    omega

theorem unmarshalMap_enc (C : Ctx) (loop : Bytes → DM (List (Bytes × Obj))) (kvs : List (Bytes × Obj))
    (hsmall : (encodeKVs C kvs).length < 2 ^ 63) (hloop : (loop (encodeKVs C kvs)).res = .ok (normKVs kvs)) :
    (unmarshalMap loop (binMapV1 :: toBytes (encodeKVs C kvs).length ++ encodeKVs C kvs)).res =
      .ok (mapOfList (normKVs kvs)) := by
  unfold unmarshalMap
  by_cases h0 : (encodeKVs C kvs).length = 0
  · -- an empty payload is not handed to the loop at all
    rw [encodeKVs_nil_of_length C kvs h0, show encodeKVs C [] = [] from rfl, List.length_nil, Int.natCast_zero,
      sizedPayload_toBytes0]
    rfl
  · rw [sizedPayload_enc _ _ _ (by omega) hsmall]
    simp only [res_bind, hloop, ok_bind, res_pure]

theorem toBytes_head_ne_zero (v : Int) (h : inInt64 v = true) : ∃ a b, toBytes v = a :: b ∧ a ≠ 0 := by
  obtain ⟨h1, h10⟩ := putVarint_len v h
  exact ⟨_, _, rfl, lenByte_ne_zero _ h1 h10⟩


theorem need_pos : ∀ o : Obj, 1 ≤ need o
  | .syncMap true _ => Nat.le_refl _
  | .syncMap false _ | .array _ | .map _ => by simp only [need]; omega
  | .compiledFunction _ => by simp only [need]; omega
  | .nil | .undefined | .bool _ | .int _ | .uint _ | .char _ | .float _ | .str _ | .bytes _ | .function _
  | .builtinFunction _ | .gob _ _ => Nat.le_refl _

theorem fuel_succ {o : Obj} {fuel : Nat} (h : need o ≤ fuel) : ∃ n, fuel = n + 1 :=
  succ_of_pos (Nat.le_trans (need_pos o) h)

mutual
theorem rt_obj (C : Ctx) : ∀ (o : Obj) (fuel : Nat) (rest : Bytes), Encodable C o → need o ≤ fuel →
    (encodeObject C o).length < 2 ^ 63 →
    (decodeObjectF C fuel (encodeObject C o ++ rest)).res = .ok (norm o, rest)
  | .nil, _, _, hE, _, _ => by simp [Encodable] at hE
  | .undefined, fuel, rest, _, hf, _ => by
    obtain ⟨n, rfl⟩ := fuel_succ hf
    exact congrArg DM.res (decodeObjectF_undefined C n rest)
  | .bool b, fuel, rest, _, hf, _ => by
    obtain ⟨n, rfl⟩ := fuel_succ hf
    have := congrArg DM.res (decodeObjectF_bool C n rest b)
    cases b <;> exact this
  | .int v, fuel, rest, _, hf, _ => by
    obtain ⟨n, rfl⟩ := fuel_succ hf
    have := rt_numBuf C n binIntV1 rfl (v = 0) (putVarint v.toInt) rest (putVarint_len _ (inInt64_toInt v)).2
    rw [if_pos rfl, show numBuf _ _ _ = encodeInt v from rfl, unmarshalInt_enc] at this
    exact this
  | .uint v, fuel, rest, _, hf, _ => by
    obtain ⟨n, rfl⟩ := fuel_succ hf
    have := rt_numBuf C n binUintV1 rfl (v = 0) (putUvarint v.toNat) rest (putUvarint_len10 _ v.isLt)
    rw [if_neg (by decide), if_pos rfl, show numBuf _ _ _ = encodeUint v from rfl, unmarshalUint_enc] at this
    exact this
  | .float v, fuel, rest, _, hf, _ => by
    obtain ⟨n, rfl⟩ := fuel_succ hf
    have := rt_numBuf C n binFloatV1 rfl (v = 0) (putUvarint v.toNat) rest (putUvarint_len10 _ v.isLt)
    rw [if_neg (by decide), if_neg (by decide), if_pos rfl, show numBuf _ _ _ = encodeFloat v from rfl,
      unmarshalFloat_enc] at this
    exact this
  | .char v, fuel, rest, _, hf, _ => by
    obtain ⟨n, rfl⟩ := fuel_succ hf
    have := rt_numBuf C n binCharV1 rfl (v = 0) (putVarint v.toInt) rest (putVarint_len _ (inInt64_toInt32 v).1).2
    rw [if_neg (by decide), if_neg (by decide), if_neg (by decide), show numBuf _ _ _ = encodeChar v from rfl,
      unmarshalChar_enc] at this
    exact this
  | .str s, fuel, rest, _, hf, hs => by
    obtain ⟨n, rfl⟩ := fuel_succ hf
    have := (encodeSized_length binStringV1 s).2
    exact rt_str C n s rest (by simp only [encodeObject] at hs; omega)
  | .bytes s, fuel, rest, _, hf, hs => by
    obtain ⟨n, rfl⟩ := fuel_succ hf
    have := (encodeSized_length binBytesV1 s).2
    exact rt_bytes C n s rest (by simp only [encodeObject] at hs; omega)
  | .function name, fuel, rest, _, hf, hs => by
    obtain ⟨n, rfl⟩ := fuel_succ hf
    exact rt_function C n name rest hs
  | .builtinFunction name, fuel, rest, hE, hf, hs => by
    obtain ⟨n, rfl⟩ := fuel_succ hf
    exact rt_builtin C n name rest hE hs
  | .gob tn id, fuel, rest, hE, hf, _ => by
    obtain ⟨n, rfl⟩ := fuel_succ hf
    simp only [encodeObject, norm, Encodable] at hE ⊢
    rw [List.cons_append, decodeObjectF_gob]
    unfold decodeGob
    rw [hE rest]
  | .compiledFunction f, fuel, rest, _, hf, hs => by
    obtain ⟨n, rfl⟩ := fuel_succ hf
    exact rt_cf C f n (by simp only [need] at hf; omega) rest hs
  | .array xs, fuel, rest, hE, hf, hs => by
    obtain ⟨n, rfl⟩ := fuel_succ hf
    simp only [need, encodeObject, norm, Encodable] at hf hs hE ⊢
    by_cases h0 : xs.length = 0
    · have : xs = [] := List.eq_nil_of_length_eq_zero h0
      subst this
      rw [if_pos h0, List.cons_append, List.cons_append, List.nil_append, rt_sized_zero _ _ _ _ rfl,
        decodeSizedBuf_array]
      simp [unmarshalArray, sizedPayload_zero, normList]
    · rw [if_neg h0] at hs
      have htmp : (toBytes xs.length ++ encodeList C xs).length < 2 ^ 63 := by
        simp only [List.length_cons, List.length_append] at hs ⊢; omega
      have hl : (encodeList C xs).length < 2 ^ 63 := by
        simp only [List.length_append] at htmp; omega
      have := array_encD C xs n rest h0 htmp
      simp only [encodeObject] at this
      rw [this]
      simp only [res_bind, res_tick, ok_bind, rt_list C xs n hE (by omega) hl, res_pure]
  | .map kvs, fuel, rest, hE, hf, hs => by
    obtain ⟨n, rfl⟩ := fuel_succ hf
    simp only [need, encodeObject, norm, Encodable] at hf hs hE ⊢
    have htmp : (encodeKVs C kvs).length < 2 ^ 63 := by
      simp only [List.length_cons, List.length_append] at hs; omega
    have hu := unmarshalMap_enc C (mapLoopF C n) kvs htmp (rt_kvs C kvs n hE (by omega) htmp)
    rw [rt_sized _ _ _ _ _ rfl htmp, decodeSizedBuf_map, res_bind, hu]
    rfl
  | .syncMap true kvs, fuel, rest, _, hf, _ => by
    obtain ⟨n, rfl⟩ := fuel_succ hf
    simp only [encodeObject, norm]
    rw [List.cons_append, List.cons_append, List.nil_append, rt_sized_zero _ _ _ _ rfl, decodeSizedBuf_syncMap]
    rfl
  | .syncMap false kvs, fuel, rest, hE, hf, hs => by
    obtain ⟨n, rfl⟩ := fuel_succ hf
    simp only [need, encodeObject, norm, Encodable] at hf hs hE ⊢
    have htmp : (encodeKVs C kvs).length < 2 ^ 63 := by
      simp only [List.length_cons, List.length_append] at hs; omega
    have hu := unmarshalMap_enc C (mapLoopF C n) kvs htmp (rt_kvs C kvs n hE (by omega) htmp)
    obtain ⟨a, b, hab, hane⟩ := toBytes_head_ne_zero ((encodeKVs C kvs).length : Int) (inInt64_ofNat _ htmp)
    rw [rt_sized _ _ _ _ _ rfl htmp]
    rw [hab] at hu ⊢
    rw [decodeSizedBuf_syncMap, if_neg hane, res_bind, hu]
    rfl
theorem rt_list (C : Ctx) : ∀ (xs : List Obj) (fuel : Nat), EncodableL C xs → needL xs + 1 ≤ fuel →
    (encodeList C xs).length < 2 ^ 63 →
    (arrayLoopF C fuel (encodeList C xs)).res = .ok (normList xs)
  | [], fuel, _, hf, _ => by
    obtain ⟨n, rfl⟩ := succ_of_pos hf
    exact congrArg DM.res (arrayLoopF_nil C n)
  | x :: xs, fuel, hE, hf, hs => by
    simp only [needL] at hf
    obtain ⟨n, rfl⟩ := succ_of_pos (show 1 ≤ fuel by omega)
    simp only [encodeList, EncodableL, List.length_append] at hs hE ⊢
    have hpos := encodeObject_length_pos C x
    rw [arrayLoopF_pos _ _ _ (by simp only [List.length_append]; omega)]
    simp only [res_bind, rt_obj C x n (encodeList C xs) hE.1 (by omega) (by omega), ok_bind,
      rt_list C xs n hE.2 (by omega) (by omega), res_pure, normList]
theorem rt_kvs (C : Ctx) : ∀ (kvs : List (Bytes × Obj)) (fuel : Nat), EncodableKV C kvs → needKV kvs + 1 ≤ fuel →
    (encodeKVs C kvs).length < 2 ^ 63 →
    (mapLoopF C fuel (encodeKVs C kvs)).res = .ok (normKVs kvs)
  | [], fuel, _, hf, _ => by
    obtain ⟨n, rfl⟩ := succ_of_pos hf
    exact congrArg DM.res (mapLoopF_nil C n)
  | (k, v) :: kvs, fuel, hE, hf, hs => by
    simp only [needKV] at hf
    obtain ⟨n, rfl⟩ := succ_of_pos (show 1 ≤ fuel by omega)
    simp only [encodeKVs, EncodableKV, List.length_append] at hs hE ⊢
    have hin := inInt64_ofNat k.length (by omega)
    have hl2 := toBytes_length_ge k.length
    rw [mapLoopF_pos _ _ _ (by simp only [List.length_append]; omega)]
    simp only [res_bind, res_liftM, List.append_assoc, viRead_toBytes _ _ hin, ok_bind, res_tick, Int.toNat_natCast,
      readFull_opt_append ((k.length : Int) > 0) k _ (by omega), rt_obj C v n (encodeKVs C kvs) hE.1 (by omega) (by omega),
      rt_kvs C kvs n hE.2 (by omega) (by omega), res_pure, normKVs]
end

end UgoVerif.Proofs.Enc

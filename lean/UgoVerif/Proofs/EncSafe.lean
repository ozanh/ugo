import UgoVerif.Proofs.EncEqs
/-
  A Hoare-style predicate `Sat O A P x` on the result-with-log monad: x does not panic, every
  allocation size it logs satisfies A, its value satisfies P, and unless O it does not run out
  of fuel.  One induction over the four mutually recursive decoders (`decSpec`) serves the three
  claims of C18: no panic (`O := True`), enough fuel (`O := False`), the allocation bound (`A`).
-/
namespace UgoVerif.Proofs.Enc
open UgoVerif.Go UgoVerif.Model.Enc UgoVerif.Gen.EncTags

/-- the artificial error of the fuel-based recursion -/
def oofErr : Err := .other "model" "out of fuel"

/-- `r` is not a panic, its value satisfies `P`, and — unless `O` ("out of fuel allowed") —
    it is not the artificial out-of-fuel error -/
def RSat {α} (O : Prop) (P : α → Prop) (r : Res α) : Prop :=
  match r with
  | .ok a => P a
  | .err e => O ∨ e ≠ oofErr
  | .panic _ => False

theorem RSat.mono {α} {O : Prop} {P Q : α → Prop} {r : Res α} (h : RSat O P r) (hpq : ∀ a, P a → Q a) : RSat O Q r := by
  cases r <;> simp_all [RSat]

theorem RSat_bind {α β} {O : Prop} {P : α → Prop} {Q : β → Prop} {x : Res α} {f : α → Res β}
    (hx : RSat O P x) (hf : ∀ a, P a → RSat O Q (f a)) : RSat O Q (x >>= f) := by
  cases x with
  | ok a => exact hf a hx
  | err e => exact hx
  | panic m => exact hx.elim

theorem fail_ne_oof (m : String) : Err.other "error" m ≠ oofErr := by
  intro h; injection h with h1 _; exact absurd h1 (by decide)

@[simp] theorem RSat_fail {α} (O : Prop) (P : α → Prop) (m : String) : RSat O P (fail m : Res α) :=
  Or.inr (fail_ne_oof m)
@[simp] theorem RSat_ok {α} (O : Prop) (P : α → Prop) (a : α) : RSat O P (.ok a) = P a := rfl
@[simp] theorem RSat_pure {α} (O : Prop) (P : α → Prop) (a : α) : RSat O P (pure a : Res α) = P a := rfl
theorem RSat_err {α} (O : Prop) (P : α → Prop) (e : Err) : RSat O P (.err e : Res α) = (O ∨ e ≠ oofErr) := rfl

theorem RSat_ite {α} {O : Prop} {P : α → Prop} {c : Prop} [Decidable c] {x y : Res α}
    (hx : c → RSat O P x) (hy : ¬ c → RSat O P y) : RSat O P (if c then x else y) := by
  split
  · exact hx ‹_›
  · exact hy ‹_›

/-- a guard that fails with a Go error: the readers are cascades of these in front of a value -/
theorem RSat_guard {α} {O : Prop} {P : α → Prop} {c : Prop} [Decidable c] {m : String} {x : Res α}
    (h : ¬ c → RSat O P x) : RSat O P (if c then fail m else x) :=
  RSat_ite (fun _ => RSat_fail O P m) h

def Sat {α} (O : Prop) (A : Nat → Prop) (P : α → Prop) (x : DM α) : Prop :=
  RSat O P x.res ∧ ∀ a ∈ x.allocs, A a

theorem Sat.mono {α} {O : Prop} {A : Nat → Prop} {P Q : α → Prop} {x : DM α} (h : Sat O A P x) (hpq : ∀ a, P a → Q a) :
    Sat O A Q x :=
  ⟨h.1.mono hpq, h.2⟩

theorem Sat_bind {α β} {O : Prop} {A : Nat → Prop} {P : α → Prop} {Q : β → Prop} {x : DM α} {f : α → DM β}
    (hx : Sat O A P x) (hf : ∀ a, P a → Sat O A Q (f a)) : Sat O A Q (x >>= f) := by
  obtain ⟨h1, h2⟩ := hx
  refine ⟨res_bind x f ▸ RSat_bind h1 fun a ha => (hf a ha).1, fun n hn => ?_⟩
  rw [allocs_bind, List.mem_append] at hn
  rcases hn with hn | hn
  · exact h2 n hn
  · cases hr : x.res with
    | ok a => rw [hr] at h1 hn; exact (hf a h1).2 n hn
    | _ => rw [hr] at hn; cases hn

theorem Sat_pure {α} {O : Prop} {A : Nat → Prop} {P : α → Prop} {a : α} (h : P a) : Sat O A P (pure a : DM α) :=
  ⟨h, by intro n hn; cases hn⟩

theorem Sat_ofRes {α} {O : Prop} {A : Nat → Prop} {P : α → Prop} {r : Res α} (h : RSat O P r) : Sat O A P (DM.ofRes r) :=
  ⟨h, by intro n hn; cases hn⟩

theorem Sat_tick {O : Prop} {A : Nat → Prop} {n} {P : Unit → Prop} (h : A n) (hp : P ()) : Sat O A P (DM.tick n) :=
  ⟨hp, by intro a ha; simp [DM.tick] at ha; subst ha; exact h⟩

theorem Sat_outOfFuel {α} {O : Prop} {A : Nat → Prop} {P : α → Prop} (h : O) : Sat O A P (outOfFuel : DM α) :=
  ⟨Or.inl h, by intro n hn; cases hn⟩

theorem Sat_liftM {α} {O : Prop} {A : Nat → Prop} {P : α → Prop} {r : Res α} (h : RSat O P r) : Sat O A P (liftM r : DM α) :=
  Sat_ofRes h

theorem Sat_fail {α} {O : Prop} {A : Nat → Prop} {P : α → Prop} {m : String} : Sat O A P (liftM (fail m) : DM α) :=
  Sat_liftM (RSat_fail O P m)

theorem Sat_lift_bind {α β} {O : Prop} {A : Nat → Prop} {P : α → Prop} {Q : β → Prop} {r : Res α} {f : α → DM β}
    (hr : RSat O P r) (hf : ∀ a, P a → Sat O A Q (f a)) : Sat O A Q (liftM r >>= f) :=
  Sat_bind (Sat_liftM hr) hf

theorem Sat_tick_bind {β} {O : Prop} {A : Nat → Prop} {Q : β → Prop} {n} {f : Unit → DM β}
    (h : A n) (hf : Sat O A Q (f ())) : Sat O A Q (DM.tick n >>= f) :=
  Sat_bind (P := fun _ => True) (Sat_tick h trivial) fun _ _ => hf

theorem Sat_ite {α} {O : Prop} {A : Nat → Prop} {P : α → Prop} {c : Prop} [Decidable c] {x y : DM α}
    (hx : c → Sat O A P x) (hy : ¬ c → Sat O A P y) : Sat O A P (if c then x else y) := by
  split
  · exact hx ‹_›
  · exact hy ‹_›

theorem Sat_bind_pure {α β} {O : Prop} {A : Nat → Prop} {P : α → Prop} {x : DM α} (g : α → β) (hx : Sat O A P x) :
    Sat O A (fun _ => True) (x >>= fun a => pure (g a)) :=
  Sat_bind hx fun _ _ => Sat_pure trivial

variable {O : Prop}

theorem uvarintGo_n_le (buf : Bytes) : ∀ i x s, (uvarintGo buf i x s).2 ≤ (i : Int) + buf.length := by
  induction buf with
  | nil => intro i x s; simp [uvarintGo]
  | cons b rest ih =>
    intro i x s
    unfold uvarintGo
    split
    · simp <;> omega
    · split
      · split
        · simp <;> omega
        · simp <;> omega
      · have := ih (i + 1) (x + b.toNat % 128 * 2 ^ s) (s + 7)
        simp only [List.length_cons]; push_cast at this ⊢; omega

theorem varint_n_le (buf : Bytes) : (varint buf).2 ≤ (buf.length : Int) := by
  have := uvarintGo_n_le buf 0 0 0
  simp [varint, uvarint] at this ⊢; exact this

theorem toVarint_spec (tl : Bytes) (h : tl ≠ []) :
    RSat O (fun p => p.2 ≤ tl.length) (toVarint tl) := by
  unfold toVarint
  cases tl with
  | nil => exact absurd rfl h
  | cons sz tl' =>
    refine RSat_ite (fun _ => by simp) fun _ => RSat_guard fun _ =>
      RSat_ite (fun _ => RSat_ite (fun _ => RSat_fail ..) fun _ => RSat_fail ..) fun _ => ?_
    have := varint_n_le tl'
    simp only [RSat_ok, List.length_cons]; omega

theorem readByte_spec (r : Bytes) : RSat O (fun p => p.2.length + 1 = r.length) (readByte r) := by
  cases r <;> simp [readByte]

theorem readFull_spec (n : Nat) (r : Bytes) :
    RSat O (fun p => p.1.length = n ∧ p.2.length + n = r.length) (readFull n r) := by
  unfold readFull
  exact RSat_guard fun _ => by simp; omega

/-- the optional payload read of `DecodeObject` and of the map loop -/
theorem readFull_opt_spec (c : Prop) [Decidable c] (n : Nat) (r : Bytes) :
    RSat O (fun p => p.1.length + p.2.length = r.length) (if c then readFull n r else .ok ([], r)) := by
  split
  · exact (readFull_spec n r).mono (by intro p hp; omega)
  · simp

theorem viRead_spec (r : Bytes) : RSat O (fun p => p.2.length < r.length) (viRead r) := by
  unfold viRead
  cases r with
  | nil => exact RSat_fail ..
  | cons n r =>
    exact RSat_guard fun _ => RSat_ite (fun _ => by simp) fun _ => RSat_guard fun _ => RSat_guard fun _ => by simp; omega

theorem viReadBytes_spec (r : Bytes) :
    RSat O (fun p => p.2.1.length + p.2.2.length = r.length ∧ 1 ≤ p.2.1.length) (viReadBytes r) := by
  unfold viReadBytes
  cases r with
  | nil => exact RSat_fail ..
  | cons n r =>
    exact RSat_guard fun _ => RSat_ite (fun _ => by simp; omega) fun _ => RSat_guard fun _ => RSat_guard fun _ => by
      simp; omega

theorem sizedPayload_spec (tag : UInt8) (what : String) (data : Bytes) :
    RSat O (fun o => ∀ p, o = some p → p.length < data.length) (sizedPayload tag what data) := by
  unfold sizedPayload
  split
  · rename_i _ t a b
    refine RSat_guard fun _ => ?_
    have hv := toVarint_spec (O := O) (a :: b) (by simp)
    cases hres : toVarint (a :: b) with
    | ok p =>
      obtain ⟨size, offset⟩ := p
      rw [hres] at hv
      refine RSat_ite (fun _ => by simp) fun h1 => RSat_guard fun h2 => RSat_guard fun h3 => ?_
      rw [slice_ok _ _ _ (by omega) (by omega)]
      simp at h3 ⊢; omega
    | err e => rw [hres] at hv; exact hv
    | panic m => rw [hres] at hv; exact hv.elim
  · exact RSat_fail ..

theorem unmarshalInt_spec (data : Bytes) : RSat O (fun _ => True) (unmarshalInt data) := by
  unfold unmarshalInt
  split
  · exact RSat_guard fun _ => RSat_ite (fun _ => trivial) fun _ => RSat_guard fun _ => RSat_guard fun _ => trivial
  · exact RSat_fail ..
theorem unmarshalUint_spec (data : Bytes) : RSat O (fun _ => True) (unmarshalUint data) := by
  unfold unmarshalUint
  split
  · exact RSat_guard fun _ => RSat_ite (fun _ => trivial) fun _ => RSat_guard fun _ => RSat_guard fun _ => trivial
  · exact RSat_fail ..
theorem unmarshalFloat_spec (data : Bytes) : RSat O (fun _ => True) (unmarshalFloat data) := by
  unfold unmarshalFloat
  split
  · exact RSat_guard fun _ => RSat_ite (fun _ => trivial) fun _ => RSat_guard fun _ => RSat_guard fun _ => trivial
  · exact RSat_fail ..
theorem unmarshalChar_spec (data : Bytes) : RSat O (fun _ => True) (unmarshalChar data) := by
  unfold unmarshalChar
  split
  · exact RSat_guard fun _ => RSat_ite (fun _ => trivial) fun _ => RSat_guard fun _ => RSat_guard fun _ =>
      RSat_guard fun _ => trivial
  · exact RSat_fail ..

/-- `(*String)` and `(*Bytes).UnmarshalBinary` hand on what `sizedPayload` found -/
theorem payloadOrNil_spec {P : Option Bytes → Prop} {x : Res (Option Bytes)} (hx : RSat O P x) :
    RSat O (fun _ => True) (match (generalizing := false) x with
      | .ok none => .ok []
      | .ok (some p) => .ok p
      | .err e => .err e
      | .panic m => .panic m) := by
  cases x with
  | ok o => cases o <;> trivial
  | _ => exact hx

theorem unmarshalString_spec (data : Bytes) : RSat O (fun _ => True) (unmarshalString data) :=
  payloadOrNil_spec (sizedPayload_spec ..)

theorem unmarshalBytes_spec (data : Bytes) : RSat O (fun _ => True) (unmarshalBytes data) :=
  payloadOrNil_spec (sizedPayload_spec ..)

theorem unmarshalFuncName_spec (tag : UInt8) (what : String) (data : Bytes) :
    RSat O (fun _ => True) (unmarshalFuncName tag what data) := by
  unfold unmarshalFuncName
  split
  · rename_i _ t a b
    refine RSat_guard fun _ => RSat_bind (toVarint_spec (a :: b) (by simp)) ?_
    rintro ⟨size, offset⟩ hoff
    refine RSat_guard fun _ => ?_
    rw [slice_ok _ _ _ (by simp at hoff ⊢; omega) (Nat.le_refl _)]
    exact unmarshalString_spec _
  · exact RSat_fail ..

theorem smLoop_spec : ∀ (sz : Nat) (rd : Bytes),
    RSat O (fun p => p.2.length ≤ rd.length) (smLoop sz rd) := by
  intro sz
  induction sz with
  | zero => intro rd; simp [smLoop]
  | succ n ih =>
    intro rd
    unfold smLoop
    apply RSat_bind (viRead_spec rd); rintro ⟨k, rd1⟩ h1
    apply RSat_bind (viRead_spec rd1); rintro ⟨v, rd2⟩ h2
    apply RSat_bind (ih rd2); rintro ⟨rest, rd3⟩ h3
    simp at h1 h2 h3 ⊢; omega

theorem linesLoop_spec : ∀ (n : Nat) (rd : Bytes),
    RSat O (fun p => p.2.length ≤ rd.length) (linesLoop n rd) := by
  intro n
  induction n with
  | zero => intro rd; simp [linesLoop]
  | succ n ih =>
    intro rd
    unfold linesLoop
    apply RSat_bind (viRead_spec rd); rintro ⟨k, rd1⟩ h1
    apply RSat_bind (ih rd1); rintro ⟨rest, rd3⟩ h3
    simp at h1 h3 ⊢; omega

/-- assumptions on the gob parameter: it never hands back more unread bytes than it was
    given, and its allocations on inputs of length ≤ L are accepted by `A` -/
structure GobOK (C : Ctx) (A : Nat → Prop) (L : Nat) : Prop where
  rest : ∀ r o r', C.gobDec r = some (o, r') → r'.length ≤ r.length
  alloc : ∀ r, r.length ≤ L → A (C.gobAlloc r)

/-- `A` accepts every allocation size the decoders can request on readers of length ≤ L -/
def Dominates (A : Nat → Prop) (L : Nat) : Prop := ∀ n, n ≤ 24 * L + 268 → A n

variable {A : Nat → Prop} {L : Nat} {C : Ctx}

/-- the container unmarshalers branch on the outcome of `sizedPayload` and hand its failures on -/
theorem Sat_sized {β} {P : Option Bytes → Prop} {Q : β → Prop} {x : Res (Option Bytes)} {a : DM β} {b : Bytes → DM β}
    (hx : RSat O P x) (ha : P none → Sat O A Q a) (hb : ∀ rd, P (some rd) → Sat O A Q (b rd)) :
    Sat O A Q (match (generalizing := false) x with
      | .ok none => a
      | .ok (some rd) => b rd
      | .err e => DM.ofRes (.err e)
      | .panic m => DM.ofRes (.panic m)) := by
  cases x with
  | ok o => cases o with
    | none => exact ha hx
    | some rd => exact hb rd hx
  | err e => exact Sat_ofRes hx
  | panic m => exact hx.elim

/- The three container unmarshalers hand a strictly shorter buffer to their loop; that is
   all the recursion of `decSpec` needs from them. -/

theorem unmarshalArray_sat (hN : Dominates A L) (loop : Bytes → DM (List Obj)) (data : Bytes) (hd : data.length ≤ L)
    (hloop : ∀ rd, rd.length + 2 ≤ data.length → Sat O A (fun _ => True) (loop rd)) :
    Sat O A (fun _ => True) (unmarshalArray loop data) :=
  Sat_sized (sizedPayload_spec ..) (fun _ => Sat_pure trivial) fun rd h =>
    Sat_lift_bind (viRead_spec rd) fun l h1 => Sat_ite (fun _ => Sat_fail) fun _ =>
      Sat_tick_bind (hN _ (by have := h rd rfl; omega)) (hloop _ (by have := h rd rfl; omega))

theorem unmarshalMap_sat (loop : Bytes → DM (List (Bytes × Obj))) (data : Bytes)
    (hloop : ∀ rd, rd.length < data.length → Sat O A (fun _ => True) (loop rd)) :
    Sat O A (fun _ => True) (unmarshalMap loop data) :=
  Sat_sized (sizedPayload_spec ..) (fun _ => Sat_pure trivial) fun rd h => Sat_bind_pure _ (hloop rd (h rd rfl))

theorem unmarshalCF_sat (loop : Bytes → CF → DM CF) (data : Bytes)
    (hloop : ∀ rd f, rd.length < data.length → Sat O A (fun _ => True) (loop rd f)) :
    Sat O A (fun _ => True) (unmarshalCF loop data) :=
  Sat_sized (sizedPayload_spec ..) (fun _ => Sat_pure trivial) fun rd h => hloop rd {} (h rd rfl)

/-- the four mutually recursive decoders at one fuel value, so that `decSpec` is one induction
    on the fuel -/
def DecSpec (O : Prop) (C : Ctx) (A : Nat → Prop) (L fuel : Nat) : Prop :=
  (∀ r : Bytes, r.length ≤ L → (O ∨ 2 * r.length + 1 ≤ fuel) →
    Sat O A (fun p => p.2.length + 1 ≤ r.length) (decodeObjectF C fuel r)) ∧
  (∀ rd : Bytes, rd.length ≤ L → (O ∨ 2 * rd.length + 2 ≤ fuel) → Sat O A (fun _ => True) (arrayLoopF C fuel rd)) ∧
  (∀ rd : Bytes, rd.length ≤ L → (O ∨ 2 * rd.length + 2 ≤ fuel) → Sat O A (fun _ => True) (mapLoopF C fuel rd)) ∧
  (∀ (rd : Bytes) (f : CF), rd.length ≤ L → (O ∨ 2 * rd.length + 2 ≤ fuel) →
    Sat O A (fun _ => True) (cfLoopF C fuel rd f))

variable {fuel : Nat}

theorem arrayLoop_step (ih : DecSpec O C A L fuel) (rd : Bytes) (h : rd.length ≤ L)
    (hf : O ∨ 2 * rd.length + 2 ≤ fuel + 1) :
    Sat O A (fun _ => True) (arrayLoopF C (fuel + 1) rd) := by
  cases rd with
  | nil => rw [arrayLoopF_nil]; exact Sat_pure trivial
  | cons b rd' =>
    rw [arrayLoopF_pos _ _ (b :: rd') (Nat.succ_pos _)]
    refine Sat_bind (ih.1 _ h (hf.imp id (by omega))) fun p h1 => ?_
    exact Sat_bind_pure _ (ih.2.1 p.2 (by omega) (hf.imp id (by omega)))

theorem mapLoop_step (hN : Dominates A L) (ih : DecSpec O C A L fuel) (rd : Bytes)
    (h : rd.length ≤ L) (hf : O ∨ 2 * rd.length + 2 ≤ fuel + 1) :
    Sat O A (fun _ => True) (mapLoopF C (fuel + 1) rd) := by
  cases rd with
  | nil => rw [mapLoopF_nil]; exact Sat_pure trivial
  | cons b rd' =>
    rw [mapLoopF_pos _ _ (b :: rd') (Nat.succ_pos _)]
    refine Sat_lift_bind (viRead_spec _) fun k h1 => ?_
    refine Sat_tick_bind (hN _ (by omega)) (Sat_lift_bind (readFull_opt_spec _ _ _) fun q h2 => ?_)
    refine Sat_bind (ih.1 q.2 (by omega) (hf.imp id (by omega))) fun p h3 => ?_
    exact Sat_bind_pure _ (ih.2.2.1 p.2 (by omega) (hf.imp id (by omega)))

theorem cfLoop_step (hN : Dominates A L) (ih : DecSpec O C A L fuel) (rd : Bytes) (f : CF)
    (h : rd.length ≤ L) (hf : O ∨ 2 * rd.length + 2 ≤ fuel + 1) :
    Sat O A (fun _ => True) (cfLoopF C (fuel + 1) rd f) := by
  have next : ∀ rd' f', rd'.length < rd.length → Sat O A (fun _ => True) (cfLoopF C fuel rd' f') :=
    fun rd' f' h' => ih.2.2.2 rd' f' (by omega) (hf.imp id (by omega))
  cases rd with
  | nil => rw [cfLoopF_nil]; exact Sat_pure trivial
  | cons field rd =>
    simp only [List.length_cons] at next h hf
    by_cases h0 : field = 0
    · subst h0; rw [cfLoopF_f0]
      exact Sat_lift_bind (viRead_spec rd) fun p hp => next _ _ (by omega)
    by_cases h1 : field = 1
    · subst h1; rw [cfLoopF_f1]
      exact Sat_lift_bind (viRead_spec rd) fun p hp => next _ _ (by omega)
    by_cases h2 : field = 2
    · subst h2; rw [cfLoopF_f2]
      refine Sat_bind (ih.1 rd (by omega) (hf.imp id (by omega))) fun p hp => ?_
      split
      · exact next _ _ (by omega)
      · exact Sat_fail
    by_cases h3 : field = 3
    · subst h3; rw [cfLoopF_f3]; exact next _ _ (by omega)
    by_cases h4 : field = 4
    · subst h4; rw [cfLoopF_f4]; exact Sat_fail
    by_cases h5 : field = 5
    · subst h5; rw [cfLoopF_f5]
      refine Sat_lift_bind (viRead_spec rd) fun p hp => ?_
      split
      · exact Sat_fail
      · exact Sat_tick_bind (hN _ (by omega))
          (Sat_lift_bind (smLoop_spec _ _) fun q hq => next _ _ (by omega))
    · rw [cfLoopF_other _ _ _ _ _ ⟨h0, h1, h2, h3, h4, h5⟩]; exact Sat_fail

theorem decodeNum_sat (hN : Dominates A L) (btype : UInt8) (r1 : Bytes) (h : r1.length ≤ L) :
    Sat O A (fun p => p.2.length ≤ r1.length) (decodeNum btype r1) := by
  unfold decodeNum
  refine Sat_lift_bind (readByte_spec r1) ?_
  rintro ⟨size, r2⟩ h2
  refine Sat_tick_bind (hN _ (by have := size.toNat_lt; omega))
    (Sat_lift_bind (readFull_opt_spec _ _ _) ?_)
  rintro ⟨payload, r3⟩ h3
  dsimp only at h2 h3 ⊢
  split
  · exact Sat_lift_bind (unmarshalInt_spec _) fun v _ => Sat_pure (by dsimp only; omega)
  split
  · exact Sat_lift_bind (unmarshalUint_spec _) fun v _ => Sat_pure (by dsimp only; omega)
  split
  · exact Sat_lift_bind (unmarshalFloat_spec _) fun v _ => Sat_pure (by dsimp only; omega)
  · exact Sat_lift_bind (unmarshalChar_spec _) fun v _ => Sat_pure (by dsimp only; omega)

theorem decodeSizedBuf_sat (hN : Dominates A L) (cfLoop arrLoop mapLoop) (btype : UInt8) (rb payload : Bytes)
    (ht : isSizedTag btype = true) (hbuf : 1 + rb.length + payload.length ≤ L)
    (hcf : ∀ rd f, rd.length < 1 + rb.length + payload.length → Sat O A (fun _ => True) (cfLoop rd f))
    (harr : ∀ rd, rd.length < 1 + rb.length + payload.length → Sat O A (fun _ => True) (arrLoop rd))
    (hmap : ∀ rd, rd.length < 1 + rb.length + payload.length → Sat O A (fun _ => True) (mapLoop rd)) :
    Sat O A (fun _ => True) (decodeSizedBuf C cfLoop arrLoop mapLoop btype rb payload) := by
  have hl : ∀ t : UInt8, (t :: rb ++ payload).length = 1 + rb.length + payload.length := by
    intro t; simp only [List.cons_append, List.length_cons, List.length_append]; omega
  simp only [isSizedTag, Bool.or_eq_true, decide_eq_true_eq] at ht
  rcases ht with (((((((rfl | rfl) | rfl) | rfl) | rfl) | rfl) | rfl) | rfl)
  · rw [decodeSizedBuf_cf]
    exact Sat_bind_pure _ (unmarshalCF_sat _ _ fun rd f h => hcf rd f (hl _ ▸ h))
  · rw [decodeSizedBuf_array]
    exact Sat_bind_pure _ (unmarshalArray_sat hN _ _ (hl _ ▸ hbuf) fun rd h => harr rd (by rw [hl] at h; omega))
  · rw [decodeSizedBuf_bytes]; exact Sat_bind_pure _ (Sat_liftM (unmarshalBytes_spec _))
  · rw [decodeSizedBuf_str]; exact Sat_bind_pure _ (Sat_liftM (unmarshalString_spec _))
  · rw [decodeSizedBuf_map]
    exact Sat_bind_pure _ (unmarshalMap_sat _ _ fun rd h => hmap rd (hl _ ▸ h))
  · cases rb with
    | nil => rw [decodeSizedBuf_syncMap_nil]; exact Sat_fail
    | cons a b =>
      rw [decodeSizedBuf_syncMap]
      split
      · exact Sat_pure trivial
      · exact Sat_bind_pure _ (unmarshalMap_sat _ _ fun rd h => hmap rd (hl _ ▸ h))
  · rw [decodeSizedBuf_function]; exact Sat_bind_pure _ (Sat_liftM (unmarshalFuncName_spec _ _ _))
  · rw [decodeSizedBuf_builtin]
    refine Sat_lift_bind (unmarshalFuncName_spec _ _ _) fun s _ => ?_
    split
    · exact Sat_pure trivial
    · exact Sat_fail

theorem decodeSized_sat (hN : Dominates A L) (cfLoop arrLoop mapLoop) (btype : UInt8) (r1 : Bytes)
    (ht : isSizedTag btype = true) (h : r1.length + 1 ≤ L)
    (hcf : ∀ rd f, rd.length ≤ r1.length → Sat O A (fun _ => True) (cfLoop rd f))
    (harr : ∀ rd, rd.length ≤ r1.length → Sat O A (fun _ => True) (arrLoop rd))
    (hmap : ∀ rd, rd.length ≤ r1.length → Sat O A (fun _ => True) (mapLoop rd)) :
    Sat O A (fun p => p.2.length ≤ r1.length) (decodeSized C cfLoop arrLoop mapLoop btype r1) := by
  unfold decodeSized
  refine Sat_lift_bind (viReadBytes_spec r1) ?_
  rintro ⟨value, rb, r2⟩ h2
  dsimp only at h2 ⊢
  split
  · exact Sat_fail
  · refine Sat_tick_bind (hN _ (by have := Nat.min_le_right value.toNat r2.length; omega))
      (Sat_lift_bind (readFull_opt_spec _ _ _) ?_)
    rintro ⟨payload, r3⟩ h3
    dsimp only at h3 ⊢
    exact Sat_bind (decodeSizedBuf_sat hN cfLoop arrLoop mapLoop btype rb payload ht (by omega)
      (fun rd f h => hcf rd f (by omega)) (fun rd h => harr rd (by omega)) (fun rd h => hmap rd (by omega)))
      fun o _ => Sat_pure (by dsimp only; omega)

theorem decodeGob_sat (hG : GobOK C A L) (r1 : Bytes) (h : r1.length ≤ L) :
    Sat O A (fun p => p.2.length ≤ r1.length) (decodeGob C r1) := by
  unfold decodeGob
  split
  · rename_i o r' hg
    refine ⟨?_, ?_⟩
    · have := hG.rest _ _ _ hg
      simpa [RSat] using this
    · intro a ha; simp at ha; subst ha; exact hG.alloc _ h
  · refine ⟨RSat_fail _ _ _, ?_⟩
    intro a ha; simp at ha; subst ha; exact hG.alloc _ h

theorem decodeObject_step (hN : Dominates A L) (hG : GobOK C A L) (ih : DecSpec O C A L fuel)
    (r : Bytes) (h : r.length ≤ L) (hf : O ∨ 2 * r.length + 1 ≤ fuel + 1) :
    Sat O A (fun p => p.2.length + 1 ≤ r.length) (decodeObjectF C (fuel + 1) r) := by
  unfold decodeObjectF
  refine Sat_lift_bind (readByte_spec r) ?_
  rintro ⟨btype, r1⟩ h1
  dsimp only at h1 ⊢
  have hr : ∀ p : Obj × Bytes, p.2.length ≤ r1.length → p.2.length + 1 ≤ r.length := fun p hp => by omega
  refine Sat_ite (fun _ => Sat_pure (hr _ (Nat.le_refl _))) fun _ =>
    Sat_ite (fun _ => Sat_pure (hr _ (Nat.le_refl _))) fun _ =>
    Sat_ite (fun _ => Sat_pure (hr _ (Nat.le_refl _))) fun _ =>
    Sat_ite (fun _ => (decodeNum_sat hN _ _ (by omega)).mono hr) fun _ =>
    Sat_ite (fun ht => (decodeSized_sat hN _ _ _ _ _ ht (by omega)
      (fun rd f h' => ih.2.2.2 rd f (by omega) (hf.imp id (by omega)))
      (fun rd h' => ih.2.1 rd (by omega) (hf.imp id (by omega)))
      (fun rd h' => ih.2.2.1 rd (by omega) (hf.imp id (by omega)))).mono hr) fun _ =>
    Sat_ite (fun _ => (decodeGob_sat hG _ (by omega)).mono hr) fun _ => Sat_fail

theorem decSpec (O : Prop) (C : Ctx) (A : Nat → Prop) (L : Nat) (hN : Dominates A L) (hG : GobOK C A L) :
    ∀ fuel, DecSpec O C A L fuel := by
  intro fuel
  induction fuel with
  | zero =>
    refine ⟨?_, ?_, ?_, ?_⟩
    · intro r _ hf; unfold decodeObjectF; exact Sat_outOfFuel (hf.resolve_right (by omega))
    · intro r _ hf; unfold arrayLoopF; exact Sat_outOfFuel (hf.resolve_right (by omega))
    · intro r _ hf; unfold mapLoopF; exact Sat_outOfFuel (hf.resolve_right (by omega))
    · intro r f _ hf; unfold cfLoopF; exact Sat_outOfFuel (hf.resolve_right (by omega))
  | succ n ih =>
    exact ⟨decodeObject_step hN hG ih, arrayLoop_step ih, mapLoop_step hN ih, cfLoop_step hN ih⟩

theorem unmarshalSourceFile_sat (hN : Dominates A L) (dec : Bytes → DM (Obj × Bytes)) (data : Bytes)
    (hd : data.length ≤ L) (hdec : Sat O A (fun p => p.2.length + 1 ≤ data.length) (dec data)) :
    Sat O A (fun _ => True) (unmarshalSourceFile dec data) := by
  unfold unmarshalSourceFile
  refine Sat_bind hdec ?_
  rintro ⟨obj, rd⟩ h0
  dsimp only at h0 ⊢
  split
  · refine Sat_lift_bind (viRead_spec rd) ?_
    rintro ⟨base, rd1⟩ h1
    refine Sat_lift_bind (viRead_spec rd1) ?_
    rintro ⟨size, rd2⟩ h2
    refine Sat_lift_bind (viRead_spec rd2) ?_
    rintro ⟨v, rd3⟩ h3
    dsimp only at h1 h2 h3 ⊢
    split
    · exact Sat_fail
    · refine Sat_tick_bind (hN _ (by omega)) (Sat_lift_bind (linesLoop_spec _ rd3) ?_)
      rintro ⟨lines, rd4⟩ h4
      dsimp only
      split
      · exact Sat_fail
      · exact Sat_pure trivial
  · exact Sat_fail

theorem filesLoop_sat (hN : Dominates A L) (dec : Bytes → DM (Obj × Bytes)) (M : Nat)
    (hdec : ∀ r, r.length ≤ L → r.length ≤ M → Sat O A (fun p => p.2.length + 1 ≤ r.length) (dec r)) :
    ∀ (n : Nat) (rd : Bytes), rd.length ≤ L → rd.length ≤ M →
      Sat O A (fun p => p.2.length ≤ rd.length) (filesLoop dec n rd) := by
  intro n
  induction n with
  | zero => intro rd _ _; unfold filesLoop; exact Sat_pure (Nat.le_refl _)
  | succ n ih =>
    intro rd hrd hM
    unfold filesLoop
    refine Sat_lift_bind (viRead_spec rd) ?_
    rintro ⟨v, rd1⟩ h1
    dsimp only at h1 ⊢
    split
    · exact Sat_fail
    · refine Sat_tick_bind (hN _ (by omega)) (Sat_lift_bind (readFull_spec _ rd1) ?_)
      rintro ⟨data, rd2⟩ h2
      dsimp only at h2 ⊢
      refine Sat_bind (unmarshalSourceFile_sat hN dec data (by omega) (hdec _ (by omega) (by omega))) fun file _ => ?_
      exact Sat_bind (ih rd2 (by omega) (by omega)) fun p3 h3 => Sat_pure (by dsimp only at h3 ⊢; omega)

theorem unmarshalFileSet_sat (hN : Dominates A L) (dec : Bytes → DM (Obj × Bytes)) (data : Bytes)
    (hd : data.length ≤ L)
    (hdec : ∀ r, r.length ≤ L → r.length ≤ data.length → Sat O A (fun p => p.2.length + 1 ≤ r.length) (dec r)) :
    Sat O A (fun _ => True) (unmarshalFileSet dec data) := by
  unfold unmarshalFileSet
  refine Sat_lift_bind (viRead_spec data) ?_
  rintro ⟨base, rd1⟩ h1
  refine Sat_lift_bind (viRead_spec rd1) ?_
  rintro ⟨v, rd2⟩ h2
  dsimp only at h1 h2 ⊢
  split
  · exact Sat_fail
  · refine Sat_tick_bind (hN _ (by omega))
      (Sat_bind (filesLoop_sat hN dec data.length hdec _ rd2 (by omega) (by omega)) ?_)
    rintro ⟨files, rd3⟩ h3
    dsimp only
    split
    · exact Sat_fail
    · exact Sat_pure trivial

theorem bcLoop_sat (hN : Dominates A L) (hG : GobOK C A L) :
    ∀ (fuel : Nat) (r : Bytes) (bc : BC), r.length ≤ L → (O ∨ 2 * r.length + 2 ≤ fuel) →
      Sat O A (fun _ => True) (bcLoopF C fuel r bc) := by
  intro fuel
  induction fuel with
  | zero => intro r bc _ hf; unfold bcLoopF; exact Sat_outOfFuel (hf.resolve_right (by omega))
  | succ fuel ih =>
    intro r bc hr hf
    cases r with
    | nil => rw [bcLoopF_nil]; exact Sat_pure trivial
    | cons field r =>
      simp only [List.length_cons] at hr hf
      have hdec : ∀ r', r'.length ≤ r.length →
          Sat O A (fun p => p.2.length + 1 ≤ r'.length) (decodeObjectF C fuel r') := fun r' h' =>
        (decSpec O C A L hN hG fuel).1 r' (by omega) (hf.imp id (by omega))
      have next : ∀ r' bc', r'.length ≤ r.length → Sat O A (fun _ => True) (bcLoopF C fuel r' bc') :=
        fun r' bc' h' => ih r' bc' (by omega) (hf.imp id (by omega))
      by_cases h0 : field = 0
      · subst h0; rw [bcLoopF_f0]
        refine Sat_bind (hdec r (Nat.le_refl _)) fun p hp => ?_
        split
        · rename_i sz _
          split
          · exact next _ _ (by omega)
          split
          · exact Sat_fail
          · -- 0 < sz ≤ |rest| as an int64, so the unsigned reading is the same number
            have hsz : (sz.toNat : Int) = sz.toInt := by
              rw [BitVec.toInt_eq_toNat_cond] at *; split at * <;> omega
            refine Sat_tick_bind (hN _ (by omega)) (Sat_lift_bind (readFull_spec _ _) fun q hq => ?_)
            refine Sat_bind (unmarshalFileSet_sat hN _ _ (by omega) fun r' _ h' => hdec r' (by omega))
              fun fs _ => next _ _ (by omega)
        · exact Sat_fail
      by_cases h1 : field = 1
      · subst h1; rw [bcLoopF_f1]
        refine Sat_bind (hdec r (Nat.le_refl _)) fun p hp => ?_
        split
        · exact next _ _ (by omega)
        · exact Sat_fail
      by_cases h2 : field = 2
      · subst h2; rw [bcLoopF_f2]
        refine Sat_bind (hdec r (Nat.le_refl _)) fun p hp => ?_
        split
        · exact next _ _ (by omega)
        · exact Sat_fail
      by_cases h3 : field = 3
      · subst h3; rw [bcLoopF_f3]
        refine Sat_bind (hdec r (Nat.le_refl _)) fun p hp => ?_
        split
        · exact next _ _ (by omega)
        · exact Sat_fail
      · rw [bcLoopF_other _ _ _ _ _ ⟨h0, h1, h2, h3⟩]; exact Sat_fail

theorem fixItems_rsat (attrs : List (Bytes × Obj)) : ∀ kvs, RSat O (fun _ => True) (fixItems attrs kvs) := by
  intro kvs
  induction kvs with
  | nil => simp [fixItems]
  | cons kv rest ih =>
    obtain ⟨item, v⟩ := kv
    unfold fixItems
    split
    · exact RSat_bind ih (by intro a _; simp)
    · dsimp only
      split
      · simp
      · exact RSat_bind ih (by intro a _; simp)

theorem fixConst_rsat (mods : Mods) (o : Obj) : RSat O (fun _ => True) (fixConst mods o) := by
  unfold fixConst
  split
  · split
    · split
      · simp
      · exact RSat_bind (fixItems_rsat _ _) (by intro a _; simp)
    · simp
  · simp

theorem fixConsts_rsat (mods : Mods) : ∀ cs, RSat O (fun _ => True) (fixConsts mods cs) := by
  intro cs
  induction cs with
  | nil => simp [fixConsts]
  | cons o rest ih =>
    unfold fixConsts
    exact RSat_bind (fixConst_rsat mods o) fun _ _ => RSat_bind ih fun _ _ => by simp

theorem fixObjects_rsat (mods : Mods) (bc : BC) : RSat O (fun _ => True) (fixObjects mods bc) := by
  unfold fixObjects
  split
  · simp
  · exact RSat_bind (fixConsts_rsat mods _) (by intro a _; simp)

theorem decodeBytecodeF_sat (conv : BC → Res BC) (mods : Mods) (fuel : Nat) (data : Bytes)
    (hN : Dominates A data.length) (hG : GobOK C A data.length)
    (hconv : ∀ bc, RSat O (fun _ => True) (conv bc))
    (hf : O ∨ 2 * data.length + 2 ≤ fuel) :
    Sat O A (fun _ => True) (decodeBytecodeF C conv mods fuel data) := by
  unfold decodeBytecodeF
  have hloop := bcLoop_sat hN hG fuel (data.drop 6) {} (by simp) (hf.imp id (by simp; omega))
  split
  · exact Sat_fail
  split
  · exact Sat_fail
  dsimp only
  split
  · exact Sat_bind hloop fun bc _ => Sat_liftM (fixObjects_rsat mods bc)
  split
  · exact Sat_bind hloop fun bc _ => Sat_lift_bind (hconv bc) fun bc' _ => Sat_liftM (fixObjects_rsat mods bc')
  · exact Sat_fail

end UgoVerif.Proofs.Enc

import UgoVerif.Spec.EncVM
import UgoVerif.Proofs.EncBytecode
import UgoVerif.Proofs.EncNorm
/-
  The behavioural half of C04: the VM state a bytecode denotes does not change under `norm`;
  `fixObjects` is the identity on bytecode without module constants.
-/
namespace UgoVerif.Proofs.Enc
open UgoVerif UgoVerif.Go UgoVerif.Model.Enc UgoVerif.Spec.Enc UgoVerif.Spec.EncVM UgoVerif.VM

theorem posOrZero_toNat (v : BitVec 64) : (if 0 < v.toInt then v else 0).toInt.toNat = v.toInt.toNat := by
  split
  · rfl
  · simp; omega

/-- the VM's view of a compiled function does not see what `normCF` changes: a non-positive
    count is 0 in the Nat-typed `Code`, `Free` and the source map are not part of it -/
theorem codeOfCF_normCF (f : CF) : codeOfCF (normCF f) = codeOfCF f := by
  obtain ⟨np, nl, ins, va, nf, sm⟩ := f
  unfold codeOfCF normCF
  simp only
  rw [posOrZero_toNat, posOrZero_toNat]

theorem run_congr_norm (F : FloatOps) (H : Host) (bc bc' : BC) (h : normBC bc' = normBC bc) (i : Inputs) :
    run F H bc' i = run F H bc i := by
  unfold run load; rw [h]

theorem load_of_WF (H : Host) (bc : BC) (h : WFBC bc) : load H bc = loadRaw H bc := by
  unfold load; rw [normBC_of_WF bc h]

theorem keys_normKVs (kvs : List (Bytes × Obj)) : keys (normKVs kvs) = keys kvs := by
  rw [normKVs_eq_map, keys, List.map_map]; rfl

mutual
/-- map keys are unique, recursively (the value is a tree of Go maps); nothing is required of
    compiled functions: negative counts, a non-empty `Free`, repeated source-map keys are allowed -/
def KeysOK : Obj → Prop
  | .array xs => KeysOKL xs
  | .map kvs => (keys kvs).Nodup ∧ KeysOKKV kvs
  | _ => True
def KeysOKL : List Obj → Prop
  | [] => True
  | x :: xs => KeysOK x ∧ KeysOKL xs
def KeysOKKV : List (Bytes × Obj) → Prop
  | [] => True
  | (_, v) :: rest => KeysOK v ∧ KeysOKKV rest
end

/-- the identity of an opaque host object does not depend on how its contents are written down -/
def HostNorm (H : Host) : Prop := ∀ o, H.objId (norm o) = H.objId o

mutual
theorem loadObj_norm (H : Host) (hH : HostNorm H) : ∀ (o : Obj) (l : L), KeysOK o → loadObj H (norm o) l = loadObj H o l
  | .array xs, l, h => by
    simp only [norm, loadObj]
    rw [loadList_norm H hH xs l (by simpa [KeysOK] using h)]
  | .map kvs, l, h => by
    simp only [KeysOK] at h
    simp only [norm, loadObj]
    rw [mapOfList_of_nodup (normKVs kvs) (by rw [keys_normKVs]; exact h.1), loadKVs_norm H hH kvs l h.2]
  | .syncMap true kvs, l, _ => by
    have := hH (.syncMap true kvs)
    simp only [norm] at this
    simp only [norm, loadObj, this]
  | .syncMap false kvs, l, _ => by
    have := hH (.syncMap false kvs)
    simp only [norm] at this
    simp only [norm, loadObj, this]
  | .compiledFunction f, l, _ => by simp only [norm, loadObj, allocCF, codeOfCF_normCF]
  | .nil, _, _ | .undefined, _, _ | .bool _, _, _ | .int _, _, _ | .uint _, _, _ | .char _, _, _ | .float _, _, _
  | .str _, _, _ | .bytes _, _, _ | .function _, _, _ | .builtinFunction _, _, _ | .gob _ _, _, _ => rfl
theorem loadList_norm (H : Host) (hH : HostNorm H) : ∀ (xs : List Obj) (l : L), KeysOKL xs →
    loadList H (normList xs) l = loadList H xs l
  | [], _, _ => rfl
  | x :: xs, l, h => by
    simp only [KeysOKL] at h
    simp only [normList, loadList]
    rw [loadObj_norm H hH x l h.1, loadList_norm H hH xs _ h.2]
theorem loadKVs_norm (H : Host) (hH : HostNorm H) : ∀ (kvs : List (Bytes × Obj)) (l : L), KeysOKKV kvs →
    loadKVs H (normKVs kvs) l = loadKVs H kvs l
  | [], _, _ => rfl
  | (k, v) :: kvs, l, h => by
    simp only [KeysOKKV] at h
    simp only [normKVs, loadKVs]
    rw [loadObj_norm H hH v l h.1, loadKVs_norm H hH kvs _ h.2]
end

/-- `loadRaw` itself is blind to `norm` on bytecode whose maps are Go maps: what `norm` changes
    besides collapsing repeated keys — non-positive counts, the `Free` list, the source maps —
    is not part of the VM state -/
theorem loadRaw_norm (H : Host) (hH : HostNorm H) (bc : BC) (h : ∀ cs, bc.constants = some cs → KeysOKL cs) :
    loadRaw H (normBC bc) = loadRaw H bc := by
  obtain ⟨fs, mn, cs, nm⟩ := bc
  unfold loadRaw normBC
  simp only [posOrZero_toNat]
  cases cs with
  | none => cases mn <;> simp [allocCF, codeOfCF_normCF]
  | some cs =>
    have hl := fun l => loadList_norm H hH cs l (h cs rfl)
    cases mn <;> simp [hl, allocCF, codeOfCF_normCF]

/-- a constant that `fixObjects` leaves alone -/
def NotModule : Obj → Prop
  | .map kvs => ∀ name, lookupKV attrModuleName kvs ≠ some (.str name)
  | _ => True

theorem fixConst_id (mods : Mods) (o : Obj) (h : NotModule o) : fixConst mods o = .ok o := by
  unfold fixConst
  split
  · rename_i kvs
    split
    · rename_i name hl
      exact absurd hl (h name)
    · rfl
  · rfl

theorem fixConsts_id (mods : Mods) : ∀ cs : List Obj, (∀ o ∈ cs, NotModule o) → fixConsts mods cs = .ok cs
  | [], _ => rfl
  | o :: rest, h => by
    unfold fixConsts
    rw [fixConst_id mods o (h o (List.mem_cons_self ..)),
      fixConsts_id mods rest (fun o' ho' => h o' (List.mem_cons_of_mem _ ho'))]
    rfl

theorem fixObjects_id (mods : Mods) (bc : BC) (h : ∀ cs, bc.constants = some cs → ∀ o ∈ cs, NotModule o) :
    fixObjects mods bc = .ok bc := by
  unfold fixObjects
  cases hc : bc.constants with
  | none => rfl
  | some cs =>
    simp only
    rw [fixConsts_id mods cs (h cs hc)]
    simp only [Res.bind_ok, Res.pure_eq]
    rw [← hc]

/-- `norm c` is `c` as the decoder returns it -/
def FixOK (mods : Mods) (c : Obj) : Prop := ∃ c', fixConst mods (norm c) = .ok c' ∧ norm c' = norm c

theorem FixOK_notModule (mods : Mods) (c : Obj) (h : NotModule (norm c)) : FixOK mods c :=
  ⟨norm c, fixConst_id mods _ h, norm_idem c⟩

theorem FixOK_module (mods : Mods) (name : Bytes) (attrs items : List (Bytes × Obj))
    (hm : mods name = some attrs) (hk : (keys items).Nodup)
    (hname : lookupKV attrModuleName items = some (.str name))
    (hitems : ∀ k v, (k, v) ∈ items → (k = attrModuleName ∧ v = .str name) ∨
      (k ≠ attrModuleName ∧ lookupKV k attrs = some v)) :
    FixOK mods (.map items) := by
  refine ⟨.map items, ?_, rfl⟩
  simp only [norm]
  rw [mapOfList_of_nodup (normKVs items) (by rw [keys_normKVs]; exact hk)]
  exact fix_rebinds mods name attrs items hm hname hitems

theorem fixConsts_of_FixOK (mods : Mods) : ∀ cs : List Obj, (∀ c ∈ cs, FixOK mods c) →
    ∃ cs', fixConsts mods (normList cs) = .ok cs' ∧ normList cs' = normList cs
  | [], _ => ⟨[], rfl, rfl⟩
  | c :: rest, h => by
    obtain ⟨c', h1, h2⟩ := h c (List.mem_cons_self ..)
    obtain ⟨rest', h3, h4⟩ := fixConsts_of_FixOK mods rest (fun c' hc' => h c' (List.mem_cons_of_mem _ hc'))
    refine ⟨c' :: rest', ?_, ?_⟩
    · simp only [normList, fixConsts, h1, h3, Res.bind_ok, Res.pure_eq]
    · simp only [normList, h2, h4]

theorem fixObjects_of_FixOK (mods : Mods) (bc : BC)
    (h : ∀ cs, bc.constants = some cs → ∀ c ∈ cs, FixOK mods c) :
    ∃ bc', fixObjects mods (normBC bc) = .ok bc' ∧ normBC bc' = normBC bc := by
  obtain ⟨fs, mn, cs, nm⟩ := bc
  cases cs with
  | none => exact ⟨_, rfl, normBC_idem _⟩
  | some cs =>
    obtain ⟨cs', h1, h2⟩ := fixConsts_of_FixOK mods cs (h cs rfl)
    refine ⟨{ normBC ⟨fs, mn, some cs, nm⟩ with constants := some cs' }, ?_, ?_⟩
    · unfold fixObjects
      simp only [normBC, Option.map_some, h1, Res.bind_ok, Res.pure_eq]
    · show ({ normBC (normBC ⟨fs, mn, some cs, nm⟩) with constants := some (normList cs') } : BC) = _
      rw [normBC_idem, h2]; rfl

end UgoVerif.Proofs.Enc

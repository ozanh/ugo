import UgoVerif.Model.Enc
/-
  encoding/binary varints round-trip, and so do the length-prefixed varints of `varintConv`
  through each of the three readers (`vi.read`, `vi.readBytes`, `toVarint`).
-/
namespace UgoVerif.Proofs.Enc
open UgoVerif.Go UgoVerif.Model.Enc UgoVerif.Gen.EncTags

theorem putUvarint_lt (x : Nat) (h : x < 128) : putUvarint x = [UInt8.ofNat x] := by
  rw [putUvarint]; simp [h]

theorem putUvarint_ge (x : Nat) (h : ¬ x < 128) :
    putUvarint x = UInt8.ofNat (x % 128 + 128) :: putUvarint (x / 128) := by
  rw [putUvarint]; simp [h]

theorem putUvarint_length_pos (x : Nat) : 1 ≤ (putUvarint x).length := by
  by_cases h : x < 128
  · simp [putUvarint_lt x h]
  · simp [putUvarint_ge x h]

/-- at `k = 10` and `k = 5`: the scratch buffers of the Go code suffice -/
theorem putUvarint_length_le : ∀ (x k : Nat), 1 ≤ k → x < 2 ^ (7 * k) → (putUvarint x).length ≤ k := by
  intro x
  induction x using Nat.strongRecOn with
  | _ x ih =>
    intro k hk hx
    by_cases h : x < 128
    · simp [putUvarint_lt x h] <;> omega
    · rw [putUvarint_ge x h]
      have hk2 : 2 ≤ k := by
        by_cases h1 : k = 1
        · subst h1; simp only [Nat.mul_one, Nat.reducePow] at hx; omega
        · omega
      have hp : 2 ^ (7 * k) = 128 * 2 ^ (7 * (k - 1)) := by
        rw [show 7 * k = 7 + 7 * (k - 1) by omega, Nat.pow_add]
      have hdiv : x / 128 < 2 ^ (7 * (k - 1)) := by
        rw [hp] at hx
        exact Nat.div_lt_of_lt_mul hx
      have := ih (x / 128) (by omega) (k - 1) (by omega) hdiv
      simp only [List.length_cons]; omega

theorem uvarintGo_put : ∀ (n i x : Nat) (rest : Bytes), i ≤ 9 → n * 2 ^ (7 * i) < 2 ^ 64 →
    uvarintGo (putUvarint n ++ rest) i x (7 * i) = (x + n * 2 ^ (7 * i), (i : Int) + (putUvarint n).length) := by
  intro n
  induction n using Nat.strongRecOn with
  | _ n ih =>
    intro i x rest hi hn
    by_cases h : n < 128
    · rw [putUvarint_lt n h]
      simp only [List.cons_append, List.nil_append, uvarintGo]
      have hb : (UInt8.ofNat n).toNat = n := by simp [UInt8.toNat_ofNat']; omega
      rw [hb]
      have h10 : i ≠ 10 := by omega
      have h91 : ¬ (i = 9 ∧ n > 1) := by
        rintro ⟨h9, h1⟩; subst h9; simp only [Nat.reduceMul, Nat.reducePow] at hn; omega
      simp [h10, h, h91]
    · rw [putUvarint_ge n h]
      simp only [List.cons_append, uvarintGo]
      have hb : (UInt8.ofNat (n % 128 + 128)).toNat = n % 128 + 128 := by simp [UInt8.toNat_ofNat']; omega
      rw [hb]
      have hp : 2 ^ (7 * (i + 1)) = 128 * 2 ^ (7 * i) := by
        rw [show 7 * (i + 1) = 7 + 7 * i by omega, Nat.pow_add]
      have h128 : 128 * 2 ^ (7 * i) ≤ n * 2 ^ (7 * i) := Nat.mul_le_mul_right _ (by omega)
      have hi8 : i ≤ 8 := by
        by_cases h9 : i = 9
        · subst h9; simp only [Nat.reduceMul, Nat.reducePow] at h128 hn; omega
        · omega
      have hdiv : n / 128 * 2 ^ (7 * (i + 1)) < 2 ^ 64 := by
        rw [hp]
        have : n / 128 * 128 ≤ n := Nat.div_mul_le_self n 128
        calc n / 128 * (128 * 2 ^ (7 * i)) = (n / 128 * 128) * 2 ^ (7 * i) := by rw [Nat.mul_assoc]
          _ ≤ n * 2 ^ (7 * i) := Nat.mul_le_mul_right _ this
          _ < 2 ^ 64 := hn
      have h10 : i ≠ 10 := by omega
      have hnot : ¬ (n % 128 + 128 < 128) := by omega
      simp only [h10, hnot, if_false]
      have hs : 7 * i + 7 = 7 * (i + 1) := by omega
      rw [hs, ih (n / 128) (by omega) (i + 1) _ rest (by omega) hdiv]
      have hmod : (n % 128 + 128) % 128 = n % 128 := by omega
      rw [hmod, hp]
      have hdm : n = 128 * (n / 128) + n % 128 := (Nat.div_add_mod n 128).symm
      refine Prod.ext ?_ ?_
      · show x + n % 128 * 2 ^ (7 * i) + n / 128 * (128 * 2 ^ (7 * i)) = x + n * 2 ^ (7 * i)
        have : n * 2 ^ (7 * i) = (128 * (n / 128) + n % 128) * 2 ^ (7 * i) := by rw [← hdm]
        rw [this, Nat.add_mul, Nat.mul_comm 128 (n / 128), Nat.mul_assoc]; omega
      · show ((i + 1 : Nat) : Int) + ((putUvarint (n / 128)).length : Int) = (i : Int) + ((putUvarint (n / 128)).length + 1 : Nat)
        push_cast; omega

theorem uvarint_put (n : Nat) (rest : Bytes) (hn : n < 2 ^ 64) :
    uvarint (putUvarint n ++ rest) = (n, ((putUvarint n).length : Int)) := by
  have := uvarintGo_put n 0 0 rest (by omega) (by simpa using hn)
  simpa [uvarint] using this

theorem putUvarint_len10 (n : Nat) (hn : n < 2 ^ 64) : (putUvarint n).length ≤ 10 :=
  putUvarint_length_le n 10 (by omega) (by simp only [Nat.reduceMul, Nat.reducePow] at hn ⊢; omega)

/-- the Char scratch buffer (`2+binary.MaxVarintLen32`) suffices as well -/
theorem putUvarint_len5 (n : Nat) (hn : n < 2 ^ 35) : (putUvarint n).length ≤ 5 :=
  putUvarint_length_le n 5 (by omega) (by simpa using hn)

theorem unzigzag_zigzag (x : Int) : unzigzag (zigzag x) = x := by
  unfold unzigzag zigzag
  split <;> split <;> omega

theorem zigzag_lt (x : Int) (h : inInt64 x = true) : zigzag x < 2 ^ 64 := by
  simp [inInt64] at h
  unfold zigzag; split <;> omega

theorem varint_put (x : Int) (rest : Bytes) (h : inInt64 x = true) :
    varint (putVarint x ++ rest) = (x, ((putVarint x).length : Int)) := by
  unfold varint putVarint
  rw [uvarint_put _ rest (zigzag_lt x h)]
  simp [unzigzag_zigzag]

theorem putVarint_len (x : Int) (h : inInt64 x = true) :
    1 ≤ (putVarint x).length ∧ (putVarint x).length ≤ 10 :=
  ⟨putUvarint_length_pos _, putUvarint_len10 _ (zigzag_lt x h)⟩

theorem lenByte (n : Nat) (h : n ≤ 10) : (UInt8.ofNat n).toNat = n := by
  simp [UInt8.toNat_ofNat']; omega

theorem lenByte_ne_zero (n : Nat) (h1 : 1 ≤ n) (h : n ≤ 10) : UInt8.ofNat n ≠ 0 := by
  intro hz
  have h2 := congrArg UInt8.toNat hz
  rw [lenByte n h] at h2
  have : (0 : UInt8).toNat = 0 := rfl
  omega

theorem viRead_toBytes (v : Int) (rest : Bytes) (h : inInt64 v = true) :
    viRead (toBytes v ++ rest) = .ok (v, rest) := by
  obtain ⟨h1, h10⟩ := putVarint_len v h
  unfold toBytes viRead
  simp only [List.cons_append]
  have hb := lenByte _ h10
  have hne : UInt8.ofNat (putVarint v).length ≠ 0 := lenByte_ne_zero _ h1 h10
  rw [hb]
  have hv := varint_put v [] h
  simp only [List.append_nil] at hv
  simp [hne, hv, show ¬ (putVarint v).length > 11 by omega]
  repeat' (first | rfl | omega | split)

theorem viReadBytes_toBytes (v : Int) (rest : Bytes) (h : inInt64 v = true) :
    viReadBytes (toBytes v ++ rest) = .ok (v, toBytes v, rest) := by
  obtain ⟨h1, h10⟩ := putVarint_len v h
  unfold toBytes viReadBytes
  simp only [List.cons_append]
  have hb := lenByte _ h10
  have hne : UInt8.ofNat (putVarint v).length ≠ 0 := lenByte_ne_zero _ h1 h10
  rw [hb]
  have hv := varint_put v [] h
  simp only [List.append_nil] at hv
  simp [hne, hv, show ¬ 1 + (putVarint v).length > 11 by omega]
  repeat' (first | rfl | omega | split)

theorem toVarint_toBytes (v : Int) (rest : Bytes) (h : inInt64 v = true) :
    toVarint (toBytes v ++ rest) = .ok (v, (toBytes v).length) := by
  obtain ⟨h1, h10⟩ := putVarint_len v h
  unfold toBytes toVarint
  simp only [List.cons_append]
  have hb := lenByte _ h10
  have hne : UInt8.ofNat (putVarint v).length ≠ 0 := lenByte_ne_zero _ h1 h10
  rw [hb]
  have hv := varint_put v rest h
  simp [hne, hv]
  repeat' (first | rfl | omega | split)

theorem toBytes_length_ge (v : Int) : 2 ≤ (toBytes v).length :=
  Nat.succ_le_succ (putUvarint_length_pos _)

theorem toBytes_length (v : Int) (h : inInt64 v = true) : 2 ≤ (toBytes v).length ∧ (toBytes v).length ≤ 11 :=
  ⟨toBytes_length_ge v, Nat.succ_le_succ (putVarint_len v h).2⟩

end UgoVerif.Proofs.Enc

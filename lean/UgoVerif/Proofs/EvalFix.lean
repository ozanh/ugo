import UgoVerif.Model.Eval
import UgoVerif.Proofs.StreamDec
/-
  `fixOpPop` (Model/Eval.lean) on a NOOP-free stream of whole instructions: the scan computes
  `stOf`, so the rewrite fires exactly on a trailing `POP; RETURN 0` that does not start the
  stream (`fixOpPop_two`, `fixOpPop_short`).
-/
namespace UgoVerif.Proofs.EvalFix
open UgoVerif UgoVerif.Go UgoVerif.Eval UgoVerif.Model.Bytecode UgoVerif.Gen.Opcodes UgoVerif.Proofs.Bytecode

def IsInstr (b : UInt8) (ob : Bytes) : Prop :=
  ∃ ws, opcodeOperands b.toNat = some ws ∧ ob.length = ws.sum

theorem read_instr {b : UInt8} {ob : Bytes} {ws : List Nat} (h : opcodeOperands b.toNat = some ws)
    (hl : ob.length = ws.sum) :
    ∃ args, args.length = ws.length ∧ ∀ X, readOperands ws (ob ++ X) = .ok (args, X) :=
  ⟨_, decodeArgs_length _ _, readOperands_append (v2_supported h) hl⟩

theorem opnds_pop : opcodeOperands 22 = some [] := by decide
theorem opnds_return : opcodeOperands 39 = some [1] := by decide

theorem read_return (x : UInt8) (X : Bytes) : readOperands [1] (x :: X) = .ok ([x.toNat], X) := by
  simp [readOperands, readOperandsWidths, beVal]

abbrev Ins := UInt8 × Bytes

def flat (L : List Ins) : Bytes := L.flatMap fun p => p.1 :: p.2

/-- opcode 0 is NOOP, which `fixStep` cannot tell from "no instruction yet" (`prevOp == 0`) -/
def Good (p : Ins) : Prop := IsInstr p.1 p.2 ∧ p.1.toNat ≠ 0

def Fire (p1 p : Ins) : Prop := p1.1.toNat = OpPop ∧ p.1.toNat = OpReturn ∧ p.2 = [0]

instance (p1 p : Ins) : Decidable (Fire p1 p) := by unfold Fire; infer_instance

/-- the callback's variables after the instructions `acc`, LAST instruction FIRST, of a
    NOOP-free stream -/
def stOf : List Ins → FixSt
  | [] => {}
  | [p] => { prevOp := p.1.toNat, lastOp := p.1.toNat, fixPos := -1 }
  | p :: p1 :: r =>
    { prevOp := p1.1.toNat, lastOp := p.1.toNat,
      fixPos := if Fire p1 p then ((flat (p1 :: r).reverse).length : Int) - 1 else -1 }

theorem flat_cons (p : Ins) (L : List Ins) : flat (p :: L) = p.1 :: p.2 ++ flat L := by
  simp [flat]

theorem flat_append (A B : List Ins) : flat (A ++ B) = flat A ++ flat B := by
  simp [flat]

theorem flat_snoc_length (acc : List Ins) (p : Ins) :
    (flat (p :: acc).reverse).length = (flat acc.reverse).length + (p.2.length + 1) := by
  simp [flat]

theorem fixScan_step {b : UInt8} {ob : Bytes} {ws : List Nat} (h : opcodeOperands b.toNat = some ws)
    (hl : ob.length = ws.sum) (args : List Nat) (hr : ∀ X, readOperands ws (ob ++ X) = .ok (args, X))
    (fuel : Nat) (X : Bytes) (pos : Nat) (st : FixSt) :
    fixScan (fuel + 1) (b :: ob ++ X) pos st =
      match fixStep st pos b.toNat args with
      | .ok st' => fixScan fuel X (pos + (ob.length + 1)) st'
      | .err e => .err e
      | .panic m => .panic m := by
  simp only [List.cons_append, fixScan, h, hr X, hl]
  rfl

theorem widths_of_op {b : UInt8} {ws ws' : List Nat} {op : Nat} (hw : opcodeOperands b.toNat = some ws)
    (hb : b.toNat = op) (ht : opcodeOperands op = some ws') : ws = ws' := by
  rw [hb, ht] at hw
  exact (Option.some.inj hw).symm

theorem isInstr_pop {b : UInt8} {ob : Bytes} (hi : IsInstr b ob) (hb : b.toNat = OpPop) : ob = [] := by
  obtain ⟨ws, hw, hl⟩ := hi
  cases widths_of_op hw hb opnds_pop
  exact List.eq_nil_of_length_eq_zero hl

theorem isInstr_return {b : UInt8} {ob : Bytes} {ws : List Nat} (hw : opcodeOperands b.toNat = some ws)
    (hl : ob.length = ws.sum) (hb : b.toNat = OpReturn) {args : List Nat}
    (hr : readOperands ws (ob ++ []) = .ok (args, [])) : ∃ x, ob = [x] ∧ args = [x.toNat] := by
  cases widths_of_op hw hb opnds_return
  obtain ⟨x, rfl⟩ := List.length_eq_one_iff.mp hl
  rw [List.append_nil, read_return] at hr
  exact ⟨x, rfl, (Prod.mk.inj (Res.ok.inj hr)).1.symm⟩

theorem stOf_lastOp (q : Ins) (r : List Ins) : (stOf (q :: r)).lastOp = q.1.toNat := by
  cases r <;> rfl

theorem stOf_prevOp_ne {q : Ins} {r : List Ins} (h : ∀ p ∈ q :: r, Good p) : (stOf (q :: r)).prevOp ≠ 0 := by
  cases r with
  | nil => exact (h q (.head _)).2
  | cons q1 r => exact (h q1 (.tail _ (.head _))).2

theorem fixStep_good (p : Ins) (acc : List Ins) (hp : Good p) (hacc : ∀ q ∈ acc, Good q)
    {ws : List Nat} (hw : opcodeOperands p.1.toNat = some ws) (hl : p.2.length = ws.sum)
    (args : List Nat) (hr : ∀ X, readOperands ws (p.2 ++ X) = .ok (args, X)) :
    fixStep (stOf acc) (flat acc.reverse).length p.1.toNat args = .ok (stOf (p :: acc)) := by
  obtain ⟨b, ob⟩ := p
  unfold fixStep
  match acc, hacc with
  | [], _ =>
    -- first instruction: prevOp = op, so the POP/RETURN test fails
    by_cases hpp : b.toNat = OpPop
    · simp [stOf, hpp, OpPop, OpReturn]
    · simp [stOf, hpp]
  | q :: r, hacc =>
    -- later: the test is on the opcodes of `q` and `p`, and then `args` is the operand byte of `p`
    simp only [beq_iff_eq, stOf_prevOp_ne hacc, if_false, stOf_lastOp]
    by_cases hpq : q.1.toNat = OpPop ∧ b.toNat = OpReturn
    · obtain ⟨x, rfl, rfl⟩ := isInstr_return hw hl hpq.2 (hr [])
      simp [stOf, Fire, hpq.1, hpq.2, ← UInt8.toNat_inj]
    · have hn : ¬ Fire q (b, ob) := fun h => hpq ⟨h.1, h.2.1⟩
      simp [stOf, hn, hpq]

theorem fixScan_good : ∀ (L : List Ins), (∀ p ∈ L, Good p) → ∀ (acc : List Ins), (∀ q ∈ acc, Good q) →
    ∀ fuel, (flat L).length < fuel →
    fixScan fuel (flat L) (flat acc.reverse).length (stOf acc) = .ok (stOf (L.reverse ++ acc)) := by
  intro L
  induction L with
  | nil =>
    intro _ acc _ fuel hf
    match fuel, hf with
    | fuel+1, _ => simp [flat, fixScan]
  | cons p L ih =>
    intro hL acc hacc fuel hf
    have hp : Good p := hL p (by simp)
    obtain ⟨ws, hw, hl⟩ := hp.1
    obtain ⟨args, _, hr⟩ := read_instr hw hl
    match fuel, hf with
    | fuel+1, hf =>
      rw [flat_cons, fixScan_step hw hl args hr, fixStep_good p acc hp hacc hw hl args hr]
      simp only
      have hf' : (flat L).length < fuel := by simp [flat_cons] at hf; omega
      have := ih (fun q hq => hL q (by simp [hq])) (p :: acc)
        (fun q hq => by simp at hq; rcases hq with rfl | hq; exact hp; exact hacc q hq) fuel hf'
      rw [flat_snoc_length] at this
      rw [this]
      simp

theorem fixScan_whole (L : List Ins) (hL : ∀ p ∈ L, Good p) :
    fixScan ((flat L).length + 1) (flat L) 0 {} = .ok (stOf L.reverse) := by
  have := fixScan_good L hL [] (by simp) ((flat L).length + 1) (by omega)
  simpa [flat, stOf] using this

theorem flat_length_pos {L : List Ins} (h : L ≠ []) : 0 < (flat L).length := by
  match L, h with
  | p :: L, _ => simp [flat_cons]

/-- the two writes of `fixOpPop` on a stream ending in the bytes `POP; RETURN 0` -/
theorem set_pop_return (pre : Bytes) :
    ((pre ++ [22, 39, 0]).set pre.length (UInt8.ofNat OpNoOp)).set (pre.length + 2) 1 = pre ++ [0, 39, 1] := by
  simp [OpNoOp]

theorem fire_eq {p1 p : Ins} (h1 : Good p1) (hf : Fire p1 p) : p1 = (22, []) ∧ p = (39, [0]) := by
  obtain ⟨b1, ob1⟩ := p1
  obtain ⟨b, ob⟩ := p
  obtain ⟨hp1, hp, hob⟩ := hf
  cases isInstr_pop h1.1 hp1
  cases hob
  cases (UInt8.toNat_inj (b := 22)).mp hp1
  cases (UInt8.toNat_inj (b := 39)).mp hp
  exact ⟨rfl, rfl⟩

theorem fixOpPop_two (pre : List Ins) (p1 p : Ins) (hpre : ∀ q ∈ pre, Good q) (h1 : Good p1) (h : Good p) :
    fixOpPop (flat (pre ++ [p1, p])) =
      .ok (if Fire p1 p ∧ pre ≠ [] then flat pre ++ [0, 39, 1] else flat (pre ++ [p1, p])) := by
  have hL : ∀ q ∈ pre ++ [p1, p], Good q := by
    intro q hq
    simp at hq
    rcases hq with hq | rfl | rfl
    · exact hpre q hq
    · exact h1
    · exact h
  unfold fixOpPop
  rw [fixScan_whole _ hL]
  have hrev : (pre ++ [p1, p]).reverse = p :: p1 :: pre.reverse := by simp
  rw [hrev]
  by_cases hf : Fire p1 p
  · obtain ⟨rfl, rfl⟩ := fire_eq h1 hf
    -- `fixPos` is the offset of the POP, positive unless `pre` is empty
    have hv : (stOf ((39, [0]) :: (22, []) :: pre.reverse)).fixPos = ((flat pre).length : Int) := by
      simp [stOf, hf, flat]
    have hbytes : flat (pre ++ [(22, []), (39, [0])]) = flat pre ++ [22, 39, 0] := by simp [flat]
    simp only [hv, hbytes]
    by_cases hpre0 : pre = []
    · subst hpre0
      simp [flat]
    · have hpos := flat_length_pos hpre0
      rw [if_pos (by omega)]
      simp only [Int.toNat_natCast]
      rw [if_pos (by simp), set_pop_return]
      simp [hf, hpre0]
  · simp [stOf, hf]

theorem fixOpPop_short (L : List Ins) (hL : ∀ q ∈ L, Good q) (hlen : L.length ≤ 1) :
    fixOpPop (flat L) = .ok (flat L) := by
  unfold fixOpPop
  rw [fixScan_whole _ hL]
  match L, hlen with
  | [], _ => simp [stOf]
  | [p], _ => simp [stOf]

theorem flat_of_dec {bs : Bytes} {off : Nat} {is : List Instr} (h : Dec opcodeOperands bs off is) :
    ∃ L : List Ins, flat L = bs ∧ (∀ p ∈ L, IsInstr p.1 p.2) ∧ L.map (fun p => p.1.toNat) = is.map (·.op) := by
  induction h with
  | nil _ => exact ⟨[], by simp [flat], by simp, by simp⟩
  | @cons b tail _ ws _ hws _ hsum _ ih =>
    obtain ⟨L', hflat, hins, hops⟩ := ih
    refine ⟨(b, tail.take ws.sum) :: L', by rw [flat_cons, hflat]; simp, fun p hp => ?_, by simp [hops]⟩
    rcases List.mem_cons.mp hp with rfl | hp
    · exact ⟨ws, hws, by simp; omega⟩
    · exact hins p hp

theorem flat_of_decode (fuel : Nat) (bs : Bytes) (off : Nat) (is : List Instr)
    (h : decodeAllAux opcodeOperands fuel bs off = some is) :
    ∃ L : List Ins, flat L = bs ∧ (∀ p ∈ L, IsInstr p.1 p.2) ∧ L.map (fun p => p.1.toNat) = is.map (·.op) :=
  flat_of_dec (Dec.of_aux (fun _ _ => v2_supported) h)

end UgoVerif.Proofs.EvalFix

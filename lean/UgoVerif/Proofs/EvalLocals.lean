import UgoVerif.Proofs.VMExec
/-
  `initLocals` (VM/Run.lean) computed slot by slot.  The two loops have closed forms on the stack
  (`fillU`, `copyL`); `initLocals_slots` says what every call leaves — whatever the argument count,
  variadic or not: the Go side has no arity check, missing parameters are undefined, surplus
  arguments are dropped — in terms of `bindSlot`/`bindHeap`, the description of parameter binding
  that the in-script call shares (Proofs/InvokeBind); `initLocals_session` is the instance
  `NumParams = NumLocals`, not variadic: what `Eval.Run` makes of every fragment.
-/
namespace UgoVerif.Proofs.EvalLocals
open UgoVerif UgoVerif.Go UgoVerif.VM UgoVerif.Proofs.ModCache

def fillU (st : Array V) : List Nat → Array V
  | [] => st
  | i :: r => fillU (st.set! i .undefined) r

/-- `copy(locals, xs)` starting at slot `i`, `locals = stack[:nl]` -/
def copyL (nl : Nat) (st : Array V) : List V → Nat → Array V
  | [], _ => st
  | x :: r, i => copyL nl (if i < nl then st.set! i x else st) r (i + 1)

theorem fillU_eq_foldl (l : List Nat) (st : Array V) :
    fillU st l = l.foldl (fun st k => st.set! k .undefined) st := by
  induction l generalizing st with
  | nil => rfl
  | cons i r ih => exact ih _

theorem fillU_size (st : Array V) (l : List Nat) : (fillU st l).size = st.size := by
  rw [fillU_eq_foldl]
  exact VMExec.foldl_set_size st .undefined (fun k => k) l

theorem fillU_get (l : List Nat) (st : Array V) (j : Nat) :
    (fillU st l)[j]? = if j ∈ l ∧ j < st.size then some V.undefined else st[j]? := by
  rw [fillU_eq_foldl, VMExec.foldl_set_get? st .undefined (fun k => k)]
  simp

theorem fillU_range_get (st : Array V) (nl j : Nat) (h : nl ≤ st.size) :
    (fillU st (List.range' 0 nl))[j]? = if j < nl then some V.undefined else st[j]? := by
  rw [fillU_get]
  by_cases hj : j < nl
  · rw [if_pos ⟨by simp [List.mem_range']; omega, by omega⟩, if_pos hj]
  · rw [if_neg (by simp [List.mem_range']; omega), if_neg hj]

theorem copyL_size (nl : Nat) (st : Array V) (xs : List V) (i : Nat) : (copyL nl st xs i).size = st.size := by
  induction xs generalizing st i with
  | nil => rfl
  | cons x r ih =>
    simp only [copyL]
    rw [ih]
    split <;> simp

theorem copyL_get (nl : Nat) : ∀ (xs : List V) (st : Array V) (i j : Nat), nl ≤ st.size →
    (copyL nl st xs i)[j]? =
      if i ≤ j ∧ j < i + xs.length ∧ j < nl then xs[j - i]? else st[j]? := by
  intro xs
  induction xs with
  | nil => intro st i j _; simp [copyL]; omega
  | cons x r ih =>
    intro st i j hsz
    simp only [copyL]
    have hsz' : nl ≤ (if i < nl then st.set! i x else st).size := by split <;> simp [hsz]
    rw [ih _ (i + 1) j hsz']
    by_cases hij : i = j
    · subst hij
      have h1 : ¬ (i + 1 ≤ i ∧ i < i + 1 + r.length ∧ i < nl) := by omega
      rw [if_neg h1]
      by_cases hnl : i < nl
      · have h2 : i ≤ i ∧ i < i + (x :: r).length ∧ i < nl := by simp; omega
        rw [if_pos h2, if_pos hnl]
        simp [Array.set!_eq_setIfInBounds, Array.getElem?_setIfInBounds]
        omega
      · have h2 : ¬ (i ≤ i ∧ i < i + (x :: r).length ∧ i < nl) := by omega
        rw [if_neg h2, if_neg hnl]
    · have hset : (if i < nl then st.set! i x else st)[j]? = st[j]? := by
        split
        · simp [Array.set!_eq_setIfInBounds, hij]
        · rfl
      rw [hset]
      by_cases hc : i + 1 ≤ j ∧ j < i + 1 + r.length ∧ j < nl
      · have hc' : i ≤ j ∧ j < i + (x :: r).length ∧ j < nl := by simp; omega
        rw [if_pos hc, if_pos hc']
        have : j - i = (j - (i + 1)) + 1 := by omega
        rw [this]; simp
      · have hc' : ¬ (i ≤ j ∧ j < i + (x :: r).length ∧ j < nl) := by simp at hc ⊢; omega
        rw [if_neg hc, if_neg hc']

theorem exec_stackSet (i : Nat) (v : V) (s : State) (hi : i < stackSize) :
    exec (stackSet (i : Int) v) s = (.ok (), { s with stack := s.stack.set! i v }) :=
  VMExec.exec_stackSet i v s ⟨by omega, by omega⟩

/-- `copy(locals, xs)` of `initLocals` -/
theorem exec_copy (nl : Nat) (hnl : nl ≤ stackSize) (xs : List V) (i : Nat) (s : State) :
    exec (forIn xs i fun (x : V) (k : Nat) => (if k < nl then do
          stackSet (↑k) x
          pure (ForInStep.yield (k + 1))
        else pure (ForInStep.yield (k + 1)) : M (ForInStep Nat))) s
      = (.ok (i + xs.length), { s with stack := copyL nl s.stack xs i }) := by
  induction xs generalizing s i with
  | nil => simp [copyL]; rfl
  | cons x r ih =>
    simp only [List.forIn_cons, exec_bind]
    by_cases hk : i < nl
    · rw [if_pos hk]
      simp only [exec_bind]
      rw [exec_stackSet i _ s (by omega)]
      simp only [exec_pure]
      rw [ih]
      simp [copyL, hk]
      omega
    · rw [if_neg hk]
      simp only [exec_pure]
      rw [ih]
      simp [copyL, hk]
      omega

theorem exec_copyLocals (nl : Nat) (hnl : nl ≤ stackSize) (xs : List V) (s : State) :
    exec (copyLocals nl xs) s = (.ok (), { s with stack := copyL nl s.stack xs 0 }) := by
  unfold copyLocals
  simp only [exec_bind]
  rw [exec_copy nl hnl xs 0 s]
  rfl

theorem exec_setLocal (nl q : Nat) (x : V) (s : State) (hq : q < nl) (hnl : nl ≤ stackSize) :
    exec (setLocal nl (q : Int) x) s = (.ok (), { s with stack := s.stack.set! q x }) := by
  unfold setLocal
  rw [if_neg (by simp; omega)]
  exact exec_stackSet q x s (by omega)

theorem exec_fnCell (s : State) (a ci : Nat) (free : Option (List Addr))
    (h : s.heap[a]? = some (.fn ci free)) : exec (fnCell a) s = (.ok (s.codes[ci]!, free), s) := by
  unfold fnCell heapGet
  simp only [exec_bind]
  have : exec getS s = (.ok s, s) := rfl
  simp only [this, h, exec_pure, exec_bind]

end UgoVerif.Proofs.EvalLocals

namespace UgoVerif.Proofs.InvokeBind
open UgoVerif UgoVerif.Go UgoVerif.VM UgoVerif.Proofs.ModCache UgoVerif.Proofs.EvalLocals

/-- the value of local slot `j` of the callee after binding `args`; `addr` is the address of the
    array allocated for the variadic parameter -/
def bindSlot (np : Nat) (variadic : Bool) (args : List V) (addr : Nat) (j : Nat) : V :=
  if variadic then
    if j + 1 < np then args.getD j .undefined
    else if j + 1 = np then .arr addr 0 (args.length - (np - 1))
    else .undefined
  else if j < np then args.getD j .undefined else .undefined

/-- the heap after binding: a variadic callee gets ONE new array cell holding exactly the
    arguments after the first `np - 1` -/
def bindHeap (np : Nat) (variadic : Bool) (args : List V) (heap : Array Cell) : Array Cell :=
  if variadic = true ∧ 1 ≤ np then heap.push (.arr (args.drop (np - 1)).toArray) else heap

theorem copyL_low (nl : Nat) (G st : Array V) (g : Nat → V) (src : List V) (hG : nl ≤ G.size)
    (hg : ∀ j, G[j]? = if j < nl then some (g j) else st[j]?) (j : Nat) :
    (copyL nl G src 0)[j]? = if j < nl then some (src[j]?.getD (g j)) else st[j]? := by
  rw [copyL_get nl src G 0 j hG, hg]
  by_cases hj : j < nl
  · by_cases hs : j < src.length
    · rw [if_pos ⟨Nat.zero_le _, by omega, hj⟩, if_pos hj]; simp [hs]
    · rw [if_neg (by omega), if_pos hj, if_pos hj, List.getElem?_eq_none (by omega)]; rfl
  · rw [if_neg (by omega), if_neg hj, if_neg hj]

theorem set_low (nl q : Nat) (x : V) (F st : Array V) (g : Nat → V) (hq : q < nl) (hF : nl ≤ F.size)
    (hg : ∀ j, F[j]? = if j < nl then some (g j) else st[j]?) (j : Nat) :
    (F.set! q x)[j]? = if j < nl then some (if j = q then x else g j) else st[j]? := by
  simp only [Array.set!_eq_setIfInBounds, Array.getElem?_setIfInBounds]
  by_cases hjq : q = j
  · subst hjq; simp [hq, Nat.lt_of_lt_of_le hq hF]
  · have hne : ¬ j = q := fun h => hjq h.symm
    simp only [if_neg hjq, hg, if_neg hne]

/-- binding as `initLocals` does it: the first `np - 1` arguments copied over a frame whose slot
    `np - 1` holds the last parameter -/
theorem bindSlot_eq (np : Nat) (va : Bool) (args : List V) (a j : Nat) (hnp : 0 < np) :
    bindSlot np va args a j = ((args.take (np - 1))[j]?).getD
      (if j = np - 1 then (if va then .arr a 0 (args.length - (np - 1)) else args.getD (np - 1) .undefined) else .undefined) := by
  simp only [bindSlot, List.getElem?_take, List.getD_eq_getElem?_getD]
  by_cases h1 : j < np - 1
  · have h2 : j + 1 < np := by omega
    have h3 : j < np := by omega
    have h4 : ¬ j = np - 1 := by omega
    cases va <;> simp [h1, h2, h3, h4]
  · by_cases h2 : j = np - 1
    · subst h2
      have h3 : np - 1 + 1 = np := by omega
      have h4 : np - 1 < np := by omega
      cases va <;> simp [h3, h4]
    · have h3 : ¬ j + 1 < np := by omega
      have h4 : ¬ j + 1 = np := by omega
      have h5 : ¬ j < np := by omega
      cases va <;> simp [h1, h2, h3, h4, h5]

/-- the slots after `locals[np-1] = x; copy(locals, src)` over a cleared frame, for the `x` and `src` of each path -/
theorem bound_get (np nl : Nat) (va : Bool) (args src : List V) (a : Nat) (x : V) (G st : Array V) (hnp : 0 < np)
    (hG : nl ≤ G.size) (hg : ∀ j, G[j]? = if j < nl then some (if j = np - 1 then x else .undefined) else st[j]?)
    (hsrc : src = args.take (np - 1))
    (hx : x = if va then .arr a 0 (args.length - (np - 1)) else args.getD (np - 1) .undefined) (j : Nat) :
    (copyL nl G src 0)[j]? = if j < nl then some (bindSlot np va args a j) else st[j]? := by
  rw [copyL_low nl G st _ src hG hg, bindSlot_eq np va args a j hnp, hsrc, hx]

theorem initLocals_slots (args : List V) (s : State) (ci : Nat) (free : Option (List Addr))
    (hfn : s.heap[s.mainFn]? = some (.fn ci free))
    (hpl : (s.codes[ci]!).numParams ≤ (s.codes[ci]!).numLocals)
    (hnl : (s.codes[ci]!).numLocals ≤ stackSize) (hsz : s.stack.size = stackSize) :
    ∃ st', exec (initLocals args) s = (.ok (),
        { s with stack := st', heap := bindHeap (s.codes[ci]!).numParams (s.codes[ci]!).variadic args s.heap }) ∧
      st'.size = stackSize ∧
      (∀ j, j < (s.codes[ci]!).numLocals →
        st'[j]? = some (bindSlot (s.codes[ci]!).numParams (s.codes[ci]!).variadic args s.heap.size j)) ∧
      (∀ j, (s.codes[ci]!).numLocals ≤ j → st'[j]? = s.stack[j]?) := by
  generalize hc : s.codes[ci]! = code at *
  obtain ⟨insts, np, nl, va⟩ := code
  simp only at hpl hnl ⊢
  -- it is enough to know the final stack `S` slot by slot
  have fin : ∀ S : Array V, S.size = stackSize →
      (∀ j, S[j]? = if j < nl then some (bindSlot np va args s.heap.size j) else s.stack[j]?) →
      S.size = stackSize ∧ (∀ j, j < nl → S[j]? = some (bindSlot np va args s.heap.size j)) ∧
        (∀ j, nl ≤ j → S[j]? = s.stack[j]?) :=
    fun S h1 h2 => ⟨h1, fun j hj => by rw [h2, if_pos hj], fun j hj => by rw [h2, if_neg (by omega)]⟩
  unfold initLocals fillUndefined
  simp only [exec_bind, Int.zero_add]
  have hg : exec getS s = (.ok s, s) := rfl
  simp only [hg, EvalLocals.exec_fnCell s s.mainFn ci free hfn, hc]
  have h1 : ¬ nl > stackSize := by omega
  simp only [h1, if_false, exec_bind]
  rw [VMExec.exec_range_stackSet .undefined nl s (fun k => (k : Int)) (fun k hk => ⟨by omega, by omega⟩)]
  simp only [Int.toNat_natCast, ← fillU_eq_foldl]
  generalize hF : fillU s.stack (List.range' 0 nl) = F
  have hFsz : F.size = stackSize := by rw [← hF, fillU_size, hsz]
  have hFget : ∀ j, F[j]? = if j < nl then some ((fun _ => V.undefined) j) else s.stack[j]? :=
    fun j => hF ▸ fillU_range_get s.stack nl j (by omega)
  by_cases h0 : np = 0
  · subst h0
    exact ⟨F, by simp [bindHeap]; rfl, fin F hFsz fun j => by rw [hFget]; cases va <;> simp [bindSlot]⟩
  have hnp0 : ¬ ((np : Int) ≤ 0) := by omega
  have hcast : ((np : Int) - 1) = ((np - 1 : Nat) : Int) := by omega
  -- every other path copies arguments over the cleared frame `F`, all but one after setting slot `NumParams - 1`
  have hset := fun x => set_low nl (np - 1) x F s.stack _ (by omega) (by omega) hFget
  have hsetsz : ∀ x, (F.set! (np - 1) x).size = stackSize := fun x => by simp [Array.set!_eq_setIfInBounds, hFsz]
  have slots := fun src x G => bound_get np nl va args src s.heap.size x G s.stack (by omega)
  have hloc := fun x t => exec_setLocal nl (np - 1) x t (by omega) hnl
  simp only [hnp0, if_false]
  by_cases hlt : args.length < np
  · have hlt' : ((args.length : Int) < (np : Int)) := by omega
    have hsrc : args = args.take (np - 1) := (List.take_of_length_le (by omega)).symm
    simp only [hlt', if_true, exec_pure]
    cases va with
    | false =>
      simp only [Bool.false_eq_true, if_false, exec_pure, exec_bind, exec_copyLocals nl hnl]
      refine ⟨copyL nl F args 0, by simp [bindHeap], fin _ (by rw [copyL_size, hFsz]) ?_⟩
      exact slots args .undefined F (by omega) (fun j => by rw [hFget, ite_self]) hsrc
        (by simp [List.getD_eq_getElem?_getD, List.getElem?_eq_none (show args.length ≤ np - 1 by omega)])
    | true =>
      simp only [if_true, exec_bind, VMExec.exec_newArray, hcast, hloc, exec_copyLocals nl hnl, exec_pure]
      refine ⟨_, ?_, fin _ (by rw [copyL_size, hsetsz])
        (slots args _ _ (by rw [hsetsz]; exact hnl) (hset (.arr s.heap.size 0 0)) hsrc ?_)⟩
      · simp [bindHeap, List.drop_eq_nil_of_le (show args.length ≤ np - 1 by omega)]
        omega
      · simp; omega
  · have hlt' : ¬ ((args.length : Int) < (np : Int)) := by omega
    simp only [hlt', if_false, exec_pure]
    cases va with
    | false =>
      simp only [Bool.false_eq_true, if_false, exec_bind, hcast, hloc, Int.toNat_natCast, exec_copyLocals nl hnl]
      refine ⟨_, by simp [bindHeap], fin _ (by rw [copyL_size, hsetsz])
        (slots _ _ _ (by rw [hsetsz]; exact hnl) (hset args[np - 1]!) rfl ?_)⟩
      have hjl : np - 1 < args.length := by omega
      simp [List.getD_eq_getElem?_getD, List.getElem?_eq_getElem hjl, getElem!_pos args (np - 1) hjl]
    | true =>
      simp only [if_true, exec_bind, VMExec.exec_newArray, hcast, hloc, Int.toNat_natCast, exec_copyLocals nl hnl]
      refine ⟨_, ?_, fin _ (by rw [copyL_size, hsetsz])
        (slots _ _ _ (by rw [hsetsz]; exact hnl) (hset (.arr s.heap.size 0 (args.drop (np - 1)).length)) rfl (by simp))⟩
      simp [bindHeap]
      omega

end UgoVerif.Proofs.InvokeBind

namespace UgoVerif.Proofs.EvalLocals
open UgoVerif UgoVerif.Go UgoVerif.VM UgoVerif.Proofs.ModCache UgoVerif.Proofs.InvokeBind

theorem initLocals_session (args : List V) (s : State) (ci : Nat) (free : Option (List Addr))
    (hfn : s.heap[s.mainFn]? = some (.fn ci free))
    (hnp : (s.codes[ci]!).numParams = (s.codes[ci]!).numLocals) (hva : (s.codes[ci]!).variadic = false)
    (hnl : (s.codes[ci]!).numLocals ≤ stackSize) (hsz : s.stack.size = stackSize) :
    ∃ st', exec (initLocals args) s = (.ok (), { s with stack := st' }) ∧ st'.size = stackSize ∧
      (∀ j, j < (s.codes[ci]!).numLocals → st'[j]? = some (args.getD j .undefined)) ∧
      (∀ j, (s.codes[ci]!).numLocals ≤ j → st'[j]? = s.stack[j]?) := by
  obtain ⟨st', hex, hs, hlow, hhigh⟩ := initLocals_slots args s ci free hfn (Nat.le_of_eq hnp) hnl hsz
  -- not variadic: no array is allocated, and every slot below `NumParams = NumLocals` is a parameter
  simp only [hva, bindHeap, bindSlot, Bool.false_eq_true, false_and, if_false, hnp] at hex hlow
  exact ⟨st', hex, hs, fun j hj => by rw [hlow j hj, if_pos hj], hhigh⟩

end UgoVerif.Proofs.EvalLocals

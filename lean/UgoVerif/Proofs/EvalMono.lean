import UgoVerif.Model.Eval
import UgoVerif.Proofs.CompileMonoMain
/-
  C10: a whole `compileSession` (Model/Eval.lean) extends the session's root table, whether the
  compile succeeds or fails, and a successful one only appends to the constant pool.
-/
namespace UgoVerif.Proofs.EvalMono
open UgoVerif UgoVerif.Go UgoVerif.Ast UgoVerif.Compile UgoVerif.Eval

/-- the loop of `setGlobalSymbolsIndex`, written out -/
theorem forIn_noPending (s : CState) : ∀ (l : List (String × Symbol)),
    (∀ p ∈ l, p.2.scope = .global → p.2.index ≠ -1) →
    runCM (forIn l PUnit.unit fun x (_ : PUnit) =>
      match x with
      | (n, sym) =>
        if (sym.scope == Scope.global && sym.index == -1) = true then do
          let idx ← addConstant (CVal.str sym.name.toUTF8.toList)
          updateSym n fun y => { y with index := (idx : Int) }
          pure (ForInStep.yield PUnit.unit)
        else (pure (ForInStep.yield PUnit.unit) : CM (ForInStep PUnit))) s = (.ok PUnit.unit, s)
  | [], _ => by simp [runCM_pure]
  | (n, sym) :: rest, h => by
    have hc : ¬ ((sym.scope == Scope.global && sym.index == -1) = true) := by
      intro hc
      simp only [Bool.and_eq_true, beq_iff_eq] at hc
      exact h (n, sym) (by simp) hc.1 hc.2
    simp only [List.forIn_cons, hc, Bool.false_eq_true, if_false]
    rw [runCM_bind, runCM_pure]
    exact forIn_noPending s rest (fun p hp => h p (by simp [hp]))

theorem runCM_setGlobalSymbolsIndex {s : CState} {t : Table} {r : List Table} (htr : s.tables = t :: r) (hp : NoPending t) :
    runCM setGlobalSymbolsIndex s = (.ok (), s) := by
  unfold setGlobalSymbolsIndex
  rw [runCM_bind, runCM_headTable htr]
  simp only
  rw [runCM_bind, forIn_noPending s t.store hp]
  rfl

theorem size_maskFns (cs : Array Const) : (maskFns cs).size = cs.size := by simp [maskFns]

theorem unmask_append (cs ext : Array Const) : unmaskFns cs (maskFns cs ++ ext) = cs ++ ext := by
  unfold unmaskFns
  congr 1
  have h := size_maskFns cs
  apply Array.ext'
  simp [Array.toList_extract, h]

/-- the program of `compileSession` after `SetGlobalSymbolsIndex` -/
def sessionProg (cs : Array Const) (file : List Stmt) : CM Bytecode := do
  compileStmts file
  let fn ← finishFn
  if fn.numLocals > maxNumLocals then throw (.bare "SymbolLimitError: number of local symbols exceeds the limit")
  else pure { main := fn, constants := unmaskFns cs (← get).constants }

abbrev sessionInit (bs : List (String × Nat)) (t : Table) (cs : Array Const) : CState :=
  { tables := [t], constants := maskFns cs, builtins := bs }

theorem compileSession_eq (bs : List (String × Nat)) (t : Table) (cs : Array Const) (file : List Stmt)
    (hp : NoPending t) :
    compileSession bs t cs file =
      { result := (runCM (sessionProg cs file) (sessionInit bs t cs)).1,
        table := ((runCM (sessionProg cs file) (sessionInit bs t cs)).2.tables.getLast?).getD t } := by
  unfold compileSession
  simp only
  -- the model's program is `SetGlobalSymbolsIndex`, which does nothing here, followed by `sessionProg`
  change (match runCM (setGlobalSymbolsIndex >>= fun _ => sessionProg cs file) (sessionInit bs t cs) with
    | (r, s) => ({ result := r, table := (s.tables.getLast?).getD t } : CompileOut)) = _
  rw [runCM_bind, runCM_setGlobalSymbolsIndex (t := t) (r := []) rfl hp]

theorem compileSession_spec (bs : List (String × Nat)) (t : Table) (cs : Array Const) (file : List Stmt)
    (hp : NoPending t) :
    RootExt t (compileSession bs t cs file).table ∧
    (∀ bc, (compileSession bs t cs file).result = .ok bc → IsPre cs bc.constants) := by
  have hinit : (sessionInit bs t cs).tables ≠ [] := by simp
  have hrest : SatX (sessionProg cs file) (sessionInit bs t cs)
      (fun bc s' => Ext (sessionInit bs t cs) s' ∧ bc.constants = unmaskFns cs s'.constants) := by
    unfold sessionProg
    apply satx_seq (mono_compileStmts file) hinit
    intro _ s1 _ he1 _
    apply satx_seq (Frame.mono frame_finishFn) he1.ne
    intro fn s2 _ he2 _
    split
    · exact SatX.throw (ne_nil_of_length_eq ‹_› he1.ne)
    · apply SatX.bind
      apply SatX.of_run (runCM_get s2)
      refine ⟨Ext.refl (ne_nil_of_length_eq ‹_› he1.ne), ?_⟩
      exact SatX.pure ⟨he1.trans he2, rfl⟩
  obtain ⟨he, hc⟩ := SatE.final hrest
  rw [compileSession_eq bs t cs file hp]
  constructor
  · have hl : ((runCM (sessionProg cs file) (sessionInit bs t cs)).2.tables.getLast?).getD t =
        rootOf (runCM (sessionProg cs file) (sessionInit bs t cs)).2.tables := by
      unfold rootOf
      cases hg : (runCM (sessionProg cs file) (sessionInit bs t cs)).2.tables.getLast? with
      | none => exact absurd (List.getLast?_eq_none_iff.mp hg) he.ne
      | some x => rfl
    simp only
    rw [hl]
    simpa using he.root
  · intro bc hbc
    obtain ⟨ext, hext⟩ := he.consts
    rw [hc bc hbc, hext]
    exact ⟨ext, unmask_append cs ext⟩

theorem evalRun_table (F : FloatOps) (fuel : Nat) (s : Session) (file : List Stmt) :
    (evalRun F fuel s file).session.table = (compileSession s.builtins s.table s.constants file).table ∧
    (evalRun F fuel s file).session.builtins = s.builtins ∧
    ((evalRun F fuel s file).session.constants = s.constants ∨
      ∃ bc, (compileSession s.builtins s.table s.constants file).result = .ok bc ∧
        (evalRun F fuel s file).session.constants = bc.constants) := by
  -- whatever `fixOpPop` and `getLocals` answer, the session keeps `co.table`, and `bc.constants` once the
  -- compile succeeded
  fun_cases evalRun F fuel s file
  · exact ⟨rfl, rfl, .inl rfl⟩
  all_goals exact ⟨rfl, rfl, .inr ⟨_, ‹_›, rfl⟩⟩

theorem evalSession_inv (F : FloatOps) (fuel : Nat) {P : Session → Prop}
    (hstep : ∀ s f, P s → P (evalRun F fuel s f).session) (fs : List (List Stmt)) (s : Session) :
    P s → ∀ o, o ∈ evalSession F fuel s fs → P o.session := by
  fun_induction evalSession F fuel s fs <;> intro hs o ho
  · cases ho
  next ih =>
    rcases List.mem_cons.mp ho with rfl | ho
    · exact hstep _ _ hs
    · exact ih (hstep _ _ hs) o ho
  · cases List.mem_singleton.mp ho
    exact hstep _ _ hs

end UgoVerif.Proofs.EvalMono

import UgoVerif.Proofs.CompileMono
/-
  The root symbol table of an Eval session, through the pure functions of Model/Compile.lean
  that every table operation of the compiler is built from (`lookupSym`, `putSym`, `resolveIn`).
-/
namespace UgoVerif.Proofs.EvalSym
open UgoVerif UgoVerif.Compile

theorem lookup_putSym_same (n : String) (s : Symbol) : ∀ st, lookupSym n (putSym n s st) = some s :=
  lookupSym_putSym_self n s

theorem resolve_bound (bs : List (String × Nat)) (dis : List String) (n : String) (t : Table) (sym : Symbol)
    (h : lookupSym n t.store = some sym) : resolveIn bs dis n [t] = (some sym, [t]) := resolveIn_found [] h

/-- `Resolve` may cache a builtin symbol in the root table; nothing else changes -/
theorem resolve_keeps (bs : List (String × Nat)) (dis : List String) (m : String) (t : Table) :
    ∃ t', (resolveIn bs dis m [t]).2 = [t'] ∧ t'.disabled = t.disabled ∧
      t'.maxDefinition = t.maxDefinition ∧ t'.numDefinition = t.numDefinition ∧ t'.numParams = t.numParams ∧
      ∀ n sym, lookupSym n t.store = some sym → lookupSym n t'.store = some sym := by
  have same : ∃ t', [t] = [t'] ∧ t'.disabled = t.disabled ∧ t'.maxDefinition = t.maxDefinition ∧
      t'.numDefinition = t.numDefinition ∧ t'.numParams = t.numParams ∧
      ∀ n sym, lookupSym n t.store = some sym → lookupSym n t'.store = some sym := ⟨t, rfl, rfl, rfl, rfl, rfl, fun _ _ h => h⟩
  cases hm : lookupSym m t.store with
  | some s => rw [resolveIn_found [] hm]; exact same
  | none =>
    rw [resolveIn_root hm]
    split
    · split
      · refine ⟨_, rfl, rfl, rfl, rfl, rfl, fun n sym h => ?_⟩
        -- the cached name was unbound, so it is none of the names bound before
        rw [lookupSym_putSym_other n m _ (fun e => by rw [e, h] at hm; cases hm)]
        exact h
      · exact same
    · exact same

theorem resolve_disabled_root (bs : List (String × Nat)) (dis : List String) (n : String) (t : Table)
    (hd : n ∈ dis) (hs : lookupSym n t.store = none) : (resolveIn bs dis n [t]).1 = none := by
  simp [resolveIn_root hs, hd]

/-- `hb`: a binding, not the entry `Resolve` caches for a builtin that was used -/
theorem defineLocal_existing (n : String) (s : CState) (t : Table) (sym : Symbol)
    (ht : s.tables = [t]) (h : lookupSym n t.store = some sym) (hb : sym.scope ≠ .builtin) :
    (defineLocal n).run.run s = (.ok (sym, true), s) :=
  runCM_defineLocal_ex ht (definedSym_some.mpr ⟨h, hb⟩)

end UgoVerif.Proofs.EvalSym

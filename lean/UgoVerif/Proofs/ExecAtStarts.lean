import UgoVerif.Proofs.VMCallSite
import UgoVerif.Proofs.InsAt
/-
  Control-flow integrity of the VM model on well-formed code.

  Claim (`exec_at_starts`, Proofs/ExecAtStartsRun.lean): when every code of the code memory that a function
  cell of the heap names is well formed (`WfCode`), the VM fetches opcodes only at instruction starts of the
  current function: at every instruction boundary of a run the state satisfies `Good`, every suspended frame
  resumes at an instruction start (`saved ip + 1`, behind the operands of its CALL), and every position stored
  in an error handler (catch, finally, return-to) is one.

  The invariant comes in two layers.  `Safe` does not mention `ip`: it holds at every point inside an
  instruction, so in the partial state a Go panic leaves, from which `handlePanic` throws.  The instruction
  context `CtxI code v` adds the code of the current function and the value of `ip`, which an opcode body
  changes as it goes.  A triple `Tq X Q m` asks `Q` of a normal exit and `Safe` of every other one (Go panic,
  leaving the model).
-/
namespace UgoVerif.VM.Cfi
open UgoVerif UgoVerif.Go
open UgoVerif.Compile (Walk Bd readBE opWidth rd4_readBE)

/-- what control-flow integrity needs of one code of the code memory (`Props/C05.WFFn` gives all of
    it but the strictness of the SETUPTRY operands, which is `Props/C05.TryStrict`) -/
structure WfCode (c : Code) : Prop where
  decodes : Walk c.insts 0 c.insts.size
  /-- the last instruction is RETURN -/
  ret : ∃ q b, Walk c.insts 0 q ∧ c.insts[q]? = some b ∧ b.toNat = OpReturn ∧ q + 2 = c.insts.size
  jump : ∀ p op, Bd c.insts p → c.insts[p]? = some op →
    (op.toNat = OpJump ∨ op.toNat = OpJumpFalsy ∨ op.toNat = OpAndJump ∨ op.toNat = OpOrJump) →
    Bd c.insts (readBE c.insts (p + 1) 4)
  /-- the operands of SETUPTRY are 0 (absent) or instruction starts strictly inside -/
  try_ : ∀ p op, Bd c.insts p → c.insts[p]? = some op → op.toNat = OpSetupTry →
    (0 < readBE c.insts (p + 1) 4 → Bd c.insts (readBE c.insts (p + 1) 4)) ∧
    (0 < readBE c.insts (p + 5) 4 → Bd c.insts (readBE c.insts (p + 5) 4))

theorem WfCode.bd0 {c : Code} (hw : WfCode c) : Bd c.insts 0 := by
  obtain ⟨q, b, _, _, _, hq⟩ := hw.ret
  exact ⟨.refl 0, by omega⟩

theorem WfCode.fit {c : Code} (hw : WfCode c) {p : Nat} {op : UInt8} (hbd : Bd c.insts p)
    (hop : c.insts[p]? = some op) : p + 1 + opWidth op.toNat ≤ c.insts.size :=
  Compile.Bd.fit hbd hw.decodes hop

theorem WfCode.next {c : Code} (hw : WfCode c) {p : Nat} {op : UInt8} (hbd : Bd c.insts p)
    (hop : c.insts[p]? = some op) (hne : op.toNat ≠ OpReturn) : Bd c.insts (p + 1 + opWidth op.toNat) := by
  have hp := hbd.2
  refine ⟨hbd.1.succ hw.decodes hop hp, ?_⟩
  · -- the instruction at `p` is not the last one, which is a RETURN: the next start is inside
    obtain ⟨q, b, hq, hb, hbr, hqs⟩ := hw.ret
    have hw1 : opWidth b.toNat = 1 := by rw [hbr]; rfl
    rcases Nat.lt_trichotomy p q with h | rfl | h
    · have := (hbd.1.next hq hop h).le; omega
    · exact absurd (Option.some.inj (hop.symm.trans hb) ▸ hbr) hne
    · have := (hq.next hbd.1 hb h).le; omega

/-- every position an error handler stores is an instruction start of `a` (0 = absent) -/
@[reducible] def HOK (a : Array UInt8) (h : Handler) : Prop :=
  (0 < h.catch_ → Bd a h.catch_.toNat) ∧ (0 < h.finally_ → Bd a h.finally_.toNat) ∧
  (0 < h.returnTo → Bd a h.returnTo.toNat)

@[reducible] def HsOK (a : Array UInt8) (f : Frame) : Prop := ∀ hs, f.handlers = some hs → ∀ h ∈ hs, HOK a h

/-- a frame: cleared (no function, no handler), or its function is a function cell of the heap,
    its handlers store instruction starts of that function's code, and — for a frame below the
    current one — `saved ip + 1` is an instruction start of it -/
def FrOK (heap : Array Cell) (codes : Array Code) (below : Prop) (f : Frame) : Prop :=
  (f.fn = none ∧ hasHandler f = false) ∨
  ∃ fa c fr, f.fn = some fa ∧ heap[fa]? = some (Cell.fn c fr) ∧ HsOK (codes[c]!).insts f ∧
    (below → 0 ≤ f.ip + 1 ∧ Bd (codes[c]!).insts (f.ip + 1).toNat)

/-- `Safe` as a function of the fields it reads (so that updates of other fields keep it by `rfl`) -/
@[reducible] def SafeF (frames : Array Frame) (cur : Nat) (fi : Int) (heap : Array Cell) (codes : Array Code) : Prop :=
  (∀ (a c : Nat) (fr : Option (List Addr)), heap[a]? = some (Cell.fn c fr) → WfCode (codes[c]!)) ∧
  (cur : Int) + 1 = fi ∧ frames.size = frameSize ∧
  ∀ i, FrOK heap codes (i < cur) (frames[i]!)

/-- holds at every instruction boundary and in the partial state at every panic site -/
@[reducible] def Safe (s : State) : Prop := SafeF s.frames s.curFrame s.frameIndex s.heap s.codes

@[reducible] def CurF (code : Code) (frames : Array Frame) (cur : Nat) (heap : Array Cell) (codes : Array Code) : Prop :=
  ∃ fa c fr, (frames[cur]!).fn = some fa ∧ heap[fa]? = some (Cell.fn c fr) ∧ codes[c]! = code

@[reducible] def CtxI (code : Code) (v : Int) (s : State) : Prop :=
  SafeF s.frames s.curFrame s.frameIndex s.heap s.codes ∧ CurF code s.frames s.curFrame s.heap s.codes ∧ s.ip = v

/-- the state at an instruction boundary: `step` fetches at `ip + 1`, an instruction start of the code of the
    current frame's function -/
@[reducible] def Good (s : State) : Prop :=
  ∃ code, CtxI code s.ip s ∧ 0 ≤ s.ip + 1 ∧ Bd code.insts (s.ip + 1).toNat

theorem CtxI.safe {code : Code} {v : Int} {s : State} (h : CtxI code v s) : Safe s := h.1

theorem CtxI.wf {code : Code} {v : Int} {s : State} (h : CtxI code v s) : WfCode code := by
  obtain ⟨fa, c, fr, _, hh, hc⟩ := h.2.1
  rw [← hc]; exact h.1.1 fa c fr hh

theorem CtxI.good {code : Code} {v : Int} {s : State} (h : CtxI code v s) {n : Nat} (hbd : Bd code.insts n)
    (hv : v + 1 = (n : Int)) : Good s := by
  have hip : s.ip = v := h.2.2
  refine ⟨code, ⟨h.1, h.2.1, rfl⟩, by omega, ?_⟩
  have : (s.ip + 1).toNat = n := by omega
  rw [this]; exact hbd

theorem Good.safe {s : State} (h : Good s) : Safe s := by
  obtain ⟨_, h, _⟩ := h; exact h.1

theorem FrOK.mono {heap heap' : Array Cell} {codes : Array Code} {b b' : Prop} {f : Frame}
    (hh : ∀ (a c : Nat) (fr : Option (List Addr)), heap[a]? = some (Cell.fn c fr) → heap'[a]? = some (Cell.fn c fr))
    (hb : b' → b) (h : FrOK heap codes b f) : FrOK heap' codes b' f := by
  rcases h with h | ⟨fa, c, fr, h1, h2, h3, h4⟩
  · exact .inl h
  · exact .inr ⟨fa, c, fr, h1, hh _ _ _ h2, h3, fun hb' => h4 (hb hb')⟩

theorem frOK_default (heap : Array Cell) (codes : Array Code) (b : Prop) : FrOK heap codes b (default : Frame) :=
  .inl ⟨rfl, rfl⟩

theorem CtxI.cur {code : Code} {v : Int} {s : State} (h : CtxI code v s) :
    ∃ fa c fr, (s.frames[s.curFrame]!).fn = some fa ∧ s.heap[fa]? = some (Cell.fn c fr) ∧ s.codes[c]! = code ∧
      HsOK code.insts (s.frames[s.curFrame]!) := by
  obtain ⟨fa, c, fr, h1, h2, h3⟩ := h.2.1
  refine ⟨fa, c, fr, h1, h2, h3, ?_⟩
  rcases h.1.2.2.2 s.curFrame with h' | ⟨fa', c', fr', g1, g2, g3, _⟩
  · rw [h1] at h'; cases h'.1
  · rw [h1] at g1; cases g1
    rw [h2] at g2; cases g2
    rw [← h3]; exact g3

theorem SafeF.of_heap {frames : Array Frame} {cur : Nat} {fi : Int} {heap heap' : Array Cell} {codes : Array Code}
    (h : SafeF frames cur fi heap codes) (hk : FnKept heap heap') (hn : FnFrom heap heap') :
    SafeF frames cur fi heap' codes :=
  ⟨fun a c f hx => let ⟨a', f', hy⟩ := hn a c f hx; h.1 a' c f' hy, h.2.1, h.2.2.1, fun i => (h.2.2.2 i).mono hk id⟩

theorem CtxI.of_frame {code : Code} {v : Int} {s s' : State} (h : CtxI code v s)
    (hip : s'.ip = s.ip) (hfr : s'.frames = s.frames) (hc : s'.curFrame = s.curFrame)
    (hfi : s'.frameIndex = s.frameIndex) (hcodes : s'.codes = s.codes)
    (hheap : ∀ (a c : Nat) (f : Option (List Addr)), s.heap[a]? = some (Cell.fn c f) → s'.heap[a]? = some (Cell.fn c f))
    (hnew : ∀ (a c : Nat) (f : Option (List Addr)), s'.heap[a]? = some (Cell.fn c f) →
      ∃ (a' : Nat) (f' : Option (List Addr)), s.heap[a']? = some (Cell.fn c f')) : CtxI code v s' := by
  obtain ⟨h1, ⟨fa, c, fr, g1, g2, g3⟩, h5⟩ := h
  show SafeF s'.frames s'.curFrame s'.frameIndex s'.heap s'.codes ∧ CurF code s'.frames s'.curFrame s'.heap s'.codes ∧ s'.ip = v
  rw [hip, hfr, hc, hfi, hcodes]
  exact ⟨h1.of_heap hheap hnew, ⟨fa, c, fr, g1, hheap _ _ _ g2, g3⟩, h5⟩

def Tq {α} (X : State → Prop) (Q : α → State → Prop) (m : M α) : Prop :=
  ∀ s, X s → match exec m s with
    | (.ok a, s') => Q a s'
    | (.error _, s') => Safe s'

namespace Tq
variable {α β : Type} {X : State → Prop} {Q : α → State → Prop}

theorem iff_hq {m : M α} : Tq X Q m ↔ Hq X Q (fun _ => Safe) m := Iff.rfl

theorem pure {a : α} (h : ∀ s, X s → Q a s) : Tq X Q (Pure.pure a : M α) := iff_hq.2 (Hq.pure h)

theorem panic (msg : String) (h : ∀ s, X s → Safe s) : Tq X Q (VM.panic msg : M α) := iff_hq.2 (Hq.panic msg h)

theorem unsupported (msg : String) (h : ∀ s, X s → Safe s) : Tq X Q (VM.unsupported msg : M α) := iff_hq.2 (Hq.unsupported msg h)

theorem bind {R : β → State → Prop} {m : M β} {f : β → M α} (hm : Tq X R m) (hf : ∀ b, Tq (R b) Q (f b)) :
    Tq X Q (m >>= f) := iff_hq.2 ((iff_hq.1 hm).bind fun b => iff_hq.1 (hf b))

theorem of_keeps {m : M α} (hm : Keeps X m) (hX : ∀ s, X s → Safe s) (hQ : ∀ a s, X s → Q a s) : Tq X Q m :=
  iff_hq.2 ((Keeps.iff_hq.1 hm).conseq (fun _ h => h) hQ fun _ => hX)

theorem bind_keeps {m : M β} {f : β → M α} (hm : Keeps X m) (hX : ∀ s, X s → Safe s) (hf : ∀ b, Tq X Q (f b)) :
    Tq X Q (m >>= f) :=
  bind (of_keeps hm hX fun _ _ h => h) hf

theorem ite {c : Prop} [Decidable c] {a b : M α} (ha : Tq X Q a) (hb : Tq X Q b) : Tq X Q (if c then a else b) :=
  iff_hq.2 (Hq.ite (fun _ => iff_hq.1 ha) fun _ => iff_hq.1 hb)

theorem ite_cond {c : Prop} [Decidable c] {a b : M α} (ha : c → Tq X Q a) (hb : ¬ c → Tq X Q b) :
    Tq X Q (if c then a else b) := iff_hq.2 (Hq.ite (fun h => iff_hq.1 (ha h)) fun h => iff_hq.1 (hb h))

theorem pre {X' : State → Prop} {m : M α} (h : Tq X Q m) (hX : ∀ s, X' s → X s) : Tq X' Q m := iff_hq.2 ((iff_hq.1 h).pre hX)

theorem post {Q' : α → State → Prop} {m : M α} (h : Tq X Q m) (hQ : ∀ a s, Q a s → Q' a s) : Tq X Q' m := iff_hq.2 ((iff_hq.1 h).post hQ)

theorem assume {m : M α} (h : ∀ s0, X s0 → Tq (fun s => s = s0) Q m) : Tq X Q m := iff_hq.2 (Hq.assume fun s0 h0 => iff_hq.1 (h s0 h0))

theorem ofFalse {m : M α} : Tq (fun _ => False) Q m := iff_hq.2 Hq.ofFalse

theorem elim_ok {m : M α} (h : Tq X Q m) {s s' : State} {a : α} (hs : X s) (e : exec m s = (.ok a, s')) : Q a s' :=
  (iff_hq.1 h).elim_ok hs e

theorem elim_err {m : M α} (h : Tq X Q m) {s s' : State} {x : Exc} (hs : X s) (e : exec m s = (.error x, s')) :
    Safe s' := (iff_hq.1 h).elim_err hs e

theorem intro' {m : M α} (h : ∀ s, X s → match exec m s with
    | (.ok a, s') => Q a s'
    | (.error _, s') => Safe s') : Tq X Q m := h

variable {code : Code} {v : Int}

theorem getS_bind {f : State → M α} (hf : ∀ s0, Tq (fun s => X s ∧ s = s0) Q (f s0)) : Tq X Q (getS >>= f) :=
  iff_hq.2 (Hq.getS_bind fun s0 => iff_hq.1 (hf s0))

theorem getIp_bind_of {f : Int → M α} (hip : ∀ s, X s → s.ip = v) (hf : Tq X Q (f v)) : Tq X Q (getIp >>= f) :=
  iff_hq.2 (Hq.getIp_bind_of hip (iff_hq.1 hf))

theorem getIp_bind {f : Int → M α} (hf : Tq (CtxI code v) Q (f v)) : Tq (CtxI code v) Q (getIp >>= f) :=
  getIp_bind_of (fun _ h => h.2.2) hf

theorem setIp_bind_of {Y : State → Prop} {w : Int} {f : Unit → M α} (hY : ∀ s, X s → Y { s with ip := w })
    (hf : Tq Y Q (f ())) : Tq X Q (setIp w >>= f) := iff_hq.2 (Hq.modS_bind hY (iff_hq.1 hf))

theorem setIp_bind {w : Int} {f : Unit → M α} (hf : Tq (CtxI code w) Q (f ())) :
    Tq (CtxI code v) Q (setIp w >>= f) :=
  setIp_bind_of (fun _ hs => ⟨hs.1, hs.2.1, rfl⟩) hf

theorem bumpIp_bind {n : Int} {f : Unit → M α} (hf : Tq (CtxI code (v + n)) Q (f ())) :
    Tq (CtxI code v) Q (bumpIp n >>= f) := by
  unfold bumpIp
  rw [bind_assoc]
  exact getIp_bind (setIp_bind hf)

theorem curFrame_bind {f : Frame → M α} (hf : ∀ fr, Tq (fun s => X s ∧ s.frames[s.curFrame]! = fr) Q (f fr)) :
    Tq X Q (VM.curFrame >>= f) := iff_hq.2 (Hq.curFrame_bind fun fr => iff_hq.1 (hf fr))

end Tq

theorem exec_curCode_of {code : Code} {v : Int} {s : State} (h : CtxI code v s) : exec curCode s = (.ok code, s) :=
  let ⟨_, _, _, h1, h2, h3⟩ := h.2.1
  Proofs.Fetch.exec_curCode_fn h1 h2 h3

theorem exec_instAt_of {code : Code} {v : Int} {s : State} (h : CtxI code v s) (i : Int) (n : Nat) (hi : i = n)
    (hn : n < code.insts.size) : exec (instAt i) s = (.ok (code.insts[n]!).toNat, s) :=
  Proofs.Fetch.exec_instAt_ok (exec_curCode_of h) i n hi hn

theorem Tq.opnd4_bind {α} {code : Code} {p : Nat} {Q : α → State → Prop} {f : Nat → M α} (k : Int) (j : Nat)
    (hk : k = j) (hn : p + j + 3 < code.insts.size)
    (hf : Tq (CtxI code p) Q (f (readBE code.insts (p + j) 4))) : Tq (CtxI code p) Q (opnd4 k >>= f) := by
  apply Tq.intro'; intro s hs
  rw [exec_bind, show exec (opnd4 k) s = _ from Proofs.Fetch.exec_opnd4_ok (exec_curCode_of hs) p hs.2.2 k j hk hn,
    rd4_readBE _ _ hn]
  exact hf s hs

attribute [irreducible] Tq

theorem safeF_of_ext {s s' : State} {cur : Nat} {fi : Int} (h : SafeF s.frames cur fi s.heap s.codes) (e : Ext s s') :
    SafeF s'.frames cur fi s'.heap s'.codes := by
  obtain ⟨_, _, efr, _, _, ecodes, eheap, enew⟩ := e
  rw [show s'.frames = s.frames from efr, show s'.codes = s.codes from ecodes]
  exact h.of_heap eheap enew

theorem Safe.keeps_data {α} {m : M α} [Pres Ext m] : Keeps Safe m :=
  Keeps.of_ext fun s s' hs e => by
    have := safeF_of_ext hs e
    rwa [show s.curFrame = s'.curFrame from e.2.2.2.1.symm, show s.frameIndex = s'.frameIndex from e.2.2.2.2.1.symm] at this

section
variable {code : Code} {iv : Int}

theorem CtxI.of_ext {s s' : State} (h : CtxI code iv s) (e : Ext s s') : CtxI code iv s' :=
  h.of_frame e.1 e.2.2.1 e.2.2.2.1 e.2.2.2.2.1 e.2.2.2.2.2.1 e.2.2.2.2.2.2.1 e.2.2.2.2.2.2.2

theorem CtxI.keeps_data {α} {m : M α} [Pres Ext m] : Keeps (CtxI code iv) m :=
  Keeps.of_ext fun _ _ => CtxI.of_ext

-- the data primitives keep the context, each by its instance `Pres Ext`; `heapUpd` and `alloc` have one for a
-- cell that is not a function cell (`c.kind ≠ 3`)
theorem xk_stackGet (i : Int) : Keeps (CtxI code iv) (stackGet i) := CtxI.keeps_data
theorem xk_stackSet (i : Int) (x : V) : Keeps (CtxI code iv) (stackSet i x) := CtxI.keeps_data
theorem xk_getSp : Keeps (CtxI code iv) getSp := CtxI.keeps_data
theorem xk_setSp (x : Int) : Keeps (CtxI code iv) (setSp x) := CtxI.keeps_data
theorem xk_curFrame : Keeps (CtxI code iv) curFrame := CtxI.keeps_data
theorem xk_heapGet (a : Addr) : Keeps (CtxI code iv) (heapGet a) := CtxI.keeps_data
theorem xk_heapUpd (a : Addr) (c : Cell) (hc : c.kind ≠ 3) : Keeps (CtxI code iv) (heapUpd a c) := @CtxI.keeps_data _ _ _ _ (pres_heapUpd a c hc)
theorem xk_boxSet (a : Addr) (x : V) : Keeps (CtxI code iv) (boxSet a x) := CtxI.keeps_data
theorem xk_alloc (c : Cell) (hc : c.kind ≠ 3) : Keeps (CtxI code iv) (alloc c) := @CtxI.keeps_data _ _ _ _ (pres_alloc c hc)
theorem xk_noteTrace (op : Nat) : Keeps (CtxI code iv) (noteTrace op) := CtxI.keeps_data
theorem xk_copyV (x : V) : Keeps (CtxI code iv) (copyV x) := CtxI.keeps_data
theorem xk_instAt (i : Int) : Keeps (CtxI code iv) (instAt i) := CtxI.keeps_data
theorem xk_opnd1 (k : Int) : Keeps (CtxI code iv) (opnd1 k) := CtxI.keeps_data
theorem xk_opnd2 (k : Int) : Keeps (CtxI code iv) (opnd2 k) := CtxI.keeps_data
theorem xk_constAt (i : Nat) : Keeps (CtxI code iv) (constAt i) := CtxI.keeps_data
theorem xk_arrElems (a : Addr) (off len : Nat) : Keeps (CtxI code iv) (arrElems a off len) := CtxI.keeps_data
theorem xk_mapEntries (a : Addr) : Keeps (CtxI code iv) (mapEntries a) := CtxI.keeps_data
theorem xk_vString (v : V) : Keeps (CtxI code iv) (vString v) := CtxI.keeps_data
theorem xk_isFalsy (v : V) : Keeps (CtxI code iv) (isFalsy v) := CtxI.keeps_data
theorem xk_vEqual (F : FloatOps) (l r : V) : Keeps (CtxI code iv) (vEqual F l r) := CtxI.keeps_data
theorem xk_vBinaryOp (F : FloatOps) (tok : Tok) (l r : V) : Keeps (CtxI code iv) (vBinaryOp F tok l r) := CtxI.keeps_data
theorem xk_vUnary (F : FloatOps) (tok : Tok) (r : V) : Keeps (CtxI code iv) (vUnary F tok r) := CtxI.keeps_data
theorem xk_vIndexGet (t i : V) : Keeps (CtxI code iv) (vIndexGet t i) := CtxI.keeps_data
theorem xk_vIndexSet (t i v : V) : Keeps (CtxI code iv) (vIndexSet t i v) := CtxI.keeps_data
theorem xk_rtErrOfOpErr (e : OpErr) : Keeps (CtxI code iv) (rtErrOfOpErr e) := CtxI.keeps_data
theorem xk_clearDown (hi lo : Int) : Keeps (CtxI code iv) (clearDown hi lo) := CtxI.keeps_data
theorem xk_pushV (v : V) : Keeps (CtxI code iv) (pushV v) := CtxI.keeps_data
theorem xk_fnCell (a : Addr) : Keeps (CtxI code iv) (fnCell a) := CtxI.keeps_data
theorem xk_stackSlice (lo hi : Int) : Keeps (CtxI code iv) (stackSlice lo hi) := CtxI.keeps_data
theorem xk_newArray (xs : List V) : Keeps (CtxI code iv) (newArray xs) := CtxI.keeps_data
theorem xk_copyToStack (a : Int) (xs : List V) : Keeps (CtxI code iv) (copyToStack a xs) := CtxI.keeps_data
theorem xk_throwFuel : Keeps (CtxI code iv) throwFuel := CtxI.keeps_data
theorem xk_fillUndefined (lo : Int) (n : Nat) : Keeps (CtxI code iv) (fillUndefined lo n) := CtxI.keeps_data
theorem xk_copySlots (d : Int) (xs : List V) : Keeps (CtxI code iv) (copySlots d xs) := CtxI.keeps_data
theorem xk_popArgs (n : Nat) : Keeps (CtxI code iv) (popArgs n) := CtxI.keeps_data
theorem xk_callBuiltin (i : Nat) (args : List V) : Keeps (CtxI code iv) (callBuiltin i args) := CtxI.keeps_data
theorem xk_jumpTarget : Keeps (CtxI code iv) (jumpTarget) := CtxI.keeps_data
theorem xk_bindArgs (code : Code) (bp na fl : Int) : Keeps (CtxI code iv) (bindArgs code bp na fl) :=
  CtxI.keeps_data

end

namespace Tq
variable {code : Code} {v : Int} {α β : Type} {Q : α → State → Prop}

/-- The table of rules under the instruction context (the device: head of Proofs/WalkAttr.lean), keyed on the term: for
    `m >>= f` by its first action `m`, with `f` and `Q` free; at the end of a body by the last action and `Q`.  `C` is the
    side condition on the arguments of `m` and on `v` (an offset is an instruction start, by a hypothesis of the opcode's
    specification); `K` is what is left to prove of `f`, under the `ip` that `m` leaves.  The files that follow add the
    entries of their actions. -/
class Rule (code : Code) (v : Int) {α : Type} (Q : α → State → Prop) (t : M α) (C K : outParam Prop) : Prop where
  rule : C → K → Tq (CtxI code v) Q t

/-- a data action, found by instance resolution: the entry of every action that has no entry of its own -/
instance (priority := low) bind_data [Pres Ext m] : Rule code v Q (m >>= f) True (∀ b, Tq (CtxI code v) Q (f b)) :=
  ⟨fun _ => bind_keeps CtxI.keeps_data fun _ h => h.safe⟩

theorem keeps {m : M α} (h : Keeps (CtxI code v) m) : Tq (CtxI code v) (fun _ => CtxI code v) m :=
  of_keeps h (fun _ h => h.safe) fun _ _ h => h

instance (priority := low) data [Pres Ext m] : Rule code v (fun _ => CtxI code v) m True True :=
  ⟨fun _ _ => keeps CtxI.keeps_data⟩

instance : Rule code v Q (getIp >>= f) True (Tq (CtxI code v) Q (f v)) := ⟨fun _ => getIp_bind⟩
instance : Rule code v Q (setIp w >>= f) True (Tq (CtxI code w) Q (f ())) := ⟨fun _ => setIp_bind⟩
instance : Rule code v Q (bumpIp n >>= f) True (Tq (CtxI code (v + n)) Q (f ())) := ⟨fun _ => bumpIp_bind⟩

instance modS_bind : Rule code v Q (modS g >>= f) (∀ s, CtxI code v s → CtxI code v (g s)) (Tq (CtxI code v) Q (f ())) :=
  ⟨fun hg hf => bind_keeps (Keeps.modS hg) (fun _ h => h.safe) fun _ => hf⟩

instance : Rule code v Q (VM.panic msg) True True := ⟨fun _ _ => panic _ fun _ h => h.safe⟩
instance : Rule code v Q (VM.unsupported msg) True True := ⟨fun _ _ => unsupported _ fun _ h => h.safe⟩

/-- a loop, by what an iteration leaves: `Q (.yield b)` to go on, `Q (.done b)` to stop -/
theorem forIn_range (Q : ForInStep β → State → Prop) (r : Std.Legacy.Range) (init : β)
    (f : Nat → β → M (ForInStep β)) (hf : ∀ a b, Tq (Q (.yield b)) Q (f a b)) :
    Tq (Q (.yield init)) (fun b s => Q (.yield b) s ∨ Q (.done b) s) (forIn r init f) :=
  iff_hq.2 (Hq.forIn_range (J := fun b => Q (.yield b)) r init f
    (fun a b => (iff_hq.1 (hf a b)).post fun x s h => by cases x <;> first | exact h | exact .inr h)
    fun _ _ h => .inl h)

/-- a loop whose body keeps the context (instance resolution finds no `Pres Ext` for a loop whose body has a `let` or is long) -/
instance range_loop (r : Std.Legacy.Range) (init : β) (body : Nat → β → M (ForInStep β)) :
    Rule code v (fun _ => CtxI code v) (forIn r init body) True
      (∀ a b, Tq (CtxI code v) (fun _ => CtxI code v) (body a b)) :=
  ⟨fun _ hb => (forIn_range (fun _ => CtxI code v) r init body hb).post fun _ _ h => h.elim id id⟩

/-- an action in the middle of a body that has no entry in bind position (a `match` that yields a value, an update of
    the current frame): walked on its own, with the context as its postcondition -/
theorem mid_bind {m : M β} {f : β → M α} (hm : Tq (CtxI code v) (fun _ => CtxI code v) m)
    (hf : ∀ b, Tq (CtxI code v) Q (f b)) : Tq (CtxI code v) Q (m >>= f) := bind hm hf

end Tq

/-- The side condition of an entry.  An offset is an instruction start by a hypothesis in sight: literally, or (the last
    such hypothesis) up to arithmetic.  An update of a handler keeps its positions or clears them; an update of the current
    frame leaves function and handlers alone, or drops the handlers; a written-out `modS` touches fields the context does not
    read; a continuation written out in the opcode is the one the entry names, by `rfl`. -/
syntax "tq_side" : tactic
macro_rules | `(tactic| tq_side) => `(tactic| first
  | exact trivial
  | assumption
  | exact ⟨_, ‹_›, by omega⟩
  | exact fun _ _ _ hhs => by cases hhs
  | exact fun _ h => h
  | exact fun _ h => ⟨fun hc => by first | exact h.1 hc | exact absurd hc (Int.lt_irrefl 0),
      fun hc => by first | exact h.2.1 hc | exact absurd hc (Int.lt_irrefl 0), h.2.2⟩
  | (refine ⟨?_, ?_⟩ <;> tq_side)
  | (intros; with_unfolding_all rfl))

/-- One step of the walk `tqs v Q` of an opcode body under `CtxI code v` with postcondition `Q`: by the entry of the term
    in the table `Tq.Rule` where it has one, its side condition closed by `tq_side` (what the entry asks of the continuation
    is a statement about all results of the first action).  `if` and `match` are split; a join point or local function of
    the block is proved once and used at its call sites; a bind whose first action has no entry is cut there
    (`Tq.mid_bind`), and the first action walked on its own.  `hygiene false`: `code` in the macro is the variable of that
    name in the goal's context, so a statement proved by the walk calls its code `code`. -/
syntax "tq_step " term:max term:max : tactic
syntax "tqs " term:max term:max : tactic
set_option hygiene false in
macro_rules | `(tactic| tq_step $v $Q) => `(tactic| first
  | with_reducible (refine Tq.Rule.rule (by tq_side) ?_; first | exact trivial | intros)
  | with_reducible apply Tq.ite
  | ((first | lift_lets | with_reducible (intro x__; revert x__));
     walk_jp (Tq (CtxI code $v) $Q) by tqs $v $Q)
  | (with_reducible refine Tq.mid_bind ?_ fun _ => ?_; · tqs $v (fun _ => CtxI code $v))
  | split
  | keeps_hyp
  | dsimp only)
macro_rules | `(tactic| tqs $v $Q) => `(tactic| repeat tq_step $v $Q)

end UgoVerif.VM.Cfi

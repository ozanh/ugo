import UgoVerif.Proofs.ExecAtStartsOps
/-
  The opcodes that the walk does not do alone, and the dispatch.  CLOSURE allocates a function cell, which the
  context allows because the cell names the code of a function cell that is there (`Tq.allocFn_bind`); GETINDEX
  is a loop that can throw (`LoopQ`); CALL / CALLNAME enter the callee at offset 0, an instruction start of
  well-formed code (`WfCode.bd0`; a self tail call goes there too), and leave `p + 2` in the caller's frame, which
  so resumes at `p + 3`, the offset behind the operands (`tq_callTail_enter`, Proofs/ExecAtStartsOps.lean).
-/
namespace UgoVerif.VM.Cfi
open UgoVerif UgoVerif.Go
open UgoVerif.Compile (Bd readBE opWidth)

section
variable {code : Code} {p : Nat}

theorem xs_execGetIndex (hnext : Bd code.insts (p + 1 + 1)) : OpSpec code p execGetIndex := by
  unfold execGetIndex
  iterate 3 tq_step (p : Int) StepQ
  refine Tq.bind (Tq.pre (Tq.forIn_range (LoopQ code p) _ _ _ ?_) (fun _ h => ⟨rfl, h⟩)) (fun r => ?_)
  · intro k b
    refine Tq.pre ?_ (fun _ h => h.2)
    try dsimp only
    tqs (p : Int) (LoopQ code (p : Int))
    · exact Tq.bind (tq_failWith _) fun r => Tq.pure fun _ h => ⟨_, rfl, h⟩
    · exact Tq.pure fun _ h => ⟨rfl, h⟩
  · obtain ⟨o, t, v⟩ := r
    dsimp only
    cases o with
    | none =>
      refine Tq.pre (X := CtxI code p) ?_ (fun s h => h.elim (fun h1 => h1.2) (fun ⟨c, e, _⟩ => by cases e))
      tqs (p : Int) StepQ
    | some c =>
      exact Tq.pure (fun s h => h.elim (fun h1 => by cases h1.1) (fun ⟨c', e, hq⟩ => by cases e; exact hq))

theorem Tq.allocFn_bind {α} {iv : Int} {Q : α → State → Prop} {X : M Nat} {f : Addr → M α} (free : Option (List Addr))
    (hX : ∀ s, (∃ e, exec X s = (.error e, s)) ∨
      ∃ (c a : Nat) (fr : Option (List Addr)), exec X s = (.ok c, s) ∧ s.heap[a]? = some (Cell.fn c fr))
    (hf : ∀ na, Tq (CtxI code iv) Q (f na)) : Tq (CtxI code iv) Q (X >>= fun c => alloc (.fn c free) >>= f) := by
  apply Tq.intro'; intro s hs
  rw [exec_bind]
  rcases hX s with ⟨e, he⟩ | ⟨c, a, fr, he, hc⟩
  · rw [he]; exact hs.safe
  · rw [he]
    dsimp only
    rw [exec_bind, show exec (alloc (Cell.fn c free)) s =
      (.ok s.heap.size, { s with heap := s.heap.push (Cell.fn c free) }) from rfl]
    refine Tq.iff_hq.1 (hf _) _ (CtxI.of_frame hs rfl rfl rfl rfl rfl ?_ ?_)
    · intro a' c'' f' hs
      exact (push_fn_iff s.heap _ a' c'' f').mpr (.inl hs)
    · intro a' c'' f' hs
      rcases (push_fn_iff s.heap _ a' c'' f').mp hs with h1 | ⟨_, h2⟩
      · exact ⟨a', f', h1⟩
      · cases h2; exact ⟨a, fr, hc⟩

theorem xs_execClosure (hnext : Bd code.insts (p + 1 + 3)) : OpSpec code p execClosure := by
  unfold execClosure
  iterate 8 tq_step (p : Int) StepQ
  simp only [← bind_assoc (heapGet _)]
  refine Tq.allocFn_bind _ ?_ (fun na => ?_)
  · intro s
    rename_i fa _ _ _ _
    simp only [exec_bind, exec_heapGet]
    cases hh : s.heap[fa]? with
    | none => exact .inl ⟨_, rfl⟩
    | some cell =>
      cases cell with
      | fn c fr => exact .inr ⟨c, fa, fr, rfl, hh⟩
      | _ => exact .inl ⟨_, rfl⟩
  · tqs (p : Int) StepQ


theorem tq_fnCell {iv : Int} (fa : Addr) : Tq (CtxI code iv) (fun _ s => CtxI code iv s ∧ HasFn fa s) (fnCell fa) := by
  apply Tq.intro'; intro s hs
  simp only [fnCell, exec_bind, exec_heapGet]
  cases hh : s.heap[fa]? with
  | none => exact hs.safe
  | some cell =>
    cases cell with
    | fn c fr => exact ⟨hs, c, fr, hh⟩
    | _ => exact hs.safe

/-- the end of a self tail call: `ip = -1`, the next fetch is at offset 0 (`hzero`) -/
instance tq_enterOk :
    Tq.Rule code iv (EnterQ fa code pq) (pure (Except.ok ())) (∃ n : Nat, Bd code.insts n ∧ iv + 1 = n) True :=
  ⟨fun ⟨_, hbd, hv⟩ _ => Tq.pure (fun _ h _ => h.good hbd hv)⟩

instance tq_enterErr : Tq.Rule code pq (EnterQ fa code pq) (pure (Except.error e)) True True :=
  ⟨fun _ _ => Tq.pure (fun _ h _ => h)⟩

theorem xs_callCompiled (hnext : Bd code.insts (p + 3)) (hzero : Bd code.insts 0) (fa : Addr) (na fl : Int) :
    Tq (CtxI code p) (CallQ code p) (callCompiled fa na fl) := by
  rw [callCompiled_eq]
  refine Tq.bind (tq_fnCell fa) fun x => ?_
  refine (Tq.carry (Q := EnterQ fa code p) HasFn.keeps ?_).post fun _ _ h => h.1 h.2
  unfold callRest callBody tailCall tailCallA tailCallB tailCallC
  tqs (p : Int) (EnterQ fa code (p : Int))

theorem xs_callObject (hnext : Bd code.insts (p + 3)) (c : V) (na fl : Int) :
    Tq (CtxI code p) (CallQ code p) (callObject c na fl) := by
  unfold callObject
  tqs (p : Int) (CallQ code (p : Int))

theorem xs_callAny (hnext : Bd code.insts (p + 3)) (hzero : Bd code.insts 0) (c : V) (na fl : Int) :
    Tq (CtxI code p) (CallQ code p) (callAny c na fl) := by
  unfold callAny
  split
  · exact xs_callCompiled hnext hzero _ _ _
  · exact xs_callObject hnext _ _ _

/-- The call proper and the end of the instruction: an error the callee returns is thrown.  The opcodes have the
    continuation written out as a `match` of their own, which the unifier does not see through when it looks the entry
    up: that it is this one is a side condition, by `rfl`. -/
instance Tq.call_bind :
    Tq.Rule code p StepQ (callAny c na fl >>= k)
      (k = (fun r => match r with | .ok () => Pure.pure Ctl.next | .error e => failWith e) ∧
        Bd code.insts (p + 3) ∧ Bd code.insts 0) True :=
  ⟨fun ⟨hk, hnext, hzero⟩ _ => hk ▸ Tq.bind (xs_callAny hnext hzero c na fl) fun r => by
    rcases r with e | ⟨⟨⟩⟩
    · exact tq_failWith e
    · exact Tq.pure fun _ h => ⟨Good.safe h, fun _ => h⟩⟩

theorem xs_execCall (hnext : Bd code.insts (p + 1 + 2)) (hzero : Bd code.insts 0) : OpSpec code p execCall := by
  unfold execCall
  tqs (p : Int) StepQ

theorem xs_execCallName (hnext : Bd code.insts (p + 1 + 2)) (hzero : Bd code.insts 0) : OpSpec code p execCallName := by
  unfold execCallName
  tqs (p : Int) StepQ

theorem tq_dispatch (F : FloatOps) (hw : WfCode code) (hbd : Bd code.insts p) (b : UInt8)
    (hop : code.insts[p]? = some b) : Tq (CtxI code p) StepQ (dispatch F b.toNat) := by
  have hf : ∀ op, b.toNat = op → p + 1 + opWidth op ≤ code.insts.size := fun _ e => e ▸ hw.fit hbd hop
  -- the opcode is not RETURN and has `k` operand bytes: both by evaluation, at each row
  have hn : ∀ op k (_ : b.toNat = op) (_ : (op == OpReturn) = false := by rfl) (_ : opWidth op = k := by rfl),
      Bd code.insts (p + 1 + k) :=
    fun _ _ e hne hk => hk ▸ e ▸ hw.next hbd hop (e ▸ ne_of_beq_false hne)
  have hj : ∀ op, b.toNat = op → opWidth op = 4 →
      (op = OpJump ∨ op = OpJumpFalsy ∨ op = OpAndJump ∨ op = OpOrJump) →
      p + 4 < code.insts.size ∧ Bd code.insts (readBE code.insts (p + 1) 4) := by
    intro op e h4 hcl
    have := hf op e
    exact ⟨by omega, hw.jump p b hbd hop (e ▸ hcl)⟩
  refine dispatch_cases (P := Tq (CtxI code p) StepQ) F b.toNat
    (fun hc => xs_execConstant (hn _ _ hc))
    (fun hc => xs_execGetLocal (hn _ _ hc))
    (fun hc => xs_execSetLocal (hn _ _ hc))
    (fun hc => xs_execBinaryOp F (hn _ _ hc))
    (fun hc => xs_execAndJump (hj _ hc rfl (by decide)).1 (hj _ hc rfl (by decide)).2
    (hn _ _ hc))
    (fun hc => xs_execOrJump (hj _ hc rfl (by decide)).1 (hj _ hc rfl (by decide)).2
    (hn _ _ hc))
    (fun hc => by rcases hc with e | e <;> exact xs_execEqual F _ (hn _ _ e))
    (fun hc => xs_execTrue (hn _ _ hc))
    (fun hc => xs_execFalse (hn _ _ hc))
    (fun hc => xs_execCall (hn _ _ hc) hw.bd0)
    (fun hc => xs_execCallName (hn _ _ hc) hw.bd0)
    (fun _ => xs_execReturn)
    (fun hc => xs_execGetBuiltin (hn _ _ hc))
    (fun hc => xs_execClosure (hn _ _ hc))
    (fun hc => xs_execJump (hj _ hc rfl (by decide)).1 (hj _ hc rfl (by decide)).2)
    (fun hc => xs_execJumpFalsy (hj _ hc rfl (by decide)).1 (hj _ hc rfl (by decide)).2
    (hn _ _ hc))
    (fun hc => xs_execGetGlobal (hn _ _ hc))
    (fun hc => xs_execSetGlobal (hn _ _ hc))
    (fun hc => xs_execArray (hn _ _ hc))
    (fun hc => xs_execMap (hn _ _ hc))
    (fun hc => xs_execGetIndex (hn _ _ hc))
    (fun hc => xs_execSetIndex (hn _ _ hc))
    (fun hc => xs_execSliceIndex (hn _ _ hc))
    (fun hc => xs_execGetFree (hn _ _ hc))
    (fun hc => xs_execSetFree (hn _ _ hc))
    (fun hc => xs_execGetLocalPtr (hn _ _ hc))
    (fun hc => xs_execGetFreePtr (hn _ _ hc))
    (fun hc => xs_execDefineLocal (hn _ _ hc))
    (fun hc => xs_execNull (hn _ _ hc))
    (fun hc => xs_execPop (hn _ _ hc))
    (fun hc => xs_execIterInit (hn _ _ hc))
    (fun hc => by rcases hc with (e | e) | e <;> exact xs_execIterNext _ (hn _ _ e))
    (fun hc => xs_execLoadModule (hn _ _ hc))
    (fun hc => xs_execStoreModule (hn _ _ hc))
    (fun hc => xs_execSetupTry (by have := hf _ hc; have e : opWidth OpSetupTry = 8 := rfl; omega) (hw.try_ p b hbd hop hc) (hn _ _ hc))
    (fun hc => xs_execSetupCatch (hn _ _ hc))
    (fun hc => xs_execSetupFinally (hn _ _ hc))
    (fun hc => xs_execThrow (hn _ _ hc))
    (fun hc => xs_execFinalizer hbd (hn _ _ hc))
    (fun hc => xs_execUnary F (hn _ _ hc))
    (fun hc => xs_execNoOp (hn _ _ hc))
    (xs_execUnknown _)

end
end UgoVerif.VM.Cfi

import UgoVerif.Proofs.FrameOps
/-
  Data actions of the VM model.  The invariants of the frame stack (`CsInv`, call sites; `CtxI`,
  control-flow integrity) read `ip`, `err`, the frames, `curFrame`, `frameIndex`, the codes and the
  function cells of the heap.  Most primitives touch none of these: they move values between the
  stack and heap cells that are not function cells.  `Ext s0 s` says that `s` differs from `s0`
  at most in that way; it allows the writes of the data primitives and of `sp` (`SpRel`, Proofs/Frame.lean),
  and every invariant that is closed under it (`Keeps.of_ext`) is kept by all of them.
-/
namespace UgoVerif.VM
open UgoVerif UgoVerif.Go

attribute [keeps_rule] Keeps.pure Keeps.panic Keeps.unsupported Keeps.throw Keeps.getS Keeps.get

/-- a leaf of a `do` block: a local hypothesis (join point, induction), a `modS` on fields the invariant does not
    read, or a lemma of the simp set `keeps_rule`: that of a primitive (found by its head symbol) or that of the
    invariant for every data action (`X.keeps_data`, by the instance `Pres Ext` of the action).
    An alternative with a side condition is `apply rule; tac`, not `exact rule _ (by tac)`: a failing
    `exact` pays for a coercion search and runs `tac` before it reports the mismatch. -/
syntax "ck_leaf" : tactic
macro_rules | `(tactic| ck_leaf) => `(tactic| first
  | keeps_hyp
  | (apply Keeps.modS; exact fun _ h => h)
  | simp only [keeps_rule])

/-- `m >>= f`; an action whose lemma speaks of its continuation (`throw`, Proofs/VMCallSiteOps.lean) adds an alternative -/
syntax "ck_bind" : tactic
macro_rules | `(tactic| ck_bind) => `(tactic| refine Keeps.bind ?_ fun _ => ?_)

/-- The walk of a `do` block for the invariant given as argument (the device: head of Proofs/WalkAttr.lean): a bind is
    split, a leaf looked up by `ck_leaf`, a join point proved once and abstracted (`walk_jp`).  An opcode function that
    neither calls, returns nor unwinds keeps an invariant by the frame classes of Proofs/Frame.lean; walked are the blocks
    those classes do not reach: `throw` followed by the write of `vm.err` (`execThrow`, `handlePanic`) and the first part
    of the prologue (`prologueA`). -/
syntax "ckeeps " term:max : tactic
macro_rules | `(tactic| ckeeps $P) => `(tactic|
  repeat (first
    | with_reducible ck_bind
    | with_reducible ck_leaf
    | with_reducible apply Keeps.ite
    | walk_jp (Keeps $P) by ckeeps $P
    | split
    | dsimp only))

/-- `Ext s0` as a function of the fields it reads (so that updates of other fields keep it by `rfl`) -/
@[reducible] def ExtF (s0 : State) (ip : Int) (err : Option VmErr) (frames : Array Frame) (cur : Nat) (fi : Int)
    (codes : Array Code) (heap : Array Cell) : Prop :=
  ip = s0.ip ∧ err = s0.err ∧ frames = s0.frames ∧ cur = s0.curFrame ∧ fi = s0.frameIndex ∧ codes = s0.codes ∧
  (∀ (a c : Nat) (f : Option (List Addr)), s0.heap[a]? = some (Cell.fn c f) → heap[a]? = some (Cell.fn c f)) ∧
  Cfi.FnFrom s0.heap heap

/-- `s` is `s0` up to the stack, `sp`, the bookkeeping fields and heap cells that are not function
    cells: function cells stay, and a new one has the code of an old one (`Copy()` of a closure) -/
@[reducible] def Ext (s0 s : State) : Prop := ExtF s0 s.ip s.err s.frames s.curFrame s.frameIndex s.codes s.heap

theorem Ext.refl (s : State) : Ext s s := ⟨rfl, rfl, rfl, rfl, rfl, rfl, fun _ _ _ h => h, Cfi.FnFrom.refl _⟩

theorem Ext.of_frame {s0 s s' : State} (h : Ext s0 s) (hip : s'.ip = s.ip) (herr : s'.err = s.err)
    (hfr : s'.frames = s.frames) (hc : s'.curFrame = s.curFrame) (hfi : s'.frameIndex = s.frameIndex)
    (hcodes : s'.codes = s.codes)
    (hheap : ∀ (a c : Nat) (f : Option (List Addr)), s.heap[a]? = some (Cell.fn c f) → s'.heap[a]? = some (Cell.fn c f))
    (hnew : Cfi.FnFrom s.heap s'.heap) : Ext s0 s' := by
  obtain ⟨h1, h2, h3, h4, h5, h6, h7, h8⟩ := h
  exact ⟨hip.trans h1, herr.trans h2, hfr.trans h3, hc.trans h4, hfi.trans h5, hcodes.trans h6,
    fun a c f hx => hheap a c f (h7 a c f hx), h8.trans hnew⟩

instance : SpRel Ext where
  refl := Ext.refl
  trans h1 h2 := h1.of_frame h2.1 h2.2.1 h2.2.2.1 h2.2.2.2.1 h2.2.2.2.2.1 h2.2.2.2.2.2.1 h2.2.2.2.2.2.2.1 h2.2.2.2.2.2.2.2
  stack s _ _ := Ext.refl s
  trace s _ _ := Ext.refl s
  heap _ _ h := ⟨rfl, rfl, rfl, rfl, rfl, rfl, h.1, h.2.1⟩
  sp s _ := Ext.refl s

theorem Keeps.of_ext {α} {P : State → Prop} {m : M α} (hP : ∀ s s', P s → Ext s s' → P s')
    [h : Pres Ext m] : Keeps P m := h.inv hP

end UgoVerif.VM


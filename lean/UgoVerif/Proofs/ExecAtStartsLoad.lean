import UgoVerif.Proofs.ExecAtStartsRun
import UgoVerif.Proofs.C16Bridge
/-
  The loader.  The VM state a compile-model bytecode is loaded
  into (`Eval.setBytecode` on a new VM) satisfies `Safe0` (`safe0_loaded`) when every function of the bytecode
  (function constants and main, `fnList`) has well-formed code: every function cell of the loaded
  heap names a code of the code memory, the code memory is `fnList bc` in order (`load_codes`),
  the frame array is the empty one.
-/
namespace UgoVerif.Proofs.C16
open UgoVerif UgoVerif.Go UgoVerif.Model UgoVerif.Compile UgoVerif.VM UgoVerif.VM.Cfi UgoVerif.Eval

def FnIdx (vm : State) : Prop :=
  ∀ (a c : Nat) (fr : Option (List Addr)), vm.heap[a]? = some (Cell.fn c fr) → c < vm.codes.size

theorem fnIdx_allocFn {vm : State} (h : FnIdx vm) (f : CFn) : FnIdx (allocFn vm f).2 := by
  intro a c fr hx
  have hx' : (vm.heap.push (Cell.fn vm.codes.size none))[a]? = some (Cell.fn c fr) := hx
  show c < (vm.codes.push (codeOfCFn f)).size
  rw [Array.size_push]
  rcases (push_fn_iff vm.heap _ a c fr).mp hx' with h1 | ⟨_, h2⟩
  · have := h a c fr h1; omega
  · cases h2; omega

theorem allocFns_fnIdx : ∀ (fns : List CFn) (vm : State), FnIdx vm → FnIdx (allocFns vm fns)
  | [], _, h => h
  | f :: r, _, h => allocFns_fnIdx r _ (fnIdx_allocFn h f)

theorem load_fnIdx (bc : Compile.Bytecode) :
    FnIdx (Eval.setBytecode (newState #[] #[] #[] 0 0) bc.main 0 bc.constants #[]) := by
  obtain ⟨cs, ma, e⟩ := load_state bc
  rw [e]
  exact allocFns_fnIdx (fnList bc) _ fun a c fr hx => by simp [newState] at hx

theorem safe0_loaded (bc : Compile.Bytecode) (hwf : ∀ g ∈ fnList bc, WfCode (codeOfCFn g)) :
    Safe0 (Eval.setBytecode (newState #[] #[] #[] 0 0) bc.main 0 bc.constants #[]) := by
  refine ⟨?_, rfl, load_frames bc, ?_⟩
  · intro a c fr hx
    obtain ⟨g, _, hg, e⟩ := code_of_fns_lt (load_codes bc) (load_fnIdx bc a c fr hx)
    rw [e]
    exact hwf g hg
  · intro i
    rw [load_frames_eq, emptyFrames_get]
    exact frOK_default _ _ _

end UgoVerif.Proofs.C16

import UgoVerif.Proofs.ExecAtStartsThrow
/-
  One opcode function.  `OpSpec code p m`: from the instruction context `CtxI code p` (`p` the offset of the opcode
  byte, an instruction start of `code`; `ip = p`) the opcode function `m` ends with `continue` in a `Good` state, or
  with `return` / a Go panic / outside the model in a `Safe` state.  What an opcode needs of the code is a hypothesis
  of its specification, which `tq_dispatch` (Proofs/ExecAtStartsCall.lean) supplies from `WfCode`: a straight-line
  opcode advances `ip` by its operand width (`hnext`, from `WfCode.next`), a jump reads its target from the operand
  bytes (`htgt`, `WfCode.jump`), SETUPTRY stores its operands in a handler (`htry`, `WfCode.try_`).  RETURN resumes
  where `Safe` says a suspended frame does; errors go to `throw`.
-/
namespace UgoVerif.VM.Cfi
open UgoVerif UgoVerif.Go
open UgoVerif.Compile (Bd readBE)

@[reducible] def StepQ : Ctl → State → Prop := fun r s => Safe s ∧ (r = .next → Good s)

theorem Tq.bind_keepsI {α β} {code : Code} {v : Int} {Q : α → State → Prop} {m : M β} {f : β → M α}
    (hm : ∀ iv, Keeps (CtxI code iv) m) (hf : ∀ b, Tq (CtxI code v) Q (f b)) : Tq (CtxI code v) Q (m >>= f) :=
  Tq.bind_keeps (hm v) (fun _ h => h.safe) hf

section
variable {code : Code} {iv : Int}

theorem tq_next {n : Nat} (hbd : Bd code.insts n) (hv : iv + 1 = (n : Int)) :
    Tq (CtxI code iv) StepQ (pure Ctl.next) :=
  Tq.pure (fun _ h => ⟨h.safe, fun _ => h.good hbd hv⟩)

instance : Tq.Rule code iv StepQ (pure Ctl.next) (∃ n : Nat, Bd code.insts n ∧ iv + 1 = n) True :=
  ⟨fun ⟨_, hbd, hv⟩ _ => tq_next hbd hv⟩
-- after a jump to `n`: found by unification, no arithmetic
instance (priority := high) {n : Nat} : Tq.Rule code ((n : Int) - 1) StepQ (pure Ctl.next) (Bd code.insts n) True :=
  ⟨fun hbd _ => tq_next hbd (by omega)⟩

instance tq_ret : Tq.Rule code iv StepQ (pure Ctl.ret) True True :=
  ⟨fun _ _ => Tq.pure (fun _ h => ⟨h.safe, fun e => by cases e⟩)⟩

theorem tq_throwNow (err : Addr) : Tq (CtxI code iv) StepQ (throwNow err) := by
  unfold throwNow
  refine Tq.bind_data.rule trivial fun n => Tq.bind ((tq_throwF n err).pre fun _ h => h.safe) fun r => ?_
  cases r with
  | none => exact Tq.pure fun s h => ⟨h.1, fun _ => h.2 rfl⟩
  | some a => exact Tq.bind_keeps (Keeps.modS fun _ h => h) (fun _ h => h.1) fun _ => Tq.pure fun s h => ⟨h.1, nofun⟩

/-- `throw` and the end of the instruction, written out in the opcode -/
instance Tq.throw_bind :
    Tq.Rule code iv StepQ (throwFuel >>= fun n => throwF n err >>= k) (k = finishThrow) True :=
  ⟨fun hk _ => hk ▸ tq_throwNow err⟩

theorem tq_failWith (e : OpErr) : Tq (CtxI code iv) StepQ (failWith e) := by
  rw [failWith_eq]
  exact Tq.bind_data.rule trivial tq_throwNow

instance : Tq.Rule code iv StepQ (failWith e) True True := ⟨fun _ _ => tq_failWith e⟩

@[reducible] def HasFn (fa : Addr) (s : State) : Prop := ∃ (c : Nat) (fr : Option (List Addr)), s.heap[fa]? = some (Cell.fn c fr)

/-- what a call leaves: entered (or skipped: builtin) — at an instruction boundary; an error
    returned — still in the context of the CALL -/
@[reducible] def CallQ (code : Code) (p : Int) : Except OpErr Unit → State → Prop := fun r s =>
  match r with
  | .ok _ => Good s
  | .error _ => CtxI code p s

/-- … when the callee is a function cell, which `xOpCallCompiled` has read and nothing removes (`Tq.carry`) -/
@[reducible] def EnterQ (fa : Addr) (code : Code) (p : Int) : Except OpErr Unit → State → Prop := fun r s =>
  HasFn fa s → CallQ code p r s

/-- the instruction context, and the callee is a function cell: what the body of `xOpCallCompiled` runs under -/
@[reducible] def CtxH (fa : Addr) (code : Code) (v : Int) (s : State) : Prop := CtxI code v s ∧ HasFn fa s

theorem Tq.carry {α} {X A : State → Prop} {Q : α → State → Prop} {m : M α} (hA : Keeps A m) (h : Tq X Q m) :
    Tq (fun s => X s ∧ A s) (fun a s => Q a s ∧ A s) m :=
  Tq.iff_hq.2 (((Tq.iff_hq.1 h).conj (Keeps.iff_hq.1 hA)).conseq (fun _ h => h) (fun _ _ h => h) fun _ _ h => h.1)

theorem HasFn.keeps {α} {fa : Addr} {m : M α} [Pres Fixes m] : Keeps (HasFn fa) m :=
  Inert.keeps fun _ _ h ⟨c, fr, e⟩ => ⟨c, fr, h.2.2 _ _ _ e⟩

instance tq_callTail_enter (fa : Addr) (free : Option (List Addr)) (bp nl : Int) {p : Nat} :
    Tq.Rule code p (EnterQ fa code p) (callTail fa free bp p nl) (Bd code.insts (p + 3)) True := by
  refine ⟨fun hnext _ => Tq.intro' fun s hctx => ?_⟩
  rw [exec_callTail]
  by_cases h1 : s.frameIndex + 1 > (frameSize : Int) - 1
  · rw [if_pos h1]; exact fun _ => hctx
  · rw [if_neg h1]
    by_cases h2 : (decide (s.frameIndex < 0) || decide (s.frameIndex ≥ (frameSize : Int))) = true
    · rw [if_pos h2]; exact hctx.safe
    · rw [if_neg h2]
      simp only [Bool.or_eq_true, decide_eq_true_eq, not_or, Int.not_lt, ge_iff_le, Int.not_le] at h2
      intro ⟨c', fr', (hfn : s.heap[fa]? = _)⟩
      obtain ⟨fa0, c0, fr0, g1, g2, g3, g4⟩ := hctx.cur
      obtain ⟨⟨k1, k2, k3, k4⟩, _, k5⟩ := hctx
      have hk : s.frameIndex.toNat = s.curFrame + 1 := by omega
      have hcl : s.curFrame < s.frames.size := by rw [k3]; simp only [frameSize] at h2 ⊢; omega
      have hfl : s.frameIndex.toNat < s.frames.size := by rw [k3]; simp only [frameSize] at h2 ⊢; omega
      have hwf : WfCode (s.codes[c']!) := k1 fa c' fr' hfn
      refine ⟨s.codes[c']!, ⟨⟨k1, ?_, ?_, ?_⟩, ⟨fa, c', fr', ?_, hfn, rfl⟩, rfl⟩, (by show (0 : Int) ≤ -1 + 1; decide), hwf.bd0⟩
      · show ((s.frameIndex.toNat : Nat) : Int) + 1 = s.frameIndex + 1
        omega
      · show ((s.frames.modify s.curFrame _).modify s.frameIndex.toNat (enterF fa free bp)).size = frameSize
        simpa using k3
      · intro i
        show FrOK s.heap s.codes (i < s.frameIndex.toNat)
          (((s.frames.modify s.curFrame fun f => { f with ip := (p : Int) + 2 }).modify s.frameIndex.toNat (enterF fa free bp))[i]!)
        by_cases hic : i = s.curFrame
        · subst hic
          rw [dm_c _ _ _ _ _ hcl (by omega)]
          refine .inr ⟨fa0, c0, fr0, g1, g2, by rw [g3]; exact g4, fun _ => ?_⟩
          show 0 ≤ (p : Int) + 2 + 1 ∧ Bd (s.codes[c0]!).insts ((p : Int) + 2 + 1).toNat
          have : ((p : Int) + 2 + 1).toNat = p + 3 := by omega
          rw [this, g3]
          exact ⟨by omega, hnext⟩
        · by_cases hif : i = s.frameIndex.toNat
          · subst hif
            rw [dm_at _ _ _ _ _ hfl (by omega)]
            exact .inr ⟨fa, c', fr', rfl, hfn, (fun hs hhs => by cases hhs), fun hlt => absurd hlt (Nat.lt_irrefl _)⟩
          · rw [dm_other _ _ _ _ _ _ (fun e => hic e.symm) (fun e => hif e.symm)]
            exact (k4 i).mono (fun _ _ _ h => h) (fun hlt => by omega)
      · show (((s.frames.modify s.curFrame fun f => { f with ip := (p : Int) + 2 }).modify s.frameIndex.toNat (enterF fa free bp))[s.frameIndex.toNat]!).fn = some fa
        rw [dm_at _ _ _ _ _ hfl (by omega)]
        rfl

theorem tq_callTail (fa : Addr) (free : Option (List Addr)) (bp nl : Int) {p : Nat} (hnext : Bd code.insts (p + 3)) :
    Tq (CtxH fa code p) (CallQ code p) (callTail fa free bp p nl) := by
  refine (Tq.carry (A := HasFn fa) (Keeps.intro' fun s h => ?_) ((tq_callTail_enter fa free bp nl).rule hnext trivial)).post fun _ _ h => h.1 h.2
  rw [exec_callTail]
  split
  · exact h
  · split <;> exact h

theorem tq_retTail : Tq Safe StepQ retTail := by
  apply Tq.intro'; intro s hs
  rw [exec_retTail]
  have hclr : Safe { s with frames := s.frames.modify s.curFrame clearF } := SafeF.modify_cur hs clearF (.inl ⟨rfl, rfl⟩)
  by_cases h1 : (s.frameIndex == 1) = true
  · rw [if_pos h1]; exact ⟨hs, fun e => by cases e⟩
  rw [if_neg h1]
  by_cases h2 : (decide (s.frameIndex - 2 < 0) || decide (s.frameIndex - 2 ≥ (frameSize : Int))) = true
  · rw [if_pos h2]; exact hclr
  rw [if_neg h2]
  have := toNat_lt_of_inFrames h2
  have hl := hs.2.1
  have hpop : Safe (popped s) := SafeF.down hclr (i := (s.frameIndex - 2).toNat) (by show _ ≤ s.curFrame; omega)
    (by show _ = s.frameIndex - 1; omega)
  rw [getElem!_modify_of_ne _ _ (by omega)]
  cases hfn : (s.frames[(s.frameIndex - 2).toNat]!).fn with
  | none => exact hpop
  | some a =>
    -- the parent resumes where `Safe` says a suspended frame does
    refine ⟨hpop, fun _ => ?_⟩
    have hpar : (popped s).frames[(popped s).curFrame]! = s.frames[(s.frameIndex - 2).toNat]! :=
      getElem!_modify_of_ne s.frames clearF (show s.curFrame ≠ (s.frameIndex - 2).toNat by omega)
    rcases hs.2.2.2 (s.frameIndex - 2).toNat with h' | ⟨fa, c, fr, g1, g2, g3, g4⟩
    · rw [hfn] at h'; cases h'.1
    · obtain ⟨g5, g6⟩ := g4 (by omega)
      have hip : (popped s).ip = (s.frames[(s.frameIndex - 2).toNat]!).ip := congrArg Frame.ip hpar
      exact ⟨s.codes[c]!, ⟨hpop, ⟨fa, c, fr, by rw [hpar]; exact g1, g2, rfl⟩, rfl⟩, by rw [hip]; exact g5, by rw [hip]; exact g6⟩

end

theorem tq_callOk {code : Code} {iv p : Int} {n : Nat} (hbd : Bd code.insts n) (hv : iv + 1 = (n : Int)) :
    Tq (CtxI code iv) (CallQ code p) (pure (Except.ok ())) :=
  Tq.pure (fun _ h => h.good hbd hv)

theorem tq_callErr {code : Code} {p : Int} (e : OpErr) : Tq (CtxI code p) (CallQ code p) (pure (Except.error e)) :=
  Tq.pure (fun _ h => h)

instance : Tq.Rule code iv (CallQ code p) (pure (Except.ok ())) (∃ n : Nat, Bd code.insts n ∧ iv + 1 = n) True :=
  ⟨fun ⟨_, hbd, hv⟩ _ => tq_callOk hbd hv⟩
instance : Tq.Rule code p (CallQ code p) (pure (Except.error e)) True True := ⟨fun _ _ => tq_callErr e⟩

instance Tq.jumpTarget_bind {p : Nat} :
    Tq.Rule code p Q (jumpTarget >>= f) (p + 4 < code.insts.size)
      (Tq (CtxI code p) Q (f ((readBE code.insts (p + 1) 4 : Nat) : Int))) := by
  refine ⟨fun hn hf => ?_⟩
  unfold jumpTarget
  simp only [bind_assoc, pure_bind]
  exact Tq.opnd4_bind 1 1 rfl (by omega) hf

theorem Tq.pre_and {α} {X : State → Prop} {P : Prop} {Q : α → State → Prop} {m : M α} (h : P → Tq X Q m) :
    Tq (fun s => X s ∧ P) Q m := by
  apply Tq.assume; intro s0 hs0
  exact (h hs0.2).pre (fun s e => by rw [e]; exact hs0.1)

/-- result of the loop of `OpGetIndex`: going on in the context, or done with what `failWith` left -/
@[reducible] def LoopQ (code : Code) (v : Int) : ForInStep (Option Ctl × V × V) → State → Prop := fun r s =>
  match r with
  | .yield b => b.1 = none ∧ CtxI code v s
  | .done b => ∃ c, b.1 = some c ∧ StepQ c s

section
variable {code : Code} {p : Nat}

abbrev OpSpec (code : Code) (p : Nat) (m : M Ctl) : Prop := Tq (CtxI code p) StepQ m

theorem xs_execConstant (hnext : Bd code.insts (p + 1 + 2)) : OpSpec code p execConstant := by
  unfold execConstant; tqs (p : Int) StepQ

theorem xs_execGetLocal (hnext : Bd code.insts (p + 1 + 1)) : OpSpec code p execGetLocal := by
  unfold execGetLocal; tqs (p : Int) StepQ

theorem xs_execSetLocal (hnext : Bd code.insts (p + 1 + 1)) : OpSpec code p execSetLocal := by
  unfold execSetLocal; tqs (p : Int) StepQ

theorem xs_execBinaryOp (F : FloatOps) (hnext : Bd code.insts (p + 1 + 1)) : OpSpec code p (execBinaryOp F) := by
  unfold execBinaryOp; tqs (p : Int) StepQ

theorem xs_execEqual (F : FloatOps) (op : Nat) (hnext : Bd code.insts (p + 1 + 0)) : OpSpec code p (execEqual F op) := by
  unfold execEqual; tqs (p : Int) StepQ

theorem xs_execTrue (hnext : Bd code.insts (p + 1 + 0)) : OpSpec code p execTrue := by
  unfold execTrue; tqs (p : Int) StepQ

theorem xs_execFalse (hnext : Bd code.insts (p + 1 + 0)) : OpSpec code p execFalse := by
  unfold execFalse; tqs (p : Int) StepQ

theorem xs_execGetBuiltin (hnext : Bd code.insts (p + 1 + 1)) : OpSpec code p execGetBuiltin := by
  unfold execGetBuiltin; tqs (p : Int) StepQ

theorem xs_execGetGlobal (hnext : Bd code.insts (p + 1 + 2)) : OpSpec code p execGetGlobal := by
  unfold execGetGlobal; tqs (p : Int) StepQ

theorem xs_execSetGlobal (hnext : Bd code.insts (p + 1 + 2)) : OpSpec code p execSetGlobal := by
  unfold execSetGlobal; tqs (p : Int) StepQ

theorem xs_execArray (hnext : Bd code.insts (p + 1 + 2)) : OpSpec code p execArray := by
  unfold execArray; tqs (p : Int) StepQ

theorem xs_execMap (hnext : Bd code.insts (p + 1 + 2)) : OpSpec code p execMap := by
  unfold execMap; tqs (p : Int) StepQ

theorem xs_execSetIndex (hnext : Bd code.insts (p + 1 + 0)) : OpSpec code p execSetIndex := by
  unfold execSetIndex; tqs (p : Int) StepQ

theorem xs_execSliceIndex (hnext : Bd code.insts (p + 1 + 0)) : OpSpec code p execSliceIndex := by
  unfold execSliceIndex; tqs (p : Int) StepQ

theorem xs_execGetFree (hnext : Bd code.insts (p + 1 + 1)) : OpSpec code p execGetFree := by
  unfold execGetFree; tqs (p : Int) StepQ

theorem xs_execSetFree (hnext : Bd code.insts (p + 1 + 1)) : OpSpec code p execSetFree := by
  unfold execSetFree; tqs (p : Int) StepQ

theorem xs_execGetLocalPtr (hnext : Bd code.insts (p + 1 + 1)) : OpSpec code p execGetLocalPtr := by
  unfold execGetLocalPtr; tqs (p : Int) StepQ

theorem xs_execGetFreePtr (hnext : Bd code.insts (p + 1 + 1)) : OpSpec code p execGetFreePtr := by
  unfold execGetFreePtr; tqs (p : Int) StepQ

theorem xs_execDefineLocal (hnext : Bd code.insts (p + 1 + 1)) : OpSpec code p execDefineLocal := by
  unfold execDefineLocal; tqs (p : Int) StepQ

theorem xs_execNull (hnext : Bd code.insts (p + 1 + 0)) : OpSpec code p execNull := by
  unfold execNull; tqs (p : Int) StepQ

theorem xs_execPop (hnext : Bd code.insts (p + 1 + 0)) : OpSpec code p execPop := by
  unfold execPop; tqs (p : Int) StepQ

theorem xs_execIterInit (hnext : Bd code.insts (p + 1 + 0)) : OpSpec code p execIterInit := by
  unfold execIterInit; tqs (p : Int) StepQ

theorem xs_execIterNext (op : Nat) (hnext : Bd code.insts (p + 1 + 0)) : OpSpec code p (execIterNext op) := by
  unfold execIterNext; tqs (p : Int) StepQ

theorem xs_execLoadModule (hnext : Bd code.insts (p + 1 + 4)) : OpSpec code p execLoadModule := by
  unfold execLoadModule; tqs (p : Int) StepQ

theorem xs_execStoreModule (hnext : Bd code.insts (p + 1 + 2)) : OpSpec code p execStoreModule := by
  unfold execStoreModule; tqs (p : Int) StepQ

theorem xs_execSetupCatch (hnext : Bd code.insts (p + 1 + 0)) : OpSpec code p execSetupCatch := by
  unfold execSetupCatch; tqs (p : Int) StepQ

theorem xs_execSetupFinally (hnext : Bd code.insts (p + 1 + 0)) : OpSpec code p execSetupFinally := by
  unfold execSetupFinally; tqs (p : Int) StepQ

theorem xs_execUnary (F : FloatOps) (hnext : Bd code.insts (p + 1 + 1)) : OpSpec code p (execUnary F) := by
  unfold execUnary; tqs (p : Int) StepQ

theorem xs_execNoOp (hnext : Bd code.insts (p + 1 + 0)) : OpSpec code p execNoOp := by
  unfold execNoOp; tqs (p : Int) StepQ

theorem xs_execUnknown (op : Nat) : OpSpec code p (execUnknown op) := by
  unfold execUnknown; tqs (p : Int) StepQ


theorem xs_execJump (hfit : p + 4 < code.insts.size) (htgt : Bd code.insts (readBE code.insts (p + 1) 4)) :
    OpSpec code p execJump := by
  unfold execJump; tqs (p : Int) StepQ
theorem xs_execJumpFalsy (hfit : p + 4 < code.insts.size) (htgt : Bd code.insts (readBE code.insts (p + 1) 4))
    (hnext : Bd code.insts (p + 1 + 4)) : OpSpec code p execJumpFalsy := by
  unfold execJumpFalsy; tqs (p : Int) StepQ
theorem xs_execAndJump (hfit : p + 4 < code.insts.size) (htgt : Bd code.insts (readBE code.insts (p + 1) 4))
    (hnext : Bd code.insts (p + 1 + 4)) : OpSpec code p execAndJump := by
  unfold execAndJump; tqs (p : Int) StepQ
theorem xs_execOrJump (hfit : p + 4 < code.insts.size) (htgt : Bd code.insts (readBE code.insts (p + 1) 4))
    (hnext : Bd code.insts (p + 1 + 4)) : OpSpec code p execOrJump := by
  unfold execOrJump; tqs (p : Int) StepQ

theorem xs_execReturn : OpSpec code p execReturn := by
  rw [execReturn_eq]
  exact Tq.bind_data.rule trivial fun _ => tq_retTail.pre fun _ h => h.safe

theorem xs_execSetupTry (hfit : p + 8 < code.insts.size)
    (htry : (0 < readBE code.insts (p + 1) 4 → Bd code.insts (readBE code.insts (p + 1) 4)) ∧
      (0 < readBE code.insts (p + 5) 4 → Bd code.insts (readBE code.insts (p + 5) 4)))
    (hnext : Bd code.insts (p + 1 + 8)) : OpSpec code p execSetupTry := by
  unfold execSetupTry
  refine Tq.opnd4_bind 1 1 rfl (by omega) ?_
  refine Tq.opnd4_bind 5 5 rfl (by omega) ?_
  refine Tq.bind_data.rule trivial fun sp => ?_
  dsimp only
  refine Tq.bind_keepsI (fun _ => xk_setCurFrame _ (fun _ => rfl) (fun _ hf => pushHandler_all ?_ hf)) (fun _ => ?_)
  · refine ⟨fun h0 => ?_, fun h0 => ?_, fun h0 => absurd h0 (Int.lt_irrefl 0)⟩
    · have := htry.1 (by simpa using h0); simpa using this
    · have := htry.2 (by simpa using h0); simpa using this
  · tqs (p : Int) StepQ

instance Tq.curFrame_bindI :
    Tq.Rule code iv Q (VM.curFrame >>= f) True (∀ fr, HsOK code.insts fr → Tq (CtxI code iv) Q (f fr)) :=
  ⟨fun _ hf => Tq.curFrame_bind fun fr => Tq.assume fun s0 hs0 =>
    (hf fr (by obtain ⟨_, _, _, _, _, _, g4⟩ := hs0.1.cur; exact hs0.2 ▸ g4)).pre fun _ e => e ▸ hs0.1⟩

theorem tq_findFinally {iv : Int} (fuel : Nat) : ∀ upto,
    Tq (CtxI code iv) (fun pos s => CtxI code iv s ∧ (0 < pos → Bd code.insts pos.toNat)) (findFinally fuel upto) := by
  induction fuel with
  | zero => intro u; rw [findFinally]; exact Tq.unsupported _ (fun _ h => h.safe)
  | succ n ih =>
    intro u
    rw [findFinally]
    refine Tq.curFrame_bindI.rule trivial fun f hf => ?_
    split
    · exact Tq.pure (fun _ h => ⟨h, fun h0 => absurd h0 (Int.lt_irrefl 0)⟩)
    · rename_i hs hhs
      dsimp only
      apply Tq.ite
      · exact Tq.pure (fun _ h => ⟨h, fun h0 => absurd h0 (Int.lt_irrefl 0)⟩)
      · split
        · rename_i h r
          exact Tq.ite (Tq.bind_keepsI (fun _ => xk_popHandler) fun _ => ih u)
            (Tq.pure fun _ hs => ⟨hs, (hf _ hhs h (by simp)).2.1⟩)
        · exact Tq.pure (fun _ h => ⟨h, fun h0 => absurd h0 (Int.lt_irrefl 0)⟩)

theorem xs_execFinalizer (hbd : Bd code.insts p) (hnext : Bd code.insts (p + 1 + 1)) : OpSpec code p execFinalizer := by
  unfold execFinalizer
  refine Tq.bind_data.rule trivial fun upto => Tq.bind_data.rule trivial fun fr => ?_
  dsimp only
  refine Tq.bind (tq_findFinally _ _) (fun pos => ?_)
  refine Tq.pre_and (fun hb => ?_)
  apply Tq.ite_cond
  · intro _; tqs (p : Int) StepQ
  · intro hpos
    have htgt : Bd code.insts pos.toNat := hb (by omega)
    refine Tq.getIp_bind ?_
    refine Tq.bind_data.rule trivial fun sp => ?_
    refine Tq.bind_keepsI (fun _ => xk_setLast _ (fun _ h => ⟨h.1, h.2.1, fun _ => by simpa using hbd⟩)) (fun _ => ?_)
    tqs (p : Int) StepQ

theorem xs_execThrow (hnext : Bd code.insts (p + 1 + 1)) : OpSpec code p execThrow := by
  unfold execThrow
  refine Tq.bind_data.rule trivial fun o => Tq.bumpIp_bind ?_
  apply Tq.ite
  · refine Tq.curFrame_bindI.rule trivial fun f hf => ?_
    split
    · rename_i h hl
      split
      · tqs ((p : Int) + 1) StepQ
      · -- THROW 0 after a finally block: go on at the return-to position its handler stores
        refine Tq.ite_cond (fun hr => ?_) fun _ => ?_
        · have htgt : Bd code.insts h.returnTo.toNat :=
            let ⟨_, _, hm1, hm2⟩ := lastHandler_mem hl
            (hf _ hm1 _ hm2).2.2 hr
          tqs ((p : Int) + 1) StepQ
        · tqs ((p : Int) + 1) StepQ
    · tqs ((p : Int) + 1) StepQ
  · tqs ((p : Int) + 1) StepQ

end
end UgoVerif.VM.Cfi

import UgoVerif.Proofs.ExecAtStartsCall
/-
  Whole runs.  `step` from `Good` ends in `Good` or, when it does not end with `continue`, in `Safe` (`tq_step`), and
  `handlePanic` from `Safe` in `Good` unless it sets `vm.err` (`tq_handlePanic`): so every state at which `loop`
  fetches an instruction (`Boundary`, Proofs/VMCallSite.lean) is `Good`.  The prologue of `Run` ends in one when
  the VM it starts on is `Safe0`.
-/
namespace UgoVerif.VM.Cfi
open UgoVerif UgoVerif.Go
open UgoVerif.Compile (Bd)

theorem Tq.instAt_bind {α} {code : Code} {iv : Int} {Q : α → State → Prop} {f : Nat → M α} (n : Nat)
    (hi : iv = n) (hn : n < code.insts.size) (hf : Tq (CtxI code iv) Q (f (code.insts[n]!).toNat)) :
    Tq (CtxI code iv) Q (instAt iv >>= f) := by
  apply Tq.intro'; intro s hs
  rw [exec_bind, exec_instAt_of hs iv n hi hn]
  exact Tq.iff_hq.1 hf s hs

theorem tq_step (F : FloatOps) : Tq Good StepQ (step F) := by
  apply Tq.assume; intro s0 hg
  obtain ⟨code, hctx, h0, hbd⟩ := hg
  have hw := hctx.wf
  generalize hn : (s0.ip + 1).toNat = n at hbd
  have hip : s0.ip = (n : Int) - 1 := by omega
  refine Tq.pre (X := CtxI code ((n : Int) - 1)) ?_ (fun s e => by rw [e, ← hip]; exact hctx)
  unfold step
  refine Tq.bumpIp_bind ?_
  have e1 : (n : Int) - 1 + 1 = n := by omega
  rw [e1]
  refine Tq.getIp_bind ?_
  refine Tq.instAt_bind n rfl hbd.2 ?_
  refine Tq.bind_data.rule trivial fun _ => ?_
  have hget : code.insts[n]? = some (code.insts[n]!) := by
    rw [getElem!_pos code.insts n hbd.2]; simp [hbd.2]
  exact tq_dispatch F hw hbd _ hget

theorem safe_throwFuel : Keeps Safe throwFuel := Safe.keeps_data

theorem tq_handlePanic (msg : String) : Tq Safe (fun _ s => s.err = none → Good s) (handlePanic msg) := by
  unfold handlePanic
  refine Tq.getS_bind (fun s0 => ?_)
  refine Tq.pre (X := Safe) ?_ (fun _ h => h.1)
  apply Tq.ite
  · refine Tq.bind_keeps (safe_alloc _ (by simp [Cell.kind])) (fun _ h => h) (fun ea => ?_)
    refine Tq.bind_keeps (safe_alloc _ (by simp [Cell.kind])) (fun _ h => h) (fun ra => ?_)
    refine Tq.bind_keeps safe_throwFuel (fun _ h => h) (fun n => ?_)
    refine Tq.bind (tq_throwF n ra) (fun r => ?_)
    cases r with
    | none => exact Tq.pure (fun s h _ => h.2 rfl)
    | some a =>
      apply Tq.intro'; intro s hs
      rw [exec_modS]
      intro e; cases e
  · apply Tq.intro'; intro s hs
    rw [exec_modS]
    intro e; cases e

theorem boundary_good (F : FloatOps) {s0 : State} (h0 : Good s0) : ∀ s, Boundary F s0 s → Good s := by
  intro s hb
  induction hb with
  | init => exact h0
  | step hb hstep ih => exact ((tq_step F).elim_ok ih hstep).2 rfl
  | @recover s s1 s' msg hb hstep hp he ih =>
    exact (tq_handlePanic msg).elim_ok ((tq_step F).elim_err ih hstep) hp he

/-- what `Good` says in terms of the state alone -/
theorem Good.fetch {s : State} (h : Good s) : 0 ≤ s.ip + 1 ∧
    ∃ fa c fr, (s.frames[s.curFrame]!).fn = some fa ∧ s.heap[fa]? = some (Cell.fn c fr) ∧
      Bd (s.codes[c]!).insts (s.ip + 1).toNat := by
  obtain ⟨code, hctx, h0, hbd⟩ := h
  obtain ⟨fa, c, fr, g1, g2, g3⟩ := hctx.2.1
  exact ⟨h0, fa, c, fr, g1, g2, by rw [g3]; exact hbd⟩

/-- Control-flow integrity: in a run that starts at an instruction boundary
    of well-formed code (`Good`), at every instruction boundary — after any number of instructions,
    calls, returns, thrown errors taken by handlers, finalizers, recovered Go panics — the offset
    `ip + 1` at which the next opcode is fetched is an instruction start of the code of the current
    frame's function.  The VM never executes operand bytes. -/
theorem exec_at_starts (F : FloatOps) {s0 : State} (h0 : Good s0) (s : State) (hb : Boundary F s0 s) :
    0 ≤ s.ip + 1 ∧ ∃ fa c fr, (s.frames[s.curFrame]!).fn = some fa ∧ s.heap[fa]? = some (Cell.fn c fr) ∧
      Bd (s.codes[c]!).insts (s.ip + 1).toNat :=
  (boundary_good F h0 s hb).fetch

/-- … and the frames below resume at instruction starts, handlers store instruction starts -/
theorem exec_at_starts_frames (F : FloatOps) {s0 : State} (h0 : Good s0) (s : State) (hb : Boundary F s0 s) :
    ∀ i, FrOK s.heap s.codes (i < s.curFrame) (s.frames[i]!) :=
  (boundary_good F h0 s hb).safe.2.2.2


/-- before the prologue: `Safe` as if the frame stack were `[frames[0]]` -/
@[reducible] def Safe0 (s : State) : Prop := SafeF s.frames 0 1 s.heap s.codes

theorem Safe0.keeps_data {α} {m : M α} [Pres Ext m] : Keeps Safe0 m :=
  Keeps.of_ext fun _ _ => safeF_of_ext
attribute [keeps_rule] Safe0.keeps_data

section
theorem s0_stackGet (i : Int) : Keeps Safe0 (stackGet i) := Safe0.keeps_data
theorem s0_initLocals (args : List V) : Keeps Safe0 (initLocals args) := Safe0.keeps_data
@[keeps_rule] theorem s0_prologueA (g : V) : Keeps Safe0 (prologueA g) := by unfold prologueA; ckeeps Safe0
end

theorem good_prologueB {s s' : State} (h0 : Safe0 s) (h : exec prologueB s = (.ok (), s')) : Good s' := by
  obtain ⟨c, fr, hc, rfl⟩ := prologueB_ok h
  have hsz : 0 < s.frames.size := by rw [h0.2.2.1]; decide
  refine ⟨s.codes[c]!, ⟨SafeF.modify_cur h0 _ (.inr ⟨s.mainFn, c, fr, rfl, hc, (fun hs hhs => by cases hhs),
    fun hlt => absurd hlt (Nat.not_lt_zero _)⟩), ⟨s.mainFn, c, fr, ?_, hc, rfl⟩, rfl⟩,
    (by show (0 : Int) ≤ -1 + 1; decide), (h0.1 _ c fr hc).bd0⟩
  show ((s.frames.modify 0 _)[0]!).fn = some s.mainFn
  rw [getElem!_modify, if_pos ⟨rfl, hsz⟩]

/-- a successful prologue of `Run` leaves `ip = -1`: the first fetch is at offset 0 of the main function -/
theorem good_prologue (g : V) (args : List V) {s s' : State} (h0 : Safe0 s)
    (h : exec (prologue g args) s = (.ok (), s')) : Good s' := by
  obtain ⟨s2, k, h2⟩ := prologue_ok (s0_prologueA g) (s0_initLocals args) h0 h
  exact good_prologueB k h2

end UgoVerif.VM.Cfi

import UgoVerif.Proofs.ExecAtStarts
/-
  `throw` / `handleThrownError` (`throwF`) from any `Safe` state, the partial state of a Go panic included
  (`tq_throwF`): a thrown error that some handler takes leaves the VM at an instruction boundary (`Good`), because
  `ip` becomes the catch / finally position of a handler minus one, and `Safe` says of the positions a handler
  stores that they are instruction starts of the handling frame's function.
-/
namespace UgoVerif.VM.Cfi
open UgoVerif UgoVerif.Go
open UgoVerif.Compile (Bd)

theorem setLast_ip (f : Frame) (t : Handler → Handler) : (setLast f t).ip = f.ip := VM.setLast_ip f t
theorem popHandler_ip (f : Frame) : (popHandler f).ip = f.ip := VM.popHandler_ip f
theorem hasHandler_popHandler {f : Frame} (h : hasHandler f = false) : hasHandler (popHandler f) = false :=
  VM.hasHandler_popHandler h

theorem lastHandler_mem {f : Frame} {h : Handler} (e : lastHandler f = some h) :
    hasHandler f = true ∧ ∃ hs, f.handlers = some hs ∧ h ∈ hs := VM.lastHandler_mem e

section
variable {code : Code} {iv : Int}

theorem SafeF.modify_cur {frames : Array Frame} {cur : Nat} {fi : Int} {heap : Array Cell} {codes : Array Code}
    (h : SafeF frames cur fi heap codes) (g : Frame → Frame) (hg : FrOK heap codes (cur < cur) (g frames[cur]!)) :
    SafeF (frames.modify cur g) cur fi heap codes := by
  refine ⟨h.1, h.2.1, by simpa using h.2.2.1, fun i => ?_⟩
  rw [getElem!_modify]
  split
  · rename_i hi; obtain ⟨rfl, _⟩ := hi; exact hg
  · exact h.2.2.2 i

/-- going down to a frame `i` (RETURN, `throw`): of the frames from `i` on it is not asked that they resume at an instruction start -/
theorem SafeF.down {frames : Array Frame} {cur i : Nat} {fi fi' : Int} {heap : Array Cell} {codes : Array Code}
    (h : SafeF frames cur fi heap codes) (hi : i ≤ cur) (hfi : (i : Int) + 1 = fi') : SafeF frames i fi' heap codes :=
  ⟨h.1, hfi, h.2.2.1, fun j => (h.2.2.2 j).mono (fun _ _ _ h => h) fun hj => Nat.lt_of_lt_of_le hj hi⟩

theorem xk_setCurFrame (g : Frame → Frame) (hfn : ∀ f, (g f).fn = f.fn)
    (hh : ∀ f, HsOK code.insts f → HsOK code.insts (g f)) : Keeps (CtxI code iv) (setCurFrame g) := by
  apply Keeps.intro'; intro s h
  rw [exec_setCurFrame]
  obtain ⟨fa, c, fr, g1, g2, g3, g4⟩ := h.cur
  refine ⟨SafeF.modify_cur h.1 g (.inr ⟨fa, c, fr, by rw [hfn]; exact g1, g2, by rw [g3]; exact hh _ g4,
    fun hlt => absurd hlt (Nat.lt_irrefl _)⟩), ⟨fa, c, fr, ?_, g2, g3⟩, h.2.2⟩
  show ((s.frames.modify s.curFrame g)[s.curFrame]!).fn = some fa
  rw [getElem!_modify]
  split
  · rw [hfn]; exact g1
  · exact g1

theorem xk_setLast (t : Handler → Handler) (ht : ∀ h, HOK code.insts h → HOK code.insts (t h)) :
    Keeps (CtxI code iv) (setCurFrame fun f => setLast f t) :=
  xk_setCurFrame _ (fun f => setLast_fn f t) (fun _ h => setLast_all ht h)

theorem xk_popHandler : Keeps (CtxI code iv) (setCurFrame popHandler) :=
  xk_setCurFrame _ popHandler_fn (fun _ h => popHandler_all h)

/-! The updates of the current frame that the opcodes make, as last actions: in bind position `Tq.mid_bind` cuts there. -/

instance Tq.popHandler : Tq.Rule code iv (fun _ => CtxI code iv) (setCurFrame VM.popHandler) True True :=
  ⟨fun _ _ => .keeps xk_popHandler⟩

instance Tq.setLast : Tq.Rule code iv (fun _ => CtxI code iv) (setCurFrame fun f => VM.setLast f t)
    (∀ h, HOK code.insts h → HOK code.insts (t h)) True :=
  ⟨fun ht _ => .keeps (xk_setLast t ht)⟩

instance (priority := low) Tq.setCurFrame : Tq.Rule code iv (fun _ => CtxI code iv) (setCurFrame g)
    ((∀ f, (g f).fn = f.fn) ∧ ∀ f, HsOK code.insts f → HsOK code.insts (g f)) True :=
  ⟨fun hg _ => .keeps (xk_setCurFrame g hg.1 hg.2)⟩

end

theorem safe_alloc (c : Cell) (hc : c.kind ≠ 3) : Keeps Safe (alloc c) := @Safe.keeps_data _ _ (pres_alloc c hc)

theorem Safe.marked {s : State} (h : Safe s) (err : Addr) : Safe (marked err s) := by
  refine SafeF.modify_cur h _ ?_
  rcases h.2.2.2 s.curFrame with h' | ⟨fa, c, fr, g1, g2, g3, _⟩
  · exact .inl ⟨(setLast_fn _ _).trans h'.1, (hasHandler_setLast _ _).trans h'.2⟩
  · exact .inr ⟨fa, c, fr, (setLast_fn _ _).trans g1, g2, setLast_all (fun _ hk => ⟨hk.1, hk.2.1, hk.2.2⟩) g3,
      fun hlt => absurd hlt (Nat.lt_irrefl _)⟩

theorem Safe.cur_handler {s : State} (hs : Safe s) {h : Handler} (hl : lastHandler (s.frames[s.curFrame]!) = some h) :
    ∃ code, CtxI code s.ip s ∧ HOK code.insts h := by
  obtain ⟨hh, hs', hm1, hm2⟩ := lastHandler_mem hl
  rcases hs.2.2.2 s.curFrame with h' | ⟨fa, c, fr, g1, g2, g3, _⟩
  · rw [h'.2] at hh; cases hh
  · exact ⟨s.codes[c]!, ⟨hs, ⟨fa, c, fr, g1, g2, rfl⟩, rfl⟩, g3 _ hm1 _ hm2⟩

/-- what `throwF` leaves: `Safe`; at an instruction boundary when a handler took the error -/
@[reducible] def ThrowQ : Option Addr → State → Prop := fun r s => Safe s ∧ (r = none → Good s)

theorem tq_landAt {code : Code} {iv q hsp : Int} (hq : 0 < q) (hbd : Bd code.insts q.toNat) :
    Tq (CtxI code iv) (fun r s => match r with | none => Safe s | some r' => ThrowQ r' s) (landAt (q - 1) hsp) := by
  unfold landAt
  refine Tq.setIp_bind (Tq.post (Q := fun _ => CtxI code (q - 1)) ?_ fun a s hs => ?_)
  · tqs (q - 1) (fun _ => CtxI code (q - 1))
  · cases a with
    | none => exact hs.safe
    | some _ => exact ⟨hs.safe, fun _ => hs.good hbd (by omega)⟩

theorem tq_handlePre (err : Addr) :
    Tq Safe (fun r s => match r with | none => Safe s | some r' => ThrowQ r' s) (handlePre err) := by
  refine Tq.iff_hq.2 (Hq.of_cases (handlePre_to err) fun s hs r t ht => ?_)
  have hm := hs.marked err
  cases ht with
  | nil => exact hm
  | land h hl ip hip r t e =>
    obtain ⟨code, hctx, hok⟩ := hm.cur_handler hl
    rcases hip with ⟨hc, rfl⟩ | ⟨_, hf, rfl⟩
    · exact (Tq.iff_hq.1 (tq_landAt hc (hok.1 hc))).elim hctx e
    · exact (Tq.iff_hq.1 (tq_landAt hf (hok.2.1 hf))).elim hctx e
  | consumed h hl =>
    obtain ⟨code, hctx, _⟩ := hm.cur_handler hl
    exact (xk_popHandler.elim (marked err s) hctx).safe

theorem tq_throwPre (err : Addr) :
    Tq Safe (fun r s => match r with | none => Safe s | some r' => ThrowQ r' s) (throwPre err) := by
  refine Tq.iff_hq.2 (Hq.of_cases (throwPre_to err) fun s hs r t ht => ?_)
  -- a frame the search cleared had no handler: every frame is still `FrOK`
  have hs1 : Safe (searchedS s) :=
    ⟨hs.1, hs.2.1, by show (searched _ _).2.size = _; rw [searched_size]; exact hs.2.2.1,
      searched_all (P := fun i f => FrOK s.heap s.codes (i < s.curFrame) f) (fun _ _ _ hf => .inl ⟨rfl, hf⟩) hs.2.2.2 _⟩
  have hto : ∀ i, (searched s.frames (s.frameIndex - 1).toNat).1 = some i → Safe (toFrame (searchedS s) i) := fun i hi => by
    have := (searched_some hi).1; have := hs.2.1
    exact SafeF.down hs1 (by show i ≤ s.curFrame; omega) rfl
  cases ht with
  | here => exact hs
  | range => exact hs
  | unhandled => exact ⟨hs1, nofun⟩
  | nilFn m _ _ i hi => exact hto i hi
  | found _ _ i hi => exact hto i hi

theorem tq_throwF (fuel : Nat) : ∀ err, Tq Safe ThrowQ (throwF fuel err) := fun err =>
  Tq.iff_hq.2 (Hq.throwF (X := fun _ => Safe) (fun _ => Tq.iff_hq.1 (tq_throwPre err)) (fun _ => Tq.iff_hq.1 (tq_handlePre err))
    (fun _ _ h => h) fuel)

end UgoVerif.VM.Cfi

import UgoVerif.Proofs.Frame
/-
  What the VM model's code-reading and stack primitives compute, as equations for `ModCache.exec`, below both
  families of proof modules (those over `ModCache.exec` use them as they stand; those over `VM.exec`, which is the
  same term, restate the ones they rewrite with, by `:=`).  The reads of the code are keyed on one fact,
  `exec curCode s = (.ok code, s)` ("the current frame runs `code`"), which each user derives from its own
  invariant; from it `instAt`, `opnd1/2/4` return the bytes of `code`.  `step` is `dispatch` of the opcode at
  `ip + 1` run on the state `fetched s op` (`ip` advanced, the trace record made).
-/
namespace UgoVerif.VM.Reloc

/-- `int(ins[i+1]) | int(ins[i])<<8` -/
def rd2 (a : Array UInt8) (i : Nat) : Nat := (a[i+1]!).toNat ||| ((a[i]!).toNat <<< 8)
def rd4 (a : Array UInt8) (i : Nat) : Nat :=
  (a[i+3]!).toNat ||| ((a[i+2]!).toNat <<< 8) ||| ((a[i+1]!).toNat <<< 16) ||| ((a[i]!).toNat <<< 24)

end UgoVerif.VM.Reloc

namespace UgoVerif.Proofs.Fetch
open UgoVerif UgoVerif.Go UgoVerif.VM UgoVerif.Proofs.ModCache
open UgoVerif.VM.Reloc (rd2 rd4)

theorem exec_getS (s : State) : exec getS s = (.ok s, s) := rfl
theorem exec_getIp (s : State) : exec getIp s = (.ok s.ip, s) := rfl

theorem exec_heapGet (a : Addr) (s : State) :
    exec (heapGet a) s = match s.heap[a]? with
      | some c => (.ok c, s)
      | none => (.error (.unsupported "model: dangling address"), s) := by
  simp only [heapGet, exec_bind, exec_getS]
  cases s.heap[a]? <;> rfl

theorem exec_constAt (i : Nat) (s : State) : exec (constAt i) s =
    match s.consts[i]? with
    | some v => (.ok v, s)
    | none => (.error (.panic s!"runtime error: index out of range [{i}] with length {s.consts.size}"), s) := by
  simp only [constAt, exec_bind, exec_getS]
  cases s.consts[i]? <;> rfl

theorem exec_curCode (s : State) : exec curCode s =
    match (s.frames[s.curFrame]!).fn with
    | none => (.error (.panic "runtime error: invalid memory address or nil pointer dereference"), s)
    | some a =>
      match s.heap[a]? with
      | some (.fn k _) => (.ok (s.codes[k]!), s)
      | some _ => (.error (.unsupported "model: frame function is not a function"), s)
      | none => (.error (.unsupported "model: dangling address"), s) := by
  have e : exec curFrame s = (.ok (s.frames[s.curFrame]!), s) := rfl
  simp only [curCode, exec_bind, e]
  cases hf : (s.frames[s.curFrame]!).fn with
  | none => rfl
  | some a =>
    simp only [exec_bind, exec_heapGet]
    cases hc : s.heap[a]? with
    | none => rfl
    | some x => cases x <;> rfl

variable {s : State} {code : Code}

theorem exec_curCode_fn {fa : Addr} {c : Nat} {fr : Option (List Addr)} (h1 : (s.frames[s.curFrame]!).fn = some fa)
    (h2 : s.heap[fa]? = some (.fn c fr)) (h3 : s.codes[c]! = code) : exec curCode s = (.ok code, s) := by
  rw [exec_curCode]
  simp only [h1, h2, h3]

theorem exec_instAt_ok (hc : exec curCode s = (.ok code, s)) (i : Int) (n : Nat)
    (hi : i = n) (hn : n < code.insts.size) : exec (instAt i) s = (.ok (code.insts[n]!).toNat, s) := by
  subst hi
  simp only [instAt, exec_bind, hc]
  have : ¬ ((decide ((n : Int) < 0) || decide ((n : Int) ≥ (code.insts.size : Int))) = true) := by
    simp; omega
  rw [if_neg this]
  simp [exec_pure]

theorem exec_instAt_out (hc : exec curCode s = (.ok code, s)) (i : Int) (h : i < 0 ∨ (code.insts.size : Int) ≤ i) :
    exec (instAt i) s =
      (.error (.panic s!"runtime error: index out of range [{i}] with length {code.insts.size}"), s) := by
  simp only [instAt, exec_bind, hc]
  have : (decide (i < 0) || decide (i ≥ (code.insts.size : Int))) = true := by
    simp; omega
  rw [if_pos this]
  rfl

theorem exec_instAt_err {e : Exc} (hc : exec curCode s = (.error e, s)) (i : Int) :
    exec (instAt i) s = (.error e, s) := by
  simp only [instAt, exec_bind, hc]

theorem exec_opnd1_ok (hc : exec curCode s = (.ok code, s)) (o : Nat) (hip : s.ip = o)
    (k : Int) (kn : Nat) (hk : k = kn) (hn : o + kn < code.insts.size) :
    exec (opnd1 k) s = (.ok (code.insts[o + kn]!).toNat, s) := by
  simp only [opnd1, exec_bind, exec_getIp]
  exact exec_instAt_ok hc _ _ (by rw [hip, hk]; simp) hn

theorem exec_opnd2_ok (hc : exec curCode s = (.ok code, s)) (o : Nat) (hip : s.ip = o)
    (k : Int) (kn : Nat) (hk : k = kn) (hn : o + kn + 1 < code.insts.size) :
    exec (opnd2 k) s = (.ok (rd2 code.insts (o + kn)), s) := by
  simp only [opnd2, exec_bind, exec_getIp]
  rw [exec_instAt_ok hc _ (o + kn + 1) (by rw [hip, hk]; simp) hn]
  simp only
  rw [exec_instAt_ok hc _ (o + kn) (by rw [hip, hk]; simp) (by omega)]
  rfl

theorem exec_opnd4_ok (hc : exec curCode s = (.ok code, s)) (o : Nat) (hip : s.ip = o)
    (k : Int) (kn : Nat) (hk : k = kn) (hn : o + kn + 3 < code.insts.size) :
    exec (opnd4 k) s = (.ok (rd4 code.insts (o + kn)), s) := by
  simp only [opnd4, exec_bind, exec_getIp]
  rw [exec_instAt_ok hc _ (o + kn + 3) (by rw [hip, hk]; simp) hn]
  simp only
  rw [exec_instAt_ok hc _ (o + kn + 2) (by rw [hip, hk]; simp) (by omega)]
  simp only
  rw [exec_instAt_ok hc _ (o + kn + 1) (by rw [hip, hk]; simp) (by omega)]
  simp only
  rw [exec_instAt_ok hc _ (o + kn) (by rw [hip, hk]; simp) (by omega)]
  rfl

theorem exec_opnd_err {e : Exc} (hc : exec curCode s = (.error e, s)) (k : Int) :
    exec (opnd1 k) s = (.error e, s) ∧ exec (opnd2 k) s = (.error e, s) ∧ exec (opnd4 k) s = (.error e, s) := by
  refine ⟨?_, ?_, ?_⟩
  · simp only [opnd1, exec_bind, exec_getIp, exec_instAt_err hc]
  · simp only [opnd2, exec_bind, exec_getIp, exec_instAt_err hc]
  · simp only [opnd4, exec_bind, exec_getIp, exec_instAt_err hc]

theorem in_range {i : Int} (h : 0 ≤ i ∧ i < (stackSize : Int)) :
    ¬ (decide (i < 0) || decide (i ≥ (stackSize : Int))) = true := by
  simp; omega

theorem exec_stackGet (i : Int) (s : State) (h : 0 ≤ i ∧ i < (stackSize : Int)) :
    exec (stackGet i) s = (.ok (s.stack[i.toNat]!), s) := by
  simp only [stackGet, exec_bind, exec_getS]
  rw [if_neg (in_range h)]
  rfl

theorem exec_stackSet (i : Int) (v : V) (s : State) (h : 0 ≤ i ∧ i < (stackSize : Int)) :
    exec (stackSet i v) s = (.ok (), { s with stack := s.stack.set! i.toNat v }) := by
  unfold stackSet
  rw [if_neg (in_range h)]
  rfl

theorem exec_pushV (v : V) (s : State) (h : 0 ≤ s.sp ∧ s.sp < (stackSize : Int)) :
    exec (pushV v) s = (.ok (), { s with stack := s.stack.set! s.sp.toNat v, sp := s.sp + 1 }) := by
  have e1 : exec getSp s = (.ok s.sp, s) := rfl
  simp only [pushV, exec_bind, e1, exec_stackSet _ _ _ h]
  rfl

theorem exec_noteTrace (op : Nat) (s : State) : exec (noteTrace op) s =
    if s.traceOn = true then
      (.ok (), { s with trace := s.trace.push (s.frameIndex, s.ip, s.sp,
        (match (s.frames[s.curFrame]!).handlers with | some hs => hs.length | none => 0), op), steps := s.steps + 1 })
    else (.ok (), { s with steps := s.steps + 1 }) := by
  simp only [noteTrace, exec_bind, exec_getS]
  split <;> rfl

def fetched (s : State) (op : Nat) : State := (exec (noteTrace op) { s with ip := s.ip + 1 }).2

theorem fetched_eq (s : State) (op : Nat) :
    ∃ tr st, fetched s op = { s with ip := s.ip + 1, trace := tr, steps := st } := by
  unfold fetched
  rw [exec_noteTrace]
  split <;> exact ⟨_, _, rfl⟩

theorem step_of_byte (F : FloatOps) {op : Nat}
    (h : exec (instAt (s.ip + 1)) { s with ip := s.ip + 1 } = (.ok op, { s with ip := s.ip + 1 })) {β} (g : Ctl → M β) :
    exec (step F >>= g) s = exec (dispatch F op >>= g) (fetched s op) := by
  have e1 : exec (bumpIp 1) s = (.ok (), { s with ip := s.ip + 1 }) := rfl
  have e2 : exec getIp { s with ip := s.ip + 1 } = (.ok (s.ip + 1), { s with ip := s.ip + 1 }) := rfl
  have e4 : exec (noteTrace op) { s with ip := s.ip + 1 } = (.ok (), fetched s op) := by
    unfold fetched; rw [exec_noteTrace]; split <;> rfl
  unfold step
  simp only [bind_assoc, exec_bind, e1, e2, h, e4]

end UgoVerif.Proofs.Fetch

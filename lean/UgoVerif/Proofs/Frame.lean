import UgoVerif.VM.Invoke
import UgoVerif.VM.Reset
import UgoVerif.Proofs.Copy
import UgoVerif.Proofs.WalkAttr
import UgoVerif.Proofs.Dispatch
/-
  Frame conditions of the VM model, proved once.  `Pres R m`: the action `m` takes every state to an
  `R`-related one, however it ends.  `R` is reflexive and transitive, so the judgement composes along
  `>>=`.  What `R` must allow is said by its class, in terms of the kinds of write the model has:

    `StepRel`   nothing is written (operand fetch, reads);
    `AllocRel`  the heap by the allocation of a cell that is not a function cell;
    `DataRel`   also a stack slot, the trace and step counter, and the heap by a `HeapStep`: an update of a
                cell that is not a function cell by one of its kind, `Copy()`;
    `SpRel`     also `sp`;
    `FrameRel`  also `ip`, the frame `curFrame` points at, `err` when it is set, the allocation of any cell: the
                opcodes that neither call, return nor unwind (some given that `failWith` is allowed);
    `CtlRel`    every field but the bytecode (`codes`, `consts`, `mainFn`, `numModules`), `globals` and
                `modules`; function cells of the heap stay (`CtlStep`): every opcode but STOREMODULE;
    `StoreRel`  also entries of `modules`: every opcode, `step`, `loopF`, `handlePanic`.

  Each primitive and opcode function has one instance, for any `R` of the weakest class its writes allow.  A
  relation is put in its class by a short instance and then has the frame condition of every action by
  resolution; so has, since `Keeps P m` is `Pres (Carries P) m` (Proofs/C07Calc.lean), an invariant `P` whose
  `Carries P` is of a class.
-/
namespace UgoVerif.Proofs.ModCache
open UgoVerif UgoVerif.Go UgoVerif.VM

def exec {α} (m : M α) (s : State) : Except Exc α × State := m.run.run s

theorem exec_pure {α} (a : α) (s : State) : exec (pure a : M α) s = (.ok a, s) := rfl

theorem exec_bind {α β} (m : M α) (f : α → M β) (s : State) :
    exec (m >>= f) s = match exec m s with
      | (.ok a, s') => exec (f a) s'
      | (.error e, s') => (.error e, s') := by
  simp only [exec, bind, ExceptT.bind, ExceptT.run, ExceptT.mk, StateT.bind, StateT.run, ExceptT.bindCont]
  cases h : m s with
  | mk r s' => cases r <;> rfl

theorem exec_getS_bind {α} (f : State → M α) (s : State) : exec (getS >>= f) s = exec (f s) s := rfl

end UgoVerif.Proofs.ModCache

namespace UgoVerif.VM
open UgoVerif UgoVerif.Go
open UgoVerif.Proofs.ModCache (exec exec_bind exec_pure exec_getS_bind)

theorem forIn_list_closed {T : ∀ {γ : Type}, M γ → Prop} (hpure : ∀ {γ} (a : γ), T (pure a : M γ))
    (hbind : ∀ {γ δ} {m : M γ} {f : γ → M δ}, T m → (∀ a, T (f a)) → T (m >>= f))
    {α : Type u} {β : Type} (l : List α) (init : β) (f : α → β → M (ForInStep β)) (hf : ∀ a b, T (f a b)) :
    T (forIn l init f) := by
  induction l generalizing init with
  | nil => exact hpure _
  | cons a as ih =>
    rw [List.forIn_cons]
    refine hbind (hf a init) fun x => ?_
    cases x with
    | done b => exact hpure _
    | yield b => exact ih b


theorem set!_fn_iff (heap : Array Cell) (a : Nat) (c : Cell) (hc : c.kind ≠ 3) (old : Cell) (hold : heap[a]? = some old)
    (hk : old.kind = c.kind) (a' k : Nat) (f : Option (List Addr)) :
    (heap.set! a c)[a']? = some (Cell.fn k f) ↔ heap[a']? = some (Cell.fn k f) := by
  rw [Array.set!_eq_setIfInBounds, Array.getElem?_setIfInBounds]
  by_cases hne : a = a'
  · subst hne
    have hlt : a < heap.size := by
      rcases Nat.lt_or_ge a heap.size with hl | hl
      · exact hl
      · rw [Array.getElem?_eq_none hl] at hold; cases hold
    simp only [if_true, hlt]
    constructor
    · intro h
      have : c = Cell.fn k f := by simpa using h
      subst this; exact absurd rfl hc
    · intro h
      rw [hold] at h
      have : old = Cell.fn k f := by simpa using h
      subst this
      exact absurd hk.symm hc
  · simp [hne]

def FnKept (h h' : Array Cell) : Prop :=
  ∀ (a c : Nat) (f : Option (List Addr)), h[a]? = some (Cell.fn c f) → h'[a]? = some (Cell.fn c f)

def FnOld (h h' : Array Cell) : Prop :=
  ∀ (a c : Nat) (f : Option (List Addr)), a < h.size → h'[a]? = some (Cell.fn c f) → h[a]? = some (Cell.fn c f)

/-- What a data primitive may do to the heap.  `Copy()` of a closure allocates a function cell, hence `FnFrom`
    (it has the code of an old one) and not "no new function cell". -/
def HeapStep (h h' : Array Cell) : Prop := FnKept h h' ∧ Cfi.FnFrom h h' ∧ h.size ≤ h'.size ∧ FnOld h h'

theorem HeapStep.refl (h : Array Cell) : HeapStep h h :=
  ⟨fun _ _ _ e => e, Cfi.FnFrom.refl h, Nat.le_refl _, fun _ _ _ _ e => e⟩
theorem HeapStep.trans {a b c : Array Cell} (h1 : HeapStep a b) (h2 : HeapStep b c) : HeapStep a c :=
  ⟨fun x k f e => h2.1 x k f (h1.1 x k f e), h1.2.1.trans h2.2.1, Nat.le_trans h1.2.2.1 h2.2.2.1,
   fun x k f hx e => h1.2.2.2 x k f hx (h2.2.2.2 x k f (Nat.lt_of_lt_of_le hx h1.2.2.1) e)⟩

theorem HeapStep.set {h : Array Cell} {a : Nat} {old c : Cell} (hold : h[a]? = some old) (hk : old.kind = c.kind)
    (hc : c.kind ≠ 3) : HeapStep h (h.set! a c) :=
  ⟨fun a' k f e => (set!_fn_iff h a c hc old hold hk a' k f).mpr e,
   fun a' k f e => ⟨a', f, (set!_fn_iff h a c hc old hold hk a' k f).mp e⟩, by simp,
   fun a' k f _ e => (set!_fn_iff h a c hc old hold hk a' k f).mp e⟩

theorem HeapStep.push (h : Array Cell) {c : Cell} (hc : c.kind ≠ 3) : HeapStep h (h.push c) :=
  ⟨fun a' k f e => (Cfi.push_fn_iff h c a' k f).mpr (.inl e), Cfi.FnFrom.push h c hc, by simp,
   fun a' k f ha e => ((Cfi.push_fn_iff h c a' k f).mp e).resolve_right fun x => by omega⟩

theorem FnKept.of_ext {h h' : Array Cell} (hext : UgoVerif.Proofs.Copy.Ext h h') : FnKept h h' := by
  intro a c f e
  obtain ⟨hlt, -⟩ := Array.getElem?_eq_some_iff.mp e
  rw [hext.2 a hlt]; exact e

theorem HeapStep.copy {n : Nat} {h h' : Array Cell} {v v' : V} (e : copyVal n h v = some (v', h')) : HeapStep h h' :=
  have g := UgoVerif.Proofs.Copy.copyVal_grown e
  ⟨.of_ext g.1, g.2, g.1.1, fun a k f ha x => by rw [← g.1.2 a ha]; exact x⟩

class StepRel (R : State → State → Prop) : Prop where
  refl : ∀ s, R s s
  trans : ∀ {a b c}, R a b → R b c → R a c

class AllocRel (R : State → State → Prop) : Prop extends StepRel R where
  push : ∀ s c, c.kind ≠ 3 → R s { s with heap := s.heap.push c }

class DataRel (R : State → State → Prop) : Prop extends StepRel R where
  stack : ∀ s i v, R s { s with stack := s.stack.set! i v }
  trace : ∀ s tr n, R s { s with trace := tr, steps := n }
  heap : ∀ s h, HeapStep s.heap h → R s { s with heap := h }

instance {R} [DataRel R] : AllocRel R := ⟨fun s _ hc => DataRel.heap s _ (.push s.heap hc)⟩

class SpRel (R : State → State → Prop) : Prop extends DataRel R where
  sp : ∀ s v, R s { s with sp := v }

@[reducible] def CtlStep (s t : State) : Prop :=
  t.codes = s.codes ∧ t.consts = s.consts ∧ t.mainFn = s.mainFn ∧ t.numModules = s.numModules ∧
  t.globals = s.globals ∧ t.modules = s.modules ∧ FnKept s.heap t.heap

class CtlRel (R : State → State → Prop) : Prop extends StepRel R where
  of_ctl : ∀ s t, CtlStep s t → R s t

class FrameRel (R : State → State → Prop) : Prop extends SpRel R where
  ip : ∀ s v, R s { s with ip := v }
  frame : ∀ s g, R s { s with frames := s.frames.modify s.curFrame g }
  alloc : ∀ s c, R s { s with heap := s.heap.push c }
  err : ∀ s e, R s { s with err := some e }

instance {R} [CtlRel R] : FrameRel R where
  stack _ _ _ := CtlRel.of_ctl _ _ ⟨rfl, rfl, rfl, rfl, rfl, rfl, fun _ _ _ e => e⟩
  trace _ _ _ := CtlRel.of_ctl _ _ ⟨rfl, rfl, rfl, rfl, rfl, rfl, fun _ _ _ e => e⟩
  heap _ _ h := CtlRel.of_ctl _ _ ⟨rfl, rfl, rfl, rfl, rfl, rfl, h.1⟩
  sp _ _ := CtlRel.of_ctl _ _ ⟨rfl, rfl, rfl, rfl, rfl, rfl, fun _ _ _ e => e⟩
  ip _ _ := CtlRel.of_ctl _ _ ⟨rfl, rfl, rfl, rfl, rfl, rfl, fun _ _ _ e => e⟩
  frame _ _ := CtlRel.of_ctl _ _ ⟨rfl, rfl, rfl, rfl, rfl, rfl, fun _ _ _ e => e⟩
  alloc s c := CtlRel.of_ctl _ _ ⟨rfl, rfl, rfl, rfl, rfl, rfl, .of_ext (UgoVerif.Proofs.Copy.Ext.push s.heap c)⟩
  err _ _ := CtlRel.of_ctl _ _ ⟨rfl, rfl, rfl, rfl, rfl, rfl, fun _ _ _ e => e⟩

class StoreRel (R : State → State → Prop) : Prop extends CtlRel R where
  modules : ∀ s i v, R s { s with modules := s.modules.set! i v }

def Unchanged (s t : State) : Prop := t = s

instance : StepRel Unchanged where
  refl _ := rfl
  trans h1 h2 := Eq.trans h2 h1

class Pres (R : State → State → Prop) {α} (m : M α) : Prop where
  h : ∀ s, R s (exec m s).2

variable {R : State → State → Prop} {α β : Type}

instance [StepRel R] (a : α) : Pres R (pure a : M α) := ⟨StepRel.refl⟩
instance [StepRel R] (e : Exc) : Pres R (throw e : M α) := ⟨StepRel.refl⟩
instance [StepRel R] (msg : String) : Pres R (VM.panic msg : M α) := ⟨StepRel.refl⟩
instance [StepRel R] (msg : String) : Pres R (VM.unsupported msg : M α) := ⟨StepRel.refl⟩
instance [StepRel R] : Pres R getS := ⟨StepRel.refl⟩
instance [StepRel R] : Pres R (get : M State) := ⟨StepRel.refl⟩

instance Pres.bind [StepRel R] {m : M α} {f : α → M β} [hm : Pres R m] [hf : ∀ a, Pres R (f a)] : Pres R (m >>= f) := by
  constructor
  intro s
  rw [exec_bind]
  have := hm.h s
  cases h : exec m s with
  | mk r s' =>
    rw [h] at this
    cases r with
    | ok a => exact StepRel.trans this ((hf a).h s')
    | error e => exact this

instance Pres.ite [StepRel R] (c : Prop) [Decidable c] {a b : M α} [ha : Pres R a] [hb : Pres R b] : Pres R (if c then a else b) := by
  split <;> assumption

instance Pres.forIn_list [StepRel R] {γ} (l : List γ) (init : β) (f : γ → β → M (ForInStep β)) [hf : ∀ a b, Pres R (f a b)] :
    Pres R (forIn l init f) :=
  forIn_list_closed (T := fun m => Pres R m) (fun _ => inferInstance) (fun hm hf => @Pres.bind _ _ _ _ _ _ hm hf) l init f hf

instance Pres.forIn_range [StepRel R] (r : Std.Legacy.Range) (init : β) (f : Nat → β → M (ForInStep β))
    [hf : ∀ a b, Pres R (f a b)] : Pres R (forIn r init f) := by
  rw [Std.Legacy.Range.forIn_eq_forIn_range']
  infer_instance

theorem Pres.modS [CtlRel R] (f : State → State) (hf : ∀ s, CtlStep s (f s)) : Pres R (modS f) :=
  ⟨fun s => CtlRel.of_ctl _ _ (hf s)⟩

syntax "pres" : tactic
set_option hygiene false in
/-- Walks a `do` block.  An action of the model has its instance (found by its head symbol; a join point
    or an induction hypothesis is a local instance); a bind is split first, so that no block is searched
    twice; a `modS` written out in an opcode function keeps `CtlStep` by `rfl`. -/
macro_rules | `(tactic| pres) => `(tactic|
  repeat (first
    | walk_jp (Pres R) by pres
    | with_reducible refine @Pres.bind _ _ _ _ _ _ ?_ fun _ => ?_
    | with_reducible infer_instance
    | with_reducible refine @Pres.ite _ _ _ _ _ _ _ ?_ ?_
    | with_reducible exact ⟨fun s => FrameRel.err s _⟩
    | (with_reducible refine Pres.modS _ fun _ => ?_); exact ⟨rfl, rfl, rfl, rfl, rfl, rfl, fun _ _ _ e => e⟩
    | intro _
    | with_reducible refine @Pres.forIn_range _ _ _ _ _ _ fun _ _ => ?_
    | with_reducible refine @Pres.forIn_list _ _ _ _ _ _ _ fun _ _ => ?_
    | split
    | dsimp -zeta only))

instance [StepRel R] (i : Int) : Pres R (stackGet i) := by unfold stackGet; pres
instance [DataRel R] (i : Int) (v : V) : Pres R (stackSet i v) := by
  have : Pres R (VM.modS fun s => { s with stack := s.stack.set! i.toNat v }) := ⟨fun s => DataRel.stack s _ _⟩
  unfold stackSet; pres
instance [StepRel R] : Pres R getSp := by unfold getSp; pres
instance [StepRel R] : Pres R getIp := by unfold getIp; pres
instance [SpRel R] (v : Int) : Pres R (setSp v) := ⟨fun s => SpRel.sp s v⟩
instance [FrameRel R] (v : Int) : Pres R (setIp v) := ⟨fun s => FrameRel.ip s v⟩
instance [StepRel R] : Pres R curFrame := by unfold curFrame; pres
instance [FrameRel R] (f : Frame → Frame) : Pres R (setCurFrame f) := ⟨fun s => FrameRel.frame s f⟩
instance [StepRel R] (a : Addr) : Pres R (heapGet a) := by unfold heapGet; pres

theorem pres_heapUpd [DataRel R] (a : Addr) (c : Cell) (hc : c.kind ≠ 3) : Pres R (heapUpd a c) := by
  constructor; intro s
  unfold heapUpd heapGet
  rw [exec_bind, exec_getS_bind]
  cases hx : s.heap[a]? with
  | none => exact StepRel.refl s
  | some old =>
    simp only [exec_pure]
    split
    · rename_i hk
      exact DataRel.heap s _ (.set hx (by simpa using hk) hc)
    · exact StepRel.refl s
instance [DataRel R] (a : Addr) (xs : Array V) : Pres R (heapUpd a (.arr xs)) := pres_heapUpd _ _ (by simp [Cell.kind])
instance [DataRel R] (a : Addr) (kvs : List (Bytes × V)) : Pres R (heapUpd a (.map kvs)) := pres_heapUpd _ _ (by simp [Cell.kind])
instance [DataRel R] (a : Addr) (k : IterK) (i : Int) : Pres R (heapUpd a (.iter k i)) := pres_heapUpd _ _ (by simp [Cell.kind])

instance [DataRel R] (a : Addr) (v : V) : Pres R (boxSet a v) := by
  constructor; intro s
  unfold boxSet heapGet
  rw [exec_bind, exec_getS_bind]
  cases hx : s.heap[a]? with
  | none => exact StepRel.refl s
  | some old =>
    simp only [exec_pure]
    cases old with
    | box w => exact DataRel.heap s _ (.set hx rfl (by simp [Cell.kind]))
    | _ => exact StepRel.refl s

theorem pres_alloc [AllocRel R] (c : Cell) (hc : c.kind ≠ 3) : Pres R (alloc c) :=
  ⟨fun s => AllocRel.push s c hc⟩
instance [AllocRel R] (xs : Array V) : Pres R (alloc (.arr xs)) := pres_alloc _ (by simp [Cell.kind])
instance [AllocRel R] (kvs : List (Bytes × V)) : Pres R (alloc (.map kvs)) := pres_alloc _ (by simp [Cell.kind])
instance [AllocRel R] (v : V) : Pres R (alloc (.box v)) := pres_alloc _ (by simp [Cell.kind])
instance [AllocRel R] (n m : Bytes) (c : Option Addr) : Pres R (alloc (.err n m c)) := pres_alloc _ (by simp [Cell.kind])
instance [AllocRel R] (e : Option Addr) : Pres R (alloc (.rterr e)) := pres_alloc _ (by simp [Cell.kind])
instance [AllocRel R] (k : IterK) (i : Int) : Pres R (alloc (.iter k i)) := pres_alloc _ (by simp [Cell.kind])
/-- A relation that allows the allocation of every cell says so for `alloc c` itself: here for `FrameRel`, in
    Proofs/VMInv.lean for `Same`.  For a cell of one of the six constructors above both this instance and the one
    above apply; they are proofs of the same proposition. -/
instance (priority := low) [FrameRel R] (c : Cell) : Pres R (alloc c) := ⟨fun s => FrameRel.alloc s c⟩

instance [DataRel R] (op : Nat) : Pres R (noteTrace op) := by
  constructor; intro s
  unfold noteTrace
  rw [exec_getS_bind]
  split <;> exact DataRel.trace s _ _

instance [DataRel R] (v : V) : Pres R (copyV v) := by
  constructor; intro s
  unfold copyV
  rw [exec_getS_bind]
  split
  · rename_i e; exact DataRel.heap s _ (.copy e)
  · exact StepRel.refl s

instance [StepRel R] : Pres R curCode := by unfold curCode; pres
instance [StepRel R] (i : Int) : Pres R (instAt i) := by unfold instAt; pres
instance [StepRel R] (k : Int) : Pres R (opnd1 k) := by unfold opnd1; pres
instance [StepRel R] (k : Int) : Pres R (opnd2 k) := by unfold opnd2; pres
instance [StepRel R] (k : Int) : Pres R (opnd4 k) := by unfold opnd4; pres
instance [StepRel R] (i : Nat) : Pres R (constAt i) := by unfold constAt; pres
instance [StepRel R] (a : Addr) (off len : Nat) : Pres R (arrElems a off len) := by unfold arrElems; pres
instance [StepRel R] (a : Addr) : Pres R (mapEntries a) := by unfold mapEntries; pres
instance [StepRel R] (v : V) : Pres R (vString v) := by unfold vString; pres
instance [StepRel R] (v : V) : Pres R (isFalsy v) := by unfold isFalsy; pres
instance [StepRel R] (F : FloatOps) (l r : V) : Pres R (vEqual F l r) := by unfold vEqual; pres
instance [AllocRel R] (F : FloatOps) (tok : Tok) (l r : V) : Pres R (vBinaryOp F tok l r) := by unfold vBinaryOp; pres
instance [StepRel R] (F : FloatOps) (tok : Tok) (r : V) : Pres R (vUnary F tok r) := by unfold vUnary; pres
instance [StepRel R] (t i : V) : Pres R (vIndexGet t i) := by unfold vIndexGet; pres
instance [DataRel R] (t i v : V) : Pres R (vIndexSet t i v) := by unfold vIndexSet; pres
instance [AllocRel R] (n m : String) (c : Option Addr) : Pres R (mkErr n m c) := by unfold mkErr; pres
instance [AllocRel R] (e : OpErr) : Pres R (rtErrOfOpErr e) := by unfold rtErrOfOpErr; pres
instance [DataRel R] (hi lo : Int) : Pres R (clearDown hi lo) := by unfold clearDown; pres
instance [StepRel R] : Pres R throwFuel := by unfold throwFuel; pres
instance [StepRel R] : Pres R jumpTarget := by unfold jumpTarget; pres
instance [StepRel R] (a : Addr) : Pres R (fnCell a) := by unfold fnCell; pres
instance [StepRel R] (lo hi : Int) : Pres R (stackSlice lo hi) := by unfold stackSlice; pres
instance [AllocRel R] (xs : List V) : Pres R (newArray xs) := by unfold newArray; pres
instance [DataRel R] (at_ : Int) (xs : List V) : Pres R (copyToStack at_ xs) := by unfold copyToStack; pres
instance [DataRel R] (lo : Int) (n : Nat) : Pres R (fillUndefined lo n) := by unfold fillUndefined; pres
instance [DataRel R] (dst : Int) (src : List V) : Pres R (copySlots dst src) := by unfold copySlots; pres
instance [DataRel R] (code : Code) (bp numArgs flags : Int) : Pres R (bindArgs code bp numArgs flags) := by unfold bindArgs; pres
instance [DataRel R] (i : Nat) (args : List V) : Pres R (callBuiltin i args) := by unfold callBuiltin; pres
instance [DataRel R] (numLocals : Nat) (i : Int) (v : V) : Pres R (setLocal numLocals i v) := by unfold setLocal; pres
instance [DataRel R] (numLocals : Nat) (xs : List V) : Pres R (copyLocals numLocals xs) := by unfold copyLocals; pres
instance [DataRel R] (args : List V) : Pres R (initLocals args) := by unfold initLocals; pres
instance [SpRel R] (v : V) : Pres R (pushV v) := by unfold pushV; pres
instance [SpRel R] (n : Nat) : Pres R (popArgs n) := by unfold popArgs; pres
instance [StepRel R] : Pres R resultValue := by unfold resultValue; pres

instance [CtlRel R] (n : Nat) : Pres R (searchFrames n) := by
  induction n with
  | zero => unfold searchFrames; pres
  | succ n ih => unfold searchFrames; pres

theorem pres_throwF_handle [CtlRel R] (fuel : Nat) (h : ∀ err, Pres R (throwF fuel err)) (err : Addr) :
    Pres R (throwF.handle fuel err) := by
  unfold throwF.handle; pres

instance [CtlRel R] (fuel : Nat) : ∀ err, Pres R (throwF fuel err) := by
  induction fuel with
  | zero => intro err; unfold throwF; pres
  | succ fuel ih =>
    intro err
    have := pres_throwF_handle fuel ih
    unfold throwF; pres

instance [FrameRel R] (fuel : Nat) : ∀ upto, Pres R (findFinally fuel upto) := by
  induction fuel with
  | zero => intro u; unfold findFinally; pres
  | succ fuel ih => intro u; unfold findFinally; pres

instance [CtlRel R] (e : OpErr) : Pres R (throwGenErr e) := by unfold throwGenErr; pres
instance [CtlRel R] (e : OpErr) : Pres R (failWith e) := by unfold failWith; pres
instance [FrameRel R] (n : Int) : Pres R (bumpIp n) := by unfold bumpIp; pres
instance [CtlRel R] : Pres R clearCurrentFrame := by unfold clearCurrentFrame; pres
instance [CtlRel R] (fi : Nat) (fa : Addr) (free : Option (List Addr)) (bp : Int) : Pres R (enterFrame fi fa free bp) := by
  unfold enterFrame; pres
instance [CtlRel R] (fa : Addr) (numArgs flags : Int) : Pres R (callCompiled fa numArgs flags) := by unfold callCompiled; pres
instance [FrameRel R] (callee : V) (numArgs flags : Int) : Pres R (callObject callee numArgs flags) := by unfold callObject; pres
instance [CtlRel R] (callee : V) (numArgs flags : Int) : Pres R (callAny callee numArgs flags) := by unfold callAny; pres
instance [CtlRel R] : Pres R initCurrentFrame := by unfold initCurrentFrame; pres
instance [FrameRel R] : Pres R execConstant := by unfold execConstant; pres
instance [FrameRel R] : Pres R execGetLocal := by unfold execGetLocal; pres
instance [FrameRel R] : Pres R execSetLocal := by unfold execSetLocal; pres
instance [FrameRel R] : Pres R execAndJump := by unfold execAndJump; pres
instance [FrameRel R] : Pres R execOrJump := by unfold execOrJump; pres
instance [FrameRel R] : Pres R execTrue := by unfold execTrue; pres
instance [FrameRel R] : Pres R execFalse := by unfold execFalse; pres
instance [CtlRel R] : Pres R execCall := by unfold execCall; pres
instance [CtlRel R] : Pres R execCallName := by unfold execCallName; pres
instance [CtlRel R] : Pres R execReturn := by unfold execReturn; pres
instance [FrameRel R] : Pres R execGetBuiltin := by unfold execGetBuiltin; pres
instance [FrameRel R] : Pres R execClosure := by unfold execClosure; pres
instance [FrameRel R] : Pres R execJump := by unfold execJump; pres
instance [FrameRel R] : Pres R execJumpFalsy := by unfold execJumpFalsy; pres
instance [FrameRel R] [∀ e, Pres R (failWith e)] : Pres R execGetGlobal := by unfold execGetGlobal; pres
instance [FrameRel R] [∀ e, Pres R (failWith e)] : Pres R execSetGlobal := by unfold execSetGlobal; pres
instance [FrameRel R] : Pres R execArray := by unfold execArray; pres
instance [FrameRel R] : Pres R execMap := by unfold execMap; pres
instance [FrameRel R] [∀ e, Pres R (failWith e)] : Pres R execGetIndex := by unfold execGetIndex; pres
instance [FrameRel R] [∀ e, Pres R (failWith e)] : Pres R execSetIndex := by unfold execSetIndex; pres
instance [FrameRel R] [∀ e, Pres R (failWith e)] : Pres R execSliceIndex := by unfold execSliceIndex; pres
instance [FrameRel R] : Pres R execGetFree := by unfold execGetFree; pres
instance [FrameRel R] : Pres R execSetFree := by unfold execSetFree; pres
instance [FrameRel R] : Pres R execGetLocalPtr := by unfold execGetLocalPtr; pres
instance [FrameRel R] : Pres R execGetFreePtr := by unfold execGetFreePtr; pres
instance [FrameRel R] : Pres R execDefineLocal := by unfold execDefineLocal; pres
instance [FrameRel R] : Pres R execNull := by unfold execNull; pres
instance [FrameRel R] : Pres R execPop := by unfold execPop; pres
instance [FrameRel R] [∀ e, Pres R (failWith e)] : Pres R execIterInit := by unfold execIterInit; pres
instance [FrameRel R] : Pres R execLoadModule := by unfold execLoadModule; pres
instance [FrameRel R] : Pres R execSetupTry := by unfold execSetupTry; pres
instance [FrameRel R] : Pres R execSetupCatch := by unfold execSetupCatch; pres
instance [FrameRel R] : Pres R execSetupFinally := by unfold execSetupFinally; pres
instance [CtlRel R] : Pres R execThrow := by unfold execThrow; pres
instance [FrameRel R] : Pres R execFinalizer := by unfold execFinalizer; pres
instance [FrameRel R] : Pres R execNoOp := by unfold execNoOp; pres
instance [FrameRel R] [∀ e, Pres R (failWith e)] (F : FloatOps) : Pres R (execBinaryOp F) := by unfold execBinaryOp; pres
instance [FrameRel R] (F : FloatOps) (op : Nat) : Pres R (execEqual F op) := by unfold execEqual; pres
instance [FrameRel R] (op : Nat) : Pres R (execIterNext op) := by unfold execIterNext; pres
instance [FrameRel R] [∀ e, Pres R (failWith e)] (F : FloatOps) : Pres R (execUnary F) := by unfold execUnary; pres
instance [FrameRel R] (op : Nat) : Pres R (execUnknown op) := by unfold execUnknown; pres

/-- STOREMODULE asks for its write to `modules` as an instance of its own: a `FrameRel` that allows that write
    goes through it without being a `StoreRel`. -/
instance [StoreRel R] (i : Nat) (v : V) : Pres R (VM.modS fun s => { s with modules := s.modules.set! i v }) :=
  ⟨fun s => StoreRel.modules s i v⟩
instance [FrameRel R] [∀ i v, Pres R (VM.modS fun s => { s with modules := s.modules.set! i v })] : Pres R execStoreModule := by
  unfold execStoreModule; pres

instance [StoreRel R] (F : FloatOps) (op : Nat) : Pres R (dispatch F op) := by
  apply dispatch_cases (P := Pres R) <;> intros <;> infer_instance
instance [StoreRel R] (F : FloatOps) : Pres R (step F) := by unfold step; pres
instance [StoreRel R] (m : String) : Pres R (handlePanic m) := by unfold handlePanic; pres
instance [StoreRel R] (F : FloatOps) (fuel : Nat) : Pres R (loopF F fuel) := by
  induction fuel with
  | zero => unfold loopF; pres
  | succ n ih => unfold loopF; pres

theorem pres_prologue [CtlRel R] (hg : ∀ s g, R s { s with globals := g })
    (hm : ∀ s, R s { s with modules := s.modules ++ Array.replicate (s.numModules - s.modules.size) .nil })
    (g : V) (args : List V) : Pres R (prologue g args) := by
  have (g' : V) : Pres R (modS fun s => { s with globals := g' }) := ⟨fun s => hg s g'⟩
  have : Pres R (modS fun s =>
      let diff := s.numModules - s.modules.size
      { s with modules := s.modules ++ Array.replicate diff .nil }) := ⟨hm⟩
  unfold prologue; pres

end UgoVerif.VM

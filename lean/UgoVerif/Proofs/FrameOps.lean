import UgoVerif.Proofs.C07Calc
/-
  What the frame-stack operations of the VM model compute, in closed form: each is proved once
  against the monadic code; the analyses (liveness, relocation, frame offset, control-flow integrity,
  call sites, the VM invariant) argue about the closed forms.  The bodies of CALL, RETURN and THROW are cut into
  named tails, one cut for all analyses: the model's function is its tails composed, by `rfl` or by a walk with
  `congr` (`callCompiled_eq`, `execReturn_eq`, `throwF_succ`), and a tail that moves between frames has its final
  state as a function of the start state (`pushed`, `popped`, `resumed`).
-/
namespace UgoVerif.VM
open UgoVerif UgoVerif.Go

theorem getElem!_modify (a : Array Frame) (c i : Nat) (f : Frame → Frame) :
    (a.modify c f)[i]! = if c = i ∧ i < a.size then f a[i]! else a[i]! := by
  by_cases hi : i < a.size
  · simp [hi, Array.getElem_modify]
  · simp [hi]

theorem getElem!_modify_of_ne (a : Array Frame) {c i : Nat} (f : Frame → Frame) (h : c ≠ i) : (a.modify c f)[i]! = a[i]! := by
  rw [getElem!_modify, if_neg fun x => h x.1]

theorem getElem!_modify_self (a : Array Frame) (c : Nat) (f : Frame → Frame) (h : c < a.size) : (a.modify c f)[c]! = f a[c]! := by
  rw [getElem!_modify, if_pos ⟨rfl, h⟩]

theorem getElem!_modify_congr {a b : Array Frame} (hsz : a.size = b.size) {i : Nat} (h : a[i]! = b[i]!)
    (c : Nat) (g : Frame → Frame) : (a.modify c g)[i]! = (b.modify c g)[i]! := by
  rw [getElem!_modify, getElem!_modify, hsz, h]

/-- what the frame search of `throw` does to a frame it passes -/
def clrF (f : Frame) : Frame := { f with free := none, fn := none }

theorem getElem!_modify_clrF (a : Array Frame) (c i : Nat) :
    (a.modify c clrF)[i]! = if c = i then clrF (a[i]!) else a[i]! := by
  rw [getElem!_modify]
  by_cases hi : i < a.size
  · simp [hi]
  · have : a[i]! = default := by simp [hi]
    simp only [hi, and_false, if_false, this]
    split <;> rfl

/-- what Go's bounds check `&vm.frames[i]` leaves when it passes -/
theorem toNat_lt_of_inFrames {i : Int} (h : ¬ (decide (i < 0) || decide (i ≥ (frameSize : Int))) = true) :
    0 ≤ i ∧ i.toNat < frameSize := by
  simp only [Bool.or_eq_true, decide_eq_true_eq, not_or, Int.not_lt, ge_iff_le, Int.not_le] at h
  omega

theorem setLast_fn (f : Frame) (g : Handler → Handler) : (setLast f g).fn = f.fn := by unfold setLast; split <;> rfl
theorem setLast_ip (f : Frame) (g : Handler → Handler) : (setLast f g).ip = f.ip := by unfold setLast; split <;> rfl
theorem setLast_bp (f : Frame) (g : Handler → Handler) : (setLast f g).bp = f.bp := by unfold setLast; split <;> rfl
theorem popHandler_fn (f : Frame) : (popHandler f).fn = f.fn := by unfold popHandler; split <;> rfl
theorem popHandler_ip (f : Frame) : (popHandler f).ip = f.ip := by unfold popHandler; split <;> rfl
theorem popHandler_bp (f : Frame) : (popHandler f).bp = f.bp := by unfold popHandler; split <;> rfl

theorem hasHandler_setLast (f : Frame) (g : Handler → Handler) : hasHandler (setLast f g) = hasHandler f := by
  unfold setLast
  split
  · rename_i h0 r e; simp [hasHandler, e]
  · rfl

theorem hasHandler_popHandler {f : Frame} (h : hasHandler f = false) : hasHandler (popHandler f) = false := by
  unfold popHandler
  split
  · rename_i h0 r e; simp [hasHandler, e] at h
  · exact h

/-! A property of every handler of a frame (C06: the saved `sp` is not negative; C16: the saved positions are
    instruction starts) under the three updates of the handler list: `setLast`, `popHandler`, the push of SETUPTRY. -/

theorem setLast_all {P : Handler → Prop} {f : Frame} {g : Handler → Handler} (hg : ∀ x, P x → P (g x))
    (h : ∀ hs, f.handlers = some hs → ∀ x ∈ hs, P x) : ∀ hs, (setLast f g).handlers = some hs → ∀ x ∈ hs, P x := by
  unfold setLast
  split
  · rename_i h0 r e
    intro hs hhs x hx
    cases hhs
    rcases List.mem_cons.mp hx with rfl | hx
    · exact hg _ (h _ e h0 (List.mem_cons_self ..))
    · exact h _ e x (List.mem_cons_of_mem _ hx)
  · exact h

theorem popHandler_all {P : Handler → Prop} {f : Frame} (h : ∀ hs, f.handlers = some hs → ∀ x ∈ hs, P x) :
    ∀ hs, (popHandler f).handlers = some hs → ∀ x ∈ hs, P x := by
  unfold popHandler
  split
  · rename_i h0 r e
    intro hs hhs x hx
    cases hhs
    exact h _ e x (List.mem_cons_of_mem _ hx)
  · exact h

theorem pushHandler_all {P : Handler → Prop} {f : Frame} {p : Handler} (hp : P p)
    (h : ∀ hs, f.handlers = some hs → ∀ x ∈ hs, P x) :
    ∀ hs, ({ f with handlers := some (p :: f.handlers.getD []) } : Frame).handlers = some hs → ∀ x ∈ hs, P x := by
  intro hs hhs x hx
  cases hhs
  rcases List.mem_cons.mp hx with rfl | hx
  · exact hp
  · cases hf : f.handlers with
    | none => rw [hf] at hx; cases hx
    | some l => rw [hf] at hx; exact h l hf x hx

theorem lastHandler_mem {f : Frame} {h : Handler} (e : lastHandler f = some h) :
    hasHandler f = true ∧ ∃ hs, f.handlers = some hs ∧ h ∈ hs := by
  unfold lastHandler at e
  split at e
  · rename_i h0 r e0
    cases e
    exact ⟨by simp [hasHandler, e0], _, e0, by simp⟩
  · cases e

theorem lastHandler_default : lastHandler (default : Frame) = none := rfl

/-- number of handlers, as counted by `throwFuel`, `noteTrace`, `execFinalizer` -/
def nhl (f : Frame) : Nat := match f.handlers with | some hs => hs.length | none => 0

theorem nhl_setLast (f : Frame) (g : Handler → Handler) : nhl (setLast f g) = nhl f := by
  unfold setLast nhl
  cases hh : f.handlers with
  | none => simp [hh]
  | some l => cases l with
    | nil => simp [hh]
    | cons a r => simp

theorem nhl_popHandler {f : Frame} {h : Handler} (hl : lastHandler f = some h) : nhl (popHandler f) + 1 = nhl f := by
  unfold lastHandler at hl
  unfold popHandler nhl
  cases hh : f.handlers with
  | none => simp [hh] at hl
  | some l => cases l with
    | nil => simp [hh] at hl
    | cons a r => simp

def needUpTo (fr : Array Frame) : Nat → Nat
  | 0 => 0
  | k+1 => needUpTo fr k + nhl (fr[k]!) + 1

theorem needUpTo_congr {fr fr' : Array Frame} (k : Nat) (h : ∀ j, j < k → nhl (fr[j]!) = nhl (fr'[j]!)) :
    needUpTo fr k = needUpTo fr' k := by
  induction k with
  | zero => rfl
  | succ k ih =>
    simp only [needUpTo]
    rw [ih (fun j hj => h j (by omega)), h k (by omega)]

def fuelOf (fr : Array Frame) : Nat :=
  fr.foldl (fun n f => n + (match f.handlers with | some hs => hs.length | none => 0) + 1) 4

theorem exec_throwFuel (s : State) : exec throwFuel s = (.ok (fuelOf s.frames), s) := rfl

theorem fuelOf_eq (fr : Array Frame) : fuelOf fr = 4 + needUpTo fr fr.size := by
  unfold fuelOf
  refine Array.foldl_induction (motive := fun i b => b = 4 + needUpTo fr i) rfl ?_
  intro i b hb
  subst hb
  simp only [needUpTo]
  have : fr[i.1]! = fr[i] := by simp
  rw [this]
  unfold nhl
  omega

theorem fuelOf_congr {a b : Array Frame} (hs : a.size = b.size) (h : ∀ i, i < a.size → nhl (b[i]!) = nhl (a[i]!)) :
    fuelOf b = fuelOf a := by
  rw [fuelOf_eq, fuelOf_eq, ← hs, needUpTo_congr a.size h]

def searched (fr : Array Frame) : Nat → Option Nat × Array Frame
  | 0 => (none, fr)
  | n+1 => if hasHandler (fr[n]!) = true then (some n, fr) else searched (fr.modify n clrF) n

/-- the search passed the frames `stopAt r ≤ j < n` -/
def stopAt : Option Nat → Nat
  | some i => i + 1
  | none => 0

theorem exec_searchFrames (n : Nat) (s : State) :
    exec (searchFrames n) s =
      if n > frameSize then
        (.error (.panic s!"runtime error: index out of range [{n - 1}] with length {frameSize}"), s)
      else (.ok (searched s.frames n).1, { s with frames := (searched s.frames n).2 }) := by
  induction n generalizing s with
  | zero => rfl
  | succ n ih =>
    rw [searchFrames, searched]
    by_cases h1 : n ≥ frameSize
    · simp only [h1, if_true, exec_bind, exec_panic]
      rw [if_pos (show n + 1 > frameSize by omega)]; rfl
    · simp only [h1, if_false, exec_bind, exec_getS]
      rw [if_neg (show ¬ n + 1 > frameSize by omega)]
      by_cases h2 : hasHandler (s.frames[n]!) = true
      · simp only [h2, if_true, exec_pure]
      · simp only [h2, Bool.false_eq_true, if_false, exec_bind, exec_modS]
        rw [ih, if_neg (show ¬ n > frameSize by omega)]
        rfl

theorem searched_spec (n : Nat) : ∀ fr : Array Frame,
    (searched fr n).2.size = fr.size ∧ stopAt (searched fr n).1 ≤ n ∧
    (∀ i, (searched fr n).1 = some i → hasHandler (fr[i]!) = true) ∧
    (∀ j, stopAt (searched fr n).1 ≤ j → j < n → hasHandler (fr[j]!) = false) ∧
    (∀ j, (searched fr n).2[j]! = if stopAt (searched fr n).1 ≤ j ∧ j < n then clrF (fr[j]!) else fr[j]!) := by
  induction n with
  | zero => intro fr; exact ⟨rfl, Nat.le_refl _, (fun i e => by cases e), fun j _ h => absurd h (Nat.not_lt_zero j),
      fun j => (if_neg fun c => Nat.not_lt_zero j c.2).symm⟩
  | succ n ih =>
    intro fr
    rw [searched]
    by_cases h : hasHandler (fr[n]!) = true
    · rw [if_pos h]
      exact ⟨rfl, Nat.le_refl _, (fun i e => by cases e; exact h), fun j h1 h2 => absurd h2 (Nat.not_lt.mpr h1),
        fun j => (if_neg fun c => absurd c.2 (Nat.not_lt.mpr c.1)).symm⟩
    · rw [if_neg h]
      obtain ⟨a1, a2, a3, a4, a5⟩ := ih (fr.modify n clrF)
      have hne : ∀ j, j ≠ n → (fr.modify n clrF)[j]! = fr[j]! := fun j hj => by
        rw [getElem!_modify_clrF, if_neg fun c => hj c.symm]
      refine ⟨by rw [a1]; simp, by omega, fun i e => ?_, fun j h1 h2 => ?_, fun j => ?_⟩
      · have : i ≠ n := by rw [e] at a2; simp only [stopAt] at a2; omega
        rw [← hne i this]; exact a3 i e
      · by_cases hjn : j = n
        · rw [hjn]; simpa using h
        · rw [← hne j hjn]; exact a4 j h1 (by omega)
      · rw [a5 j]
        by_cases hjn : j = n
        · subst hjn
          rw [if_neg fun c => Nat.lt_irrefl _ c.2, if_pos ⟨a2, Nat.lt_succ_self _⟩, getElem!_modify_clrF, if_pos rfl]
        · simp only [hne j hjn, show (j < n ↔ j < n + 1) by omega]

theorem searched_size (fr : Array Frame) (n : Nat) : (searched fr n).2.size = fr.size := (searched_spec n fr).1
theorem searched_le (fr : Array Frame) (n : Nat) : stopAt (searched fr n).1 ≤ n := (searched_spec n fr).2.1

theorem searched_get (fr : Array Frame) (n j : Nat) :
    (searched fr n).2[j]! = if stopAt (searched fr n).1 ≤ j ∧ j < n then clrF (fr[j]!) else fr[j]! :=
  (searched_spec n fr).2.2.2.2 j

theorem searched_passed {fr : Array Frame} {n j : Nat} (h1 : stopAt (searched fr n).1 ≤ j) (h2 : j < n) :
    hasHandler (fr[j]!) = false := (searched_spec n fr).2.2.2.1 j h1 h2

theorem searched_some {fr : Array Frame} {n i : Nat} (h : (searched fr n).1 = some i) :
    i < n ∧ hasHandler (fr[i]!) = true ∧ (searched fr n).2[i]! = fr[i]! := by
  have hl := searched_le fr n
  rw [h] at hl
  refine ⟨hl, (searched_spec n fr).2.2.1 i h, ?_⟩
  rw [searched_get, h, if_neg fun c => Nat.lt_irrefl _ c.1]

theorem searched_all {P : Nat → Frame → Prop} (hP : ∀ i f, P i f → hasHandler f = false → P i (clrF f))
    {fr : Array Frame} (h : ∀ i, P i (fr[i]!)) (n i : Nat) : P i ((searched fr n).2[i]!) := by
  rw [searched_get]
  split
  · rename_i c; exact hP i _ (h i) (searched_passed c.1 c.2)
  · exact h i

theorem searched_get_of_lt {fr : Array Frame} {n j : Nat} (h : j < stopAt (searched fr n).1) :
    (searched fr n).2[j]! = fr[j]! := by
  rw [searched_get, if_neg fun c => absurd h (Nat.not_lt.mpr c.1)]

theorem searched_ind {A : Array Frame → Prop} (N : Nat)
    (hclr : ∀ (fr : Array Frame) (j : Nat), j < N → A fr → hasHandler (fr[j]!) = false → A (fr.modify j clrF)) :
    ∀ (n : Nat), n ≤ N → ∀ fr : Array Frame, A fr → A (searched fr n).2 := by
  intro n
  induction n with
  | zero => intro _ fr h; exact h
  | succ n ih =>
    intro hn fr h
    rw [searched]
    split
    · exact h
    · rename_i hf
      exact ih (Nat.le_of_succ_le hn) _ (hclr fr n hn h (by simpa using hf))

/-- Two frame arrays searched together, frame `j` of `fr` against frame `k + j` of `gr` (a VM started by Invoke
    against the one that called it, Proofs/ShiftThrow.lean): when `fr` has no handler at all, the search of `gr`
    goes on below `k`. -/
theorem searched_rel {A : Array Frame → Array Frame → Prop} (k N : Nat)
    (hh : ∀ (fr gr : Array Frame) (j : Nat), j < N → A fr gr → hasHandler (gr[k + j]!) = hasHandler (fr[j]!))
    (hclr : ∀ (fr gr : Array Frame) (j : Nat), j < N → A fr gr → hasHandler (fr[j]!) = false →
      A (fr.modify j clrF) (gr.modify (k + j) clrF)) :
    ∀ (n : Nat), n ≤ N → ∀ (fr gr : Array Frame), A fr gr → ∃ gr', A (searched fr n).2 gr' ∧
      searched gr (k + n) = match (searched fr n).1 with
        | some i => (some (k + i), gr')
        | none => searched gr' k := by
  intro n
  induction n with
  | zero => intro _ fr gr h; exact ⟨gr, h, rfl⟩
  | succ n ih =>
    intro hn fr gr h
    show ∃ gr', _ ∧ searched gr ((k + n) + 1) = _
    rw [searched, searched, hh fr gr n hn h]
    split
    · exact ⟨gr, h, rfl⟩
    · rename_i hf
      exact ih (Nat.le_of_succ_le hn) _ _ (hclr fr gr n hn h (by simpa using hf))

theorem searched_rel0 {A : Array Frame → Array Frame → Prop} (n : Nat)
    (hh : ∀ (fr gr : Array Frame) (j : Nat), j < n → A fr gr → hasHandler (gr[j]!) = hasHandler (fr[j]!))
    (hclr : ∀ (fr gr : Array Frame) (j : Nat), j < n → A fr gr → hasHandler (fr[j]!) = false →
      A (fr.modify j clrF) (gr.modify j clrF))
    {fr gr : Array Frame} (h : A fr gr) :
    (searched gr n).1 = (searched fr n).1 ∧ A (searched fr n).2 (searched gr n).2 := by
  obtain ⟨gr', h1, h2⟩ := searched_rel (A := A) 0 n (fun fr gr j hj => by rw [Nat.zero_add]; exact hh fr gr j hj)
    (fun fr gr j hj => by rw [Nat.zero_add]; exact hclr fr gr j hj) n (Nat.le_refl n) fr gr h
  rw [Nat.zero_add] at h2
  rw [h2]
  cases (searched fr n).1 with
  | none => exact ⟨rfl, h1⟩
  | some i => exact ⟨congrArg some (Nat.zero_add i), h1⟩

theorem searched_eq_some {fr : Array Frame} {n i : Nat} :
    (searched fr n).1 = some i ↔
      i < n ∧ hasHandler (fr[i]!) = true ∧ ∀ j, i < j → j < n → hasHandler (fr[j]!) = false := by
  constructor
  · intro e
    have := searched_some e
    refine ⟨this.1, this.2.1, fun j h1 h2 => searched_passed (by rw [e]; exact h1) h2⟩
  · rintro ⟨h1, h2, h3⟩
    cases e : (searched fr n).1 with
    | none =>
      have := searched_passed (fr := fr) (n := n) (j := i) (by rw [e]; exact Nat.zero_le _) h1
      rw [h2] at this; cases this
    | some i' =>
      have h' := searched_some e
      rcases Nat.lt_trichotomy i i' with hlt | heq | hgt
      · have := h3 i' hlt h'.1
        rw [h'.2.1] at this; cases this
      · rw [heq]
      · have := searched_passed (fr := fr) (n := n) (j := i) (by rw [e]; exact hgt) h1
        rw [h2] at this; cases this

theorem searched_eq_none {fr : Array Frame} {n : Nat} :
    (searched fr n).1 = none ↔ ∀ j, j < n → hasHandler (fr[j]!) = false := by
  constructor
  · intro e j hj; exact searched_passed (by rw [e]; exact Nat.zero_le _) hj
  · intro h
    cases e : (searched fr n).1 with
    | none => rfl
    | some i =>
      have h' := searched_some e
      have := h i h'.1
      rw [h'.2.1] at this; cases this

/-! The measure of `throw`, `needUpTo fr k` (handlers + 1 of the frames below `k`): the search leaves it alone, a round
    that ends with its handler consumed lowers it by one.  C06 reads it at `k = fr.size` (the fuel is not exhausted), C07
    at the current frame + 1 (the result does not depend on the fuel). -/

theorem needUpTo_modify (fr : Array Frame) (i : Nat) (g : Frame → Frame) (hi : i < fr.size) :
    ∀ n, i < n → needUpTo (fr.modify i g) n + nhl (fr[i]!) = needUpTo fr n + nhl (g (fr[i]!))
  | n + 1, h => by
    simp only [needUpTo]
    by_cases hn : i = n
    · subst hn
      rw [needUpTo_congr i fun j hj => congrArg nhl (getElem!_modify_of_ne fr g (Nat.ne_of_gt hj)),
        getElem!_modify, if_pos ⟨rfl, hi⟩]
      omega
    · rw [getElem!_modify_of_ne fr g hn]
      have := needUpTo_modify fr i g hi n (by omega)
      omega

theorem needUpTo_searched (fr : Array Frame) (n k : Nat) : needUpTo (searched fr n).2 k = needUpTo fr k :=
  needUpTo_congr k fun j _ => by rw [searched_get]; split <;> rfl

/-- the frames as a consumed round leaves them (`exec_handlePre`, last case) -/
theorem needUpTo_consumed {fr : Array Frame} {c : Nat} {g : Handler → Handler} {h : Handler}
    (hl : lastHandler ((fr.modify c fun f => setLast f g)[c]!) = some h) {n : Nat} (hn : c < n) :
    needUpTo ((fr.modify c fun f => setLast f g).modify c popHandler) n + 1 = needUpTo fr n := by
  -- the frame is inside the array: outside it is `default`, which has no handler
  have hc : c < fr.size := Nat.lt_of_not_le fun hge => by
    rw [getElem!_modify, if_neg fun x => Nat.not_lt.mpr hge x.2, getElem!_neg fr c (Nat.not_lt.mpr hge)] at hl
    cases hl
  rw [getElem!_modify_self _ _ _ hc] at hl
  have h1 := needUpTo_modify fr c (fun f => setLast f g) hc n hn
  have h2 := needUpTo_modify (fr.modify c fun f => setLast f g) c popHandler (by rw [Array.size_modify]; exact hc) n hn
  rw [getElem!_modify_self _ _ _ hc] at h2
  have h3 := nhl_popHandler hl
  have h4 := nhl_setLast fr[c]! g
  omega

theorem panic_bind {α β} (m : String) (f : α → M β) : (VM.panic m : M α) >>= f = VM.panic m := rfl

def clearF (f : Frame) : Frame := { f with free := none, fn := none, handlers := none }

theorem exec_clearCurrentFrame (s : State) :
    exec clearCurrentFrame s = (.ok (), { s with frames := s.frames.modify s.curFrame clearF }) := rfl

/-- the frame-pushing tail of `xOpCallCompiled` -/
@[reducible] def callTail (fa : Addr) (free : Option (List Addr)) (basePointer ip numLocals : Int) :
    M (Except OpErr Unit) := do
  let s ← getS
  let fi := s.frameIndex
  if fi + 1 > (frameSize : Int) - 1 then
    return .error .stackOverflow
  if fi < 0 || fi ≥ (frameSize : Int) then
    panic s!"runtime error: index out of range [{fi}] with length {frameSize}"
  modS fun s => { s with frameIndex := fi + 1 }
  setCurFrame fun f => { f with ip := ip + 2 }
  enterFrame fi.toNat fa free basePointer
  setSp (basePointer + numLocals)
  setIp (-1)
  return .ok ()

def enterF (fa : Addr) (free : Option (List Addr)) (bp : Int) (f : Frame) : Frame :=
  { f with fn := some fa, free := free, handlers := none, bp := bp, discard := false }

def pushed (fa : Addr) (free : Option (List Addr)) (bp ip nl : Int) (s : State) : State :=
  { s with
    frameIndex := s.frameIndex + 1
    frames := (s.frames.modify s.curFrame fun f => { f with ip := ip + 2 }).modify s.frameIndex.toNat (enterF fa free bp)
    curFrame := s.frameIndex.toNat
    sp := bp + nl
    ip := -1 }

theorem exec_callTail (fa : Addr) (free : Option (List Addr)) (bp ip nl : Int) (s : State) :
    exec (callTail fa free bp ip nl) s =
      if s.frameIndex + 1 > (frameSize : Int) - 1 then (.ok (.error .stackOverflow), s)
      else if (decide (s.frameIndex < 0) || decide (s.frameIndex ≥ (frameSize : Int))) = true then
        (.error (.panic s!"runtime error: index out of range [{s.frameIndex}] with length {frameSize}"), s)
      else (.ok (.ok ()), pushed fa free bp ip nl s) := by
  simp only [callTail, exec_bind, exec_getS]
  by_cases h1 : s.frameIndex + 1 > (frameSize : Int) - 1
  · simp only [h1, if_true, exec_pure]
  · simp only [h1, if_false]
    by_cases h2 : (decide (s.frameIndex < 0) || decide (s.frameIndex ≥ (frameSize : Int))) = true
    · simp only [h2, if_true, exec_bind, exec_panic]
    · simp only [h2]
      rfl

theorem dm_at (X : Array Frame) (c k : Nat) (g1 g2 : Frame → Frame) (hk : k < X.size) (hne : c ≠ k) :
    ((X.modify c g1).modify k g2)[k]! = g2 (X[k]!) := by
  rw [getElem!_modify, getElem!_modify]
  simp [hk, hne]

theorem dm_c (X : Array Frame) (c k : Nat) (g1 g2 : Frame → Frame) (hc : c < X.size) (hne : k ≠ c) :
    ((X.modify c g1).modify k g2)[c]! = g1 (X[c]!) := by
  rw [getElem!_modify, getElem!_modify]
  simp [hc, hne]

theorem dm_other (X : Array Frame) (c k j : Nat) (g1 g2 : Frame → Frame) (h1 : c ≠ j) (h2 : k ≠ j) :
    ((X.modify c g1).modify k g2)[j]! = X[j]! := by
  rw [getElem!_modify, getElem!_modify]
  simp [h1, h2]

/-- the end of `xOpCallCompiled` for a tail call, cut behind each of its two slice-bound checks -/
def tailCallC (curBp b nl sp : Int) : M (Except OpErr Unit) := do
  let src ← stackSlice b (min (stackSize : Int) (b + nl))
  copySlots curBp src
  clearDown sp (b - 1)
  setSp (b - 1)
  setIp (-1)
  setCurFrame fun f => { f with handlers := none }
  return .ok ()

def tailCallB (curBp b nl sp : Int) : M (Except OpErr Unit) := do
  if b < 0 || b > (stackSize : Int) then
    panic "runtime error: slice bounds out of range"
  tailCallC curBp b nl sp

def tailCallA (curBp b nl sp : Int) : M (Except OpErr Unit) := do
  if curBp < 0 || curBp + nl > (stackSize : Int) || curBp > curBp + nl then
    panic "runtime error: slice bounds out of range"
  tailCallB curBp b nl sp

def tailCall (discard : Bool) (curBp b nl sp : Int) : M (Except OpErr Unit) := do
  if discard then setCurFrame fun f => { f with discard := true }
  tailCallA curBp b nl sp

def callBody (fa : Addr) (free : Option (List Addr)) (cf : Frame) (sp b nl ip : Int) : M (Except OpErr Unit) := do
  if cf.fn == some fa then
    let nextOp ← instAt (ip + 2 + 1)
    let discard ← (if nextOp == OpPop then do pure ((← instAt (ip + 2 + 2)) == OpReturn) else pure false)
    if nextOp == OpReturn || discard then
      tailCall discard cf.bp b nl sp
    else callTail fa free b ip nl
  else callTail fa free b ip nl

def callRest (fa : Addr) (code : Code) (free : Option (List Addr)) (na fl : Int) : M (Except OpErr Unit) := do
  let sp ← getSp
  match (← bindArgs code (sp - na) na fl) with
  | .error e => return .error e
  | .ok () =>
    fillUndefined (sp - na + (code.numParams : Int)) ((code.numLocals : Int) - (code.numParams : Int)).toNat
    let cf ← curFrame
    let ip ← getIp
    callBody fa free cf sp (sp - na) code.numLocals ip

instance {R : State → State → Prop} [FrameRel R] (d : Bool) (cb b nl sp : Int) : Pres R (tailCall d cb b nl sp) := by
  unfold tailCall tailCallA tailCallB tailCallC; pres

instance {R : State → State → Prop} [CtlRel R] (fa : Addr) (c : Code) (free : Option (List Addr)) (na fl : Int) :
    Pres R (callRest fa c free na fl) := by
  unfold callRest callBody; pres

theorem callCompiled_eq (fa : Addr) (na fl : Int) :
    callCompiled fa na fl = (fnCell fa >>= fun x => callRest fa x.1 x.2 na fl) := rfl

/-- the frame-popping tail of `OpReturn` -/
@[reducible] def retTail : M Ctl := do
  let s ← getS
  if s.frameIndex == 1 then return .ret
  clearCurrentFrame
  let pi := s.frameIndex - 2
  if pi < 0 || pi ≥ (frameSize : Int) then
    panic s!"runtime error: index out of range [{pi}] with length {frameSize}"
  modS fun s => { s with frameIndex := s.frameIndex - 1, curFrame := pi.toNat }
  let parent ← curFrame
  setIp parent.ip
  match parent.fn with
  | none => panic "runtime error: invalid memory address or nil pointer dereference"
  | some _ => return .next

def popped (s : State) : State :=
  { s with frames := s.frames.modify s.curFrame clearF, frameIndex := s.frameIndex - 1,
           curFrame := (s.frameIndex - 2).toNat,
           ip := ((s.frames.modify s.curFrame clearF)[(s.frameIndex - 2).toNat]!).ip }

theorem exec_retTail (s : State) :
    exec retTail s =
      if (s.frameIndex == 1) = true then (.ok .ret, s)
      else if (decide (s.frameIndex - 2 < 0) || decide (s.frameIndex - 2 ≥ (frameSize : Int))) = true then
        (.error (.panic s!"runtime error: index out of range [{s.frameIndex - 2}] with length {frameSize}"),
          { s with frames := s.frames.modify s.curFrame clearF })
      else
        match ((s.frames.modify s.curFrame clearF)[(s.frameIndex - 2).toNat]!).fn with
        | none => (.error (.panic "runtime error: invalid memory address or nil pointer dereference"), popped s)
        | some _ => (.ok .next, popped s) := by
  simp only [retTail, exec_bind, exec_getS]
  by_cases h1 : (s.frameIndex == 1) = true
  · simp only [h1, if_true, exec_pure]
  · simp only [h1, Bool.false_eq_true, if_false, exec_bind, exec_clearCurrentFrame]
    by_cases h2 : (decide (s.frameIndex - 2 < 0) || decide (s.frameIndex - 2 ≥ (frameSize : Int))) = true
    · simp only [h2, if_true, exec_bind, exec_panic]
    · simp only [h2, Bool.false_eq_true, if_false, exec_bind, exec_modS, exec_curFrame]
      cases hfn : ((s.frames.modify s.curFrame clearF)[(s.frameIndex - 2).toNat]!).fn with
      | none => rfl
      | some a => rfl

def toFrame (s : State) (i : Nat) : State := { s with frameIndex := (i : Int) + 1, curFrame := i }

/-- the pop of RETURN goes down one frame as `throw` goes down to the handling frame -/
theorem popped_eq {s : State} (hl : (s.curFrame : Int) + 1 = s.frameIndex) (h1 : 1 ≤ s.curFrame) :
    popped s = { toFrame { s with frames := s.frames.modify s.curFrame clearF } (s.curFrame - 1) with
                 ip := ((s.frames.modify s.curFrame clearF)[s.curFrame - 1]!).ip } := by
  have e1 : (s.frameIndex - 2).toNat = s.curFrame - 1 := by omega
  have e2 : s.frameIndex - 1 = ((s.curFrame - 1 : Nat) : Int) + 1 := by omega
  unfold popped toFrame
  rw [e1, e2]

def retClear (hi bp : Int) : M Ctl := do
  clearDown hi bp
  setSp bp
  retTail

def retRest (numRet : Nat) (discard : Bool) (bp : Int) : M Ctl := do
  let sp ← getSp
  if numRet == 1 && !discard then
    stackSet (bp - 1) (← stackGet (sp - 1))
  else
    stackSet (bp - 1) .undefined
  retClear (sp - 1) bp

theorem execReturn_rest : execReturn = (do
    let numRet ← opnd1 1
    let f ← curFrame
    if f.bp == 0 then
      match f.fn with
      | none => do
        let _ ← (panic "runtime error: invalid memory address or nil pointer dereference" : M Unit)
        retRest numRet f.discard f.bp
      | some fa => do
        let x ← fnCell fa
        retRest numRet f.discard ((x.1.numLocals : Int) + 1)
    else retRest numRet f.discard f.bp) := rfl

def retHead : M Unit := do
  let numRet ← opnd1 1
  let f ← curFrame
  let mut bp := f.bp
  if bp == 0 then
    match f.fn with
    | none => panic "runtime error: invalid memory address or nil pointer dereference"
    | some fa => bp := ((← fnCell fa).1.numLocals : Int) + 1
  let sp ← getSp
  if numRet == 1 && !f.discard then
    stackSet (bp - 1) (← stackGet (sp - 1))
  else
    stackSet (bp - 1) .undefined
  clearDown (sp - 1) bp
  setSp bp

theorem execReturn_eq : execReturn = retHead >>= fun _ => retTail := by
  unfold execReturn retHead retTail
  simp only [bind_assoc, panic_bind]
  congr 1; funext numRet; congr 1; funext f
  by_cases hb : (f.bp == 0) = true
  · simp only [hb, if_true]
    cases hf : f.fn with
    | none => simp only [panic_bind]
    | some fa =>
      simp only [bind_assoc]
      congr 1; funext c; congr 1; funext sp
      by_cases hr : (numRet == 1 && !f.discard) = true
      · simp only [hr, if_true, bind_assoc]; rfl
      · simp only [hr, Bool.false_eq_true, if_false, bind_assoc]; rfl
  · simp only [hb, Bool.false_eq_true, if_false, bind_assoc]
    congr 1; funext sp
    by_cases hr : (numRet == 1 && !f.discard) = true
    · simp only [hr, if_true, bind_assoc]; rfl
    · simp only [hr, Bool.false_eq_true, if_false, bind_assoc]; rfl

instance {R : State → State → Prop} [SpRel R] : Pres R retHead := by unfold retHead; pres

/-
  `throwF` is tail recursive on its fuel.  One unfolding is `throwK k` with the recursive call
  abstracted as `k`: `throwPre` finds the frame that handles the error and makes it current,
  `handlePre` stores the error in that frame's innermost handler and jumps to its catch or finally
  block, or pops the consumed handler and asks for another round. -/

/-- the jump of `handleThrownError` to a catch or finally block -/
def landAt (ip hsp : Int) : M (Option (Option Addr)) := do
  setIp ip
  let sp ← getSp
  if sp ≥ hsp then clearDown sp hsp
  setSp hsp
  return some none

/-- `handleThrownError` up to its call of `throw`; `none`: the handler is used up and popped, throw again -/
def handlePre (err : Addr) : M (Option (Option Addr)) := do
  setCurFrame fun f => setLast f fun h => { h with err := some err }
  let f ← curFrame
  match lastHandler f with
  | none => panic "runtime error: invalid memory address or nil pointer dereference"
  | some h =>
    if h.catch_ > 0 then landAt (h.catch_ - 1) h.sp
    else if h.finally_ > 0 then landAt (h.finally_ - 1) h.sp
    else
      setCurFrame popHandler
      return none

instance {R : State → State → Prop} [FrameRel R] (err : Addr) : Pres R (handlePre err) := by unfold handlePre landAt; pres

def marked (err : Addr) (s : State) : State :=
  { s with frames := s.frames.modify s.curFrame fun f => setLast f fun h => { h with err := some err } }

theorem exec_handlePre (err : Addr) (s : State) :
    exec (handlePre err) s =
      match lastHandler ((marked err s).frames[s.curFrame]!) with
      | none => (.error (.panic "runtime error: invalid memory address or nil pointer dereference"), marked err s)
      | some h =>
        if h.catch_ > 0 then exec (landAt (h.catch_ - 1) h.sp) (marked err s)
        else if h.finally_ > 0 then exec (landAt (h.finally_ - 1) h.sp) (marked err s)
        else (.ok none, { marked err s with frames := (marked err s).frames.modify s.curFrame popHandler }) := by
  simp only [handlePre, marked, exec_bind, exec_setCurFrame, exec_curFrame]
  cases lastHandler ((s.frames.modify s.curFrame fun f => setLast f fun h => { h with err := some err })[s.curFrame]!) with
  | none => rfl
  | some h =>
    dsimp only
    by_cases hc : h.catch_ > 0
    · rw [if_pos hc, if_pos hc]
    · rw [if_neg hc, if_neg hc]
      by_cases hf : h.finally_ > 0
      · rw [if_pos hf, if_pos hf]
      · rw [if_neg hf, if_neg hf]; rfl

/-- `ip` is in front of the handler's catch block or, that one consumed, its finally block -/
def AtBlock (h : Handler) (ip : Int) : Prop :=
  (0 < h.catch_ ∧ ip = h.catch_ - 1) ∨ (¬ 0 < h.catch_ ∧ 0 < h.finally_ ∧ ip = h.finally_ - 1)

/-- The ways `handlePre err` can end from `s`, as `ThrowPreTo` lists those of `throwPre`; `land` ends as the jump does. -/
inductive HandlePreTo (err : Addr) (s : State) : Except Exc (Option (Option Addr)) × State → Prop
  | nil (m : String) (hl : lastHandler ((marked err s).frames[s.curFrame]!) = none) :
      HandlePreTo err s (.error (.panic m), marked err s)
  | land (h : Handler) (hl : lastHandler ((marked err s).frames[s.curFrame]!) = some h) (ip : Int) (hip : AtBlock h ip)
      (r : Except Exc (Option (Option Addr))) (t : State) (e : exec (landAt ip h.sp) (marked err s) = (r, t)) :
      HandlePreTo err s (r, t)
  | consumed (h : Handler) (hl : lastHandler ((marked err s).frames[s.curFrame]!) = some h) (hc : ¬ 0 < h.catch_)
      (hf : ¬ 0 < h.finally_) :
      HandlePreTo err s (.ok none, { marked err s with frames := (marked err s).frames.modify s.curFrame popHandler })

theorem handlePre_to (err : Addr) (s : State) : HandlePreTo err s (exec (handlePre err) s) := by
  rw [exec_handlePre]
  cases hl : lastHandler ((marked err s).frames[s.curFrame]!) with
  | none => exact .nil _ hl
  | some h =>
    dsimp only
    by_cases hc : h.catch_ > 0
    · rw [if_pos hc]; exact .land h hl _ (.inl ⟨hc, rfl⟩) _ _ rfl
    rw [if_neg hc]
    by_cases hf : h.finally_ > 0
    · rw [if_pos hf]; exact .land h hl _ (.inr ⟨hc, hf, rfl⟩) _ _ rfl
    rw [if_neg hf]; exact .consumed h hl hc hf

def handleK (k : M (Option Addr)) (err : Addr) : M (Option Addr) := do
  match (← handlePre err) with
  | some r => pure r
  | none => k

/-- `throw` up to its call of `handleThrownError`; `none`: the handling frame is current, go on there -/
def throwPre (err : Addr) : M (Option (Option Addr)) := do
  let cf ← curFrame
  if hasHandler cf then
    return none
  else
    let s ← getS
    let found? ← searchFrames (s.frameIndex - 1).toNat
    let index : Int ← (match found? with
      | some i => pure (i : Int)
      | none => pure (-1))
    if found?.isNone then
      return some (some err)
    modS fun s => { s with frameIndex := index + 1, curFrame := index.toNat }
    let f ← curFrame
    match f.fn with
    | none => panic "runtime error: invalid memory address or nil pointer dereference"
    | some _ => pure ()
    setIp f.ip
    return none

def throwK (k : M (Option Addr)) (err : Addr) : M (Option Addr) := do
  match (← throwPre err) with
  | some r => pure r
  | none => handleK k err

theorem handle_eq (fuel : Nat) (err : Addr) : throwF.handle fuel err = handleK (throwF fuel err) err := by
  unfold throwF.handle handleK handlePre landAt
  simp only [bind_assoc]
  congr 1; funext _; congr 1; funext f
  cases hl : lastHandler f with
  | none => simp only [panic_bind]
  | some h =>
    simp only
    by_cases h1 : h.catch_ > 0
    · simp only [h1, if_true, bind_assoc]
      congr 1; funext _; congr 1; funext sp
      by_cases hs : sp ≥ h.sp <;> simp [hs, bind_assoc]
    · by_cases h2 : h.finally_ > 0
      · simp only [h1, h2, if_true, if_false, bind_assoc]
        congr 1; funext _; congr 1; funext sp
        by_cases hs : sp ≥ h.sp <;> simp [hs, bind_assoc]
      · simp [h1, h2]

theorem throwF_succ (fuel : Nat) (err : Addr) : throwF (fuel + 1) err = throwK (throwF fuel err) err := by
  rw [throwF]
  unfold throwK throwPre
  simp only [bind_assoc, handle_eq]
  congr 1; funext cf
  by_cases hh : hasHandler cf = true
  · simp [hh]
  · simp only [hh, Bool.false_eq_true, if_false, bind_assoc]
    congr 1; funext s; congr 1; funext found?
    cases found? with
    | none => simp
    | some i =>
      simp only [pure_bind, Option.isNone_some, Bool.false_eq_true, if_false, bind_assoc]
      congr 1; funext _; congr 1; funext f
      cases f.fn <;> simp

/-- The fuel recursion of `throwF`, once for the unary judgements.  `X n`: where a round starts with fuel `n`; `Y n`:
    between `throwPre` and `handlePre` of a round that leaves fuel `n`.  For an invariant both are the invariant at every
    `n`; C06 counts the handlers left against the fuel (Proofs/VMThrow.lean). -/
theorem Hq.throwF {X Y : Nat → State → Prop} {Q : Option Addr → State → Prop} {E : Exc → State → Prop} {err : Addr}
    (hpre : ∀ n, Hq (X (n + 1)) (fun r s => match r with | none => Y n s | some r' => Q r' s) E (throwPre err))
    (hhandle : ∀ n, Hq (Y n) (fun r s => match r with | none => X n s | some r' => Q r' s) E (handlePre err))
    (h0 : ∀ m s, X 0 s → E (.unsupported m) s) : ∀ fuel : Nat, Hq (X fuel) Q E (throwF fuel err)
  | 0 => by rw [VM.throwF]; exact Hq.unsupported _ (h0 _)
  | fuel + 1 => by
    rw [throwF_succ]
    unfold throwK handleK
    refine Hq.bind (hpre fuel) fun r => ?_
    cases r with
    | some r' => exact Hq.pure fun _ h => h
    | none =>
      refine Hq.bind (hhandle fuel) fun r => ?_
      cases r with
      | some r' => exact Hq.pure fun _ h => h
      | none => exact Hq.throwF hpre hhandle h0 fuel

def searchedS (s : State) : State := { s with frames := (searched s.frames (s.frameIndex - 1).toNat).2 }

def resumed (s : State) (i : Nat) : State := { toFrame (searchedS s) i with ip := (s.frames[i]!).ip }

theorem exec_throwPre (err : Addr) (s : State) :
    exec (throwPre err) s =
      if hasHandler (s.frames[s.curFrame]!) = true then (.ok none, s) else
      if (s.frameIndex - 1).toNat > frameSize then
        (.error (.panic s!"runtime error: index out of range [{(s.frameIndex - 1).toNat - 1}] with length {frameSize}"), s)
      else
        match (searched s.frames (s.frameIndex - 1).toNat).1 with
        | none => (.ok (some (some err)), searchedS s)
        | some i =>
          match (s.frames[i]!).fn with
          | none => (.error (.panic "runtime error: invalid memory address or nil pointer dereference"),
              toFrame (searchedS s) i)
          | some _ => (.ok none, resumed s i) := by
  simp only [throwPre, exec_bind, exec_curFrame]
  by_cases hh : hasHandler (s.frames[s.curFrame]!) = true
  · simp only [hh, if_true, exec_pure]
  · simp only [hh, Bool.false_eq_true, if_false, exec_bind, exec_getS, exec_searchFrames]
    by_cases hn : (s.frameIndex - 1).toNat > frameSize
    · simp only [hn, if_true]
    · simp only [hn, if_false]
      cases hr : (searched s.frames (s.frameIndex - 1).toNat).1 with
      | none => simp only [exec_pure, Option.isNone_none, if_true]; rfl
      | some i =>
        simp only [exec_pure, exec_bind, Option.isNone_some, Bool.false_eq_true, if_false, exec_modS,
          exec_curFrame, Int.toNat_natCast]
        rw [(searched_some hr).2.2]
        cases (s.frames[i]!).fn with
        | none => rfl
        | some a => rfl

/-- The ways `throwPre err` can end from `s`, each with the facts that led there: a specification of `throwPre` is
    proved by `cases` on `throwPre_to` (`Hq.of_cases`), without splitting `exec_throwPre` again. -/
inductive ThrowPreTo (err : Addr) (s : State) : Except Exc (Option (Option Addr)) × State → Prop
  | here (h : hasHandler (s.frames[s.curFrame]!) = true) : ThrowPreTo err s (.ok none, s)
  | range (m : String) (h : ¬ hasHandler (s.frames[s.curFrame]!) = true) (hn : (s.frameIndex - 1).toNat > frameSize) :
      ThrowPreTo err s (.error (.panic m), s)
  | unhandled (h : ¬ hasHandler (s.frames[s.curFrame]!) = true) (hn : (s.frameIndex - 1).toNat ≤ frameSize)
      (hr : (searched s.frames (s.frameIndex - 1).toNat).1 = none) : ThrowPreTo err s (.ok (some (some err)), searchedS s)
  | nilFn (m : String) (h : ¬ hasHandler (s.frames[s.curFrame]!) = true) (hn : (s.frameIndex - 1).toNat ≤ frameSize) (i : Nat)
      (hr : (searched s.frames (s.frameIndex - 1).toNat).1 = some i) (hf : (s.frames[i]!).fn = none) :
      ThrowPreTo err s (.error (.panic m), toFrame (searchedS s) i)
  | found (h : ¬ hasHandler (s.frames[s.curFrame]!) = true) (hn : (s.frameIndex - 1).toNat ≤ frameSize) (i : Nat)
      (hr : (searched s.frames (s.frameIndex - 1).toNat).1 = some i) (a : Addr) (hf : (s.frames[i]!).fn = some a) :
      ThrowPreTo err s (.ok none, resumed s i)

theorem throwPre_to (err : Addr) (s : State) : ThrowPreTo err s (exec (throwPre err) s) := by
  rw [exec_throwPre]
  by_cases hh : hasHandler (s.frames[s.curFrame]!) = true
  · rw [if_pos hh]; exact .here hh
  rw [if_neg hh]
  by_cases hn : (s.frameIndex - 1).toNat > frameSize
  · rw [if_pos hn]; exact .range _ hh hn
  rw [if_neg hn]
  cases hr : (searched s.frames (s.frameIndex - 1).toNat).1 with
  | none => exact .unhandled hh (Nat.le_of_not_gt hn) hr
  | some i =>
    dsimp only
    cases hf : (s.frames[i]!).fn with
    | none => exact .nilFn _ hh (Nat.le_of_not_gt hn) i hr hf
    | some a => exact .found hh (Nat.le_of_not_gt hn) i hr a hf

def finalizerRest (fuel : Nat) (upto : Int) : M Ctl := do
  let pos ← findFinally fuel upto
  if pos ≤ 0 then
    bumpIp 1; return .next
  let ip ← getIp
  let sp ← getSp
  setCurFrame fun f => setLast f fun h => { h with returnTo := ip, sp := sp, err := none }
  setIp (pos - 1); return .next

theorem execFinalizer_eq : execFinalizer = (do
    let upto ← opnd1 1
    let f ← curFrame
    finalizerRest (nhl f + 2) upto) := rfl

/-- what every throwing instruction does with the result of `throw` -/
def finishThrow (r : Option Addr) : M Ctl :=
  match r with
  | none => pure .next
  | some a => do modS (fun s => { s with err := some (.rt a) }); pure .ret

def throwNow (e : Addr) : M Ctl := do
  let n ← throwFuel
  let r ← throwF n e
  finishThrow r

theorem failWith_eq (e : OpErr) : failWith e = (rtErrOfOpErr e >>= throwNow) := by
  unfold failWith throwGenErr throwNow
  simp only [bind_assoc]
  congr 1; funext ra
  congr 1; funext n
  congr 1; funext r
  cases r <;> simp [finishThrow]

end UgoVerif.VM

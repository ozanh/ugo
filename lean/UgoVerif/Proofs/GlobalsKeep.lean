import UgoVerif.Proofs.VMImmut
/-
  C14: no instruction assigns the field `vm.globals` (the globals OBJECT may be mutated in the
  heap; the field keeps pointing to it): `GlobIs G` is inert, see Proofs/VMImmut.lean.
-/
namespace UgoVerif.VM
open UgoVerif UgoVerif.Go
variable {G : V}

theorem gkeeps_step (F : FloatOps) : Keeps (GlobIs G) (step F) := GlobIs.inert.keeps

theorem gkeeps_callCompiled (fa : Addr) (na fl : Int) : Keeps (GlobIs G) (callCompiled fa na fl) :=
  GlobIs.inert.keeps

end UgoVerif.VM

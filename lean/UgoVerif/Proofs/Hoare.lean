import UgoVerif.Proofs.Frame
/-
  The Hoare judgement over `M`: `Hq X Q E m` — from a state satisfying `X`, `m` ends with a value `a` in a
  state satisfying `Q a`, or abnormally (Go panic, outside the model) with `e` in a state satisfying `E e`.
  The invariant judgements of the analyses (`Keeps`, `CsTr`, `Tq`, `Tr`) are `Hq` with particular
  postconditions (`iff_hq` next to each); C06 is proved in it directly.
-/
namespace UgoVerif.VM
open UgoVerif UgoVerif.Go
open UgoVerif.Proofs.ModCache (exec exec_bind)

def Hq {α} (X : State → Prop) (Q : α → State → Prop) (E : Exc → State → Prop) (m : M α) : Prop :=
  ∀ s, X s → match exec m s with
    | (.ok a, s') => Q a s'
    | (.error e, s') => E e s'

namespace Hq
variable {α β : Type} {X : State → Prop} {Q : α → State → Prop} {E : Exc → State → Prop}

theorem elim {m : M α} (h : Hq X Q E m) {s t : State} {r : Except Exc α} (hs : X s) (e : exec m s = (r, t)) :
    match (generalizing := false) r with
    | .ok a => Q a t
    | .error x => E x t := by
  have := h s hs
  rw [e] at this
  cases r <;> exact this

theorem elim_ok {m : M α} (h : Hq X Q E m) {s s' : State} {a : α} (hs : X s) (e : exec m s = (.ok a, s')) : Q a s' :=
  h.elim hs e

theorem elim_err {m : M α} (h : Hq X Q E m) {s s' : State} {x : Exc} (hs : X s) (e : exec m s = (.error x, s')) :
    E x s' := h.elim hs e

/-- in terms of the run `m.run.run s`, in which the properties are stated -/
theorem run {m : M α} (h : Hq X Q E m) (s : State) (hs : X s) :
    (∀ a s', m.run.run s = (.ok a, s') → Q a s') ∧ (∀ e s', m.run.run s = (.error e, s') → E e s') :=
  ⟨fun _ _ e => h.elim_ok hs e, fun _ _ e => h.elim_err hs e⟩

theorem pure {a : α} (h : ∀ s, X s → Q a s) : Hq X Q E (Pure.pure a : M α) := fun s hs => h s hs

theorem throw {e : Exc} (h : ∀ s, X s → E e s) : Hq X Q E (MonadExcept.throw e : M α) := fun s hs => h s hs

theorem panic (msg : String) (h : ∀ s, X s → E (.panic msg) s) : Hq X Q E (VM.panic msg : M α) := throw h

theorem unsupported (msg : String) (h : ∀ s, X s → E (.unsupported msg) s) : Hq X Q E (VM.unsupported msg : M α) :=
  throw h

theorem bind {R : β → State → Prop} {m : M β} {f : β → M α} (hm : Hq X R E m) (hf : ∀ b, Hq (R b) Q E (f b)) :
    Hq X Q E (m >>= f) := by
  intro s hs
  have h := hm s hs
  rw [exec_bind]
  rcases h1 : exec m s with ⟨r, s1⟩
  rw [h1] at h
  cases r with
  | ok b => exact hf b s1 h
  | error e => exact h

theorem conseq {X' : State → Prop} {Q' : α → State → Prop} {E' : Exc → State → Prop} {m : M α} (h : Hq X Q E m)
    (hX : ∀ s, X' s → X s) (hQ : ∀ a s, Q a s → Q' a s) (hE : ∀ e s, E e s → E' e s) : Hq X' Q' E' m := by
  intro s hs
  have := h s (hX s hs)
  rcases h1 : exec m s with ⟨r, s1⟩
  rw [h1] at this
  cases r with
  | ok b => exact hQ b s1 this
  | error e => exact hE e s1 this

theorem pre {X' : State → Prop} {m : M α} (h : Hq X Q E m) (hX : ∀ s, X' s → X s) : Hq X' Q E m :=
  fun s hs => h s (hX s hs)

theorem post {Q' : α → State → Prop} {m : M α} (h : Hq X Q E m) (hQ : ∀ a s, Q a s → Q' a s) : Hq X Q' E m :=
  h.conseq (fun _ h => h) hQ (fun _ _ h => h)

theorem conj {X1 X2 : State → Prop} {Q1 Q2 : α → State → Prop} {E1 E2 : Exc → State → Prop} {m : M α}
    (h1 : Hq X1 Q1 E1 m) (h2 : Hq X2 Q2 E2 m) :
    Hq (fun s => X1 s ∧ X2 s) (fun a s => Q1 a s ∧ Q2 a s) (fun e s => E1 e s ∧ E2 e s) m := by
  intro s hs
  have a := h1 s hs.1
  have b := h2 s hs.2
  generalize exec m s = x at a b ⊢
  obtain ⟨r, s'⟩ := x
  cases r <;> exact ⟨a, b⟩

theorem assume {m : M α} (h : ∀ s0, X s0 → Hq (fun s => s = s0) Q E m) : Hq X Q E m :=
  fun s hs => h s hs s rfl

theorem ofFalse {m : M α} : Hq (fun _ => False) Q E m := fun _ h => h.elim

theorem ite {c : Prop} [Decidable c] {a b : M α} (ha : c → Hq X Q E a) (hb : ¬ c → Hq X Q E b) :
    Hq X Q E (if c then a else b) := by
  split
  · exact ha ‹_›
  · exact hb ‹_›

theorem getS_bind {f : State → M α} (hf : ∀ s0, Hq (fun s => X s ∧ s = s0) Q E (f s0)) : Hq X Q E (getS >>= f) := by
  intro s hs
  rw [exec_bind]
  exact hf s s ⟨hs, rfl⟩

theorem modS {f : State → State} {Q : Unit → State → Prop} (h : ∀ s, X s → Q () (f s)) : Hq X Q E (VM.modS f) :=
  fun s hs => h s hs

theorem frame {R : State → State → Prop} {m : M α} (hm : ∀ s, R s (exec m s).2)
    (hQ : ∀ a s s', X s → R s s' → Q a s') (hE : ∀ e s s', X s → R s s' → E e s') : Hq X Q E m := by
  intro s hs
  have := hm s
  rcases hx : exec m s with ⟨r, s1⟩
  rw [hx] at this
  cases r with
  | ok b => exact hQ b s s1 hs this
  | error e => exact hE e s s1 hs this

theorem data_bind {R : State → State → Prop} {m : M β} {f : β → M α} (hm : ∀ s, R s (exec m s).2)
    (hX : ∀ s t, X s → R s t → X t) (hE : ∀ e s, X s → E e s) (hf : ∀ b, Hq X Q E (f b)) : Hq X Q E (m >>= f) :=
  bind (frame hm (fun _ s t h r => hX s t h r) fun e s t h r => hE e t (hX s t h r)) hf

/-- `m` is known by the ways it can end from `s` (`R s`: a closed form of `exec m s`, or an inductive relation
    that lists them): the specification is proved for each -/
theorem of_cases {R : State → Except Exc α × State → Prop} {m : M α} (hm : ∀ s, R s (exec m s))
    (h : ∀ s, X s → ∀ r t, R s (r, t) → match r with
      | .ok a => Q a t
      | .error e => E e t) : Hq X Q E m := by
  intro s hs
  rcases hx : exec m s with ⟨r, t⟩
  have := h s hs r t (hx ▸ hm s)
  cases r <;> exact this

theorem forIn_list {γ : Type} {J I : β → State → Prop} (l : List γ) (init : β) (f : γ → β → M (ForInStep β))
    (hf : ∀ a, a ∈ l → ∀ b, Hq (J b) (fun r s => match r with | .yield b' => J b' s | .done b' => I b' s) E (f a b))
    (hJ : ∀ b s, J b s → I b s) : Hq (J init) I E (forIn l init f) := by
  induction l generalizing init with
  | nil => exact Hq.pure fun s h => hJ _ s h
  | cons a as ih =>
    rw [List.forIn_cons]
    refine Hq.bind (hf a (by simp) init) fun x => ?_
    cases x with
    | done b => exact Hq.pure fun _ h => h
    | yield b => exact ih b fun a ha => hf a (by simp [ha])

theorem forIn_range {J I : β → State → Prop} (r : Std.Legacy.Range) (init : β) (f : Nat → β → M (ForInStep β))
    (hf : ∀ a b, Hq (J b) (fun r s => match r with | .yield b' => J b' s | .done b' => I b' s) E (f a b))
    (hJ : ∀ b s, J b s → I b s) : Hq (J init) I E (forIn r init f) := by
  rw [Std.Legacy.Range.forIn_eq_forIn_range']
  exact forIn_list _ _ _ (fun a _ => hf a) hJ

theorem forIn_upto {J I : β → State → Prop} (n : Nat) (init : β) (f : Nat → β → M (ForInStep β))
    (hf : ∀ a, a < n → ∀ b, Hq (J b) (fun r s => match r with | .yield b' => J b' s | .done b' => I b' s) E (f a b))
    (hJ : ∀ b s, J b s → I b s) : Hq (J init) I E (forIn [:n] init f) := by
  rw [Std.Legacy.Range.forIn_eq_forIn_range']
  refine forIn_list _ _ _ (fun a ha => hf a ?_) hJ
  simp [Std.Legacy.Range.size, List.mem_range'] at ha
  omega

theorem modS_bind {g : State → State} {Y : State → Prop} {f : Unit → M α} (hY : ∀ s, X s → Y (g s))
    (hf : Hq Y Q E (f ())) : Hq X Q E (VM.modS g >>= f) := by
  intro s hs
  rw [exec_bind]
  exact hf _ (hY s hs)

theorem getSp_bind_of {v : Int} {f : Int → M α} (hv : ∀ s, X s → s.sp = v) (hf : Hq X Q E (f v)) :
    Hq X Q E (getSp >>= f) := by
  intro s hs
  rw [exec_bind, show exec getSp s = (.ok s.sp, s) from rfl, hv s hs]
  exact hf s hs

theorem getIp_bind_of {v : Int} {f : Int → M α} (hv : ∀ s, X s → s.ip = v) (hf : Hq X Q E (f v)) :
    Hq X Q E (getIp >>= f) := by
  intro s hs
  rw [exec_bind, show exec getIp s = (.ok s.ip, s) from rfl, hv s hs]
  exact hf s hs

theorem curFrame_bind {f : Frame → M α} (hf : ∀ fr, Hq (fun s => X s ∧ s.frames[s.curFrame]! = fr) Q E (f fr)) :
    Hq X Q E (VM.curFrame >>= f) := by
  intro s hs
  rw [exec_bind]
  exact hf _ s ⟨hs, rfl⟩

end Hq
end UgoVerif.VM

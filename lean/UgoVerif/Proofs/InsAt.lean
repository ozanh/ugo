import UgoVerif.Proofs.Fetch
import UgoVerif.Proofs.CompileWalk
/-
  An instruction at a position of a byte stream, said once for the compiler that encodes it and the VM that decodes
  it.  `InsAt a p op w x`: the opcode byte `op` stands at `p`, its `w` operand bytes are there, and `x` is their
  big-endian value as the compile model reads it back (`Compile.readBE`; `w = 0` and `x = 0` for an instruction
  without operand).  The compile side has it wherever the bytes `makeInstruction` returned sit (`InsAt.of_inst`, over
  `inst_read`); on the VM side `opnd1/2/4` return `x` (`exec_opnd1_at` …), because Go's or/shift reads are `readBE`
  (`rd2_readBE`, `rd4_readBE`).
-/
namespace UgoVerif.Compile
open UgoVerif UgoVerif.Go UgoVerif.VM UgoVerif.Proofs.ModCache
open UgoVerif.VM.Reloc (rd2 rd4)

theorem getElem?_of_lt (a : Array UInt8) {k : Nat} (hk : k < a.size) : a[k]? = some a[k]! := by
  rw [getElem!_pos a k hk]; exact Array.getElem?_eq_getElem hk

theorem readBE_byte {a : Array UInt8} {i : Nat} (h : i < a.size) : readBE a i 1 = (a[i]!).toNat :=
  readBE_one (getElem?_of_lt a h)

/-- Go's `int(b1) | int(b0)<<8` of two bytes that are there is the big-endian value the scan reads -/
theorem rd2_readBE (a : Array UInt8) (i : Nat) (h : i + 1 < a.size) : rd2 a i = readBE a i 2 := by
  rw [readBE_take (bs := [a[i]!, a[i + 1]!]) (Nat.le_refl 2) fun k hk => by
    match k, hk with
    | 0, _ => exact getElem?_of_lt a (by omega)
    | 1, _ => exact getElem?_of_lt a h]
  exact Proofs.Bytecode.or2_beVal _ _

/-- Go's `int(b3) | int(b2)<<8 | …` of four bytes that are there, likewise -/
theorem rd4_readBE (a : Array UInt8) (i : Nat) (h : i + 3 < a.size) : rd4 a i = readBE a i 4 := by
  rw [readBE4_bytes (getElem?_of_lt a (by omega)) (getElem?_of_lt a (by omega)) (getElem?_of_lt a (by omega))
    (getElem?_of_lt a h)]
  exact Proofs.Bytecode.or4_beVal _ _ _ _

def InsAt (a : Array UInt8) (p op w x : Nat) : Prop :=
  p + w < a.size ∧ (a[p]!).toNat = op ∧ readBE a (p + 1) w = x

/-- the bytes `makeInstruction op args` returned, wherever they sit, decode to `op` and `args` -/
theorem InstAt.decode {a : Array UInt8} {p op : Nat} {args : List Int} {bs : List UInt8} (hop : op < numOpcodes)
    (hm : makeInstruction op args = .ok bs) (hat : InstAt a p bs) :
    p + opWidth op < a.size ∧ (a[p]!).toNat = op ∧ args = readArgs a (p + 1) (operandWidths op) := by
  obtain ⟨rest, rfl, hl⟩ := makeInstruction_ok hm
  have h0 := hat 0 (Nat.succ_pos _)
  have hin : opWidth op < (UInt8.ofNat op :: rest).length := by rw [List.length_cons, hl]; exact Nat.lt_succ_self _
  have hlt : p + opWidth op < a.size :=
    (Array.getElem?_eq_some_iff.mp ((hat _ hin).trans (List.getElem?_eq_getElem hin))).1
  refine ⟨hlt, ?_, inst_read hm hat⟩
  rw [Nat.add_zero, getElem?_of_lt a (by omega)] at h0
  rw [Option.some.inj h0]
  exact toNat_ofNat_op hop

theorem InsAt.of_inst {a : Array UInt8} {p op w x : Nat} {bs : List UInt8} (hw : operandWidths op = [w])
    (hop : op < numOpcodes) (hm : makeInstruction op [(x : Int)] = .ok bs) (hat : InstAt a p bs) : InsAt a p op w x := by
  obtain ⟨h1, h2, h3⟩ := InstAt.decode hop hm hat
  rw [hw] at h3
  exact ⟨by simpa [opWidth, hw] using h1, h2, (Int.ofNat.inj (List.head_eq_of_cons_eq h3)).symm⟩

theorem InsAt.of_inst0 {a : Array UInt8} {p op : Nat} {bs : List UInt8} (hw : operandWidths op = [])
    (hop : op < numOpcodes) (hm : makeInstruction op [] = .ok bs) (hat : InstAt a p bs) : InsAt a p op 0 0 := by
  obtain ⟨h1, h2, -⟩ := InstAt.decode hop hm hat
  exact ⟨by simpa [opWidth, hw] using h1, h2, rfl⟩

theorem InsAt.congr {a a' : Array UInt8} {p op w x : Nat} (h : InsAt a p op w x)
    (he : ∀ k, k ≤ w → a'[p + k]? = a[p + k]?) : InsAt a' p op w x := by
  obtain ⟨h1, h2, h3⟩ := h
  have hlt : p + w < a'.size := (Array.getElem?_eq_some_iff.mp ((he w (Nat.le_refl _)).trans (getElem?_of_lt a h1))).1
  refine ⟨hlt, ?_, ?_⟩
  · have := he 0 (Nat.zero_le _)
    rw [Nat.add_zero, getElem?_of_lt a (by omega), getElem?_of_lt a' (by omega)] at this
    rw [Option.some.inj this]; exact h2
  · rw [readBE_congr (a := a) fun k hk => by rw [Nat.add_assoc, Nat.add_comm 1 k]; exact he (k + 1) (by omega)]
    exact h3

/-- the opcode and the operand of a two-byte instruction, as bytes -/
theorem InsAt.bytes {a : Array UInt8} {p op x : Nat} (h : InsAt a p op 1 x) :
    ∃ b0 b1 : UInt8, a[p]? = some b0 ∧ b0.toNat = op ∧ a[p + 1]? = some b1 ∧ b1.toNat = x :=
  ⟨_, _, getElem?_of_lt a (by have := h.1; omega), h.2.1, getElem?_of_lt a h.1, by rw [← readBE_byte h.1]; exact h.2.2⟩

theorem InsAt.of_bytes {a : Array UInt8} {p : Nat} {b0 b1 : UInt8} (h0 : a[p]? = some b0) (h1 : a[p + 1]? = some b1) :
    InsAt a p b0.toNat 1 b1.toNat := by
  have hlt := (Array.getElem?_eq_some_iff.mp h1).1
  rw [getElem?_of_lt a (by omega)] at h0
  exact ⟨hlt, by rw [Option.some.inj h0], readBE_one h1⟩

end UgoVerif.Compile

/-! ### what the VM reads there: the current frame runs `code`, `ip` stands on the opcode -/

namespace UgoVerif.Proofs.Fetch
open UgoVerif UgoVerif.Go UgoVerif.VM UgoVerif.Proofs.ModCache
open UgoVerif.Compile (InsAt readBE_byte rd2_readBE rd4_readBE)

variable {s : State} {code : Code} {p op x : Nat}

theorem exec_opnd1_at (hc : exec curCode s = (.ok code, s)) (hip : s.ip = (p : Int)) (hat : InsAt code.insts p op 1 x) :
    exec (opnd1 1) s = (.ok x, s) := by
  rw [exec_opnd1_ok hc p hip 1 1 rfl hat.1, ← readBE_byte hat.1, hat.2.2]

theorem exec_opnd2_at (hc : exec curCode s = (.ok code, s)) (hip : s.ip = (p : Int)) (hat : InsAt code.insts p op 2 x) :
    exec (opnd2 1) s = (.ok x, s) := by
  rw [exec_opnd2_ok hc p hip 1 1 rfl hat.1, rd2_readBE _ _ hat.1, hat.2.2]

theorem exec_opnd4_at (hc : exec curCode s = (.ok code, s)) (hip : s.ip = (p : Int)) (hat : InsAt code.insts p op 4 x) :
    exec (opnd4 1) s = (.ok x, s) := by
  rw [exec_opnd4_ok hc p hip 1 1 rfl hat.1, rd4_readBE _ _ hat.1, hat.2.2]

end UgoVerif.Proofs.Fetch

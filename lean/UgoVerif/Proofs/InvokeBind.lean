import UgoVerif.Proofs.EvalLocals
import UgoVerif.Proofs.CallBind
/-
  C14, parameter binding: what `xOpCallCompiled` without spread (in-script call, frame k / base bp)
  leaves in the callee's `NumLocals` slots, computed slot by slot for the MONADIC model function:
  `callCompiled_slots`, for the accepted argument counts (the others are the two arity errors of
  Props/C02).  The slots are `bindSlot`, the description it shares with `initLocals` (the Go-side
  call, child VM, frame 0 / base 0: `initLocals_slots` in Proofs/EvalLocals).
-/
namespace UgoVerif.Proofs.InvokeBind
open UgoVerif UgoVerif.Go UgoVerif.VM UgoVerif.Proofs.ModCache UgoVerif.Proofs.EvalLocals
open UgoVerif.Props.C02 UgoVerif.Proofs.VMExec

/-- the argument counts `xOpCallCompiled` accepts without spread -/
def accepted (np : Nat) (variadic : Bool) (n : Nat) : Prop :=
  if variadic then 1 ≤ np ∧ np - 1 ≤ n else n = np

theorem args_on_stack (s : State) (args : List V) (hargs : argsOnStack s args.length = args)
    (j : Nat) (hj : j < args.length) :
    s.stack[(s.sp - args.length).toNat + j]? = some (args.getD j .undefined) := by
  have h1 : args[j]? = s.stack[(s.sp - args.length).toNat + j]? := by
    conv => lhs; rw [← hargs]
    unfold argsOnStack
    rw [List.getElem?_take]
    simp [hj, List.getElem?_drop]
  rw [← h1]
  simp [List.getD, List.getElem?_eq_getElem hj]

theorem callCompiled_slots (fa : Addr) (args : List V) (s : State) (code : Code) (free : Option (List Addr)) (b : Nat)
    (hcell : exec (fnCell fa) s = (.ok (code, free), s))
    (hargs : argsOnStack s args.length = args)
    (hacc : accepted code.numParams code.variadic args.length)
    (hself : (s.frames[s.curFrame]!).fn ≠ some fa)
    (hfi : 0 ≤ s.frameIndex ∧ s.frameIndex + 1 ≤ (frameSize : Int) - 1)
    (hb : s.sp - args.length = b) (hsp : s.sp ≤ (stackSize : Int))
    (hroom : s.sp - args.length + code.numLocals ≤ (stackSize : Int))
    (hnl : code.numParams ≤ code.numLocals) (hsz : s.stack.size = stackSize) :
    ∃ st', exec (callCompiled fa args.length 0) s = (.ok (.ok ()),
        { s with heap := bindHeap code.numParams code.variadic args s.heap, stack := st',
                 frameIndex := s.frameIndex + 1,
                 frames := (s.frames.modify s.curFrame fun f => { f with ip := s.ip + 2 }).modify s.frameIndex.toNat fun f =>
                    { f with fn := some fa, free := free, handlers := none, bp := s.sp - args.length, discard := false },
                 curFrame := s.frameIndex.toNat, sp := s.sp - args.length + code.numLocals, ip := -1 }) ∧
      st'.size = stackSize ∧
      (∀ j, j < code.numLocals → st'[b + j]? = some (bindSlot code.numParams code.variadic args s.heap.size j)) ∧
      (∀ i, (i < b ∨ b + code.numLocals ≤ i) → st'[i]? = s.stack[i]?) := by
  obtain ⟨insts, np, nl, va⟩ := code
  simp only at hacc hroom hnl ⊢
  have hbp : 0 ≤ s.sp - args.length := by omega
  have hA := args_on_stack s args hargs
  have hfill : ∀ (st : Array V) j, (fillLocals st (s.sp - args.length) np nl)[j]? =
      if (b + np ≤ j ∧ j < b + nl) ∧ j < st.size then some .undefined else st[j]? :=
    fun st j => by rw [fillLocals_get? _ _ _ _ _ hbp, hb, Int.toNat_natCast]
  rw [hb, Int.toNat_natCast] at hA
  cases va with
  | false =>
    simp only [accepted, Bool.false_eq_true, if_false] at hacc
    have h := callCompiled_fixed fa args.length s _ free hcell rfl (by simp [hacc]) hself hfi hbp hroom hnl
    simp only at h
    refine ⟨fillLocals s.stack (s.sp - args.length) np nl, ?_, ?_, ?_, ?_⟩
    · rw [h]; simp [bindHeap]
    · exact (foldl_set_size _ .undefined (fun k => (s.sp - args.length + (np : Int) + (k : Int)).toNat) _).trans hsz
    · intro j hj
      rw [hfill]
      simp only [bindSlot, Bool.false_eq_true, if_false]
      by_cases hjp : j < np
      · rw [if_neg (by omega), if_pos hjp]
        exact hA j (by omega)
      · rw [if_pos (by omega), if_neg hjp]
    · intro i hi
      rw [hfill, if_neg (by omega)]
  | true =>
    simp only [accepted, if_true] at hacc
    have h := callCompiled_variadic fa args.length s _ free hcell rfl hacc.1 (by simp; omega) hself hfi hbp hsp hroom hnl
    simp only at h
    have hrest := rest_eq_drop_args s args.length np hacc.1 hbp (by omega)
    rw [hargs] at hrest
    rw [hrest] at h
    have e : (s.sp - args.length + np - 1).toNat = b + (np - 1) := by omega
    rw [e] at h
    have hsz' : (s.stack.set! (b + (np - 1)) (V.arr s.heap.size 0 (args.drop (np - 1)).length)).size = stackSize := by
      simp [Array.set!_eq_setIfInBounds, hsz]
    refine ⟨fillLocals (s.stack.set! (b + (np - 1)) (V.arr s.heap.size 0 (args.drop (np - 1)).length)) (s.sp - args.length) np nl,
      ?_, ?_, ?_, ?_⟩
    · rw [h]; simp [bindHeap, hacc.1]
    · exact (foldl_set_size _ .undefined (fun k => (s.sp - args.length + (np : Int) + (k : Int)).toNat) _).trans hsz'
    · intro j hj
      rw [hfill]
      simp only [bindSlot, if_true]
      by_cases hjp : j < np
      · rw [if_neg (by omega)]
        by_cases hje : j = np - 1
        · subst hje
          have h3 : b + (np - 1) < s.stack.size := by omega
          rw [if_neg (by omega), if_pos (by omega)]
          simp only [Array.set!_eq_setIfInBounds, Array.getElem?_setIfInBounds, h3, ↓reduceIte, List.length_drop]
        · have hne : ¬ b + (np - 1) = b + j := by omega
          simp only [Array.set!_eq_setIfInBounds, Array.getElem?_setIfInBounds, hne, if_false]
          rw [if_pos (by omega)]
          exact hA j (by omega)
      · rw [if_pos (by omega), if_neg (by omega), if_neg (by omega)]
    · intro i hi
      rw [hfill, if_neg (by omega)]
      have hne : ¬ b + (np - 1) = i := by omega
      simp only [Array.set!_eq_setIfInBounds, Array.getElem?_setIfInBounds, hne, if_false]

end UgoVerif.Proofs.InvokeBind

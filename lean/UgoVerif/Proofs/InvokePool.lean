import UgoVerif.VM.Invoke
import UgoVerif.Proofs.VMLive
import UgoVerif.Proofs.ShiftLoop
/-
  C14, the Invoker model (VM/Invoke.lean).  The pool holds released VMs only, and `_release ; _acquire` gives the
  state a new VM gets (`pool_fresh`): pooled or not, the child is `acquireFrom … (zeroVM s) …`.  An `Invoke` whose
  child's loop ends is the epilogue of `Run` on the child's final state, merged back (`iterInvoke_of_loop`).
  Part of property C14 (namespace `UgoVerif.Props.C14`).
-/
namespace UgoVerif.Props.C14
open UgoVerif UgoVerif.Go UgoVerif.VM

/-- `_release ; _acquire` gives the child the state a new VM would get: whatever a pooled child did
    before (any state `used`), after release it is acquired into exactly the state a freshly
    created child is acquired into — for every root, caller and callee. -/
theorem pool_fresh (root caller used : State) (callee : Addr) :
    acquireFrom root caller (releaseVM used) callee = acquireFrom root caller (zeroVM caller) callee := by
  simp [acquireFrom, releaseVM, zeroVM]

/-- the pool never hands out anything but zero VMs: pooled or not, the child is the one acquired from a zero VM -/
theorem poolAcquire_fresh (w : World) (root' s : State) (fa : Addr) (pooled : Bool)
    (hw : ∀ c ∈ w.idle, ∃ u, c = releaseVM u) :
    ∃ w1, poolAcquire w root' s fa pooled = (acquireFrom root' s (zeroVM s) fa, w1) := by
  unfold poolAcquire
  cases pooled with
  | false => exact ⟨w, rfl⟩
  | true =>
    simp only [if_true]
    cases h : w.idle with
    | nil => exact ⟨w, rfl⟩
    | cons c rest =>
      obtain ⟨u, rfl⟩ := hw c (by simp [h])
      exact ⟨{ w with idle := rest }, by simp [pool_fresh]⟩

/-- taking from the pool equals creating a child -/
theorem pool_acquire_eq_new (w : World) (root caller : State) (callee : Addr)
    (hw : ∀ c ∈ w.idle, ∃ u, c = releaseVM u) :
    (poolAcquire w root caller callee true).1 = (poolAcquire w root caller callee false).1 := by
  obtain ⟨_, h1⟩ := poolAcquire_fresh w root caller callee true hw
  obtain ⟨_, h2⟩ := poolAcquire_fresh w root caller callee false hw
  rw [h1, h2]

theorem pool_release_inv (w : World) (child : State) (hw : ∀ c ∈ w.idle, ∃ u, c = releaseVM u) :
    ∀ c ∈ (poolRelease w child).idle, ∃ u, c = releaseVM u := by
  intro c hc
  simp [poolRelease] at hc
  rcases hc with rfl | hc
  · exact ⟨child, rfl⟩
  · exact hw c hc

/-- the child sees the root's constants, module count, module cache (same slice header) and
    recovery flag, runs the callee as its main function and shares the caller's heap -/
theorem acquire_fields (root caller child : State) (callee : Addr) :
    let c := acquireFrom root caller child callee
    c.consts = root.consts ∧ c.numModules = root.numModules ∧ c.modules = root.modules ∧
    c.noPanic = root.noPanic ∧ c.mainFn = callee ∧ c.heap = caller.heap := by
  simp [acquireFrom]

theorem iterInvoke_one (rc : ChildRun) (cfg : HostCfg) (rootNow s : State) (fa : Addr) (args : List V) (fuel : Nat)
    (w w1 w2 : World) (out : Outcome) (child child' : State)
    (hacq : poolAcquire w { rootNow with modules := if s.modules.size ≥ s.numModules then s.modules else #[] } s fa cfg.pooled
      = (child, w1))
    (hab : child.abort = false)
    (hrun : rc fuel w1 s.globals args child = (out, w2, child')) :
    ∃ w', iterInvoke rc cfg rootNow fa args fuel false 1 w s none [] = (invResOf out, w', mergeBack s child') := by
  simp only [iterInvoke, hacq, hab, Bool.false_eq_true, if_false, hrun]
  cases h : invResOf out with
  | value v =>
    simp only
    by_cases hr : cfg.reuse = true
    · simp only [hr, if_true, List.nil_append]
      exact ⟨_, rfl⟩
    · simp only [hr, if_false, List.nil_append, Bool.false_eq_true]
      exact ⟨_, rfl⟩
  | error e => exact ⟨_, rfl⟩
  | goPanic m => exact ⟨_, rfl⟩
  | stop o => exact ⟨_, rfl⟩

theorem zeroVM_shape (s : State) : Shape (zeroVM s) := ⟨by simp [zeroVM], by simp [zeroVM, emptyFrames]⟩

/-- One `Invoke` from the VM `s`, for any configuration and any pool holding released VMs only: when the child passes
    the prologue and its loop returns in `c1`, the result is what `Run`'s epilogue makes of `c1`, merged back into `s`. -/
theorem iterInvoke_of_loop (F : FloatOps) (cfg : HostCfg) (root s : State) (w : World) (fa : Addr) (args : List V)
    (dpt fuel : Nat) (c0 c1 : State) (hw : ∀ c ∈ w.idle, ∃ u, c = releaseVM u) (hshared : s.numModules ≤ s.modules.size)
    (hc0 : exec (prologue s.globals args) (acquireFrom { root with modules := s.modules } s (zeroVM s) fa) = (.ok (), c0))
    (hloop : exec (loopF F fuel) c0 = (.ok (some ()), c1)) :
    ∃ w', iterInvoke (runAt F cfg root (dpt + 1)) cfg root fa args fuel false 1 w s none [] =
      (invResOf (runFrom.finish (exec clearCurrentFrame c1).2).1, w',
        mergeBack s (runFrom.finish (exec clearCurrentFrame c1).2).2) := by
  obtain ⟨w1, hacq⟩ := poolAcquire_fresh w { root with modules := s.modules } s fa cfg.pooled hw
  refine iterInvoke_one (runAt F cfg root (dpt + 1)) cfg root s fa args fuel w w1 w1 _ _ _
    (by rw [if_pos hshared]; exact hacq) rfl ?_
  exact UgoVerif.Proofs.Shift.runWithW_of_loop F cfg root (runAt F cfg root dpt) fuel w1 s.globals args _ c0 c1 hc0 hloop

end UgoVerif.Props.C14

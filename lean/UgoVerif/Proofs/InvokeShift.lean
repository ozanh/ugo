import UgoVerif.Proofs.InvokeBind
import UgoVerif.Proofs.ShiftRun
/-
  C14: the two entries into a compiled function — `prologue` of the child's `Run` (Go-side call) and
  `xOpCallCompiled` without spread in the parent (in-script call) — end in states related by the
  offset relation `ShB` of Proofs/Shift.lean, for every accepted argument list.  That is the theorem
  `UgoVerif.Props.C14.prologue_eq_callbind` of the property file, proved here.
-/
namespace UgoVerif.Proofs.InvokeShift
open UgoVerif UgoVerif.Go UgoVerif.VM UgoVerif.Proofs.InvokeBind UgoVerif.Proofs.Shift UgoVerif.Props.C02

theorem exec_prologueA (g : V) (hg : g ≠ .nil) (c : State) :
    exec (prologueA g) c = (.ok (), { c with err := none, abort := false, globals := g }) := by
  cases g <;> first | exact absurd rfl hg | rfl

theorem getElem!_of_getElem? {α} [Inhabited α] (xs : Array α) (i : Nat) (v : α) (h : xs[i]? = some v) : xs[i]! = v := by
  simp [getElem!_def, h]

end UgoVerif.Proofs.InvokeShift

namespace UgoVerif.Props.C14
open UgoVerif UgoVerif.Go UgoVerif.VM UgoVerif.Proofs.InvokeBind UgoVerif.Proofs.Shift UgoVerif.Proofs.InvokeShift UgoVerif.Props.C02

/-- The whole entries: the child's `prologue` (`Run` up to the loop) and the
    parent's `xOpCallCompiled` leave states related by the offset relation `ShB T0 bp k 0` (Proofs/Shift.lean,
    depth 0: both are in the invoked function's own frame): same heap, code memory, constants, globals, module
    cache; `ip = -1` on both; child frame 0 / base 0 / `sp = NumLocals` against parent frame k / base bp /
    `sp = bp + NumLocals`; no handlers; `child.stack[i] = parent.stack[bp+i]` for `i < NumLocals`. -/
theorem prologue_eq_callbind (c p : State) (fa ci : Nat) (free : Option (List Addr)) (args : List V)
    (hfn : p.heap[fa]? = some (.fn ci free))
    (hheap : c.heap = p.heap) (hcodes : c.codes = p.codes) (hconsts : c.consts = p.consts)
    (hmods : c.modules = p.modules) (hnm : c.numModules = p.numModules) (hmain : c.mainFn = fa)
    (hfull : p.numModules ≤ p.modules.size) (hg : p.globals ≠ .nil) (herr : p.err = none)
    (hshc : Shape c) (hshp : Shape p)
    (hargs : argsOnStack p args.length = args)
    (hacc : accepted (p.codes[ci]!).numParams (p.codes[ci]!).variadic args.length)
    (hself : (p.frames[p.curFrame]!).fn ≠ some fa)
    (hfi : 0 ≤ p.frameIndex ∧ p.frameIndex + 1 ≤ (frameSize : Int) - 1)
    (hbp : 0 ≤ p.sp - args.length) (hsp : p.sp ≤ (stackSize : Int))
    (hroom : p.sp - args.length + (p.codes[ci]!).numLocals ≤ (stackSize : Int))
    (hnl : (p.codes[ci]!).numParams ≤ (p.codes[ci]!).numLocals) :
    ∃ c' p', exec (prologue p.globals args) c = (.ok (), c') ∧
      exec (callCompiled fa args.length 0) p = (.ok (.ok ()), p') ∧
      ShB p' (p.sp - args.length).toNat p.frameIndex.toNat 0 c' p' ∧ c'.sp = (p.codes[ci]!).numLocals := by
  have hcell : exec (fnCell fa) p = (.ok (p.codes[ci]!, free), p) := UgoVerif.Proofs.EvalLocals.exec_fnCell p fa ci free hfn
  obtain ⟨stp, hp, hpsz, hpslots, hprest⟩ :=
    callCompiled_slots fa args p _ free _ hcell hargs hacc hself hfi (Int.toNat_of_nonneg hbp).symm hsp hroom hnl hshp.stack
  rw [prologue_eq, exec_bind, exec_prologueA _ hg]
  simp only
  generalize hc1 : ({ c with err := none, abort := false, globals := p.globals } : State) = c1
  have hfn1 : c1.heap[c1.mainFn]? = some (.fn ci free) := by rw [← hc1]; simp [hmain, hheap, hfn]
  have hcodes1 : c1.codes = p.codes := by rw [← hc1]; exact hcodes
  have hnlS : (p.codes[ci]!).numLocals ≤ stackSize := by
    have : (0 : Int) ≤ p.sp - args.length := hbp
    omega
  obtain ⟨stc, hci, hcsz, hcslots, hcrest⟩ :=
    initLocals_slots args c1 ci free hfn1 (by rw [hcodes1]; exact hnl) (by rw [hcodes1]; exact hnlS)
      (by rw [← hc1]; exact hshc.stack)
  rw [hcodes1] at hci hcslots
  have hci' : UgoVerif.VM.exec (initLocals args) c1 = _ := hci
  rw [exec_bind, hci']
  simp only
  have hfs : 0 < c1.frames.size := by rw [← hc1]; show 0 < c.frames.size; rw [hshc.frames]; decide
  have hB := UgoVerif.VM.exec_prologueB_fn
    ({ c1 with stack := stc, heap := bindHeap (p.codes[ci]!).numParams (p.codes[ci]!).variadic args c1.heap, codes := p.codes } : State)
    ci free (by
      show (bindHeap (p.codes[ci]!).numParams (p.codes[ci]!).variadic args c1.heap)[c1.mainFn]? = some (.fn ci free)
      unfold bindHeap
      split
      · rw [Array.getElem?_push]
        have hlt : c1.mainFn < c1.heap.size := by
          rcases Nat.lt_or_ge c1.mainFn c1.heap.size with hl | hl
          · exact hl
          · rw [Array.getElem?_eq_none hl] at hfn1; cases hfn1
        simp [Nat.ne_of_lt hlt, hfn1]
      · exact hfn1)
  refine ⟨_, _, hB, hp, ?_, rfl⟩
  · refine ⟨0, (p.codes[ci]!).numLocals, ((p.codes[ci]!).numLocals : Int), ?_, Int.le_refl _, Nat.zero_le _⟩
    have hc1h : c1.heap = p.heap := by rw [← hc1]; exact hheap
    have hkLt : p.frameIndex.toNat < frameSize := by have := hfi.2; simp only [frameSize] at *; omega
    exact {
      heap := by simp [hc1h]
      codes := by simp
      consts := by rw [← hc1]; exact hconsts
      globals := by rw [← hc1]
      modules := by
        rw [← hc1]
        show c.modules ++ Array.replicate (c.numModules - c.modules.size) V.nil = p.modules
        rw [hmods, hnm]
        have : p.numModules - p.modules.size = 0 := by omega
        simp [this]
      numModules := by rw [← hc1]; exact hnm
      ip := rfl
      spS := rfl
      spT := by show p.sp - args.length + _ = _; omega
      curS := rfl
      curT := by show p.frameIndex.toNat = p.frameIndex.toNat + 0; omega
      fiS := rfl
      fiT := by show p.frameIndex + 1 = _; omega
      errS := by rw [← hc1]
      errT := herr
      shapeS := ⟨hcsz, by rw [← hc1]; simpa using hshc.frames⟩
      shapeT := ⟨hpsz, by simpa using hshp.frames⟩
      kLt := hkLt
      frames := by
        intro j hj
        have hj0 : j = 0 := by omega
        subst hj0
        rw [Nat.add_zero, entered_frames, if_pos ⟨rfl, hfs⟩]
        have hk' : p.frameIndex.toNat < (p.frames.modify p.curFrame fun f => { f with ip := p.ip + 2 }).size := by
          simp [hshp.frames]; exact hkLt
        rw [getElem!_modify_self _ _ _ hk']
        exact ⟨by simp [hmain, ← hc1], rfl, by simp; omega, trivial, rfl, by simp⟩
      ips := fun j hj => by omega
      bp0 := by rw [entered_frames, if_pos ⟨rfl, hfs⟩]
      bpPos := fun j h1 hj => by omega
      room := by
        have : (0 : Int) ≤ p.sp - args.length := hbp
        simp only [stackSize] at hroom ⊢
        omega
      lowF := fun _ _ => rfl
      lowS := fun _ _ => rfl
      stack := by
        intro i hi
        show stc[i]! = stp[(p.sp - args.length).toNat + i]!
        rw [getElem!_of_getElem? _ _ _ (hcslots i hi), getElem!_of_getElem? _ _ _ (hpslots i hi), hc1h] }

end UgoVerif.Props.C14

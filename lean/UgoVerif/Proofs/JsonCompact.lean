import UgoVerif.Proofs.JsonScanSpec
import UgoVerif.Proofs.JsonSpecApp
import UgoVerif.Proofs.JsonEsc
/-
  C17: `compact` (indent.go) writes a JSON text that is one value (`IsVal`) whenever it
  succeeds, and never panics.  Method: the bytes written from a scanner configuration `s`
  are accepted from `s` (`resid s E = true`): a byte copied is one derivative step, a byte
  dropped because the scanner returned a skip opcode is white space and what is accepted after it
  was accepted before it (`step_skipped`), an HTML escape `\u00XX` / `\u202X` is written only
  inside a string (`special_inString`) and read back as string content.
  The loop: what it writes from a configuration that accepts the rest of the input is accepted
  from that configuration, starts and ends with a byte that is not white space
  (`compactLoop_spec`).  No slice expression panics: one iteration is three pure updates around the
  scanner's step, every write among them an `emit` (`compactIter_eq`; `compactLoop_run`).  Hence
  `compact_spec`, `compact_valid`.
-/
namespace UgoVerif.Proofs.Json
open UgoVerif UgoVerif.Go UgoVerif.Spec.Json UgoVerif.Model.JsonScan UgoVerif.Gen.JsonTables

theorem goto_inv {s s' : Scanner} {st : St} {op0 op : Op} (h : goto s st op0 = .ok (s', op)) :
    s' = { s with step := st } ∧ op = op0 := by
  unfold goto at h; injection h with h; injection h with h1 h2; exact ⟨h1.symm, h2.symm⟩
theorem error_inv {s s' : Scanner} {op : Op} (h : s.error = .ok (s', op)) : s'.err = true ∧ op = .error := by
  unfold Scanner.error at h; injection h with h; injection h with h1 h2; subst h1; exact ⟨rfl, h2.symm⟩
theorem push_inv {s s' : Scanner} {p : PS} {op0 op : Op} (h : s.push p op0 = .ok (s', op)) :
    (s' = { s with parseState := p :: s.parseState } ∧ op = op0) ∨ s'.err = true := by
  unfold Scanner.push at h
  simp only [] at h
  split at h
  · injection h with h; injection h with h1 h2; exact Or.inl ⟨h1.symm, h2.symm⟩
  · exact Or.inr (error_inv h).1

/-- closes a goal whose hypothesis `h` says that a non-skipping transition produced a skip opcode -/
local macro "noskip" h:ident hop:ident herr:ident : tactic =>
  `(tactic| first
    | (have h1 := (goto_inv $h).2; subst h1; exact absurd $hop (by decide))
    | (have h1 := (error_inv $h).1; rw [$herr:ident] at h1; cases h1)
    | (rcases push_inv $h with h1 | h1
       · have h2 := h1.2; subst h2; exact absurd $hop (by decide)
       · rw [$herr:ident] at h1; cases h1)
    | (injection $h with h1; injection h1 with h1 h2; subst h2; exact absurd $hop (by decide)))

theorem step_skipped {s : Scanner} {c : UInt8} {s' : Scanner} {op : Op} (hw : WF s)
    (h : step s c = .ok (s', op)) (hop : op.geSkipSpace = true) (herr : s'.err = false) :
    isSpace c = true ∧ ∀ w, resid s' w = true → resid s w = true := by
  obtain ⟨s2, op2, e, _, _, _, hsk, _⟩ := step_resid s c [] hw
  rw [h] at e; injection e with e; injection e with e1 e2; subst e1 e2
  rcases hsk with h1 | h1 | h1
  · rw [hop] at h1; cases h1
  · rw [herr] at h1; cases h1
  · exact h1

theorem step_skip (s : Scanner) (c : UInt8) (s' : Scanner) (op : Op) (hw : WF s)
    (h : step s c = .ok (s', op)) (hop : op.geSkipSpace = true) (herr : s'.err = false) :
    isSpace c = true := (step_skipped hw h hop herr).1

theorem special_inString (s : Scanner) (c : UInt8) (s' : Scanner) (op : Op) (hw : WF s) (hc : special c = true)
    (h : step s c = .ok (s', op)) (hop : op.geSkipSpace = false) : s.step = .inString ∧ s' = s := by
  obtain ⟨s2, op2, e, _, _, _, _, hcp⟩ := step_resid s c [] hw
  rw [h] at e; injection e with e; injection e with e1 e2; subst e1 e2
  rcases hcp with h1 | h1 | h1
  · rw [hop] at h1; cases h1
  · rw [hc] at h1; cases h1
  · exact h1

theorem special_copied {s s' : Scanner} {c : UInt8} {op : Op} (hw : WF s) (hc : special c = true)
    (hns : isSpace c = false) (h : step s c = .ok (s', op)) (herr : s'.err = false) :
    op.geSkipSpace = false ∧ s.step = .inString ∧ s' = s := by
  cases hv : op.geSkipSpace with
  | true => rw [step_skip s c s' op hw h hv herr] at hns; cases hns
  | false => exact ⟨rfl, special_inString s c s' op hw hc h hv⟩

theorem special_of_ws (c : UInt8) (h : isWs c = true) : special c = true := by
  simp only [isWs, Bool.or_eq_true, beq_iff_eq] at h
  rcases h with ((rfl | rfl) | rfl) | rfl <;> decide

def esc6 (c : UInt8) : Bytes := [0x5C, 0x75, 0x30, 0x30, hexHi c, hexLo c]
def esc2028 (n2 : UInt8) : Bytes := [0x5C, 0x75, 0x32, 0x30, 0x32, hexLo n2]

theorem isHex_notWs {c : UInt8} (h : isHex c = true) : isWs c = false := by
  cases hw : isWs c with
  | false => rfl
  | true =>
    simp only [isWs, Bool.or_eq_true, beq_iff_eq] at hw
    rcases hw with ((rfl | rfl) | rfl) | rfl <;> exact absurd h (by decide)

theorem hexLo_notWs : ∀ c : UInt8, isWs (hexLo c) = false := by
  intro c; exact isHex_notWs (hexAt_isHex _ _)

/-- the bytes 0x80, 0xA8, 0xA9 that follow 0xE2 in U+2028/9 -/
def hiByte (b : UInt8) : Bool := b == 0x80 || (b &&& 0xFE) == 0xA8

set_option maxRecDepth 100000 in
theorem hi_facts : ∀ b : UInt8, hiByte b = true →
    (b == 0x22) = false ∧ (b == 0x5C) = false ∧ ¬ (b < 0x20) ∧
    (b == 0x3C || b == 0x3E || b == 0x26) = false ∧ (b == 0xE2) = false := by
  apply forall_uint8; decide

theorem step_inString (s : Scanner) (c : UInt8) (hs : s.step = .inString) :
    step s c =
      if c == 0x22 then goto s .endValue .continue
      else if c == 0x5C then goto s .inStringEsc .continue
      else if c < 0x20 then s.error
      else .ok (s, .continue) := by
  unfold step; simp only [hs]

theorem inString_plain (s : Scanner) (c : UInt8) (hs : s.step = .inString)
    (h1 : (c == 0x22) = false) (h2 : (c == 0x5C) = false) (h3 : ¬ c < 0x20) : step s c = .ok (s, .continue) := by
  rw [step_inString s c hs]
  simp only [h1, h2, h3, Bool.false_eq_true, if_false]


/-- `compact` copies lazily: `start` is the index of the first byte of `src` not yet written, and the bytes
    from there to `i` are pending until the next write. -/
def pend (src : Bytes) (st : CompactSt) (i : Nat) : Bytes := (src.drop st.start).take (i - st.start)
/-- everything written so far, counting the pending bytes -/
def V (src : Bytes) (st : CompactSt) (i : Nat) : Bytes := st.out ++ pend src st i

theorem V_of_ge (src : Bytes) (st : CompactSt) (i : Nat) (h : i ≤ st.start) : V src st i = st.out := by
  unfold V pend
  have : i - st.start = 0 := by omega
  rw [this]; simp

def flushP (src : Bytes) (st : CompactSt) (i : Nat) : CompactSt :=
  if st.start < i then { st with out := st.out ++ (src.drop st.start).take (i - st.start) } else st

@[simp] theorem flushP_start (src : Bytes) (st : CompactSt) (i : Nat) : (flushP src st i).start = st.start := by
  unfold flushP; split <;> rfl

theorem flushP_eq (src : Bytes) (st : CompactSt) (i : Nat) : flushP src st i = { st with out := V src st i } := by
  unfold flushP
  split
  · rfl
  · rw [V_of_ge src st i (by omega)]

/-- what every write of the loop does: the pending bytes, then `em`, and the copying goes on `k` bytes ahead -/
def emit (src : Bytes) (st : CompactSt) (i : Nat) (em : Bytes) (k : Nat) : CompactSt :=
  { st with out := V src st i ++ em, start := i + k }

theorem V_emit (src : Bytes) (st : CompactSt) (i : Nat) (em : Bytes) (k j : Nat) (h : j ≤ i + k) :
    V src (emit src st i em k) j = V src st i ++ em := V_of_ge _ _ _ h

def pre1 (src : Bytes) (escape : Bool) (st : CompactSt) (i : Nat) (c : UInt8) : CompactSt :=
  if escape && (c == 0x3C || c == 0x3E || c == 0x26) then emit src st i (esc6 c) 1 else st

def pre2 (src : Bytes) (escape : Bool) (st : CompactSt) (i : Nat) (c : UInt8) (next : Bytes) : CompactSt :=
  match next with
  | n1 :: n2 :: _ =>
    if escape && c == 0xE2 && n1 == 0x80 && (n2 &&& 0xFE) == 0xA8 then emit src st i (esc2028 n2) 3 else st
  | _ => st

def post (src : Bytes) (st : CompactSt) (i : Nat) (sc : Scanner) (v : Op) : CompactSt :=
  if v.geSkipSpace then
    if v == .error then { st with scan := sc, stop := true } else emit src { st with scan := sc } i [] 1
  else { st with scan := sc }

theorem slice_ok (src : Bytes) (a b : Nat) (h1 : a ≤ b) (h2 : b ≤ src.length) :
    slice src a b = .ok ((src.drop a).take (b - a)) := by
  unfold slice; rw [if_pos ⟨h1, h2⟩]

theorem flush_ok (src : Bytes) (st : CompactSt) (i : Nat) (hi : i ≤ src.length) :
    (if st.start < i then (do let p ← slice src st.start i; pure { st with out := st.out ++ p })
     else pure st : Res CompactSt) = .ok (flushP src st i) := by
  unfold flushP; split
  · rename_i h; rw [slice_ok src _ _ (Nat.le_of_lt h) hi]; rfl
  · rfl

@[simp] theorem pre1_scan (src : Bytes) (escape : Bool) (st : CompactSt) (i : Nat) (c : UInt8) :
    (pre1 src escape st i c).scan = st.scan := by
  unfold pre1; split <;> rfl
@[simp] theorem pre2_scan (src : Bytes) (escape : Bool) (st : CompactSt) (i : Nat) (c : UInt8) (next : Bytes) :
    (pre2 src escape st i c next).scan = st.scan := by
  unfold pre2; repeat' split
  all_goals rfl

theorem compactIter_eq (src : Bytes) (escape : Bool) (st : CompactSt) (i : Nat) (c : UInt8) (next : Bytes)
    (hi : i ≤ src.length) :
    compactIter src escape st i c next =
      match step st.scan c with
      | .ok (sc, v) => .ok (post src (pre2 src escape (pre1 src escape st i c) i c next) i sc v)
      | .err e => .err e
      | .panic m => .panic m := by
  unfold compactIter
  extract_lets flush jpStep jpNext
  have hf : ∀ x, flush x = .ok (flushP src x i) := fun x => flush_ok src x i hi
  have h1 : ∀ x, jpStep x = match step x.scan c with
      | .ok (sc, v) => .ok (post src x i sc v)
      | .err e => .err e
      | .panic m => .panic m := by
    intro x
    show (step x.scan c >>= _) = _
    cases step x.scan c with
    | err e => rfl
    | panic m => rfl
    | ok p =>
      simp only [Res.bind_ok, hf, post, Res.pure_eq, flushP_eq, emit, List.append_nil]
      split
      · split <;> rfl
      · rfl
  have h2 : ∀ x, jpNext x = jpStep (pre2 src escape x i c next) := by
    intro x
    rcases next with _ | ⟨n1, _ | ⟨n2, tl⟩⟩
    · rfl
    · rfl
    · simp only [jpNext, pre2]
      split
      · simp only [hf, Res.bind_ok, Res.pure_eq, flushP_eq]; rfl
      · rfl
  refine Eq.trans (b := jpNext (pre1 src escape st i c)) ?_ ?_
  · unfold pre1; split
    · simp only [hf, Res.bind_ok, Res.pure_eq, flushP_eq]; rfl
    · rfl
  · rw [h2, h1, pre2_scan, pre1_scan]

theorem take_drop_succ (pre rest : Bytes) (c : UInt8) (a : Nat) (ha : a ≤ pre.length) :
    ((pre ++ c :: rest).drop a).take (pre.length + 1 - a) = ((pre ++ c :: rest).drop a).take (pre.length - a) ++ [c] := by
  have h1 : (pre ++ c :: rest).drop a = pre.drop a ++ c :: rest := by
    rw [List.drop_append_of_le_length ha]
  rw [h1]
  have h2 : (pre.drop a).length = pre.length - a := by simp
  rw [show pre.length + 1 - a = (pre.drop a).length + 1 by omega, show pre.length - a = (pre.drop a).length by omega]
  generalize pre.drop a = D
  simp [List.take_append]
  exact List.take_of_length_le (by omega)

/-- `head` and `last`: no white space at either end of what is written, which is what `isVal_of_isJson`
    asks of an accepted text to make it an `IsVal`. -/
structure Acc (s : Scanner) (E : Bytes) : Prop where
  acc : resid s E = true
  head : s.step = .beginValue → ∃ c t, E = c :: t ∧ isWs c = false
  last : ∀ p l, E = p ++ [l] → isWs l = false

/-- inside a string something more is written: the empty text does not close it -/
theorem Acc.inStr {s : Scanner} {E : Bytes} (h : Acc s E) (hs : s.step = .inString) : E ≠ [] := fun e => by
  have := h.acc; simp [e, resid, hs, tok, strRest] at this

@[simp] theorem post_scan (src : Bytes) (st : CompactSt) (i : Nat) (sc : Scanner) (v : Op) :
    (post src st i sc v).scan = sc := by
  unfold post; repeat' split
  all_goals rfl

theorem last_eq {X p' p : Bytes} {l l' : UInt8} (h : X ++ (p' ++ [l']) = p ++ [l]) : l' = l := by
  rw [← List.append_assoc] at h
  have := List.append_inj_right' h rfl
  injection this

theorem beginValue_space (s : Scanner) (c : UInt8) (hs : s.step = .beginValue) (hc : isSpace c = true) :
    step s c = .ok (s, .skipSpace) := by
  unfold step; simp only [hs]; unfold stateBeginValue; simp only [hc, if_true]

theorem html_facts (c : UInt8) (h : (c == 0x3C || c == 0x3E || c == 0x26) = true) :
    special c = true ∧ isSpace c = false ∧ (c == 0xE2) = false := by
  simp only [Bool.or_eq_true, beq_iff_eq] at h
  rcases h with (rfl | rfl) | rfl <;> decide


theorem pre2_notE2 (src : Bytes) (escape : Bool) (st : CompactSt) (i : Nat) (c : UInt8) (next : Bytes)
    (h : (c == 0xE2) = false) : pre2 src escape st i c next = st := by
  unfold pre2; split
  · simp [h]
  · rfl

theorem pre2_neg (src : Bytes) (escape : Bool) (st : CompactSt) (i : Nat) (c : UInt8) (next : Bytes)
    (h : ¬ ∃ n1 n2 tl, next = n1 :: n2 :: tl ∧ (escape && c == 0xE2 && n1 == 0x80 && (n2 &&& 0xFE) == 0xA8) = true) :
    pre2 src escape st i c next = st := by
  unfold pre2; split
  · rename_i n1 n2 tl
    split
    · rename_i hc; exact absurd ⟨n1, n2, tl, rfl, hc⟩ h
    · rfl
  · rfl

theorem post_noskip (src : Bytes) (st : CompactSt) (i : Nat) (sc : Scanner) (v : Op) (h : v.geSkipSpace = false) :
    post src st i sc v = { st with scan := sc } := by
  unfold post; simp [h]

theorem post_skip (src : Bytes) (st : CompactSt) (i : Nat) (sc : Scanner) (v : Op) (h : v.geSkipSpace = true)
    (hne : v ≠ .error) : post src st i sc v = emit src { st with scan := sc } i [] 1 := by
  unfold post; rw [if_pos h, if_neg (by simpa using hne)]

/-- A byte of the tail of U+2028/9 inside a string is string content: no escape fires, the scanner stays as it
    is, and so does the state of the loop (the escape written for the whole character has put `start` behind it). -/
theorem compactLoop_hi (src : Bytes) (escape : Bool) (st : CompactSt) (i : Nat) (b : UInt8) (rest : Bytes)
    (hin : st.scan.step = .inString) (hb : hiByte b = true) (hstop : st.stop = false) (hi : i ≤ src.length) :
    compactLoop src escape st i (b :: rest) = compactLoop src escape st (i + 1) rest := by
  obtain ⟨g1, g2, g3, g4, g5⟩ := hi_facts b hb
  rw [compactLoop, compactIter_eq src escape st i b rest hi, pre1, if_neg (by simp [g4]),
    pre2_notE2 _ _ _ _ _ _ g5, inString_plain st.scan b hin g1 g2 g3]
  simp only []
  rw [post_noskip src st i st.scan .continue rfl]
  exact if_neg (by rw [hstop]; exact Bool.false_ne_true)

theorem resid_hi (s : Scanner) (b : UInt8) (w : Bytes) (hin : s.step = .inString) (hb : hiByte b = true) :
    resid s (b :: w) = resid s w := by
  obtain ⟨g1, g2, g3, -⟩ := hi_facts b hb
  simp only [resid, hin, tok]
  rw [strRest_cons]
  simp only [g1, g2, g3, Bool.false_eq_true, if_false]

def Concl (src : Bytes) (st : CompactSt) (i : Nat) (r : Res CompactSt) : Prop :=
  ∃ st', r = .ok st' ∧ st'.start ≤ src.length ∧ ∃ E, V src st' src.length = V src st i ++ E ∧ Acc st.scan E

theorem loop_finish (src : Bytes) (escape : Bool) (rest : Bytes) (st st1 : CompactSt) (i : Nat) (em : Bytes)
    (hstop : st1.stop = false)
    (hIH : Concl src st1 (i + 1) (compactLoop src escape st1 (i + 1) rest))
    (hV : V src st1 (i + 1) = V src st i ++ em)
    (hAcc : ∀ E', Acc st1.scan E' → Acc st.scan (em ++ E')) :
    Concl src st i (if st1.stop = true then Res.ok st1 else compactLoop src escape st1 (i + 1) rest) := by
  obtain ⟨st', e', hle, E', hE', hacc'⟩ := hIH
  rw [if_neg (by rw [hstop]; exact Bool.false_ne_true), e']
  exact ⟨st', rfl, hle, em ++ E', by rw [hE', hV, List.append_assoc], hAcc E' hacc'⟩


theorem acc_escape (s : Scanner) (em E' : Bytes) (hs : s.step = .inString) (hem : Body em) (h : Acc s E') :
    Acc s (em ++ E') := by
  refine ⟨by simp only [resid, hs, tok, hem E']; simpa only [resid, hs, tok] using h.acc,
    fun hb => (by rw [hs] at hb; cases hb), ?_⟩
  intro p l hp
  rcases List.eq_nil_or_concat E' with h0 | ⟨p', l', h0⟩
  · exact absurd h0 (h.inStr hs)
  · rw [List.concat_eq_append] at h0
    rw [h0] at hp
    have := last_eq hp
    subst this
    exact h.last p' l' h0

theorem compactLoop_spec (src : Bytes) (escape : Bool) : ∀ (rest pre : Bytes) (st : CompactSt) (i : Nat),
    src = pre ++ rest → pre.length = i → WF st.scan → st.stop = false → st.start ≤ i →
    resid st.scan rest = true → Concl src st i (compactLoop src escape st i rest)
  | [], pre, st, i, hsrc, hpre, hw, hstop, hA, hacc => by
    have hlen : src.length = i := by rw [hsrc]; simp [hpre]
    refine ⟨st, rfl, by omega, [], by rw [hlen]; simp, hacc, ?_, ?_⟩
    · intro hs; simp [resid, hs, skipWs, valueC_nil] at hacc
    · intro p l h; simp at h
  | c :: rest, pre, st, i, hsrc, hpre, hw, hstop, hA, hacc => by
    have hlen : i + (rest.length + 1) = src.length := by rw [hsrc]; simp [hpre]
    have hsrc' : src = (pre ++ [c]) ++ rest := by rw [hsrc]; simp
    have hpre' : (pre ++ [c]).length = i + 1 := by simp [hpre]
    unfold compactLoop
    rw [compactIter_eq src escape st i c rest (by omega)]
    obtain ⟨sc, v, e, hwsc, hop, hres, _⟩ := step_resid st.scan c rest hw
    rw [e]
    simp only []
    have hderiv : ∀ w, resid st.scan (c :: w) = resid sc w := by
      intro w
      obtain ⟨sc2, v2, e2, _, _, hv, _⟩ := step_resid st.scan c w hw
      rw [e] at e2; injection e2 with e2; injection e2 with h1 _; subst h1; exact hv
    -- the rest is accepted from `sc`, so this step reported no error
    have haccsc : resid sc rest = true := by rw [← hres]; exact hacc
    have hscE : sc.step ≠ .error := fun h => by simp [resid, h] at haccsc
    have herrsc' : sc.err = false := wf_err_false sc hwsc hscE
    have hvne : v ≠ .error := fun h => hscE (hop h)
    by_cases hc1 : (escape && (c == 0x3C || c == 0x3E || c == 0x26)) = true
    · -- `<`, `>`, `&`: special and not white space, so the scanner is inside a string and stays as it is
      -- (`special_copied`); the escape written in place of `c` is string content
      have hh : (c == 0x3C || c == 0x3E || c == 0x26) = true := by
        simp only [Bool.and_eq_true] at hc1; exact hc1.2
      obtain ⟨hsp, hnsp, hE2⟩ := html_facts c hh
      rw [pre1, if_pos hc1, pre2_notE2 _ _ _ _ _ _ hE2]
      obtain ⟨hv, hin, hsame⟩ := special_copied hw hsp hnsp e herrsc'
      rw [post_noskip _ _ _ _ _ hv]
      refine loop_finish src escape rest st { emit src st i (esc6 c) 1 with scan := sc } i (esc6 c) hstop ?_ ?_ ?_
      · exact compactLoop_spec src escape rest (pre ++ [c]) _ (i + 1) hsrc' hpre' hwsc hstop
          (Nat.le_refl _) haccsc
      · exact V_emit _ _ _ _ _ _ (Nat.le_refl _)
      · intro E' hE'
        subst hsame
        exact acc_escape _ _ _ hin (.u4 (by decide) (by decide) (hexAt_isHex _ _) (hexAt_isHex _ _)) hE'
    · rw [pre1, if_neg hc1]
      by_cases hc2 : ∃ n1 n2 tl, rest = n1 :: n2 :: tl ∧
          (escape && c == 0xE2 && n1 == 0x80 && (n2 &&& 0xFE) == 0xA8) = true
      · -- U+2028/9: the same for its first byte 0xE2; one escape is written for the three bytes
        obtain ⟨n1, n2, tl, hrest, hcond⟩ := hc2
        subst hrest
        rw [pre2, if_pos hcond]
        simp only [Bool.and_eq_true] at hcond
        obtain ⟨⟨⟨_, hcE2⟩, hn1⟩, hn2⟩ := hcond
        have hcE : c = 0xE2 := by simpa using hcE2
        obtain ⟨hv, hin, hsame⟩ := special_copied hw (by rw [hcE]; rfl) (by rw [hcE]; rfl) e herrsc'
        rw [post_noskip _ _ _ _ _ hv]
        have hh1 : hiByte n1 = true := by simp [hiByte, hn1]
        have hh2 : hiByte n2 = true := by simp [hiByte, hn2]
        subst hsame
        refine loop_finish src escape _ st (emit src st i (esc2028 n2) 3) i (esc2028 n2) hstop ?_ ?_ ?_
        · -- the two bytes that follow are passed over; the loop goes on behind them
          have hhi := fun j b r hb hj => compactLoop_hi src escape (emit src st i (esc2028 n2) 3) j b r hin hb hstop hj
          rw [hhi _ n1 _ hh1 (by omega), hhi _ n2 _ hh2 (by simp at hlen; omega)]
          rw [resid_hi _ n1 _ hin hh1, resid_hi _ n2 _ hin hh2] at haccsc
          obtain ⟨st', e', hle, E', hE', hacc'⟩ := compactLoop_spec src escape tl (pre ++ [c, n1, n2])
            (emit src st i (esc2028 n2) 3) (i + 3) (by rw [hsrc]; simp) (by simp [hpre]) hwsc hstop (Nat.le_refl _) haccsc
          exact ⟨st', e', hle, E', by rw [hE', V_emit _ _ _ _ _ _ (Nat.le_refl _), V_emit _ _ _ _ _ (i + 1) (by omega)], hacc'⟩
        · exact V_emit _ _ _ _ _ _ (by omega)
        · intro E' hE'
          exact acc_escape _ _ _ hin (.u4 (by decide) (by decide) (by decide) (hexAt_isHex _ _)) hE'
      · rw [pre2_neg src escape st i c rest hc2]
        cases hv : v.geSkipSpace with
        | true =>
          -- a skip opcode: the pending bytes are written and `c` is left out, which it may be (`step_skipped`)
          obtain ⟨hspc, hdrop⟩ := step_skipped hw e hv herrsc'
          rw [post_skip _ _ _ _ _ hv hvne]
          refine loop_finish src escape rest st (emit src { st with scan := sc } i [] 1) i [] hstop ?_ ?_ ?_
          · exact compactLoop_spec src escape rest (pre ++ [c]) _ (i + 1) hsrc' hpre' hwsc hstop
              (Nat.le_refl _) haccsc
          · exact V_emit _ _ _ _ _ _ (Nat.le_refl _)
          · intro E' hE'
            simp only [List.nil_append]
            refine ⟨hdrop E' hE'.acc, ?_, hE'.last⟩
            · intro hs
              have := beginValue_space st.scan c hs hspc
              rw [e] at this; injection this with this; injection this with h1 _
              subst h1
              exact hE'.head hs
        | false =>
          -- `c` is copied, that is, stays pending: one derivative step
          rw [post_noskip _ _ _ _ _ hv]
          refine loop_finish src escape rest st ⟨sc, st.out, st.start, st.stop⟩ i [c] hstop ?_ ?_ ?_
          · exact compactLoop_spec src escape rest (pre ++ [c]) _ (i + 1) hsrc' hpre' hwsc hstop
              (Nat.le_succ_of_le hA) haccsc
          · unfold V pend
            simp only []
            rw [hsrc, ← hpre, take_drop_succ pre rest c st.start (by omega), List.append_assoc]
          · intro E' hE'
            refine ⟨by simp only [List.cons_append, List.nil_append]; rw [hderiv]; exact hE'.acc, ?_, ?_⟩
            · intro hs
              refine ⟨c, E', rfl, ?_⟩
              cases hws : isWs c with
              | false => rfl
              | true =>
                have := beginValue_space st.scan c hs (by rw [isSpace_eq]; exact hws)
                rw [e] at this; injection this with this; injection this with _ h2
                subst h2; cases hv
            · intro p l hp
              simp only [List.cons_append, List.nil_append] at hp
              rcases List.eq_nil_or_concat E' with h0 | ⟨p', l', h0⟩
              · subst h0
                have hl : l = c := by
                  have := last_eq (X := []) (p' := []) (l' := c) (by simpa using hp)
                  exact this.symm
                subst hl
                cases hws : isWs l with
                | false => rfl
                | true =>
                  -- white space is copied only inside a string, and there the text written cannot end
                  obtain ⟨hin, hsame⟩ := special_inString st.scan l sc v hw (special_of_ws l hws) e hv
                  subst hsame
                  exact absurd rfl (hE'.inStr hin)
              · rw [List.concat_eq_append] at h0
                rw [h0] at hp
                have := last_eq (X := [c]) (by simpa using hp)
                subst this
                exact hE'.last p' l' h0
termination_by rest => rest.length
decreasing_by
  all_goals simp_wf
  -- the call behind the tail of U+2028/9
  rw [‹rest = _›]; simp only [List.length_cons]; omega


theorem post_stop (src : Bytes) (st : CompactSt) (i : Nat) (sc : Scanner) (v : Op) (h : st.stop = false) :
    (post src st i sc v).stop = (v == .error) := by
  unfold post
  cases v <;> simp [Op.geSkipSpace, h, emit]

@[simp] theorem pre1_stop (src : Bytes) (escape : Bool) (st : CompactSt) (i : Nat) (c : UInt8) :
    (pre1 src escape st i c).stop = st.stop := by
  unfold pre1; split <;> rfl
@[simp] theorem pre2_stop (src : Bytes) (escape : Bool) (st : CompactSt) (i : Nat) (c : UInt8) (next : Bytes) :
    (pre2 src escape st i c next).stop = st.stop := by
  unfold pre2; repeat' split
  all_goals rfl

theorem compactLoop_run (src : Bytes) (escape : Bool) : ∀ (rest : Bytes) (st : CompactSt) (i : Nat),
    i + rest.length ≤ src.length → WF st.scan → st.stop = false →
    ∃ st', compactLoop src escape st i rest = .ok st' ∧ WF st'.scan ∧ resid st'.scan [] = resid st.scan rest
  | [], st, _, _, hw, _ => ⟨st, rfl, hw, rfl⟩
  | c :: rest, st, i, hlen, hw, hstop => by
    simp only [List.length_cons] at hlen
    obtain ⟨sc, v, e, hwsc, hop, hv, _⟩ := step_resid st.scan c rest hw
    unfold compactLoop
    rw [compactIter_eq src escape st i c rest (by omega), e, hv]
    simp only []
    generalize hst1 : post src (pre2 src escape (pre1 src escape st i c) i c rest) i sc v = st1
    have hsc1 : st1.scan = sc := by rw [← hst1]; simp
    have hstop1 : st1.stop = (v == .error) := by
      rw [← hst1]; exact post_stop _ _ _ _ _ (by simp [hstop])
    subst hsc1
    rw [hstop1]
    by_cases hve : (v == .error) = true
    · have hE := hop (eq_of_beq hve)
      rw [if_pos hve]; exact ⟨st1, rfl, hwsc, by rw [resid_error hE, resid_error hE]⟩
    · rw [if_neg hve]
      exact compactLoop_run src escape rest st1 (i + 1) (by omega) hwsc (by rw [hstop1]; simpa using hve)

theorem compact_spec (escape : Bool) (src : Bytes) :
    ∃ o, compact escape src = .ok o ∧ o.isSome = resid Scanner.new src ∧ ∀ E, o = some E → Acc Scanner.new E := by
  obtain ⟨st', e', hw', hr'⟩ := compactLoop_run src escape src { scan := Scanner.new, out := [], start := 0 } 0
    (by simp) wf_new rfl
  obtain ⟨s'', op, he, hr⟩ := eof_resid st'.scan hw'
  rw [hr'] at hr
  unfold compact
  simp only [e', Res.bind_ok, he]
  cases hacc : resid Scanner.new src with
  | false =>
    rw [hacc] at hr
    have : (op == Op.error) = true := by cases op <;> first | rfl | cases hr
    exact ⟨none, by rw [if_pos this]; rfl, rfl, fun _ h => nomatch h⟩
  | true =>
    rw [hacc] at hr
    have hop : (op == Op.error) = false := by cases op <;> first | rfl | cases hr
    obtain ⟨st2, e2, hle, E, hE, hAcc⟩ := compactLoop_spec src escape src [] { scan := Scanner.new, out := [], start := 0 } 0
      rfl rfl wf_new rfl (Nat.le_refl _) hacc
    rw [e'] at e2; injection e2 with e2; subst e2
    have hV0 : V src { scan := Scanner.new, out := [], start := 0 } 0 = [] := by simp [V, pend]
    rw [hV0, List.nil_append] at hE
    refine ⟨some E, ?_, rfl, fun _ h => by injection h with h; subst h; exact hAcc⟩
    simp only [hop, Bool.false_eq_true, if_false]
    by_cases hlt : st'.start < src.length
    · rw [if_pos hlt, slice_ok src _ _ hle (Nat.le_refl _)]
      simp only [Res.bind_ok, Res.pure_eq]
      rw [← hE]; rfl
    · rw [if_neg hlt]
      simp only [Res.pure_eq]
      rw [← hE, V_of_ge src st' _ (by omega)]

/-- **what `compact` writes is one JSON value**, nested at most `maxNestingDepth` deep -/
theorem compact_valid (escape : Bool) (src out : Bytes) (h : compact escape src = .ok (some out)) :
    IsVal out ∧ isJsonD maxNestingDepth out = true := by
  obtain ⟨o, ho, _, hacc⟩ := compact_spec escape src
  rw [ho] at h; injection h with h
  have hacc := hacc out h
  have hj : isJsonD maxNestingDepth out = true := by rw [← resid_new]; exact hacc.acc
  obtain ⟨c, t, hct, hws⟩ := hacc.head rfl
  exact ⟨isVal_of_isJson out (isJsonD_isJson _ _ hj) c t hct hws hacc.last, hj⟩

end UgoVerif.Proofs.Json

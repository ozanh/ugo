import UgoVerif.Proofs.JsonNum
import UgoVerif.Proofs.JsonEsc
/-
  Every encoder of Model/JsonEnc writes an `IsVal` text (`enc_valid`): the scalars by the shape of what is
  printed, arrays and objects by one induction over the elements (`container_text`). Two callees stay
  hypotheses: `strconv.AppendFloat` (`JsonLib.OK`) and `compact` on a raw message (`CompactValidOn`).
-/
namespace UgoVerif.Proofs.Json
open UgoVerif UgoVerif.Go UgoVerif.Model.JsonEnc UgoVerif.Model.JsonScan UgoVerif.Spec.Json

theorem isVal_lit {b : Bytes} (h : b = nullB ∨ b = trueB ∨ b = falseB) : IsVal b := by
  rcases h with rfl | rfl | rfl <;> exact .of_cons _ _ fun rest f _ _ => by simp [valueStep, lit]
theorem isVal_null : IsVal nullB := isVal_lit (.inl rfl)

theorem isVal_str (body : Bytes) (h : Body body) : IsVal (0x22 :: (body ++ [0x22])) :=
  .of_cons _ _ fun rest f _ _ => by
    simp only [List.append_assoc, valueStep, beq_self_eq_true, if_true]
    exact h.close rest

theorem isVal_quoted (tok : Bytes) (h : ∀ x ∈ tok, plain x) : IsVal (0x22 :: (tok ++ [0x22])) :=
  isVal_str tok (.all_plain h)

theorem isVal_quoteString (esc : Bool) (s : Bytes) : IsVal (quoteString esc s) :=
  isVal_str _ (escapeAux_valid esc s.length s (Nat.le_refl _))

theorem digitByte_toNat (n : Nat) : (digitByte n).toNat = 0x30 + n % 10 := by
  unfold digitByte
  rw [UInt8.toNat_ofNat']
  have : n % 10 < 10 := Nat.mod_lt _ (by decide)
  omega

theorem digitByte_isDigit (n : Nat) : isDigit (digitByte n) = true := by
  have := digitByte_toNat n
  have : n % 10 < 10 := Nat.mod_lt _ (by decide)
  simp only [isDigit, Bool.and_eq_true, decide_eq_true_eq, UInt8.le_iff_toNat_le]
  constructor <;> (simp; omega)

theorem isDigit_plain (c : UInt8) (h : isDigit c = true) : plain c := by
  simp only [isDigit, Bool.and_eq_true, decide_eq_true_eq, UInt8.le_iff_toNat_le] at h
  have h1 : (0x30 : UInt8).toNat = 48 := rfl
  have h2 : (0x39 : UInt8).toNat = 57 := rfl
  unfold plain; omega

theorem decDigitsAux_shape (fuel n : Nat) (acc : Bytes) (h : n < fuel) :
    ∃ d ds, decDigitsAux fuel n acc = d :: (ds ++ acc) ∧ isDigit d = true ∧
      (∀ x ∈ ds, isDigit x = true) ∧ ((d == 0x30) = true → n = 0 ∧ ds = []) := by
  fun_induction decDigitsAux fuel n acc
  · omega
  next n acc hlt =>
    refine ⟨digitByte n, [], rfl, digitByte_isDigit n, nofun, fun hz => ⟨?_, rfl⟩⟩
    have := digitByte_toNat n
    rw [eq_of_beq hz, show (0x30 : UInt8).toNat = 48 from rfl] at this
    omega
  next fuel n acc h10 ih =>
    obtain ⟨d, ds, e, hd, hds, h0⟩ := ih (by omega)
    refine ⟨d, ds ++ [digitByte n], by rw [e]; simp, hd, ?_, fun hz => absurd (h0 hz).1 (by omega)⟩
    intro x hx
    rcases List.mem_append.mp hx with hx | hx
    · exact hds x hx
    · rw [List.mem_singleton.mp hx]; exact digitByte_isDigit n

theorem skipDigits_all (ds : Bytes) (h : ∀ x ∈ ds, isDigit x = true) : skipDigits ds = [] := by
  induction ds with
  | nil => rfl
  | cons c ds ih => rw [skipDigits, if_pos (h c (by simp))]; exact ih fun x hx => h x (by simp [hx])

theorem isNumber_digits (d : UInt8) (ds : Bytes) (hd : isDigit d = true)
    (hds : ∀ x ∈ ds, isDigit x = true) (h0 : (d == 0x30) = true → ds = []) :
    isNumber (d :: ds) = true := by
  have hm : (d == 0x2D) = false := by
    simp only [beq_eq_false_iff_ne, ne_eq]; intro hx; subst hx; revert hd; decide
  unfold isNumber number
  simp only [optMinus, hm, Bool.false_eq_true, if_false, intPart]
  by_cases hz : (d == 0x30) = true
  · rw [if_pos hz, h0 hz]; rfl
  · rw [if_neg hz, if_pos hd]
    rw [skipDigits_all ds hds]; rfl

theorem isNumber_neg (tok : Bytes) (c : UInt8) (r : Bytes) (ht : tok = c :: r) (hc : isDigit c = true)
    (h : isNumber tok = true) : isNumber (0x2D :: tok) = true := by
  subst ht
  have hm : (c == 0x2D) = false := by
    simp only [beq_eq_false_iff_ne, ne_eq]; intro hx; subst hx; revert hc; decide
  unfold isNumber number at h ⊢
  simp only [optMinus, hm, Bool.false_eq_true, if_false] at h
  simp only [optMinus, beq_self_eq_true, if_true]
  exact h

theorem fmtNat_shape (n : Nat) : ∃ d ds, fmtNat n = d :: ds ∧ isDigit d = true ∧
    (∀ x ∈ ds, isDigit x = true) ∧ ((d == 0x30) = true → ds = []) := by
  obtain ⟨d, ds, e, hd, hds, h0⟩ := decDigitsAux_shape (n + 1) n [] (by omega)
  exact ⟨d, ds, by rw [fmtNat, e]; simp, hd, hds, fun hz => (h0 hz).2⟩

theorem fmtNat_number (n : Nat) : isNumber (fmtNat n) = true := by
  obtain ⟨d, ds, e, hd, hds, h0⟩ := fmtNat_shape n
  rw [e]; exact isNumber_digits d ds hd hds h0

theorem fmtNat_plain (n : Nat) : ∀ x ∈ fmtNat n, plain x := by
  obtain ⟨d, ds, e, hd, hds, _⟩ := fmtNat_shape n
  rw [e]; intro x hx
  simp at hx; rcases hx with rfl | hx
  · exact isDigit_plain _ hd
  · exact isDigit_plain _ (hds x hx)

theorem fmtInt_number (i : Int) : isNumber (fmtInt i) = true := by
  unfold fmtInt
  split
  · obtain ⟨d, ds, e, hd, _, _⟩ := fmtNat_shape i.natAbs
    exact isNumber_neg _ d ds e hd (fmtNat_number _)
  · exact fmtNat_number _

theorem fmtInt_plain (i : Int) : ∀ x ∈ fmtInt i, plain x := by
  unfold fmtInt
  split
  · intro x hx
    simp at hx; rcases hx with rfl | hx
    · unfold plain; decide
    · exact fmtNat_plain _ x hx
  · exact fmtNat_plain _

theorem isVal_quoteIf (q : Bool) (tok : Bytes) (hv : IsVal tok) (hp : ∀ x ∈ tok, plain x) :
    IsVal (quoteIf q tok) := by
  unfold quoteIf
  split
  · exact isVal_quoted tok hp
  · exact hv

theorem b64char_plain (n : Nat) : plain (b64char n) := by
  fun_cases b64char n
  · unfold plain; rw [UInt8.toNat_ofNat']; omega
  · unfold plain; rw [UInt8.toNat_ofNat']; omega
  · unfold plain; rw [UInt8.toNat_ofNat']; omega
  · unfold plain; decide
  · unfold plain; decide

theorem base64_plain (s : Bytes) : ∀ x ∈ base64 s, plain x := by
  have pad : plain 0x3D := by unfold plain; decide
  fun_induction base64 s
  · nofun
  · simp only [List.forall_mem_cons]; exact ⟨b64char_plain _, b64char_plain _, pad, pad, nofun⟩
  · simp only [List.forall_mem_cons]; exact ⟨b64char_plain _, b64char_plain _, b64char_plain _, pad, nofun⟩
  next ih =>
    simp only [List.forall_mem_cons]
    exact ⟨b64char_plain _, b64char_plain _, b64char_plain _, b64char_plain _, ih⟩

/-- An array and an object are one text: an opening byte, elements joined by commas, a closing byte,
    and the recogniser reads both with `openStep`/`tailStep` (`gram_succ`). The induction over the
    elements is therefore done once (`tail_text`, `container_text`), for any closing byte `close`, element
    reader `E` and tail reader `T`; `IsElem` is `IsVal` with these as parameters. -/
structure IsElem (close : UInt8) (E : Nat → Bytes → Option Bytes) (e : Bytes) : Prop where
  head : ∃ c r, e = c :: r ∧ isWs c = false ∧ (c == close) = false
  parse : ∀ (rest : Bytes) (f : Nat), Delim rest → (e ++ rest).length < f → E f (e ++ rest) = some rest

theorem IsVal.isElem {e : Bytes} (h : IsVal e) : IsElem 0x5D value e := ⟨h.head, h.parse⟩

def tailText (close : UInt8) : List Bytes → Bytes
  | [] => [close]
  | e :: es => 0x2C :: (e ++ tailText close es)

theorem joinElems_tail (close : UInt8) (e : Bytes) (es : List Bytes) :
    joinElems (e :: es) ++ [close] = e ++ tailText close es := by
  induction es generalizing e with
  | nil => simp [joinElems, tailText]
  | cons e' es ih =>
    simp only [joinElems, tailText, List.append_assoc, List.cons_append]
    rw [ih e']

theorem delim_tailText {close : UInt8} (hc : close = 0x5D ∨ close = 0x7D) (es : List Bytes) (rest : Bytes) :
    Delim (tailText close es ++ rest) := by
  cases es
  · exact .inr hc
  · exact .inl rfl

theorem tail_text {close : UInt8} (hc : close = 0x5D ∨ close = 0x7D) {E T : Nat → Bytes → Option Bytes}
    (hT : ∀ f bs, T (f + 1) bs = tailStep close (fun _ => E f) (fun _ => T f) 1 bs) :
    ∀ (es : List Bytes), (∀ e ∈ es, IsElem close E e) → ∀ (rest : Bytes) (f : Nat),
      (tailText close es ++ rest).length < f → T f (tailText close es ++ rest) = some rest := by
  have hws : isWs close = false := by rcases hc with rfl | rfl <;> decide
  have hcomma : ((0x2C : UInt8) == close) = false := by rcases hc with rfl | rfl <;> decide
  intro es
  induction es with
  | nil =>
    intro _ rest f hf
    cases f with
    | zero => simp at hf
    | succ f => simp [hT, tailStep, tailText, Spec.Json.skipWs, hws]
  | cons e es ih =>
    intro hall rest f hf
    cases f with
    | zero => simp at hf
    | succ f =>
      have he := hall e (by simp)
      simp only [tailText, List.cons_append, List.append_assoc] at hf ⊢
      have hlen : (e ++ (tailText close es ++ rest)).length < f := by simp at hf ⊢; omega
      have hlen2 : (tailText close es ++ rest).length < f := by simp at hlen ⊢; omega
      obtain ⟨c, r, rfl, hw, _⟩ := he.head
      have hp := he.parse _ f (delim_tailText hc es rest) hlen
      simp only [List.cons_append] at hp
      simp only [hT, tailStep, Spec.Json.skipWs, show isWs 0x2C = false by decide, Bool.false_eq_true,
        if_false, hcomma, beq_self_eq_true, if_true, List.cons_append, hw, hp, Option.bind_some]
      exact ih (fun x hx => hall x (by simp [hx])) rest f hlen2

theorem container_text {close : UInt8} (hc : close = 0x5D ∨ close = 0x7D) {E T : Nat → Bytes → Option Bytes}
    (hT : ∀ f bs, T (f + 1) bs = tailStep close (fun _ => E f) (fun _ => T f) 1 bs)
    (es : List Bytes) (hall : ∀ e ∈ es, IsElem close E e) (rest : Bytes) (f d : Nat)
    (hf : (joinElems es ++ [close] ++ rest).length < f) :
    openStep close (fun _ => E f) (fun _ => T f) (d + 1) (joinElems es ++ [close] ++ rest) = some rest := by
  cases es with
  | nil =>
    have hws : isWs close = false := by rcases hc with rfl | rfl <;> decide
    simp [openStep, joinElems, Spec.Json.skipWs, hws]
  | cons e es =>
    have he := hall e (by simp)
    rw [joinElems_tail, List.append_assoc] at hf ⊢
    have hlen2 : (tailText close es ++ rest).length < f := by simp at hf ⊢; omega
    obtain ⟨c, r, rfl, hw, hcl⟩ := he.head
    have hp := he.parse _ f (delim_tailText hc es rest) hf
    simp only [List.cons_append] at hp
    simp only [openStep, List.cons_append, Spec.Json.skipWs, hw, hcl, Bool.false_eq_true, if_false, hp,
      Option.bind_some]
    exact tail_text hc hT es (fun x hx => hall x (by simp [hx])) rest f hlen2

theorem isVal_array (es : List Bytes) (hall : ∀ e ∈ es, IsVal e) :
    IsVal (0x5B :: (joinElems es ++ [0x5D])) :=
  .of_cons _ _ fun rest f _ hf => by
    exact container_text (.inl rfl) (fun f bs => gram_succ f 0 bs .arrTail) es (fun e he => (hall e he).isElem) rest f 0 hf

def memberText (esc : Bool) (m : Bytes × Bytes) : Bytes := quoteString esc m.1 ++ 0x3A :: m.2

theorem joinMembers_eq (esc : Bool) : ∀ ms, joinMembers esc ms = joinElems (ms.map (memberText esc))
  | [] => rfl
  | [(k, v)] => rfl
  | (k, v) :: m :: ms => by
    have ih := joinMembers_eq esc (m :: ms)
    simp only [List.map] at ih ⊢
    simp only [joinMembers, joinElems, memberText, ih, List.append_assoc, List.cons_append]

theorem quoteString_head (esc : Bool) (k X : Bytes) :
    ∃ r, quoteString esc k ++ X = 0x22 :: r := ⟨_, rfl⟩

theorem isElem_member (esc : Bool) (m : Bytes × Bytes) (hv : IsVal m.2) : IsElem 0x7D member (memberText esc m) :=
  ⟨⟨_, _, rfl, by decide, by decide⟩, fun rest f hd hf => by
    cases f with
    | zero => simp at hf
    | succ f =>
      unfold memberText at hf ⊢
      simp only [List.append_assoc, List.cons_append] at hf ⊢
      unfold member
      rw [quoteString_string]
      simp only [Spec.Json.skipWs, show isWs 0x3A = false by decide, Bool.false_eq_true, if_false,
        beq_self_eq_true, if_true]
      rw [hv.skipWs]
      exact hv.parse rest f hd (by simp at hf ⊢; omega)⟩

theorem isVal_object (esc : Bool) (ms : List (Bytes × Bytes)) (hall : ∀ m ∈ ms, IsVal m.2) :
    IsVal (0x7B :: (joinMembers esc ms ++ [0x7D])) :=
  .of_cons _ _ fun rest f _ hf => by
    rw [joinMembers_eq] at hf ⊢
    refine container_text (.inr rfl) (fun f bs => gram_succ f 0 bs .objTail) _ (fun e he => ?_) rest f 0 hf
    obtain ⟨m, hm, rfl⟩ := List.mem_map.mp he
    exact isElem_member esc m (hall m hm)

theorem mem_insertSorted (p x : Bytes × Bytes) (l : List (Bytes × Bytes)) (h : x ∈ insertSorted p l) :
    x = p ∨ x ∈ l := by
  fun_induction insertSorted p l
  · exact .inl (List.mem_singleton.mp h)
  · exact List.mem_cons.mp h
  next ih =>
    rcases List.mem_cons.mp h with h | h
    · exact .inr (List.mem_cons.mpr (.inl h))
    · exact (ih h).imp_right fun h => List.mem_cons.mpr (.inr h)

theorem mem_sortMembers (x : Bytes × Bytes) (l : List (Bytes × Bytes)) (h : x ∈ sortMembers l) : x ∈ l := by
  induction l with
  | nil => simp [sortMembers] at h
  | cons p r ih =>
    simp only [sortMembers, List.foldr] at h
    rcases mem_insertSorted p x _ h with h | h
    · simp [h]
    · simp [ih h]

/-- A hypothesis on the raw messages inside a value (`rawsOK P`), since the encoder of a raw message calls
    `compact`; it holds of every input (`compact_valid` of JsonCompact, from the scanner's specification). -/
def CompactValidOn (src : Bytes) : Prop := ∀ (esc : Bool) (out : Bytes), compact esc src = .ok (some out) → IsVal out

theorem encRaw_valid (e : Bool) (b bs : Bytes) (hC : CompactValidOn b) (h : encRaw e b = .ok bs) : IsVal bs := by
  unfold encRaw at h
  split at h
  · rename_i o ho; injection h with h; subst h; exact hC e _ ho
  · cases h
  · cases h
  · cases h

theorem plain_lit_true : ∀ x ∈ trueB, plain x := by
  intro x hx; simp [trueB] at hx; rcases hx with rfl | rfl | rfl | rfl <;> (unfold plain; decide)
theorem plain_lit_false : ∀ x ∈ falseB, plain x := by
  intro x hx; simp [falseB] at hx; rcases hx with rfl | rfl | rfl | rfl | rfl <;> (unfold plain; decide)

section
variable {L : JsonLib} {q e : Bool}

theorem enc_array_ok {empty : Bool} {xs : List JV} {bs : Bytes} : enc L q e empty (.array xs) = .ok bs →
    ∃ es, encList L q e xs = .ok es ∧ 0x5B :: (joinElems es ++ [0x5D]) = bs := by
  simp only [enc]; cases encList L q e xs <;> simp

theorem enc_map_ok {empty : Bool} {kvs : List (Bytes × JV)} {bs : Bytes} : enc L q e empty (.map kvs) = .ok bs →
    ∃ ms, encMembers L q e kvs = .ok ms ∧ 0x7B :: (joinMembers e (sortMembers ms) ++ [0x7D]) = bs := by
  simp only [enc]; cases encMembers L q e kvs <;> simp

theorem encList_cons_ok {x : JV} {xs : List JV} {es : List Bytes} : encList L q e (x :: xs) = .ok es →
    ∃ b bs, enc L q e false x = .ok b ∧ encList L q e xs = .ok bs ∧ b :: bs = es := by
  simp only [encList]; cases enc L q e false x <;> cases encList L q e xs <;> simp

theorem encMembers_cons_ok {k : Bytes} {x : JV} {xs : List (Bytes × JV)} {ms : List (Bytes × Bytes)} :
    encMembers L q e ((k, x) :: xs) = .ok ms →
    ∃ b bs, enc L q e false x = .ok b ∧ encMembers L q e xs = .ok bs ∧ (k, b) :: bs = ms := by
  simp only [encMembers]; cases enc L q e false x <;> cases encMembers L q e xs <;> simp
end

mutual
theorem enc_valid (L : JsonLib) (hL : L.OK) (P : Bytes → Prop) (hC : ∀ b, P b → CompactValidOn b) :
    ∀ (v : JV) (q e empty : Bool) (bs : Bytes), rawsOK P v → enc L q e empty v = .ok bs →
      (empty = false ∨ isTopErr v = false) → IsVal bs
  | .undefined, q, e, empty, bs, hR, h, _ | .nil, q, e, empty, bs, hR, h, _ | .ptrNil, q, e, empty, bs, hR, h, _ => by
    simp only [enc] at h; injection h with h; subst h; exact isVal_null
  | .bool b, q, e, empty, bs, hR, h, _ => by
    simp only [enc] at h; injection h with h; subst h
    cases b
    · exact isVal_quoteIf q _ (isVal_lit (.inr (.inr rfl))) plain_lit_false
    · exact isVal_quoteIf q _ (isVal_lit (.inr (.inl rfl))) plain_lit_true
  | .int v, q, e, empty, bs, hR, h, _ | .char v, q, e, empty, bs, hR, h, _ => by
    simp only [enc] at h; injection h with h; subst h
    exact isVal_quoteIf q _ (isVal_number _ (fmtInt_number _)) (fmtInt_plain _)
  | .uint v, q, e, empty, bs, hR, h, _ => by
    simp only [enc] at h; injection h with h; subst h
    exact isVal_quoteIf q _ (isVal_number _ (fmtNat_number _)) (fmtNat_plain _)
  | .float f, q, e, empty, bs, hR, h, _ => by
    simp only [enc] at h
    split at h
    · cases h
    · rename_i hc
      injection h with h; subst h
      have h1 : F64.isInf f = false := by
        cases hh : F64.isInf f <;> simp_all
      have h2 : f.isNaN = false := by
        cases hh : f.isNaN <;> simp_all
      exact isVal_quoteIf q _ (isVal_number _ (hL.float_token f h1 h2)) (hL.float_plain f h1 h2)
  | .str s, q, e, empty, bs, hR, h, _ => by
    simp only [enc] at h
    split at h <;> (injection h with h; subst h; exact isVal_quoteString _ _)
  | .bytes s, q, e, empty, bs, hR, h, _ => by
    simp only [enc] at h; injection h with h; subst h
    exact isVal_quoted _ (base64_plain s)
  | .array xs, q, e, empty, bs, hR, h, _ => by
    obtain ⟨es, hx, rfl⟩ := enc_array_ok h
    exact isVal_array es (encList_valid L hL P hC xs q e es (by simpa [rawsOK] using hR) hx)
  | .map kvs, q, e, empty, bs, hR, h, _ => by
    obtain ⟨ms, hx, rfl⟩ := enc_map_ok h
    exact isVal_object e _ fun m hm =>
      encMembers_valid L hL P hC kvs q e ms (by simpa [rawsOK] using hR) hx m (mem_sortMembers m ms hm)
  | .opts q' e' v, q, e, empty, bs, hR, h, ht => by
    simp only [enc] at h
    exact enc_valid L hL P hC v q' e' empty bs (by simpa [rawsOK] using hR) h (by simpa [isTopErr] using ht)
  | .ptr v, q, e, empty, bs, hR, h, ht => by
    simp only [enc] at h
    exact enc_valid L hL P hC v q e empty bs (by simpa [rawsOK] using hR) h (by simpa [isTopErr] using ht)
  | .rawNil, q, e, empty, bs, hR, h, _ | .raw _, q, e, empty, bs, hR, h, _ => by
    simp only [enc] at h; exact encRaw_valid _ _ _ (hC _ (by simpa [rawsOK] using hR)) h
  | .errval, q, e, empty, bs, hR, h, ht => by
    simp only [enc] at h
    have : empty = false := by simpa [isTopErr] using ht
    subst this
    simp at h
  | .opaque tn, q, e, empty, bs, hR, h, _ => by
    simp only [enc] at h; cases h
theorem encList_valid (L : JsonLib) (hL : L.OK) (P : Bytes → Prop) (hC : ∀ b, P b → CompactValidOn b) :
    ∀ (xs : List JV) (q e : Bool) (es : List Bytes), rawsOKL P xs → encList L q e xs = .ok es → ∀ x ∈ es, IsVal x
  | [], q, e, es, _, h => by
    simp only [encList] at h; injection h with h; subst h; simp
  | x :: xs, q, e, es, hR, h => by
    simp only [rawsOKL] at hR
    obtain ⟨b, bs, hx, hxs, rfl⟩ := encList_cons_ok h
    intro y hy
    rcases List.mem_cons.mp hy with rfl | hy
    · exact enc_valid L hL P hC x q e false _ hR.1 hx (Or.inl rfl)
    · exact encList_valid L hL P hC xs q e bs hR.2 hxs y hy
theorem encMembers_valid (L : JsonLib) (hL : L.OK) (P : Bytes → Prop) (hC : ∀ b, P b → CompactValidOn b) :
    ∀ (kvs : List (Bytes × JV)) (q e : Bool) (ms : List (Bytes × Bytes)), rawsOKM P kvs →
      encMembers L q e kvs = .ok ms → ∀ m ∈ ms, IsVal m.2
  | [], q, e, ms, _, h => by
    simp only [encMembers] at h; injection h with h; subst h; simp
  | (k, x) :: xs, q, e, ms, hR, h => by
    simp only [rawsOKM] at hR
    obtain ⟨b, bs, hx, hxs, rfl⟩ := encMembers_cons_ok h
    intro y hy
    rcases List.mem_cons.mp hy with rfl | hy
    · exact enc_valid L hL P hC x q e false _ hR.1 hx (Or.inl rfl)
    · exact encMembers_valid L hL P hC xs q e bs hR.2 hxs y hy
end

mutual
theorem enc_unsupported (L : JsonLib) :
    ∀ (v : JV) (q e empty : Bool), hasUnsupported v = true → (empty = false ∨ isTopErr v = false) →
      ∀ bs, enc L q e empty v ≠ .ok bs
  | .opaque tn, q, e, empty, _, _, bs => by simp [enc]
  | .errval, q, e, empty, _, ht, bs => by
    have : empty = false := by simpa [isTopErr] using ht
    subst this; simp [enc]
  | .array xs, q, e, empty, hu, _, bs => by
    intro h
    obtain ⟨es, hx, _⟩ := enc_array_ok h
    exact encList_unsupported L xs q e (by simpa [hasUnsupported] using hu) es hx
  | .map kvs, q, e, empty, hu, _, bs => by
    intro h
    obtain ⟨ms, hx, _⟩ := enc_map_ok h
    exact encMembers_unsupported L kvs q e (by simpa [hasUnsupported] using hu) ms hx
  | .opts q' e' v, q, e, empty, hu, ht, bs => by
    simp only [enc]
    exact enc_unsupported L v q' e' empty (by simpa [hasUnsupported] using hu) (by simpa [isTopErr] using ht) bs
  | .ptr v, q, e, empty, hu, ht, bs => by
    simp only [enc]
    exact enc_unsupported L v q e empty (by simpa [hasUnsupported] using hu) (by simpa [isTopErr] using ht) bs
  | .undefined, _, _, _, hu, _, _ | .nil, _, _, _, hu, _, _ | .int _, _, _, _, hu, _, _ | .uint _, _, _, _, hu, _, _
  | .float _, _, _, _, hu, _, _ | .char _, _, _, _, hu, _, _ | .bool _, _, _, _, hu, _, _ | .str _, _, _, _, hu, _, _
  | .bytes _, _, _, _, hu, _, _ | .ptrNil, _, _, _, hu, _, _ | .rawNil, _, _, _, hu, _, _ | .raw _, _, _, _, hu, _, _ => by
    simp [hasUnsupported] at hu
theorem encList_unsupported (L : JsonLib) :
    ∀ (xs : List JV) (q e : Bool), anyUnsupported xs = true → ∀ es, encList L q e xs ≠ .ok es
  | [], q, e, hu, es => by simp [anyUnsupported] at hu
  | x :: xs, q, e, hu, es => by
    simp only [anyUnsupported, Bool.or_eq_true] at hu
    intro h
    obtain ⟨b, bs, hx, hxs, _⟩ := encList_cons_ok h
    rcases hu with hu | hu
    · exact enc_unsupported L x q e false hu (Or.inl rfl) b hx
    · exact encList_unsupported L xs q e hu bs hxs
theorem encMembers_unsupported (L : JsonLib) :
    ∀ (kvs : List (Bytes × JV)) (q e : Bool), anyUnsupportedM kvs = true → ∀ ms, encMembers L q e kvs ≠ .ok ms
  | [], q, e, hu, ms => by simp [anyUnsupportedM] at hu
  | (k, x) :: xs, q, e, hu, ms => by
    simp only [anyUnsupportedM, Bool.or_eq_true] at hu
    intro h
    obtain ⟨b, bs, hx, hxs, _⟩ := encMembers_cons_ok h
    rcases hu with hu | hu
    · exact enc_unsupported L x q e false hu (Or.inl rfl) b hx
    · exact encMembers_unsupported L xs q e hu bs hxs
end

end UgoVerif.Proofs.Json

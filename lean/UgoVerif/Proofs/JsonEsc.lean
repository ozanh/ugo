import UgoVerif.Model.JsonEnc
import UgoVerif.Spec.Json
/-
  String content as a notion of its own, `Body`. It is closed under append, so a writer of string content
  is correct once each piece it writes is `Body`: the escaper of `encodeState.string` here (on every byte
  string, invalid UTF-8 included), the escapes Compact writes (`acc_escape`), the quoted encoders (`isVal_str`).
-/
namespace UgoVerif.Proofs.Json
open UgoVerif UgoVerif.Go UgoVerif.Gen.JsonTables UgoVerif.Model.JsonScan UgoVerif.Model.JsonEnc UgoVerif.Spec.Json

def plain (c : UInt8) : Prop := c.toNat ≠ 0x22 ∧ c.toNat ≠ 0x5C ∧ 0x20 ≤ c.toNat

/-- For every continuation `X`: that is what makes it compose (`append`), and it rules out a closing
    quote and an escape cut short inside `b`. -/
def Body (b : Bytes) : Prop := ∀ X, strRest (b ++ X) = strRest X

namespace Body
theorem nil : Body [] := fun _ => rfl
theorem append {a b : Bytes} (ha : Body a) (hb : Body b) : Body (a ++ b) := fun X => by
  rw [List.append_assoc, ha, hb]

theorem close {b : Bytes} (h : Body b) (rest : Bytes) : strRest (b ++ 0x22 :: rest) = some rest := by
  rw [h, strRest.eq_def]; rfl

theorem plain {c : UInt8} (h : plain c) : Body [c] := fun X => by
  obtain ⟨h1, h2, h3⟩ := h
  have e1 : (c == 0x22) = false := by
    apply beq_false_of_ne; intro h; apply h1; rw [h]; rfl
  have e2 : (c == 0x5C) = false := by
    apply beq_false_of_ne; intro h; apply h2; rw [h]; rfl
  have e3 : ¬ (c < 0x20) := by
    rw [UInt8.lt_iff_toNat_lt]; simp; omega
  conv => lhs; rw [List.singleton_append, strRest.eq_def]
  simp [e1, e2, e3]

theorem all_plain : ∀ {p : Bytes}, (∀ x ∈ p, Json.plain x) → Body p
  | [], _ => nil
  | c :: _, h => (plain (h c (by simp))).append (all_plain fun x hx => h x (by simp [hx]))

theorem u4 {h1 h2 h3 h4 : UInt8} (e1 : isHex h1 = true) (e2 : isHex h2 = true) (e3 : isHex h3 = true)
    (e4 : isHex h4 = true) : Body [0x5C, 0x75, h1, h2, h3, h4] := fun X => by
  conv => lhs; rw [strRest.eq_def]
  simp [isEscChar, e1, e2, e3, e4]

theorem esc1 {c : UInt8} (e : isEscChar c = true) : Body [0x5C, c] := fun X => by
  conv => lhs; rw [strRest.eq_def]
  simp [e]
end Body

/-- `plain` for what either escape table lets through, as one linear pass over the two lists:
    indexing the array literals costs a walk per entry. -/
theorem safe_tabs : ((List.zipWith (· || ·) htmlSafeSet.toList safeSet.toList).zipIdx.all
    fun p => !p.1 || (p.2 != 0x22 && (p.2 != 0x5C && decide (0x20 ≤ p.2)))) = true := by decide

theorem safeAt_plain (b : UInt8) (h : b.toNat < 128) (hs : (htmlSafeAt b h || safeAt b h) = true) : plain b := by
  have := List.all_eq_true.mp safe_tabs (htmlSafeAt b h || safeAt b h, b.toNat) (by
    rw [List.mem_zipIdx_iff_getElem?]
    simp [htmlSafeAt, safeAt, htmlSafeSet_size, safeSet_size, h])
  simpa [hs, plain] using this

theorem hex_tab : ∀ i : Fin 16, isHex (hex[i.val]'(by rw [hex_size]; exact i.isLt)) = true := by decide
theorem hexAt_isHex (i : Nat) (h : i < 16) : isHex (hexAt i h) = true := hex_tab ⟨i, h⟩

theorem Body.escByte (b : UInt8) : Body (0x5C :: escByte b) := by
  fun_cases Model.JsonEnc.escByte b
  · rename_i h
    apply esc1
    simp only [Bool.or_eq_true, beq_iff_eq] at h
    rcases h with rfl | rfl <;> decide
  · exact esc1 (by decide)
  · exact esc1 (by decide)
  · exact esc1 (by decide)
  · exact esc1 (by decide)
  · exact esc1 (by decide)
  · exact u4 (by decide) (by decide) (hexAt_isHex _ _) (hexAt_isHex _ _)

theorem isCont_ge (b : UInt8) (h : isCont b = true) : 0x80 ≤ b.toNat := by
  simp [isCont, UInt8.le_iff_toNat_le] at h; omega
theorem lo3_ge (c : Nat) (b : UInt8) (h : lo3 c ≤ b) : 0x80 ≤ b.toNat := by
  rw [UInt8.le_iff_toNat_le] at h; unfold lo3 at h; split at h <;> simp at h <;> omega
theorem lo4_ge (c : Nat) (b : UInt8) (h : lo4 c ≤ b) : 0x80 ≤ b.toNat := by
  rw [UInt8.le_iff_toNat_le] at h; unfold lo4 at h; split at h <;> simp at h <;> omega

theorem decodeRune_multi (bs : Bytes) (hb : ∀ b ∈ bs.head?, 0x80 ≤ b.toNat) :
    decodeRune bs = (runeError, 1) ∨ bs = [] ∨
    (0 < (decodeRune bs).2 ∧ ∀ x ∈ bs.take (decodeRune bs).2, 0x80 ≤ x.toNat) := by
  revert hb
  fun_cases decodeRune bs <;> intro hb <;> try exact .inl rfl
  · exact .inr (.inl rfl)
  · have := hb _ rfl; omega
  all_goals
    refine .inr (.inr ⟨Nat.succ_pos _, fun x hx => ?_⟩)
    simp only [List.take, List.mem_cons, List.not_mem_nil, or_false] at hx
  · rcases hx with rfl | rfl
    · exact hb _ rfl
    · exact isCont_ge _ ‹_›
  · rename_i hc; simp only [Bool.and_eq_true, decide_eq_true_eq] at hc
    rcases hx with rfl | rfl | rfl
    · exact hb _ rfl
    · exact lo3_ge _ _ hc.1.1
    · exact isCont_ge _ hc.2
  · rename_i hc; simp only [Bool.and_eq_true, decide_eq_true_eq] at hc
    rcases hx with rfl | rfl | rfl | rfl
    · exact hb _ rfl
    · exact lo4_ge _ _ hc.1.1.1
    · exact isCont_ge _ hc.1.2
    · exact isCont_ge _ hc.2

theorem plain_of_ge (x : UInt8) (h : 0x80 ≤ x.toNat) : plain x := by
  unfold plain; omega

theorem escapeAux_valid (esc : Bool) : ∀ (fuel : Nat) (s : Bytes), s.length ≤ fuel → Body (escapeAux esc fuel s) := by
  intro fuel
  induction fuel with
  | zero =>
    intro s hs
    have : s = [] := List.eq_nil_of_length_eq_zero (by omega)
    subst this; exact .nil
  | succ n ih =>
    intro s hs
    cases s with
    | nil => exact .nil
    | cons b r =>
      have hr : r.length ≤ n := by simp at hs; omega
      unfold escapeAux
      split
      · rename_i h
        split
        · rename_i hsafe
          refine (Body.plain (safeAt_plain b h ?_)).append (ih r hr)
          simp only [Bool.or_eq_true, Bool.and_eq_true] at hsafe ⊢
          exact hsafe.imp_right And.right
        · exact (Body.escByte b).append (ih r hr)
      · rename_i h
        simp only []
        split
        · exact (Body.u4 (by decide) (by decide) (by decide) (by decide)).append (ih r hr)
        · rename_i hinv
          rcases decodeRune_multi (b :: r) (fun x hx => by cases hx; omega) with he | he | ⟨hpos, hall⟩
          · rw [he] at hinv; exact absurd rfl hinv
          · cases he
          · have hq : ((b :: r).drop (decodeRune (b :: r)).2).length ≤ n := by
              rw [List.length_drop]; simp only [List.length_cons]; omega
            split
            · exact (Body.u4 (by decide) (by decide) (by decide) (hexAt_isHex _ _)).append (ih _ hq)
            · exact (Body.all_plain fun x hx => plain_of_ge x (hall x hx)).append (ih _ hq)

/-- `e.string(s, escapeHTML)` writes exactly one JSON string token -/
theorem quoteString_string (esc : Bool) (s rest : Bytes) :
    Spec.Json.string (quoteString esc s ++ rest) = some rest := by
  unfold quoteString
  simp only [List.cons_append, List.append_assoc, Spec.Json.string]
  simp only [beq_self_eq_true, if_true]
  exact (escapeAux_valid esc s.length s (Nat.le_refl _)).close rest

end UgoVerif.Proofs.Json

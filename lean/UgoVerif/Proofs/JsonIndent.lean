import UgoVerif.Proofs.JsonScanSpec
/-
  C17: `indentBuffer` (indent.go) returns bytes exactly for the inputs the scanner accepts: its loop keeps the
  invariant of `checkLoop` (`checkLoop_resid`), what the scanner's configuration accepts of the rest.
  Nothing is said of the bytes written.
-/
namespace UgoVerif.Proofs.Json
open UgoVerif UgoVerif.Go UgoVerif.Spec.Json UgoVerif.Model.JsonScan UgoVerif.Gen.JsonTables

/-- The output state of the next iteration is left existential: nothing of it is needed. -/
theorem indentLoop_cons (pre ind rest : Bytes) (st : IndentSt) (c : UInt8) (sc : Scanner) (v : Op)
    (h : step st.scan c = .ok (sc, v)) :
    ∃ st1, st1.scan = sc ∧ indentLoop pre ind st (c :: rest) =
      if v == .error then .ok { st with scan := sc } else indentLoop pre ind st1 rest := by
  rw [indentLoop, h]
  cases v
  case skipSpace | error => exact ⟨{ st with scan := sc }, rfl, rfl⟩
  all_goals exact ⟨_, by simp only [apply_ite IndentSt.scan, ite_self], rfl⟩

theorem indentLoop_run (pre ind : Bytes) : ∀ (rest : Bytes) (st : IndentSt), WF st.scan →
    ∃ st', indentLoop pre ind st rest = .ok st' ∧ WF st'.scan ∧ resid st'.scan [] = resid st.scan rest
  | [], st, hw => ⟨st, rfl, hw, rfl⟩
  | c :: rest, st, hw => by
    obtain ⟨sc, v, e, hwsc, hop, hv, _⟩ := step_resid st.scan c rest hw
    obtain ⟨st1, hsc, e1⟩ := indentLoop_cons pre ind rest st c sc v e
    rw [e1, hv]
    by_cases hve : (v == .error) = true
    · have hE := hop (eq_of_beq hve)
      rw [if_pos hve]; exact ⟨_, rfl, hwsc, by rw [resid_error hE, resid_error hE]⟩
    · rw [if_neg hve, ← hsc]
      exact indentLoop_run pre ind rest st1 (hsc ▸ hwsc)

theorem indent_spec (pre ind src : Bytes) :
    ∃ o, indent pre ind src = .ok o ∧ o.isSome = resid Scanner.new src := by
  obtain ⟨st', e', hw', hr'⟩ := indentLoop_run pre ind src
    { scan := Scanner.new, out := [], needIndent := false, depth := 0 } wf_new
  obtain ⟨s'', op, he, hr⟩ := eof_resid st'.scan hw'
  rw [hr'] at hr
  unfold indent
  simp only [e', Res.bind_ok, he, ← hr]
  cases op <;> exact ⟨_, rfl, rfl⟩

end UgoVerif.Proofs.Json

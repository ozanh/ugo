import UgoVerif.Proofs.JsonSpecD
/-
  `IsVal bs`: `bs` is read as one JSON value wherever a delimiter follows (`Delim`: the end of the text, `,`,
  `]`, `}`), with any sufficient fuel. In this form what the encoders write composes into arrays and
  objects. A number asks something of what follows it (`Term`) because the recogniser reads a number up to
  the first byte that cannot continue it; the other tokens end by themselves.
-/
namespace UgoVerif.Proofs.Json
open UgoVerif UgoVerif.Go UgoVerif.Spec.Json

def Delim : Bytes → Prop
  | [] => True
  | c :: _ => c = 0x2C ∨ c = 0x5D ∨ c = 0x7D

def Term : Bytes → Prop
  | [] => True
  | b :: _ => isDigit b = false ∧ (b == 0x2E) = false ∧ (b == 0x65 || b == 0x45) = false

theorem Term.of_eq {b : UInt8} (x : UInt8) (t : Bytes) (h : (b == x) = true)
    (hx : isDigit x = false ∧ (x == 0x2E) = false ∧ (x == 0x65 || x == 0x45) = false := by decide) : Term (b :: t) :=
  eq_of_beq h ▸ hx

theorem Term.of_ws {b : UInt8} (t : Bytes) (h : isWs b = true) : Term (b :: t) := by
  simp only [isWs, Bool.or_eq_true] at h
  rcases h with ((h | h) | h) | h
  · exact .of_eq 0x20 t h
  · exact .of_eq 0x09 t h
  · exact .of_eq 0x0A t h
  · exact .of_eq 0x0D t h

theorem Delim.term : ∀ {rest : Bytes}, Delim rest → Term rest
  | [], _ => trivial
  | _ :: _, h => by rcases h with rfl | rfl | rfl <;> exact ⟨by decide, by decide, by decide⟩

theorem skipDigits_append (bs rest : Bytes) (h : Term rest) :
    skipDigits (bs ++ rest) = skipDigits bs ++ rest := by
  induction bs with
  | nil =>
    cases rest with
    | nil => rfl
    | cons c r => simp [skipDigits, h.1]
  | cons c bs ih =>
    simp only [List.cons_append, skipDigits]
    split
    · exact ih
    · rfl

theorem Le.some_eq {φ : Bytes → Bytes} {r x : Bytes} (e : x = φ r) : Le φ (Option.some r) (Option.some x) := e ▸ Le.some r

section
variable {rest : Bytes} (h : Term rest)
include h

theorem digits1_append : ∀ bs, Le (· ++ rest) (digits1 bs) (digits1 (bs ++ rest))
  | [] => Le.none
  | _ :: t => Le.ite _ (Le.some_eq (skipDigits_append t rest h)) Le.none

theorem intPart_append : ∀ bs, Le (· ++ rest) (intPart bs) (intPart (bs ++ rest))
  | [] => Le.none
  | _ :: t => Le.ite _ (Le.some _) (Le.ite _ (Le.some_eq (skipDigits_append t rest h)) Le.none)

theorem fracPart_term : fracPart rest = some rest := by
  cases rest with
  | nil => rfl
  | cons c r => simp [fracPart, h.2.1]

theorem expPart_term : expPart rest = some rest := by
  cases rest with
  | nil => rfl
  | cons c r => simp only [expPart, h.2.2, Bool.false_eq_true, if_false]

theorem fracPart_append : ∀ bs, Le (· ++ rest) (fracPart bs) (fracPart (bs ++ rest))
  | [] => fun _ e => by cases e; exact fracPart_term h
  | _ :: t => Le.ite _ (digits1_append h t) (Le.some _)

theorem expPart_append : ∀ bs, Le (· ++ rest) (expPart bs) (expPart (bs ++ rest))
  | [] => fun _ e => by cases e; exact expPart_term h
  | _ :: [] => Le.ite _ Le.none (Le.some _)
  | _ :: s :: t => Le.ite _ (Le.ite _ (digits1_append h t) (digits1_append h (s :: t))) (Le.some _)

end

theorem number_bind (bs : Bytes) : number bs = ((intPart (optMinus bs)).bind fracPart).bind expPart := by
  unfold number
  cases intPart (optMinus bs) with
  | none => rfl
  | some r1 =>
    show (match fracPart r1 with | none => none | some r2 => expPart r2) = (fracPart r1).bind expPart
    cases fracPart r1 <;> rfl

theorem number_append (bs r rest : Bytes) (h : Term rest) (hd : number bs = some r) :
    number (bs ++ rest) = some (r ++ rest) := by
  cases bs with
  | nil => cases hd
  | cons c t =>
    have hopt : optMinus (c :: t ++ rest) = optMinus (c :: t) ++ rest := by
      simp only [optMinus, List.cons_append]; split <;> rfl
    rw [number_bind] at hd ⊢
    rw [hopt]
    exact Le.bind (Le.bind (intPart_append h _) fun _ _ => fracPart_append h _) (fun _ _ => expPart_append h _) r hd
theorem number_head (c : UInt8) (r x : Bytes) (h : number (c :: r) = some x) :
    (c == 0x2D || isDigit c) = true := by
  unfold number at h
  by_cases hc : (c == 0x2D) = true
  · simp [hc]
  · simp only [optMinus] at h
    rw [if_neg hc] at h
    cases h1 : intPart (c :: r) with
    | none => simp [h1] at h
    | some r1 =>
      simp only [intPart] at h1
      by_cases h0 : (c == 0x30) = true
      · have : c = 0x30 := by simpa using h0
        subst this; decide
      · rw [if_neg h0] at h1
        by_cases hd : isDigit c = true
        · simp [hd]
        · rw [if_neg hd] at h1; simp at h1

/-- `head` is what the recogniser looks at before it reads an element of an array: `skipWs`, then the
    test for the `]` of an empty array. -/
structure IsVal (bs : Bytes) : Prop where
  head : ∃ c r, bs = c :: r ∧ isWs c = false ∧ (c == 0x5D) = false
  parse : ∀ (rest : Bytes) (f : Nat), Delim rest → (bs ++ rest).length < f → value f (bs ++ rest) = some rest

theorem IsVal.of_cons (c : UInt8) (t : Bytes)
    (h : ∀ (rest : Bytes) (f : Nat), Delim rest → (t ++ rest).length < f →
      valueStep (gram f) 1 (c :: (t ++ rest)) = some rest)
    (hc : isWs c = false := by decide) (h5 : (c == 0x5D) = false := by decide) : IsVal (c :: t) :=
  ⟨⟨c, t, rfl, hc, h5⟩, fun rest f hd hf => by
    cases f with
    | zero => exact absurd hf (Nat.not_lt_zero _)
    | succ f => exact (value_succ f 0 _).trans (h rest f hd (Nat.lt_of_succ_lt_succ hf))⟩

theorem IsVal.skipWs {bs : Bytes} (h : IsVal bs) (rest : Bytes) : skipWs (bs ++ rest) = bs ++ rest := by
  obtain ⟨c, r, rfl, hw, _⟩ := h.head
  simp [Spec.Json.skipWs, hw]

theorem IsVal.isJson {bs : Bytes} (h : IsVal bs) : isJson bs = true := by
  unfold Spec.Json.isJson
  have h1 := h.skipWs []
  simp only [List.append_nil] at h1
  rw [h1]
  have h2 := h.parse [] (bs.length + 1) trivial (by simp)
  simp only [List.append_nil] at h2
  rw [h2]; rfl

theorem isVal_number (tok : Bytes) (h : isNumber tok = true) : IsVal tok := by
  have hn : number tok = some [] := by
    unfold isNumber at h
    split at h
    · assumption
    · simp at h
  cases tok with
  | nil => simp [number, optMinus, intPart] at hn
  | cons c r =>
    have hh := number_head c r [] hn
    -- the first byte is `-` or a digit, hence none of the other bytes that `value` and `isWs` test for
    have notc : ∀ k : UInt8, (k == 0x2D || isDigit k) = false → (c == k) = false := by
      intro k hk
      cases hck : c == k with
      | false => rfl
      | true => rw [eq_of_beq hck, hk] at hh; cases hh
    refine .of_cons c r (fun rest f hd _ => ?_) ?_ (notc 0x5D (by decide))
    · have := number_append _ _ rest hd.term hn
      simp only [List.cons_append, List.nil_append] at this
      simp only [valueStep, notc 0x22 (by decide), notc 0x5B (by decide), notc 0x7B (by decide), notc 0x74 (by decide),
        notc 0x66 (by decide), notc 0x6E (by decide), hh, if_true, if_false, Bool.false_eq_true]
      exact this
    · simp only [isWs, notc 0x20 (by decide), notc 0x09 (by decide), notc 0x0A (by decide), notc 0x0D (by decide),
        Bool.or_self]

end UgoVerif.Proofs.Json

import UgoVerif.Proofs.JsonSpecD
import UgoVerif.Proofs.JsonNum
import UgoVerif.Model.JsonScan
/-
  C17: the scanner automaton (`Model/JsonScan.lean`) accepts exactly the JSON texts of
  nesting depth ≤ maxNestingDepth (`Spec/JsonDepth.lean`).

  Method: for every scanner configuration `s` (state + parse stack) `resid s : Bytes → Bool`
  is the language that the RECOGNISER still expects (a Brzozowski-style residual written with
  the phrase functions of `Spec/Json`), and one step of the automaton is the derivative:
  `resid s (c :: rest) = resid s' rest` (`step_resid`), `resid s [] = (eof s ≠ scanError)`
  (`eof_resid`).  Hence `checkLoop s bs = ok (resid s bs)` for all `bs`, and
  `resid Scanner.new = isJsonD maxNestingDepth`.

  `step_resid` is proved leaf by leaf of `step`, each state a term that follows the model text
  (`D_ite`, `D_goto`, ..).  Its postcondition `D` also says what the opcode returned means, which
  is what `compact` goes by: a skip opcode only for a white space byte that may be dropped, any
  other opcode only for a byte that is not `special` or inside a string that the scanner stays in.
-/
namespace UgoVerif.Proofs.Json
open UgoVerif UgoVerif.Go UgoVerif.Spec.Json UgoVerif.Model.JsonScan UgoVerif.Gen.JsonTables

theorem forall_uint8 (P : UInt8 → Prop) (h : ∀ n : Fin 256, P (UInt8.ofNat n.val)) : ∀ c, P c := by
  intro c
  have := h ⟨c.toNat, c.toNat_lt⟩
  simpa using this

theorem isSpace_eq (c : UInt8) : isSpace c = isWs c := by
  unfold isSpace
  have e : (c == 0x20 || c == 0x09 || c == 0x0D || c == 0x0A) = isWs c := by unfold isWs; ac_rfl
  rw [e]
  cases h : isWs c with
  | false => exact Bool.and_false _
  | true =>
    have : c ≤ 0x20 := by
      simp only [isWs, Bool.or_eq_true, beq_iff_eq] at h
      rcases h with ((rfl | rfl) | rfl) | rfl <;> decide
    rw [decide_eq_true this]; rfl
theorem isHexDig_eq (c : UInt8) : isHexDig c = isHex c := by
  unfold isHexDig isHex isDigit; ac_rfl
theorem isDig_eq (c : UInt8) : isDig c = isDigit c := rfl
theorem isDigit_split (c : UInt8) : isDigit c = (c == 0x30 || isDig19 c) := by
  unfold isDigit isDig19
  rw [Bool.eq_iff_iff]
  simp only [Bool.and_eq_true, Bool.or_eq_true, decide_eq_true_eq, beq_iff_eq, UInt8.le_iff_toNat_le, ← UInt8.toNat_inj]
  show (48 ≤ c.toNat ∧ c.toNat ≤ 57) ↔ (c.toNat = 48 ∨ 49 ≤ c.toNat ∧ c.toNat ≤ 57)
  omega
theorem isEscChar_eq (c : UInt8) : isEscChar c =
    (c == 0x62 || c == 0x66 || c == 0x6E || c == 0x72 || c == 0x74 || c == 0x5C || c == 0x2F || c == 0x22) := by
  unfold isEscChar; ac_rfl
theorem lt20_eq : ∀ c : UInt8, decide (c < 0x20) = (c.toNat < 0x20 : Bool) := by
  intro c; exact decide_eq_decide.mpr UInt8.lt_iff_toNat_lt

def andK (o : Option Bytes) (k : Bytes → Bool) : Bool :=
  match o with
  | none => false
  | some r => k r

@[simp] theorem andK_none (k : Bytes → Bool) : andK none k = false := rfl
@[simp] theorem andK_some (r : Bytes) (k : Bytes → Bool) : andK (some r) k = k r := rfl
theorem andK_bind (o : Option Bytes) (g : Bytes → Option Bytes) (k : Bytes → Bool) :
    andK (o.bind g) k = andK o (fun r => andK (g r) k) := by
  cases o <;> rfl

def budget (ps : List PS) : Nat := maxNestingDepth - ps.length

/-- The continuation: what the recogniser expects after a value has been completed inside the containers `ps`. -/
def K : List PS → Bytes → Bool
  | [], rest => (skipWs rest).isEmpty
  | .arrayValue :: ps, rest => andK (arrTailC (maxNestingDepth - (ps.length + 1)) rest) (K ps)
  | .objectValue :: ps, rest => andK (objTailC (maxNestingDepth - (ps.length + 1)) rest) (K ps)
  | .objectKey :: ps, rest =>
    match skipWs rest with
    | [] => false
    | c :: r2 =>
      if c == 0x3A then
        andK (valueC (maxNestingDepth - (ps.length + 1)) (skipWs r2))
          (fun r3 => andK (objTailC (maxNestingDepth - (ps.length + 1)) r3) (K ps))
      else false

def afterInt (r : Bytes) : Option Bytes := (fracPart r).bind expPart
def expSign : Bytes → Option Bytes
  | [] => none
  | s :: r => if s == 0x2B || s == 0x2D then digits1 r else digits1 (s :: r)
def hexRest : Nat → Bytes → Option Bytes
  | 0, r => strRest r
  | _ + 1, [] => none
  | n + 1, h :: r => if isHex h then hexRest n r else none
def escRest : Bytes → Option Bytes
  | [] => none
  | e :: r => if isEscChar e then strRest r else if e == 0x75 then hexRest 4 r else none

def tok : St → Bytes → Option Bytes
  | .inString => strRest
  | .inStringEsc => escRest
  | .inStringEscU => hexRest 4
  | .inStringEscU1 => hexRest 3
  | .inStringEscU12 => hexRest 2
  | .inStringEscU123 => hexRest 1
  | .neg => fun r => (intPart r).bind afterInt
  | .s1 => fun r => afterInt (skipDigits r)
  | .s0 => afterInt
  | .dot => fun r => (digits1 r).bind expPart
  | .dot0 => fun r => expPart (skipDigits r)
  | .e => expSign
  | .eSign => digits1
  | .e0 => fun r => some (skipDigits r)
  | .t => lit [0x72, 0x75, 0x65]
  | .tr => lit [0x75, 0x65]
  | .tru => lit [0x65]
  | .f => lit [0x61, 0x6C, 0x73, 0x65]
  | .fa => lit [0x6C, 0x73, 0x65]
  | .fal => lit [0x73, 0x65]
  | .fals => lit [0x65]
  | .n => lit [0x75, 0x6C, 0x6C]
  | .nu => lit [0x6C, 0x6C]
  | .nul => lit [0x6C]
  | _ => fun _ => none

def resid (s : Scanner) (rest : Bytes) : Bool :=
  match s.step with
  | .beginValue => andK (valueC (budget s.parseState) (skipWs rest)) (K s.parseState)
  | .beginValueOrEmpty =>
    match skipWs rest with
    | [] => false
    | c :: r =>
      if c == 0x5D then K s.parseState (c :: r)
      else andK (valueC (budget s.parseState) (c :: r)) (K s.parseState)
  | .beginStringOrEmpty =>
    match s.parseState with
    | [] => false
    | _ :: ps =>
      match skipWs rest with
      | [] => false
      | c :: r => if c == 0x7D then K ps r else andK (string (c :: r)) (K s.parseState)
  | .beginString => andK (string (skipWs rest)) (K s.parseState)
  | .endValue => K s.parseState rest
  | .endTop => K [] rest
  | .error => false
  | st => andK (tok st rest) (K s.parseState)

/-- The Go scanner keeps `err` and `endTop` beside `step`; on reachable configurations they agree with it. -/
structure WF (s : Scanner) : Prop where
  err : s.err = true ↔ s.step = .error
  top : s.step = .endTop → s.endTop = true
  top' : s.endTop = true → s.step = .endTop ∨ s.step = .error
  stk : s.step = .beginStringOrEmpty → s.parseState ≠ []

theorem wf_new : WF Scanner.new := by
  constructor <;> simp [Scanner.new]

theorem wf_err_false (s : Scanner) (h : WF s) (hs : s.step ≠ .error) : s.err = false := by
  cases he : s.err with
  | false => rfl
  | true => exact absurd (h.err.mp he) hs

/-- white space, the HTML-sensitive bytes and the first byte of U+2028/9: what `compact` may drop or rewrite -/
def special (c : UInt8) : Bool :=
  c == 0x3C || c == 0x3E || c == 0x26 || c == 0xE2 || c == 0x20 || c == 0x09 || c == 0x0A || c == 0x0D

theorem nsp (c : UInt8) (P : UInt8 → Bool) (h : P c = true)
    (hP : (P 0x3C || P 0x3E || P 0x26 || P 0xE2 || P 0x20 || P 0x09 || P 0x0A || P 0x0D) = false := by decide) :
    special c = false := by
  cases hs : special c with
  | false => rfl
  | true =>
    simp only [special, Bool.or_eq_true, beq_iff_eq] at hs
    rcases hs with ((((((rfl | rfl) | rfl) | rfl) | rfl) | rfl) | rfl) | rfl <;> simp [h] at hP

theorem nsp_eq (c x : UInt8) (h : (c == x) = true) (hx : special x = false := by decide) : special c = false :=
  eq_of_beq h ▸ hx

/-- What a step that returns `scanSkipSpace` or `scanEnd` without an error has done. Only this direction of the
    second clause holds: white space that ends a number leaves less accepted behind it than before it. -/
def Skipped (s0 : Scanner) (c : UInt8) (s' : Scanner) : Prop :=
  isSpace c = true ∧ ∀ w, resid s' w = true → resid s0 w = true

/-- `r` is the result of a step on the byte `c`, taken from configuration `s0`, whose residual on `c :: rest` is `v`;
    `v` is a parameter so that a state's lemma can follow the recogniser's own case tree (`D_ite`, `D_test`).
    `op = .error → s'.step = .error` is for the loops, which stop at an error opcode: the error state accepts nothing.
    The last two clauses say what the opcode tells `compact`: after a skip opcode the byte may be dropped; any other
    opcode is returned for a byte that is not special, except inside a string, where the scanner stays as it is. -/
def D (s0 : Scanner) (c : UInt8) (v : Bool) (rest : Bytes) (r : R) : Prop :=
  ∃ s' op, r = .ok (s', op) ∧ WF s' ∧ (op = .error → s'.step = .error) ∧ v = resid s' rest ∧
    (op.geSkipSpace = false ∨ s'.err = true ∨ Skipped s0 c s') ∧
    (op.geSkipSpace = true ∨ special c = false ∨ (s0.step = .inString ∧ s' = s0))

variable {s0 : Scanner} {c : UInt8}

theorem D_error (s : Scanner) (v : Bool) (rest : Bytes) (hv : v = false) : D s0 c v rest s.error := by
  refine ⟨_, _, rfl, ?_, fun _ => rfl, ?_, .inr (.inl rfl), .inl rfl⟩
  · constructor <;> simp
  · simp [resid, hv]

theorem wf_goto (s : Scanner) (st : St) (herr : s.err = false) (hend : s.endTop = false)
    (h1 : st ≠ .error) (h2 : st ≠ .endTop) (h3 : st ≠ .beginStringOrEmpty) : WF { s with step := st } := by
  constructor <;> simp [herr, hend, h1, h2, h3]

theorem D_goto (s : Scanner) (st : St) (op : Op) (v : Bool) (rest : Bytes)
    (herr : s.err = false) (hend : s.endTop = false) (hv : v = resid { s with step := st } rest := by rfl)
    (h1 : st ≠ .error := by decide) (h2 : st ≠ .endTop := by decide) (h3 : st ≠ .beginStringOrEmpty := by decide)
    (hop : op ≠ .error := by decide) (hsk : op.geSkipSpace = false ∨ Skipped s0 c { s with step := st } := by exact .inl rfl)
    (hcp : op.geSkipSpace = true ∨ special c = false := by exact .inr (by assumption)) :
    D s0 c v rest (goto s st op) :=
  ⟨_, _, rfl, wf_goto s st herr hend h1 h2 h3, fun h => absurd h hop, hv, hsk.imp_right .inr, hcp.imp_right .inl⟩

theorem D_same (s : Scanner) (op : Op) (v : Bool) (rest : Bytes) (h : WF s) (hv : v = resid s rest)
    (hop : op ≠ .error := by decide) (hsk : op.geSkipSpace = false ∨ s.err = true ∨ Skipped s0 c s := by exact .inl rfl)
    (hcp : op.geSkipSpace = true ∨ special c = false ∨ (s0.step = .inString ∧ s = s0) := by
      exact .inr (.inl (by assumption))) :
    D s0 c v rest (.ok (s, op)) :=
  ⟨_, _, rfl, h, fun h => absurd h hop, hv, hsk, hcp⟩


/-- a state that goes on to `st` when the byte passes a test and reports an error otherwise -/
theorem D_test (s : Scanner) (b : Bool) (o : Option Bytes) (rest : Bytes) (st : St) {op : Op}
    (herr : s.err = false) (hend : s.endTop = false)
    (hb : b = true → special c = false) (hv : resid { s with step := st } rest = andK o (K s.parseState) := by rfl)
    (h1 : st ≠ .error := by decide) (h2 : st ≠ .endTop := by decide) (h3 : st ≠ .beginStringOrEmpty := by decide)
    (hop : op ≠ .error := by decide) (hsk : op.geSkipSpace = false := by rfl) :
    D s0 c (andK (if b then o else none) (K s.parseState)) rest (if b then goto s st op else s.error) := by
  cases b with
  | true => exact D_goto s st _ _ _ herr hend hv.symm h1 h2 h3 hop (.inl hsk) (.inr (hb rfl))
  | false => exact D_error s _ _ rfl

/-- a test in the recogniser that the scanner makes too -/
theorem D_if {p : Prop} [Decidable p] {v1 v2 : Bool} {rest : Bytes} {r1 r2 : R}
    (h1 : p → D s0 c v1 rest r1) (h2 : ¬ p → D s0 c v2 rest r2) :
    D s0 c (if p then v1 else v2) rest (if p then r1 else r2) := by
  split
  · exact h1 ‹_›
  · exact h2 ‹_›

theorem D_ite {p : Prop} [Decidable p] {o1 o2 : Option Bytes} {k : Bytes → Bool} {rest : Bytes} {r1 r2 : R}
    (h1 : p → D s0 c (andK o1 k) rest r1) (h2 : ¬ p → D s0 c (andK o2 k) rest r2) :
    D s0 c (andK (if p then o1 else o2) k) rest (if p then r1 else r2) := by
  rw [apply_ite (andK · k)]
  exact D_if h1 h2

/-- a test that no special byte passes: below it the byte is known not to be special -/
theorem D_if' {p : Prop} [Decidable p] {v1 v2 : Bool} {rest : Bytes} {r1 r2 : R} (hp : p → special c = false)
    (h1 : special c = false → D s0 c v1 rest r1) (h2 : ¬ p → D s0 c v2 rest r2) :
    D s0 c (if p then v1 else v2) rest (if p then r1 else r2) :=
  D_if (fun h => h1 (hp h)) h2

theorem D_ite' {p : Prop} [Decidable p] {o1 o2 : Option Bytes} {k : Bytes → Bool} {rest : Bytes} {r1 r2 : R}
    (hp : p → special c = false)
    (h1 : special c = false → D s0 c (andK o1 k) rest r1) (h2 : ¬ p → D s0 c (andK o2 k) rest r2) :
    D s0 c (andK (if p then o1 else o2) k) rest (if p then r1 else r2) :=
  D_ite (fun h => h1 (hp h)) h2

theorem skipWs_ws (c : UInt8) (r : Bytes) (h : isWs c = true) : skipWs (c :: r) = skipWs r := by
  simp [skipWs, h]
theorem skipWs_not (c : UInt8) (r : Bytes) (h : isWs c = false) : skipWs (c :: r) = c :: r := by
  simp [skipWs, h]

/-- a state that skips white space: what it expects, it expects of the input behind the white space -/
theorem D_ws {s : Scanner} {F : Bytes → Bool} {rest : Bytes} {r : R} (h : WF s) (hres : ∀ w, resid s w = F (skipWs w))
    (hskip : isSpace c = true → r = .ok (s, .skipSpace)) (hr : isSpace c = false → D s c (F (c :: rest)) rest r) :
    D s c (resid s (c :: rest)) rest r := by
  rw [hres]
  cases hc : isSpace c with
  | true =>
    rw [hskip hc, skipWs_ws c rest (by rw [← isSpace_eq]; exact hc), ← hres]
    exact D_same _ _ _ _ h rfl (by decide) (.inr (.inr ⟨hc, fun _ hw => hw⟩)) (.inl rfl)
  | false => rw [skipWs_not c rest (by rw [← isSpace_eq]; exact hc)]; exact hr hc

theorem budget_cons (p : PS) (ps : List PS) : budget (p :: ps) = maxNestingDepth - (ps.length + 1) := by
  simp [budget]

theorem tailStep_ws (close : UInt8) (E T : Rec) (d : Nat) (c : UInt8) (rest : Bytes) (h : isWs c = true) :
    tailStep close E T d (c :: rest) = tailStep close E T d rest := by
  simp only [tailStep, skipWs_ws c rest h]

/-- after an element, the tests in the order the scanner makes them (`,` before the closing byte) -/
theorem tailStep_not (close : UInt8) (E T : Rec) (d : Nat) (c : UInt8) (rest : Bytes) (k : Bytes → Bool)
    (h : isWs c = false) (hx : ((0x2C : UInt8) == close) = false := by decide) :
    andK (tailStep close E T d (c :: rest)) k =
      if c == 0x2C then andK ((E d (skipWs rest)).bind (T d)) k else if c == close then k rest else false := by
  simp only [tailStep, skipWs_not c rest h]
  by_cases h2 : (c == 0x2C) = true
  · rw [if_pos h2, if_pos h2, if_neg]
    rw [show c = 0x2C by simpa using h2, hx]; exact Bool.false_ne_true
  rw [if_neg h2, if_neg h2]
  split <;> rfl

theorem K_ws (ps : List PS) (c : UInt8) (rest : Bytes) (h : isWs c = true) : K ps (c :: rest) = K ps rest := by
  cases ps with
  | nil => simp only [K, skipWs_ws c rest h]
  | cons p ps =>
    cases p with
    | objectKey => simp only [K, skipWs_ws c rest h]
    | objectValue => simp only [K, objTailC_eq, tailStep_ws _ _ _ _ c rest h]
    | arrayValue => simp only [K, arrTailC_eq, tailStep_ws _ _ _ _ c rest h]

theorem K_nil_not (c : UInt8) (rest : Bytes) (h : isWs c = false) : K [] (c :: rest) = false := by
  simp [K, skipWs_not c rest h]

theorem K_arr (ps : List PS) (c : UInt8) (rest : Bytes) (h : isWs c = false) :
    K (.arrayValue :: ps) (c :: rest) =
      if c == 0x2C then andK (valueC (budget (.arrayValue :: ps)) (skipWs rest)) (K (.arrayValue :: ps))
      else if c == 0x5D then K ps rest
      else false := by
  simp only [K, budget_cons]
  rw [arrTailC_eq, tailStep_not _ _ _ _ c rest _ h, andK_bind]

theorem member_K (ps : List PS) (x : Bytes) :
    andK ((memberC (maxNestingDepth - (ps.length + 1)) x).bind (objTailC (maxNestingDepth - (ps.length + 1)))) (K ps)
      = andK (string x) (K (.objectKey :: ps)) := by
  rw [memberC_eq, memberStep, andK_bind, andK_bind]
  cases string x with
  | none => rfl
  | some r1 =>
    simp only [andK_some, K]
    cases skipWs r1 with
    | nil => rfl
    | cons c r2 =>
      simp only []
      by_cases h : (c == 0x3A) = true
      · simp only [h, if_true]
      · simp only [h, Bool.false_eq_true, if_false, andK_none]

theorem K_objv (ps : List PS) (c : UInt8) (rest : Bytes) (h : isWs c = false) :
    K (.objectValue :: ps) (c :: rest) =
      if c == 0x2C then andK (string (skipWs rest)) (K (.objectKey :: ps))
      else if c == 0x7D then K ps rest
      else false := by
  rw [K, objTailC_eq, tailStep_not _ _ _ _ c rest _ h, member_K]

theorem K_objk (ps : List PS) (c : UInt8) (rest : Bytes) (h : isWs c = false) :
    K (.objectKey :: ps) (c :: rest) =
      if c == 0x3A then andK (valueC (budget (.objectValue :: ps)) (skipWs rest)) (K (.objectValue :: ps))
      else false := by
  simp only [K, budget_cons, skipWs_not c rest h]

theorem K_term (ps : List PS) (w : Bytes) (h : K ps w = true) : Term w := by
  cases w with
  | nil => trivial
  | cons b t =>
    by_cases hws : isWs b = true
    · exact .of_ws t hws
    have hws' : isWs b = false := by simpa using hws
    cases ps with
    | nil => rw [K_nil_not b t hws'] at h; cases h
    | cons p ps =>
      cases p with
      | objectKey =>
        rw [K_objk ps b t hws'] at h
        split at h
        · exact .of_eq 0x3A t ‹_›
        · cases h
      | objectValue =>
        rw [K_objv ps b t hws'] at h
        split at h
        · exact .of_eq 0x2C t ‹_›
        split at h
        · exact .of_eq 0x7D t ‹_›
        · cases h
      | arrayValue =>
        rw [K_arr ps b t hws'] at h
        split at h
        · exact .of_eq 0x2C t ‹_›
        split at h
        · exact .of_eq 0x5D t ‹_›
        · cases h

theorem term_afterInt (w : Bytes) (h : Term w) : afterInt w = some w := by
  rw [afterInt, fracPart_term h]; exact expPart_term h

/-- closing a container: `popParseState` finds the stack non-empty -/
theorem pop_D (s : Scanner) (p : PS) (ps : List PS) (rest : Bytes) (op : Op)
    (herr : s.err = false) (hend : s.endTop = false) (hps : s.parseState = p :: ps) (hop : op ≠ .error := by decide)
    (hsk : op.geSkipSpace = false := by rfl) (hcp : special c = false := by assumption) :
    D s0 c (K ps rest) rest (match s.pop with
      | .ok s' => .ok (s', op)
      | .err e => .err e
      | .panic m => .panic m) := by
  unfold Scanner.pop
  rw [hps]
  cases ps with
  | nil =>
    refine D_same _ _ _ _ ?_ ?_ hop (.inl hsk) (.inr (.inl hcp))
    · constructor <;> simp [herr]
    · simp [resid]
  | cons q qs =>
    refine D_same _ _ _ _ ?_ ?_ hop (.inl hsk) (.inr (.inl hcp))
    · constructor <;> simp [herr, hend]
    · simp [resid]

theorem endTop_D (s : Scanner) (c : UInt8) (rest : Bytes) (h : WF s) (hs : s.step = .endTop)
    (hL : isSpace c = true → ∀ w, resid s w = true → resid s0 w = true) :
    D s0 c (K [] (c :: rest)) rest (stateEndTop s c) := by
  unfold stateEndTop
  by_cases hsp : isSpace c = true
  · simp only [hsp, Bool.not_true, Bool.false_eq_true, if_false]
    refine D_same _ _ _ _ h ?_ (by decide) (.inr (.inr ⟨hsp, hL hsp⟩)) (.inl rfl)
    rw [K_ws [] c rest (by rw [← isSpace_eq]; exact hsp)]; simp [resid, hs]
  · simp only [hsp, Bool.not_false, if_true]
    refine D_same _ _ _ _ ?_ ?_ (by decide) (.inr (.inl rfl)) (.inl rfl)
    · constructor <;> simp
    · rw [K_nil_not c rest (by rw [← isSpace_eq]; simpa using hsp)]; simp [resid]

theorem endValue_D (s : Scanner) (c : UInt8) (rest : Bytes) (herr : s.err = false) (hend : s.endTop = false)
    (hL : isSpace c = true → ∀ w, K s.parseState w = true → resid s0 w = true) :
    D s0 c (K s.parseState (c :: rest)) rest (stateEndValue s c) := by
  unfold stateEndValue
  cases hps : s.parseState with
  | nil =>
    exact endTop_D _ c rest (by constructor <;> simp [herr]) rfl fun h w hw => hL h w (by rw [hps]; exact hw)
  | cons p ps =>
    simp only []
    by_cases hsp : isSpace c = true
    · simp only [hsp, if_true]
      refine D_goto s _ _ _ _ herr hend ?_ (hsk := .inr ⟨hsp, hL hsp⟩) (hcp := .inl rfl)
      rw [K_ws _ c rest (by rw [← isSpace_eq]; exact hsp)]
      simp [resid, hps]
    · simp only [hsp, Bool.false_eq_true, if_false]
      have hws : isWs c = false := by rw [← isSpace_eq]; simpa using hsp
      have hk : ∀ q, WF { s with parseState := q :: ps, step := .beginValue } ∧
          WF { s with parseState := q :: ps, step := .beginString } := fun q => by
        constructor <;> constructor <;> simp [herr, hend]
      cases p with
      | objectKey =>
        rw [K_objk ps c rest hws]
        exact D_if' (nsp_eq c _) (fun _ => D_same _ _ _ _ (hk _).1 (by simp [resid])) fun _ => D_error s _ _ rfl
      | objectValue =>
        rw [K_objv ps c rest hws]
        exact D_if' (nsp_eq c _) (fun _ => D_same _ _ _ _ (hk _).2 (by simp [resid])) fun _ =>
          D_if' (nsp_eq c _) (fun _ => pop_D s _ ps rest _ herr hend hps) fun _ => D_error s _ _ rfl
      | arrayValue =>
        rw [K_arr ps c rest hws]
        exact D_if' (nsp_eq c _) (fun _ => D_goto s _ _ _ _ herr hend (by simp [resid, hps])) fun _ =>
          D_if' (nsp_eq c _) (fun _ => pop_D s _ ps rest _ herr hend hps) fun _ => D_error s _ _ rfl


theorem hexRest4 (r : Bytes) :
    hexRest 4 r = match r with
      | h1 :: h2 :: h3 :: h4 :: r'' => if isHex h1 && isHex h2 && isHex h3 && isHex h4 then strRest r'' else none
      | _ => none := by
  match r with
  | [] => rfl
  | [_] => simp only [hexRest]; split <;> rfl
  | [_, _] => simp only [hexRest]; (repeat' split) <;> rfl
  | [_, _, _] => simp only [hexRest]; (repeat' split) <;> rfl
  | h1 :: h2 :: h3 :: h4 :: r'' =>
    simp only [hexRest]
    cases isHex h1 <;> cases isHex h2 <;> cases isHex h3 <;> cases isHex h4 <;> rfl

theorem strRest_cons (c : UInt8) (r : Bytes) :
    strRest (c :: r) =
      if c == 0x22 then some r else if c == 0x5C then escRest r else if c < 0x20 then none else strRest r := by
  rw [strRest.eq_def]
  simp only []
  by_cases h1 : (c == 0x22) = true
  · simp only [h1, if_true]
  simp only [h1, Bool.false_eq_true, if_false]
  by_cases h2 : (c == 0x5C) = true
  · simp only [h2, if_true]
    cases r with
    | nil => rfl
    | cons e r' =>
      simp only [escRest]
      by_cases h3 : isEscChar e = true
      · simp only [h3, if_true]
      simp only [h3, Bool.false_eq_true, if_false]
      by_cases h4 : (e == 0x75) = true
      · simp only [h4, if_true]; rw [hexRest4]
        rcases r' with _ | ⟨a, _ | ⟨b, _ | ⟨c', _ | ⟨d, r''⟩⟩⟩⟩ <;> rfl
      · simp only [h4, Bool.false_eq_true, if_false]
  · simp only [h2, Bool.false_eq_true, if_false]

theorem escRest_cons (c : UInt8) (r : Bytes) :
    escRest (c :: r) =
      if c == 0x62 || c == 0x66 || c == 0x6E || c == 0x72 || c == 0x74 || c == 0x5C || c == 0x2F || c == 0x22 then strRest r
      else if c == 0x75 then hexRest 4 r else none := by
  rw [escRest, isEscChar_eq]

theorem hexRest_cons (n : Nat) (c : UInt8) (r : Bytes) :
    hexRest (n + 1) (c :: r) = if isHexDig c then hexRest n r else none := by
  rw [hexRest, isHexDig_eq]

theorem lit_cons (x : UInt8) (ws : Bytes) (c : UInt8) (r : Bytes) :
    lit (x :: ws) (c :: r) = if c == x then lit ws r else none := by
  rw [lit]
  by_cases h : c = x
  · subst h; simp
  · have h' : ¬ x = c := fun e => h e.symm
    simp [h, h']

theorem neg_cons (c : UInt8) (r : Bytes) :
    (intPart (c :: r)).bind afterInt =
      if c == 0x30 then afterInt r else if isDig19 c then afterInt (skipDigits r) else none := by
  rw [intPart, isDigit_split]
  by_cases h1 : (c == 0x30) = true
  · simp only [h1, if_true]; rfl
  simp only [h1, Bool.false_eq_true, if_false, Bool.false_or]
  by_cases h2 : isDig19 c = true
  · simp only [h2, if_true]; rfl
  · simp only [h2, Bool.false_eq_true, if_false]; rfl

theorem afterInt_cons (c : UInt8) (r : Bytes) :
    afterInt (c :: r) =
      if c == 0x2E then (digits1 r).bind expPart
      else if c == 0x65 || c == 0x45 then expSign r
      else some (c :: r) := by
  unfold afterInt
  rw [fracPart]
  by_cases h1 : (c == 0x2E) = true
  · simp only [h1, if_true]
  simp only [h1, Bool.false_eq_true, if_false]
  simp only [Option.bind]
  rw [expPart.eq_def]
  simp only []
  by_cases h2 : (c == 0x65 || c == 0x45) = true
  · simp only [h2, if_true]
    cases r <;> rfl
  · simp only [h2, Bool.false_eq_true, if_false]

theorem skipDigits_cons (c : UInt8) (r : Bytes) :
    skipDigits (c :: r) = if isDig c then skipDigits r else c :: r := by
  rw [skipDigits]; rfl

theorem digits1_cons (c : UInt8) (r : Bytes) :
    digits1 (c :: r) = if isDig c then some (skipDigits r) else none := by
  rw [digits1]; rfl

theorem expPart_cons (c : UInt8) (r : Bytes) :
    expPart (c :: r) = if c == 0x65 || c == 0x45 then expSign r else some (c :: r) := by
  rw [expPart.eq_def]
  simp only []
  by_cases h2 : (c == 0x65 || c == 0x45) = true
  · simp only [h2, if_true]
    cases r <;> rfl
  · simp only [h2, Bool.false_eq_true, if_false]

theorem expSign_cons (c : UInt8) (r : Bytes) :
    expSign (c :: r) = if c == 0x2B || c == 0x2D then digits1 r else digits1 (c :: r) := by
  rw [expSign]


theorem number_eq (bs : Bytes) : number bs = (intPart (optMinus bs)).bind afterInt := by
  rw [number_bind, Option.bind_assoc]; rfl

theorem array_K (ps : List PS) (x : Bytes) :
    andK ((valueC (maxNestingDepth - (ps.length + 1)) x).bind (arrTailC (maxNestingDepth - (ps.length + 1)))) (K ps)
      = andK (valueC (maxNestingDepth - (ps.length + 1)) x) (K (.arrayValue :: ps)) := by
  rw [andK_bind]
  cases valueC (maxNestingDepth - (ps.length + 1)) x with
  | none => rfl
  | some r => simp only [andK_some, K]

/-- opening a container: the scanner's depth check is the recogniser's budget check -/
theorem push_D (s : Scanner) (close : UInt8) (E T : Rec) (p : PS) (st : St) (op : Op) (rest : Bytes)
    (herr : s.err = false) (hend : s.endTop = false)
    (hres : andK (openStep close E T (maxNestingDepth - (s.parseState.length + 1) + 1) rest) (K s.parseState) =
      resid { s with step := st, parseState := p :: s.parseState } rest)
    (h1 : st ≠ .error := by decide) (h2 : st ≠ .endTop := by decide) (hop : op ≠ .error := by decide)
    (hsk : op.geSkipSpace = false := by rfl) (hcp : special c = false := by assumption) :
    D s0 c (andK (openStep close E T (budget s.parseState) rest) (K s.parseState)) rest (({ s with step := st }).push p op) := by
  unfold Scanner.push
  simp only [List.length_cons]
  by_cases hle : s.parseState.length + 1 ≤ maxNestingDepth
  · rw [if_pos hle, show budget s.parseState = (maxNestingDepth - (s.parseState.length + 1)) + 1 by unfold budget; omega]
    exact D_same _ _ _ _ (by constructor <;> simp [herr, hend, h1, h2]) hres hop (.inl hsk) (.inr (.inl hcp))
  · rw [if_neg hle, show budget s.parseState = 0 by unfold budget; omega]
    exact D_error _ _ _ rfl

/-- the first byte of a value, tested in the order of `stateBeginValue` -/
theorem valueStep_scan (G : Gram) (d : Nat) (c : UInt8) (r : Bytes) :
    valueStep G d (c :: r) =
      if c == 0x7B then openStep 0x7D (G .member) (G .objTail) d r
      else if c == 0x5B then openStep 0x5D (G .value) (G .arrTail) d r
      else if c == 0x22 then strRest r
      else if c == 0x2D then (intPart r).bind afterInt
      else if c == 0x30 then afterInt r
      else if c == 0x74 then lit [0x72, 0x75, 0x65] r
      else if c == 0x66 then lit [0x61, 0x6C, 0x73, 0x65] r
      else if c == 0x6E then lit [0x75, 0x6C, 0x6C] r
      else if isDig19 c then afterInt (skipDigits r)
      else none := by
  by_cases h1 : c = 0x7B
  · subst h1; rfl
  by_cases h2 : c = 0x5B
  · subst h2; rfl
  by_cases h3 : c = 0x22
  · subst h3; rfl
  by_cases h4 : c = 0x2D
  · subst h4; simp only [valueStep, number_eq]; rfl
  by_cases h5 : c = 0x30
  · subst h5; simp only [valueStep, number_eq]; rfl
  by_cases h6 : c = 0x74
  · subst h6; rfl
  by_cases h7 : c = 0x66
  · subst h7; rfl
  by_cases h8 : c = 0x6E
  · subst h8; rfl
  -- no other byte but a digit 1-9 begins a value
  have e : ∀ {x : UInt8}, c ≠ x → (c == x) = false := fun h => beq_false_of_ne h
  simp only [valueStep, e h1, e h2, e h3, e h4, e h5, e h6, e h7, e h8, Bool.false_eq_true, if_false, Bool.false_or,
    isDigit_split, number_eq, optMinus, intPart]
  cases isDig19 c <;> rfl

theorem beginValue_D (s : Scanner) (c : UInt8) (rest : Bytes) (hc : isSpace c = false)
    (herr : s.err = false) (hend : s.endTop = false) :
    D s0 c (andK (valueC (budget s.parseState) (c :: rest)) (K s.parseState)) rest (stateBeginValue s c) := by
  -- after `{` and `[`: the configuration pushed expects what `openStep` reads
  have hobj : andK (openStep 0x7D memberC objTailC (maxNestingDepth - (s.parseState.length + 1) + 1) rest) (K s.parseState) =
      resid { s with step := .beginStringOrEmpty, parseState := .objectKey :: s.parseState } rest := by
    simp only [resid, openStep]
    cases skipWs rest with
    | nil => rfl
    | cons c' r' =>
      simp only []
      by_cases h3 : (c' == 0x7D) = true
      · simp only [h3, if_true, andK_some]
      · simp only [h3, Bool.false_eq_true, if_false]
        exact member_K _ _
  have harr : andK (openStep 0x5D valueC arrTailC (maxNestingDepth - (s.parseState.length + 1) + 1) rest) (K s.parseState) =
      resid { s with step := .beginValueOrEmpty, parseState := .arrayValue :: s.parseState } rest := by
    simp only [resid, budget_cons, openStep]
    cases skipWs rest with
    | nil => rfl
    | cons c' r' =>
      simp only []
      by_cases h3 : (c' == 0x5D) = true
      · simp only [h3, if_true, andK_some]
        rw [show c' = 0x5D by simpa using h3, K_arr _ _ _ (by decide)]
        rfl
      · simp only [h3, Bool.false_eq_true, if_false]
        exact array_K _ _
  unfold stateBeginValue
  simp only [hc, Bool.false_eq_true, if_false]
  rw [valueC_cons, valueStep_scan]
  simp only [gramC, Gram.mk]
  exact D_ite' (nsp_eq c _) (fun _ => push_D s _ _ _ _ _ _ rest herr hend hobj) fun _ =>
    D_ite' (nsp_eq c _) (fun _ => push_D s _ _ _ _ _ _ rest herr hend harr) fun _ =>
    D_ite' (nsp_eq c _) (fun _ => D_goto s _ _ _ _ herr hend) fun _ =>
    D_ite' (nsp_eq c _) (fun _ => D_goto s _ _ _ _ herr hend) fun _ =>
    D_ite' (nsp_eq c _) (fun _ => D_goto s _ _ _ _ herr hend) fun _ =>
    D_ite' (nsp_eq c _) (fun _ => D_goto s _ _ _ _ herr hend) fun _ =>
    D_ite' (nsp_eq c _) (fun _ => D_goto s _ _ _ _ herr hend) fun _ =>
    D_ite' (nsp_eq c _) (fun _ => D_goto s _ _ _ _ herr hend) fun _ =>
    D_test s _ _ rest _ herr hend (nsp c isDig19)


theorem state0_D (s : Scanner) (c : UInt8) (rest : Bytes) (herr : s.err = false) (hend : s.endTop = false)
    (hL : isSpace c = true → ∀ w, K s.parseState w = true → resid s0 w = true) :
    D s0 c (andK (afterInt (c :: rest)) (K s.parseState)) rest (state0 s c) := by
  unfold state0
  rw [afterInt_cons]
  exact D_ite' (nsp_eq c _) (fun _ => D_goto s _ _ _ _ herr hend) fun _ =>
    D_ite' (nsp c fun c => c == 0x65 || c == 0x45) (fun _ => D_goto s _ _ _ _ herr hend) fun _ => endValue_D s c rest herr hend hL

theorem eSign_D (s : Scanner) (c : UInt8) (rest : Bytes) (herr : s.err = false) (hend : s.endTop = false) :
    D s0 c (andK (digits1 (c :: rest)) (K s.parseState)) rest (stateESign s c) := by
  unfold stateESign
  rw [digits1_cons]
  exact D_test s _ _ rest _ herr hend (nsp c isDig)

theorem beginString_D (s : Scanner) (c : UInt8) (rest : Bytes) (ps : List PS) (hps : s.parseState = ps)
    (hc : isSpace c = false) (herr : s.err = false) (hend : s.endTop = false) :
    D s0 c (andK (string (c :: rest)) (K ps)) rest (stateBeginString s c) := by
  subst hps
  unfold stateBeginString
  simp only [hc, Bool.false_eq_true, if_false, string]
  exact D_test s _ _ rest _ herr hend (nsp_eq c _)

theorem step_resid (s : Scanner) (c : UInt8) (rest : Bytes) (h : WF s) :
    D s c (resid s (c :: rest)) rest (step s c) := by
  by_cases hE : s.step = .error
  · have : step s c = .ok (s, .error) := by unfold step; simp only [hE]
    rw [this]
    exact ⟨s, .error, rfl, h, fun _ => hE, by simp [resid, hE], .inr (.inl (h.err.mpr hE)), .inl rfl⟩
  have herr := wf_err_false s h hE
  by_cases hT : s.step = .endTop
  · have : step s c = stateEndTop s c := by unfold step; simp only [hT]
    rw [this, show resid s (c :: rest) = K [] (c :: rest) by simp [resid, hT]]
    exact endTop_D s c rest h hT fun _ _ hw => hw
  have hend : s.endTop = false := by
    cases he : s.endTop with
    | false => rfl
    | true => rcases h.top' he with h1 | h1 <;> contradiction
  -- a number that white space ends: what follows the value cannot continue the number
  have hnum : (s.step = .s1 ∨ s.step = .s0 ∨ s.step = .dot0 ∨ s.step = .e0) → ∀ w, K s.parseState w = true → resid s w = true := by
    intro hs w hw
    have ht := K_term _ _ hw
    rcases hs with hs | hs | hs | hs <;>
      simp only [resid, hs, tok, show skipDigits w = w from skipDigits_append [] w ht, term_afterInt w ht,
        expPart_term ht, andK_some] <;> exact hw
  cases hs : s.step
  case error => exact absurd hs hE
  case endTop => exact absurd hs hT
  case beginValue =>
    have : step s c = stateBeginValue s c := by unfold step; simp only [hs]
    rw [this]
    exact D_ws h (F := fun w => andK (valueC (budget s.parseState) w) (K s.parseState)) (fun w => by simp only [resid, hs])
      (fun hc => by rw [stateBeginValue, if_pos hc]) fun hc => beginValue_D s c rest hc herr hend
  case beginValueOrEmpty =>
    have : step s c = stateBeginValueOrEmpty s c := by unfold step; simp only [hs]
    rw [this]
    refine D_ws h (F := fun w => match w with
      | [] => false
      | c :: r => if c == 0x5D then K s.parseState (c :: r) else andK (valueC (budget s.parseState) (c :: r)) (K s.parseState))
      (fun w => by simp only [resid, hs]) (fun hc => by rw [stateBeginValueOrEmpty, if_pos hc]) fun hc => ?_
    rw [stateBeginValueOrEmpty, if_neg (by rw [hc]; exact Bool.false_ne_true)]
    exact D_if (fun _ => endValue_D s c rest herr hend fun h => absurd (hc ▸ h) Bool.false_ne_true)
      fun _ => beginValue_D s c rest hc herr hend
  case beginStringOrEmpty =>
    have : step s c = stateBeginStringOrEmpty s c := by unfold step; simp only [hs]
    rw [this]
    cases hps : s.parseState with
    | nil => exact absurd hps (h.stk hs)
    | cons p ps =>
      refine D_ws h (F := fun w => match w with
        | [] => false
        | c :: r => if c == 0x7D then K ps r else andK (string (c :: r)) (K (p :: ps)))
        (fun w => by simp only [resid, hs, hps]) (fun hc => by rw [stateBeginStringOrEmpty, if_pos hc]) fun hc => ?_
      rw [stateBeginStringOrEmpty, if_neg (by rw [hc]; exact Bool.false_ne_true)]
      simp only [hps]
      refine D_if (fun h1 => ?_) fun _ => beginString_D s c rest _ hps hc herr hend
      have h2 := endValue_D (s0 := s) { s with parseState := .objectValue :: ps } c rest herr hend
        (fun h => absurd (hc ▸ h) Bool.false_ne_true)
      rw [show c = 0x7D by simpa using h1] at h2 ⊢
      rw [show K ({ s with parseState := PS.objectValue :: ps } : Scanner).parseState (0x7D :: rest) = K ps rest from by
        simp only []; rw [K_objv ps _ rest (by decide)]; simp] at h2
      exact h2
  case beginString =>
    have : step s c = stateBeginString s c := by unfold step; simp only [hs]
    rw [this]
    exact D_ws h (F := fun w => andK (string w) (K s.parseState)) (fun w => by simp only [resid, hs])
      (fun hc => by rw [stateBeginString, if_pos hc]) fun hc => beginString_D s c rest _ rfl hc herr hend
  case endValue =>
    have : step s c = stateEndValue s c := by unfold step; simp only [hs]
    rw [this]
    have hv : resid s (c :: rest) = K s.parseState (c :: rest) := by simp [resid, hs]
    rw [hv]
    exact endValue_D s c rest herr hend fun _ w hw => by simp only [resid, hs]; exact hw
  case inString =>
    unfold step; simp only [hs, resid, tok]; rw [strRest_cons]
    exact D_ite' (nsp_eq c _) (fun _ => D_goto s _ _ _ _ herr hend) fun _ =>
      D_ite' (nsp_eq c _) (fun _ => D_goto s _ _ _ _ herr hend) fun _ =>
      D_ite (fun _ => D_error _ _ _ rfl) fun _ => D_same _ _ _ _ h (by simp [resid, hs, tok]) (hcp := .inr (.inr ⟨hs, rfl⟩))
  case inStringEsc =>
    unfold step; simp only [hs, resid, tok]; rw [escRest_cons]
    exact D_ite' (nsp c fun c => c == 0x62 || c == 0x66 || c == 0x6E || c == 0x72 || c == 0x74 || c == 0x5C || c == 0x2F || c == 0x22) (fun _ => D_goto s _ _ _ _ herr hend) fun _ =>
      D_test s _ _ rest _ herr hend (nsp_eq c _)
  case neg =>
    unfold step; simp only [hs, resid, tok]; rw [neg_cons]
    exact D_ite' (nsp_eq c _) (fun _ => D_goto s _ _ _ _ herr hend) fun _ =>
      D_test s _ _ rest _ herr hend (nsp c isDig19)
  case s1 =>
    unfold step; simp only [hs, resid, tok]; rw [skipDigits_cons, apply_ite afterInt]
    exact D_ite' (nsp c isDig) (fun _ => D_goto s _ _ _ _ herr hend) fun _ => state0_D s c rest herr hend fun _ => hnum (.inl hs)
  case s0 => unfold step; simp only [hs, resid, tok]; exact state0_D s c rest herr hend fun _ => hnum (.inr (.inl hs))
  case dot0 =>
    unfold step; simp only [hs, resid, tok]; rw [skipDigits_cons, apply_ite expPart, expPart_cons]
    exact D_ite' (nsp c isDig) (fun _ => D_same _ _ _ _ h (by simp [resid, hs, tok])) fun _ =>
      D_ite' (nsp c fun c => c == 0x65 || c == 0x45) (fun _ => D_goto s _ _ _ _ herr hend) fun _ => endValue_D s c rest herr hend fun _ => hnum (.inr (.inr (.inl hs)))
  case e =>
    unfold step; simp only [hs, resid, tok]; rw [expSign_cons]
    exact D_ite' (nsp c fun c => c == 0x2B || c == 0x2D) (fun _ => D_goto s _ _ _ _ herr hend) fun _ => eSign_D s c rest herr hend
  case e0 =>
    unfold step; simp only [hs, resid, tok]; rw [skipDigits_cons, apply_ite some]
    exact D_ite' (nsp c isDig) (fun _ => D_same _ _ _ _ h (by simp [resid, hs, tok])) fun _ => endValue_D s c rest herr hend fun _ => hnum (.inr (.inr (.inr hs)))
  case eSign => unfold step; simp only [hs, resid, tok]; exact eSign_D s c rest herr hend
  case inStringEscU | inStringEscU1 | inStringEscU12 | inStringEscU123 =>
    unfold step; simp only [hs, resid, tok]; rw [hexRest_cons]
    exact D_test s _ _ rest _ herr hend (nsp c isHexDig)
  case dot =>
    unfold step; simp only [hs, resid, tok]; rw [digits1_cons, apply_ite (Option.bind · expPart)]
    exact D_test s _ _ rest _ herr hend (nsp c isDig)
  case t | tr | tru | f | fa | fal | fals | n | nu | nul =>
    unfold step; simp only [hs, resid, tok]; rw [lit_cons]
    exact D_test s _ _ rest _ herr hend (nsp_eq c _)


theorem K_cons_nil (p : PS) (ps : List PS) : K (p :: ps) [] = false := by
  cases p with
  | objectKey => simp [K, skipWs]
  | objectValue => simp only [K, objTailC_eq]; rfl
  | arrayValue => simp only [K, arrTailC_eq]; rfl

theorem endValue_eof (s : Scanner) (hend : s.endTop = false) :
    ∃ s' op, stateEndValue s 0x20 = .ok (s', op) ∧ s'.endTop = K s.parseState [] := by
  unfold stateEndValue
  cases hps : s.parseState with
  | nil =>
    refine ⟨_, _, rfl, ?_⟩
    simp [K, skipWs]
  | cons p ps =>
    simp only [show isSpace 0x20 = true by decide, if_true]
    exact ⟨_, _, rfl, by simp [hend, K_cons_nil]⟩

theorem eof_aux (s : Scanner) (h : WF s) (herr : s.err = false) (hend : s.endTop = false) :
    ∃ s' op, step s 0x20 = .ok (s', op) ∧ s'.endTop = resid s [] := by
  have hsp : isSpace 0x20 = true := by decide
  cases hs : s.step
  all_goals (unfold step; simp only [hs])
  case endTop => exact absurd (h.top hs) (by simp [hend])
  case error => exact absurd (h.err.mpr hs) (by simp [herr])
  -- a value that a space may end: `stateEndValue` decides
  case endValue | s1 | s0 | dot0 | e0 =>
    obtain ⟨s', op, e, he⟩ := endValue_eof s hend
    refine ⟨s', op, ?_, ?_⟩
    · simpa [state0, isDig] using e
    · rw [he]; simp [resid, hs, tok, afterInt, skipDigits, fracPart, expPart]
  case beginStringOrEmpty => simp [stateBeginStringOrEmpty, hsp, resid, hs, hend, skipWs]; split <;> rfl
  -- elsewhere a space is skipped, string content or an error, and the recogniser wants more input
  case beginValue | beginValueOrEmpty | beginString =>
    exact ⟨s, .skipSpace, by simp only [stateBeginValue, stateBeginValueOrEmpty, stateBeginString, hsp, if_true],
      by simp only [resid, hs, skipWs, valueC_nil, string, andK, hend]⟩
  all_goals exact ⟨_, _, rfl, by simp only [resid, hs, tok, hend]; rfl⟩


theorem eof_resid (s : Scanner) (h : WF s) :
    ∃ s' op, eof s = .ok (s', op) ∧ (op != .error) = resid s [] := by
  unfold eof
  by_cases herr : s.err = true
  · simp only [herr, if_true]
    exact ⟨_, _, rfl, by simp [resid, h.err.mp herr]⟩
  have herr' : s.err = false := by simpa using herr
  simp only [herr', Bool.false_eq_true, if_false]
  by_cases hend : s.endTop = true
  · simp only [hend, if_true]
    have hs : s.step = .endTop := by
      rcases h.top' hend with h1 | h1
      · exact h1
      · exact absurd (h.err.mpr h1) herr
    exact ⟨_, _, rfl, by simp [resid, hs, K, skipWs]⟩
  have hend' : s.endTop = false := by simpa using hend
  simp only [hend', Bool.false_eq_true, if_false]
  obtain ⟨s', op, e, he⟩ := eof_aux s h herr' hend'
  rw [e]
  simp only []
  cases hb : s'.endTop with
  | true => simp only [if_true]; exact ⟨_, _, rfl, by rw [← he, hb]; rfl⟩
  | false => simp only [Bool.false_eq_true, if_false]; exact ⟨_, _, rfl, by rw [← he, hb]; rfl⟩

theorem resid_error {s : Scanner} (h : s.step = .error) (w : Bytes) : resid s w = false := by
  simp only [resid, h]

theorem checkLoop_resid : ∀ (bs : Bytes) (s : Scanner), WF s → checkLoop s bs = .ok (resid s bs)
  | [], s, h => by
    obtain ⟨s', op, e, hv⟩ := eof_resid s h
    simp only [checkLoop, e, hv]
  | c :: rest, s, h => by
    obtain ⟨s', op, e, hw, hop, hv, _⟩ := step_resid s c rest h
    simp only [checkLoop, e]
    rw [hv]
    by_cases ho : (op == .error) = true
    · rw [if_pos ho, resid_error (hop (eq_of_beq ho))]
    · rw [if_neg ho]
      exact checkLoop_resid rest s' hw

theorem resid_new (bs : Bytes) : resid Scanner.new bs = isJsonD maxNestingDepth bs := by
  rw [isJsonD_eq]
  simp only [resid, Scanner.new, budget, List.length_nil, Nat.sub_zero, andK]
  cases valueC maxNestingDepth (skipWs bs) <;> rfl

/-- **the scanner accepts exactly the JSON texts nested at most `maxNestingDepth` deep** -/
theorem valid_eq (bs : Bytes) : valid bs = .ok (isJsonD maxNestingDepth bs) := by
  unfold valid
  rw [checkLoop_resid bs Scanner.new wf_new, resid_new]

theorem some_iff_valid (src : Bytes) (r : Res (Option Bytes))
    (h : ∃ o, r = .ok o ∧ o.isSome = resid Scanner.new src) :
    (∃ out, r = .ok (some out)) ↔ valid src = .ok true := by
  obtain ⟨o, e, ho⟩ := h
  rw [e, valid_eq, ← resid_new, ← ho]
  cases o with
  | none => exact ⟨fun ⟨_, h⟩ => (nomatch h), fun h => (nomatch h)⟩
  | some b => exact ⟨fun _ => rfl, fun _ => ⟨b, rfl⟩⟩

end UgoVerif.Proofs.Json

import UgoVerif.Proofs.JsonSpecD
import UgoVerif.Proofs.JsonNum
/-
  A phrase of the recogniser stays the same phrase when a delimiter follows
  (`specD_append`: appending it is an `Ext` map, so `Gram.step_sim` applies).  Consequence
  (`isVal_of_isJson`, with `specD_psuffix`): a JSON text without leading and trailing white space is
  one value in the sense of `IsVal`.
-/
namespace UgoVerif.Proofs.Json
open UgoVerif UgoVerif.Go UgoVerif.Spec.Json

theorem skipWs_append_cons (bs rest : Bytes) (c : UInt8) (r : Bytes) (h : skipWs bs = c :: r) :
    skipWs (bs ++ rest) = c :: (r ++ rest) := by
  induction bs with
  | nil => simp [skipWs] at h
  | cons b t ih =>
    simp only [skipWs, List.cons_append] at h ⊢
    split
    · rename_i hb; rw [if_pos hb] at h; exact ih h
    · rename_i hb; rw [if_neg hb] at h
      injection h with h1 h2; subst h1; subst h2; rfl

theorem strRest_append (rest : Bytes) : ∀ (bs r : Bytes), strRest bs = some r → strRest (bs ++ rest) = some (r ++ rest) := by
  intro bs
  fun_induction strRest bs <;> intro r h
  case case2 hc => cases h; rw [List.cons_append, strRest.eq_def]; simp only [hc, if_true]
  case case4 ih | case5 ih | case10 ih =>
    rw [List.cons_append, strRest.eq_def]
    simp only [List.cons_append, *, if_true, if_false, Bool.false_eq_true]
    exact ih r h
  all_goals cases h

theorem lit_append (rest : Bytes) : ∀ (w bs r : Bytes), lit w bs = some r → lit w (bs ++ rest) = some (r ++ rest)
  | [], bs, r, h => by simp [lit] at h ⊢; subst h; rfl
  | _ :: _, [], r, h => by simp [lit] at h
  | w :: ws, c :: t, r, h => by
    simp only [lit, List.cons_append] at h ⊢
    split at h
    · rename_i hc; rw [if_pos hc]; exact lit_append rest ws t r h
    · cases h

theorem Ext.append (rest : Bytes) (hrest : Delim rest) : Ext (· ++ rest) :=
  ⟨fun _ _ => rfl, fun bs c r => skipWs_append_cons bs rest c r, strRest_append rest, lit_append rest,
    fun bs r => number_append bs r rest hrest.term⟩

theorem specD_append (rest : Bytes) (hrest : Delim rest) :
    ∀ (f d : Nat) (bs : Bytes), (gramD f).SimAt (· ++ rest) (gramD f) 0 d bs
  | 0, _, _ => gramD_zero ▸ Gram.none_sim _ _ _ _ _
  | f + 1, _, _ => gramD_succ f ▸
    Gram.step_sim (Ext.append rest hrest) (specD_psuffix f) fun e x _ _ => specD_append rest hrest f e x

theorem skipWs_nil_all (r : Bytes) (h : skipWs r = []) : ∀ x ∈ r, isWs x = true := by
  induction r with
  | nil => intro x hx; cases hx
  | cons c t ih =>
    simp only [skipWs] at h
    by_cases hc : isWs c = true
    · rw [if_pos hc] at h
      intro x hx
      rcases List.mem_cons.mp hx with rfl | hx
      · exact hc
      · exact ih h x hx
    · rw [if_neg hc] at h; cases h

theorem isVal_of_isJson (E : Bytes) (hj : isJson E = true) (c : UInt8) (t : Bytes) (hE : E = c :: t)
    (hc : isWs c = false) (hlast : ∀ p l, E = p ++ [l] → isWs l = false) : IsVal E := by
  have hsk : skipWs E = E := by rw [hE]; simp [skipWs, hc]
  unfold isJson at hj
  rw [hsk] at hj
  cases hv : value (E.length + 1) E with
  | none => rw [hv] at hj; cases hj
  | some r0 =>
    rw [hv] at hj
    have hws : skipWs r0 = [] := by simpa using hj
    have hvD : valueD (E.length + 1) (E.length + 1) E = some r0 := by
      rw [valueD_eq_value E (Nat.le_refl _)]; exact hv
    have hsuf := (specD_psuffix _ .value _ E r0 hvD).1
    have hr0 : r0 = [] := by
      rcases List.eq_nil_or_concat r0 with h0 | ⟨r0', l, h0⟩
      · exact h0
      · obtain ⟨p, hp⟩ := hsuf
        have h1 := hlast (p ++ r0') l (by rw [← hp, h0]; simp)
        have h2 := skipWs_nil_all r0 hws l (by rw [h0]; simp)
        rw [h1] at h2; cases h2
    subst hr0
    refine ⟨⟨c, t, hE, hc, ?_⟩, ?_⟩
    · cases h5 : (c == 0x5D) with
      | false => rfl
      | true =>
        have : c = 0x5D := by simpa using h5
        subst this
        rw [hE, value_succ _ 0] at hv
        simp [valueStep, isDigit] at hv
    · intro rest f hd hf
      have hlen : E.length < f := by simp at hf; omega
      have h1 : value f E = some [] := by rw [value_fuel hlen (Nat.lt_succ_self _)]; exact hv
      have h2 : valueD f f E = some [] := by rw [valueD_eq_value E (Nat.le_refl _)]; exact h1
      have h3 : valueD f f (E ++ rest) = some rest := specD_append rest hd f f E .value [] h2
      rwa [valueD_eq_value _ (Nat.le_refl _)] at h3

end UgoVerif.Proofs.Json

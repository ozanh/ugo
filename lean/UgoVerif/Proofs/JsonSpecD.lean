import UgoVerif.Spec.JsonDepth
/-
  The recogniser (`Spec/Json.lean`, `Spec/JsonDepth.lean`) as the iteration of one step. The four phrase
  functions at fuel `f + 1` are one functional, `Gram.step`, applied to the four at fuel `f` (`gramD_succ`;
  `gram_succ` for the recogniser without nesting budget). Two facts about the step carry the rest: it keeps
  results proper suffixes of the input (`Gram.step_shrinks`), and it is monotone and looks at its argument
  only on shorter inputs and at the budgets `d`, `d - 1` (`Gram.step_sim`). That the fuel does not matter once
  it exceeds the input length (hence the fuel-free `gramC`), that a larger budget accepts more, that the
  budgeted recogniser agrees with the plain one, and that a phrase stays a phrase when a delimiter is
  appended (JsonSpecApp) are inductions on the fuel with these two facts as the step.
-/
namespace UgoVerif.Proofs.Json
open UgoVerif UgoVerif.Go UgoVerif.Spec.Json

def PSuffix (r bs : Bytes) : Prop := r <:+ bs ∧ r.length < bs.length

namespace PSuffix
theorem of_suffix {r t : Bytes} (c : UInt8) (h : r <:+ t) : PSuffix r (c :: t) :=
  ⟨h.trans (List.suffix_cons _ _), Nat.lt_succ_of_le h.length_le⟩
theorem tail {r t : Bytes} (c : UInt8) (h : PSuffix r t) : PSuffix r (c :: t) := of_suffix c h.1
theorem trans_suffix {r s t : Bytes} (h : PSuffix r s) (h' : s <:+ t) : PSuffix r t :=
  ⟨h.1.trans h', Nat.lt_of_lt_of_le h.2 h'.length_le⟩
theorem suffix_trans {r s t : Bytes} (h : r <:+ s) (h' : PSuffix s t) : PSuffix r t :=
  ⟨h.trans h'.1, Nat.lt_of_le_of_lt h.length_le h'.2⟩
end PSuffix

theorem suffix_tail {α : Type} {r t : List α} (c : α) (h : r <:+ t) : r <:+ c :: t :=
  h.trans (List.suffix_cons _ _)

def Post (P : Bytes → Prop) (a : Option Bytes) : Prop := ∀ r, a = some r → P r

namespace Post
variable {P Q : Bytes → Prop} {a b : Option Bytes}
theorem none : Post P .none := fun _ h => nomatch h
theorem some {r : Bytes} (h : P r) : Post P (.some r) := fun _ e => by cases e; exact h
theorem ite (p : Prop) [Decidable p] (ha : Post P a) (hb : Post P b) : Post P (if p then a else b) := by
  split <;> assumption
theorem bind {k : Bytes → Option Bytes} (ha : Post Q a) (hk : ∀ x, Q x → Post P (k x)) : Post P (a.bind k) := by
  cases a with
  | none => exact none
  | some x => exact hk x (ha x rfl)
theorem mono (ha : Post Q a) (h : ∀ r, Q r → P r) : Post P a := fun r e => h r (ha r e)
end Post

theorem skipWs_suffix (bs : Bytes) : skipWs bs <:+ bs := by
  fun_induction skipWs bs
  · exact List.suffix_refl _
  next ih => exact suffix_tail _ ih
  · exact List.suffix_refl _

theorem skipWs_le (bs : Bytes) : (skipWs bs).length ≤ bs.length := (skipWs_suffix bs).length_le

theorem skipDigits_suffix (bs : Bytes) : skipDigits bs <:+ bs := by
  fun_induction skipDigits bs
  · exact List.suffix_refl _
  next ih => exact suffix_tail _ ih
  · exact List.suffix_refl _

theorem strRest_psuffix (bs : Bytes) : Post (PSuffix · bs) (strRest bs) := by
  fun_induction strRest bs
  case case2 => exact .some (.of_suffix _ (List.suffix_refl _))
  case case4 ih => exact ih.mono fun _ h => (h.tail _).tail _
  case case5 ih => exact ih.mono fun _ h => (((((h.tail _).tail _).tail _).tail _).tail _).tail _
  case case10 ih => exact ih.mono fun _ h => h.tail _
  all_goals exact .none

theorem string_psuffix (bs : Bytes) : Post (PSuffix · bs) (string bs) := by
  fun_cases string bs
  · exact .none
  · exact (strRest_psuffix _).mono fun _ h => h.tail _
  · exact .none

theorem lit_suffix (w bs : Bytes) : Post (· <:+ bs) (lit w bs) := by
  fun_induction lit w bs
  · exact .some (List.suffix_refl _)
  · exact .none
  next ih => exact ih.mono fun _ => suffix_tail _
  · exact .none

theorem digits1_psuffix (bs : Bytes) : Post (PSuffix · bs) (digits1 bs) := by
  fun_cases digits1 bs
  · exact .none
  · exact .some (.of_suffix _ (skipDigits_suffix _))
  · exact .none

theorem intPart_psuffix (bs : Bytes) : Post (PSuffix · bs) (intPart bs) := by
  fun_cases intPart bs
  · exact .none
  · exact .some (.of_suffix _ (List.suffix_refl _))
  · exact .some (.of_suffix _ (skipDigits_suffix _))
  · exact .none

theorem fracPart_suffix (bs : Bytes) : Post (· <:+ bs) (fracPart bs) := by
  fun_cases fracPart bs
  · exact .some (List.suffix_refl _)
  · exact (digits1_psuffix _).mono fun _ h => suffix_tail _ h.1
  · exact .some (List.suffix_refl _)

theorem expPart_suffix (bs : Bytes) : Post (· <:+ bs) (expPart bs) := by
  fun_cases expPart bs
  · exact .some (List.suffix_refl _)
  · exact .none
  · exact (digits1_psuffix _).mono fun _ h => suffix_tail _ (suffix_tail _ h.1)
  · exact (digits1_psuffix _).mono fun _ h => suffix_tail _ h.1
  · exact .some (List.suffix_refl _)

theorem optMinus_suffix (bs : Bytes) : optMinus bs <:+ bs := by
  fun_cases optMinus bs
  · exact List.suffix_refl _
  · exact List.suffix_cons _ _
  · exact List.suffix_refl _

theorem number_psuffix (bs : Bytes) : Post (PSuffix · bs) (number bs) := by
  fun_cases number bs
  · exact .none
  · exact .none
  next h1 _ h2 =>
    exact (expPart_suffix _).mono fun _ h => .suffix_trans (h.trans (fracPart_suffix _ _ h2))
      ((intPart_psuffix _ _ h1).trans_suffix (optMinus_suffix bs))

/-- a phrase function at a fixed fuel: nesting budget, input, what is left -/
abbrev Rec := Nat → Bytes → Option Bytes

def openStep (close : UInt8) (E T : Rec) : Rec := fun d r =>
  match d with
  | 0 => none
  | d + 1 =>
    match skipWs r with
    | [] => none
    | c :: r' => if c == close then some r' else (E d (c :: r')).bind (T d)

def tailStep (close : UInt8) (E T : Rec) : Rec := fun d bs =>
  match skipWs bs with
  | [] => none
  | c :: r => if c == close then some r else if c == 0x2C then (E d (skipWs r)).bind (T d) else none

def memberStep (V : Rec) : Rec := fun d bs =>
  (string bs).bind fun r1 =>
    match skipWs r1 with
    | [] => none
    | c :: r2 => if c == 0x3A then V d (skipWs r2) else none

/-- The four mutually recursive functions of `Spec/Json.lean` as one family over `Ph` (`Gram`): a
    statement about a `Gram` is the four statements of a mutual induction at once, and the induction on
    the fuel is an ordinary one. -/
inductive Ph where
  | value | arrTail | member | objTail

abbrev Gram := Ph → Rec

def Gram.mk (v a m o : Rec) : Gram
  | .value => v
  | .arrTail => a
  | .member => m
  | .objTail => o

def valueStep (G : Gram) : Rec
  | _, [] => none
  | d, c :: r =>
    if c == 0x22 then strRest r
    else if c == 0x5B then openStep 0x5D (G .value) (G .arrTail) d r
    else if c == 0x7B then openStep 0x7D (G .member) (G .objTail) d r
    else if c == 0x74 then lit [0x72, 0x75, 0x65] r
    else if c == 0x66 then lit [0x61, 0x6C, 0x73, 0x65] r
    else if c == 0x6E then lit [0x75, 0x6C, 0x6C] r
    else if c == 0x2D || isDigit c then number (c :: r)
    else none

def Gram.step (G : Gram) : Gram :=
  .mk (valueStep G) (tailStep 0x5D (G .value) (G .arrTail)) (memberStep (G .value)) (tailStep 0x7D (G .member) (G .objTail))

def gramD (f : Nat) : Gram := .mk (valueD f) (arrTailD f) (memberD f) (objTailD f)

def gram (f : Nat) : Gram := .mk (fun _ => value f) (fun _ => arrTail f) (fun _ => member f) (fun _ => objTail f)

def Gram.none : Gram := fun _ _ _ => .none

theorem gramD_zero : gramD 0 = Gram.none := by
  funext p d bs
  cases p
  · exact valueD.eq_1 d bs
  · exact arrTailD.eq_1 d bs
  · exact memberD.eq_1 d bs
  · exact objTailD.eq_1 d bs

theorem gramD_succ (f : Nat) : gramD (f + 1) = (gramD f).step := by
  funext p d bs
  cases p <;> simp only [gramD, Gram.step, Gram.mk]
  · rw [valueD.eq_def]; cases bs <;> rfl
  · rw [arrTailD.eq_def]; rfl
  · rw [memberD.eq_def]; rfl
  · rw [objTailD.eq_def]; rfl

theorem bind_eq_match (a : Option Bytes) (k : Bytes → Option Bytes) :
    a.bind k = match a with | none => none | some r => k r := by
  cases a <;> rfl

/-- the plain recogniser makes the same step; it has no budget, so any positive one will do -/
theorem gram_succ (f d : Nat) (bs : Bytes) (p : Ph) : gram (f + 1) p (d + 1) bs = (gram f).step p (d + 1) bs := by
  cases p <;> simp only [gram, Gram.step, Gram.mk]
  · rw [value.eq_def]; cases bs <;> simp only [valueStep, openStep, bind_eq_match, Gram.mk] <;> rfl
  · rw [arrTail.eq_def]; simp only [tailStep, bind_eq_match]; rfl
  · rw [member.eq_def]; simp only [memberStep, bind_eq_match]; rfl
  · rw [objTail.eq_def]; simp only [tailStep, bind_eq_match]; rfl

theorem value_succ (f d : Nat) (bs : Bytes) : value (f + 1) bs = valueStep (gram f) (d + 1) bs := gram_succ f d bs .value

def Gram.Shrinks (G : Gram) : Prop := ∀ p d bs, Post (PSuffix · bs) (G p d bs)

section
variable {E T : Rec} (hE : ∀ d bs, Post (PSuffix · bs) (E d bs)) (hT : ∀ d bs, Post (PSuffix · bs) (T d bs))
include hE hT

theorem openStep_suffix (c : UInt8) (d : Nat) (r : Bytes) : Post (· <:+ r) (openStep c E T d r) := by
  cases d with
  | zero => exact .none
  | succ d =>
    have hle := skipWs_suffix r
    simp only [openStep]
    cases hs : skipWs r with
    | nil => exact .none
    | cons c' r' =>
      rw [hs] at hle
      exact .ite _ (.some ((List.suffix_cons _ _).trans hle))
        (.bind (hE d _) fun x hx => (hT d x).mono fun y hy => (hy.1.trans hx.1).trans hle)

theorem tailStep_psuffix (c : UInt8) (d : Nat) (bs : Bytes) : Post (PSuffix · bs) (tailStep c E T d bs) := by
  have hle := skipWs_suffix bs
  simp only [tailStep]
  cases hs : skipWs bs with
  | nil => exact .none
  | cons c' r =>
    rw [hs] at hle
    exact .ite _ (.some ((PSuffix.of_suffix c' (List.suffix_refl _)).trans_suffix hle)) (.ite _
      (.bind (hE d _) fun x hx => (hT d x).mono fun y hy =>
        (PSuffix.of_suffix c' ((hy.1.trans hx.1).trans (skipWs_suffix r))).trans_suffix hle) .none)
end

theorem memberStep_psuffix {V : Rec} (hV : ∀ d bs, Post (PSuffix · bs) (V d bs)) (d : Nat) (bs : Bytes) :
    Post (PSuffix · bs) (memberStep V d bs) := by
  refine .bind (string_psuffix bs) fun r1 h1 => ?_
  have hle := skipWs_suffix r1
  cases hs : skipWs r1 with
  | nil => exact .none
  | cons c r2 =>
    rw [hs] at hle
    exact .ite _ ((hV d _).mono fun y hy => .suffix_trans
      (((hy.1.trans (skipWs_suffix r2)).trans (List.suffix_cons _ _)).trans hle) h1) .none

theorem Gram.step_shrinks {G : Gram} (hG : G.Shrinks) : G.step.Shrinks
  | .arrTail, d, bs => tailStep_psuffix (hG .value) (hG .arrTail) _ d bs
  | .member, d, bs => memberStep_psuffix (hG .value) d bs
  | .objTail, d, bs => tailStep_psuffix (hG .member) (hG .objTail) _ d bs
  | .value, _, [] => .none
  | .value, d, c :: t => by
    simp only [Gram.step, Gram.mk, valueStep]
    exact .ite _ ((strRest_psuffix _).mono fun _ h => h.tail _)
      (.ite _ ((openStep_suffix (hG .value) (hG .arrTail) _ d t).mono fun _ => .of_suffix c)
      (.ite _ ((openStep_suffix (hG .member) (hG .objTail) _ d t).mono fun _ => .of_suffix c)
      (.ite _ ((lit_suffix _ _).mono fun _ => .of_suffix _)
      (.ite _ ((lit_suffix _ _).mono fun _ => .of_suffix _)
      (.ite _ ((lit_suffix _ _).mono fun _ => .of_suffix _)
      (.ite _ (number_psuffix _) .none))))))

theorem specD_psuffix : ∀ f, (gramD f).Shrinks
  | 0 => gramD_zero ▸ fun _ _ _ => .none
  | f + 1 => gramD_succ f ▸ Gram.step_shrinks (specD_psuffix f)

def Le (φ : Bytes → Bytes) (a b : Option Bytes) : Prop := ∀ r, a = some r → b = some (φ r)

namespace Le
variable {φ : Bytes → Bytes} {a a' b b' : Option Bytes}
theorem none : Le φ .none b := fun _ h => nomatch h
theorem some (r : Bytes) : Le φ (.some r) (.some (φ r)) := fun _ e => by cases e; rfl
theorem of_eq (h : a = b) : Le id a b := fun _ e => h ▸ e
theorem ite (p : Prop) [Decidable p] (ha : Le φ a a') (hb : Le φ b b') :
    Le φ (if p then a else b) (if p then a' else b') := by
  split <;> assumption
theorem bind {k k' : Bytes → Option Bytes} (ha : Le φ a a') (hk : ∀ x, a = .some x → Le φ (k x) (k' (φ x))) :
    Le φ (a.bind k) (a'.bind k') := by
  cases a with
  | none => exact none
  | some x => rw [ha x rfl]; exact hk x rfl
theorem antisymm (h : Le id a b) (h' : Le id b a) : a = b := by
  cases a with
  | some r => exact (h r rfl).symm
  | none =>
    cases b with
    | none => rfl
    | some r => exact h' r rfl
end Le

/-- a map on inputs that the token functions commute with (the identity; appending a delimiter) -/
structure Ext (φ : Bytes → Bytes) : Prop where
  cons : ∀ c r, φ (c :: r) = c :: φ r
  skipWs : ∀ bs c r, skipWs bs = c :: r → skipWs (φ bs) = c :: φ r
  strRest : ∀ bs, Le φ (strRest bs) (strRest (φ bs))
  lit : ∀ w bs, Le φ (lit w bs) (lit w (φ bs))
  number : ∀ bs, Le φ (number bs) (number (φ bs))

theorem Ext.string {φ : Bytes → Bytes} (hφ : Ext φ) : ∀ bs, Le φ (string bs) (string (φ bs))
  | [] => .none
  | c :: t => by rw [hφ.cons]; simp only [Spec.Json.string]; exact .ite _ (hφ.strRest t) .none

theorem Ext.id : Ext id := ⟨fun _ _ => rfl, fun _ _ _ h => h, fun _ _ h => h, fun _ _ _ h => h, fun _ _ h => h⟩

def Gram.SimAt (φ : Bytes → Bytes) (G G' : Gram) (k e : Nat) (bs : Bytes) : Prop :=
  ∀ p, Le φ (G p e bs) (G' p (e + k) (φ bs))

section
variable {φ : Bytes → Bytes} (hφ : Ext φ) {E T E' T' : Rec} {k d : Nat}
  (hE : ∀ d bs, Post (PSuffix · bs) (E d bs))
include hφ hE

/-- reading after white space: an element is never empty, so `φ` commutes with `skipWs` here -/
theorem Le.afterWs {r : Bytes} {d' : Nat} (h : Le φ (E d (skipWs r)) (E' d' (φ (skipWs r)))) :
    Le φ (E d (skipWs r)) (E' d' (skipWs (φ r))) := by
  cases hs : skipWs r with
  | nil => exact fun x hx => absurd (hE _ _ _ hx).2 (Nat.not_lt_zero _)
  | cons c t => rw [hφ.skipWs r c t hs, ← hφ.cons, ← hs]; exact h

theorem openStep_sim (c : UInt8) {r : Bytes}
    (h : ∀ e bs', d ≤ e + 1 → bs'.length ≤ r.length →
      Le φ (E e bs') (E' (e + k) (φ bs')) ∧ Le φ (T e bs') (T' (e + k) (φ bs'))) :
    Le φ (openStep c E T d r) (openStep c E' T' (d + k) (φ r)) := by
  cases d with
  | zero => exact .none
  | succ e =>
    have hle := skipWs_le r
    rw [Nat.succ_add]
    simp only [openStep]
    cases hs : skipWs r with
    | nil => exact .none
    | cons c' r' =>
      rw [hφ.skipWs r c' r' hs]
      rw [hs] at hle
      have h1 := (h e _ (Nat.le_refl _) hle).1
      rw [hφ.cons] at h1
      exact .ite _ (.some _) (.bind h1 fun x hx =>
        (h e x (Nat.le_refl _) (Nat.le_trans (Nat.le_of_lt (hE _ _ _ hx).2) hle)).2)

theorem tailStep_sim (c : UInt8) {bs : Bytes}
    (h : ∀ bs', bs'.length < bs.length →
      Le φ (E d bs') (E' (d + k) (φ bs')) ∧ Le φ (T d bs') (T' (d + k) (φ bs'))) :
    Le φ (tailStep c E T d bs) (tailStep c E' T' (d + k) (φ bs)) := by
  have hle := skipWs_le bs
  simp only [tailStep]
  cases hs : skipWs bs with
  | nil => exact .none
  | cons c' r =>
    rw [hφ.skipWs bs c' r hs]
    rw [hs] at hle
    have hr : (Spec.Json.skipWs r).length < bs.length := Nat.lt_of_le_of_lt (skipWs_le r) hle
    exact .ite _ (.some _) (.ite _ (.bind (.afterWs hφ hE (h _ hr).1) fun x hx =>
      (h x (Nat.lt_trans (hE _ _ _ hx).2 hr)).2) .none)

theorem memberStep_sim {bs : Bytes} (h : ∀ bs', bs'.length < bs.length → Le φ (E d bs') (E' (d + k) (φ bs'))) :
    Le φ (memberStep E d bs) (memberStep E' (d + k) (φ bs)) := by
  refine .bind (hφ.string bs) fun r1 h1 => ?_
  have hle := skipWs_le r1
  cases hs : skipWs r1 with
  | nil => exact .none
  | cons c r2 =>
    rw [hφ.skipWs r1 c r2 hs]
    rw [hs] at hle
    exact .ite _ (.afterWs hφ hE (h _ (Nat.lt_of_le_of_lt (skipWs_le r2)
      (Nat.lt_of_lt_of_le hle (Nat.le_of_lt (string_psuffix _ _ h1).2))))) .none
end

theorem Gram.step_sim {φ : Bytes → Bytes} (hφ : Ext φ) {G G' : Gram} (hG : G.Shrinks) {k d : Nat} {bs : Bytes}
    (h : ∀ e bs', d ≤ e + 1 → bs'.length < bs.length → G.SimAt φ G' k e bs') : G.step.SimAt φ G'.step k d bs := by
  have hd := Nat.le_succ d
  intro p
  cases p
  case arrTail => exact tailStep_sim hφ (hG .value) _ fun x hx => ⟨h d x hd hx .value, h d x hd hx .arrTail⟩
  case member => exact memberStep_sim hφ (hG .value) fun x hx => h d x hd hx .value
  case objTail => exact tailStep_sim hφ (hG .member) _ fun x hx => ⟨h d x hd hx .member, h d x hd hx .objTail⟩
  cases bs with
  | nil => exact .none
  | cons c r =>
    have hn := hφ.number (c :: r)
    rw [hφ.cons] at hn ⊢
    simp only [Gram.step, Gram.mk, valueStep]
    exact .ite _ (hφ.strRest r)
      (.ite _ (openStep_sim hφ (hG .value) _ fun e x he hx =>
        ⟨h e x he (Nat.lt_succ_of_le hx) .value, h e x he (Nat.lt_succ_of_le hx) .arrTail⟩)
      (.ite _ (openStep_sim hφ (hG .member) _ fun e x he hx =>
        ⟨h e x he (Nat.lt_succ_of_le hx) .member, h e x he (Nat.lt_succ_of_le hx) .objTail⟩)
      (.ite _ (hφ.lit _ r) (.ite _ (hφ.lit _ r) (.ite _ (hφ.lit _ r) (.ite _ hn .none))))))

def Gram.EqAt (G G' : Gram) (e : Nat) (bs : Bytes) : Prop := ∀ p, G p e bs = G' p e bs

theorem Gram.EqAt.sim {G G' : Gram} {e : Nat} {bs : Bytes} (h : G.EqAt G' e bs) : G.SimAt id G' 0 e bs :=
  fun p => .of_eq (h p)

theorem Gram.EqAt.symm {G G' : Gram} {e : Nat} {bs : Bytes} (h : G.EqAt G' e bs) : G'.EqAt G e bs :=
  fun p => (h p).symm

theorem Gram.step_congr {G G' : Gram} (hG : G.Shrinks) (hG' : G'.Shrinks) {d : Nat} {bs : Bytes}
    (h : ∀ e bs', d ≤ e + 1 → bs'.length < bs.length → G.EqAt G' e bs') : G.step.EqAt G'.step d bs := fun p =>
  (Gram.step_sim Ext.id hG (fun e x he hx => (h e x he hx).sim) p).antisymm
    (Gram.step_sim Ext.id hG' (fun e x he hx => (h e x he hx).symm.sim) p)

theorem Gram.none_sim (φ : Bytes → Bytes) (G : Gram) (k e : Nat) (bs : Bytes) : Gram.none.SimAt φ G k e bs :=
  fun _ => .none

theorem specD_mono (k : Nat) : ∀ (f d : Nat) (bs : Bytes), (gramD f).SimAt id (gramD f) k d bs
  | 0, _, _ => gramD_zero ▸ Gram.none_sim _ _ _ _ _
  | f + 1, _, _ => gramD_succ f ▸ Gram.step_sim Ext.id (specD_psuffix f) fun e x _ _ => specD_mono k f e x

theorem specD_fuel_succ : ∀ (f d : Nat) (bs : Bytes), bs.length < f → (gramD (f + 1)).EqAt (gramD f) d bs
  | 0, _, _, h => absurd h (Nat.not_lt_zero _)
  | f + 1, d, bs, h => by
    have := Gram.step_congr (d := d) (bs := bs) (specD_psuffix _) (specD_psuffix _) fun e x _ hx =>
      specD_fuel_succ f e x (by omega)
    rwa [← gramD_succ, ← gramD_succ] at this

theorem specD_fuel_add (k : Nat) (f d : Nat) (bs : Bytes) (h : bs.length < f) : (gramD (f + k)).EqAt (gramD f) d bs := by
  induction k with
  | zero => exact fun _ => rfl
  | succ k ih => exact fun p => (specD_fuel_succ (f + k) d bs (by omega) p).trans (ih p)

def valueC (d : Nat) (bs : Bytes) : Option Bytes := valueD (bs.length + 1) d bs
def arrTailC (d : Nat) (bs : Bytes) : Option Bytes := arrTailD (bs.length + 1) d bs
def memberC (d : Nat) (bs : Bytes) : Option Bytes := memberD (bs.length + 1) d bs
def objTailC (d : Nat) (bs : Bytes) : Option Bytes := objTailD (bs.length + 1) d bs

def gramC : Gram := .mk valueC arrTailC memberC objTailC

theorem gramC_eq (p : Ph) (d : Nat) (bs : Bytes) : gramC p d bs = gramD (bs.length + 1) p d bs := by
  cases p <;> rfl

theorem specD_eq_C {f d : Nat} {bs : Bytes} (h : bs.length < f) : (gramD f).EqAt gramC d bs := fun p => by
  have := specD_fuel_add (f - (bs.length + 1)) (bs.length + 1) d bs (by omega) p
  rwa [show bs.length + 1 + (f - (bs.length + 1)) = f by omega, ← gramC_eq] at this

theorem valueD_eq_C {f d : Nat} {bs : Bytes} (h : bs.length < f) : valueD f d bs = valueC d bs := specD_eq_C h .value

theorem gramC_shrinks : gramC.Shrinks := fun p d bs => gramC_eq p d bs ▸ specD_psuffix (bs.length + 1) p d bs

theorem arrTailC_lt {d : Nat} {bs r : Bytes} (h : arrTailC d bs = some r) : r.length < bs.length :=
  (gramC_shrinks .arrTail d bs r h).2
theorem objTailC_lt {d : Nat} {bs r : Bytes} (h : objTailC d bs = some r) : r.length < bs.length :=
  (gramC_shrinks .objTail d bs r h).2

theorem gramC_step (d : Nat) (bs : Bytes) : gramC.EqAt gramC.step d bs := fun p => by
  have := Gram.step_congr (d := d) (bs := bs) (specD_psuffix bs.length) gramC_shrinks (fun e x _ hx => specD_eq_C hx) p
  rwa [← gramD_succ, ← gramC_eq] at this

theorem valueC_nil (d : Nat) : valueC d [] = none := gramC_step d [] .value
theorem valueC_cons (d : Nat) (c : UInt8) (r : Bytes) : valueC d (c :: r) = valueStep gramC d (c :: r) :=
  gramC_step d _ .value
theorem arrTailC_eq (d : Nat) (bs : Bytes) : arrTailC d bs = tailStep 0x5D valueC arrTailC d bs := gramC_step d bs .arrTail
theorem memberC_eq (d : Nat) (bs : Bytes) : memberC d bs = memberStep valueC d bs := gramC_step d bs .member
theorem objTailC_eq (d : Nat) (bs : Bytes) : objTailC d bs = tailStep 0x7D memberC objTailC d bs := gramC_step d bs .objTail

/-- with a budget that is at least the fuel the budget never runs out -/
theorem specD_eq_value : ∀ (f d : Nat) (bs : Bytes), f ≤ d → (gramD f).EqAt (gram f) d bs
  | 0, d, bs, _ => by rw [gramD_zero]; intro p; cases p <;> simp only [Gram.none, gram, Gram.mk, value, arrTail, member, objTail]
  | f + 1, 0, _, h => absurd h (Nat.not_succ_le_zero _)
  | f + 1, d + 1, bs, h => fun p => by
    have hS : (gram f).Shrinks := fun p _ x => by
      have := specD_psuffix f p f x
      rw [specD_eq_value f f x (Nat.le_refl _) p] at this
      cases p <;> exact this
    have := Gram.step_congr (d := d + 1) (bs := bs) (specD_psuffix f) hS (fun e x he _ => specD_eq_value f e x (by omega)) p
    rw [← gramD_succ] at this
    exact this.trans (gram_succ f d bs p).symm

theorem valueD_eq_value {f d : Nat} (bs : Bytes) (h : f ≤ d) : valueD f d bs = value f bs := specD_eq_value f d bs h .value

theorem valueD_mono {f d : Nat} {bs r : Bytes} (k : Nat) (h : valueD f d bs = some r) : valueD f (d + k) bs = some r :=
  specD_mono k f d bs .value r h

theorem isJsonD_isJson (d : Nat) (bs : Bytes) (h : isJsonD d bs = true) : isJson bs = true := by
  unfold isJsonD at h
  unfold isJson
  cases hv : valueD (bs.length + 1) d (skipWs bs) with
  | none => rw [hv] at h; cases h
  | some r =>
    rw [hv] at h
    have h1 := valueD_mono (bs.length + 1) hv
    rw [valueD_eq_value _ (Nat.le_add_left _ _)] at h1
    rw [h1]; exact h

theorem isJson_isJsonD (bs : Bytes) (h : isJson bs = true) : isJsonD (bs.length + 1) bs = true := by
  unfold isJson at h
  unfold isJsonD
  rw [valueD_eq_value _ (Nat.le_refl _)]
  exact h

theorem isJsonD_mono (d d' : Nat) (bs : Bytes) (hd : d ≤ d') (h : isJsonD d bs = true) : isJsonD d' bs = true := by
  obtain ⟨k, rfl⟩ := Nat.exists_eq_add_of_le hd
  unfold isJsonD at h ⊢
  cases hv : valueD (bs.length + 1) d (skipWs bs) with
  | none => rw [hv] at h; cases h
  | some r =>
    rw [hv] at h
    rw [valueD_mono k hv]; exact h

theorem isJsonD_eq (d : Nat) (bs : Bytes) :
    isJsonD d bs = match valueC d (skipWs bs) with
      | none => false
      | some r => (skipWs r).isEmpty := by
  unfold isJsonD
  rw [valueD_eq_C (by have := skipWs_le bs; omega)]
  rfl

theorem value_fuel {f f' : Nat} {bs : Bytes} (h : bs.length < f) (h' : bs.length < f') :
    value f bs = value f' bs := by
  rw [← valueD_eq_value bs (Nat.le_max_left f f'), ← valueD_eq_value bs (Nat.le_max_right f f'),
      valueD_eq_C h, valueD_eq_C h']

end UgoVerif.Proofs.Json

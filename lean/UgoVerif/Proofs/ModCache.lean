import UgoVerif.Proofs.Frame
/-
  The module cache.  The relations `SameMods` (the cache is untouched: `PM`, the frame lemmas behind
  Props/C12), `WritesAt i` (at most entry `i` is overwritten: STOREMODULE), `KeepsMods` (existing
  entries stay, the cache may grow: the prologue of `Run`) and `Unchanged` (nothing is written: operand
  fetch) are frame conditions in the sense of Proofs/Frame.lean; then the ghost counters of C12.
-/
namespace UgoVerif.Proofs.ModCache
open UgoVerif UgoVerif.Go UgoVerif.VM

def SameMods (s t : State) : Prop := t.modules = s.modules

instance : CtlRel SameMods where
  refl _ := rfl
  trans h1 h2 := Eq.trans h2 h1
  of_ctl _ _ h := h.2.2.2.2.2.1

def WritesAt (midx : Nat) (s t : State) : Prop := t.modules = s.modules ∨ ∃ v, t.modules = s.modules.set! midx v

instance (midx : Nat) : CtlRel (WritesAt midx) where
  refl _ := Or.inl rfl
  trans := by
    rintro a b c (h1 | ⟨v, h1⟩) (h2 | ⟨w, h2⟩)
    · exact Or.inl (h2.trans h1)
    · exact Or.inr ⟨w, by rw [h2, h1]⟩
    · exact Or.inr ⟨v, by rw [h2, h1]⟩
    · exact Or.inr ⟨w, by rw [h2, h1]; simp [Array.set!]⟩
  of_ctl _ _ h := Or.inl h.2.2.2.2.2.1

def KeepsMods (s t : State) : Prop := ∀ j, j < s.modules.size → t.modules[j]? = s.modules[j]?

instance : CtlRel KeepsMods where
  refl _ _ _ := rfl
  trans := by
    intro a b c h1 h2 j hj
    have hb : j < b.modules.size := by
      have := h1 j hj
      rw [Array.getElem?_eq_getElem hj] at this
      exact (Array.getElem?_eq_some_iff.mp this).1
    rw [h2 j hb, h1 j hj]
  of_ctl _ _ h _ _ := by rw [h.2.2.2.2.2.1]

variable {R : State → State → Prop} {α β : Type}

structure PM {α} (m : M α) : Prop where
  h : ∀ s, (exec m s).2.modules = s.modules

theorem PM.of_pres {m : M α} [hm : Pres SameMods m] : PM m := ⟨hm.h⟩

theorem pm_get : PM (get : M State) := .of_pres
theorem pm_modS (f : State → State) (hf : ∀ s, (f s).modules = s.modules) : PM (modS f) := ⟨fun s => hf s⟩
theorem pm_modify (f : State → State) (hf : ∀ s, (f s).modules = s.modules) : PM (modify f : M Unit) := ⟨fun s => hf s⟩
theorem pm_throw {α} (e : Exc) : PM (throw e : M α) := .of_pres
theorem pm_mkErr (n m : String) (c : Option Addr) : PM (mkErr n m c) := .of_pres
theorem pm_execNoOp : PM execNoOp := .of_pres
theorem pm_execLoadModule : PM execLoadModule := .of_pres

theorem pm_dispatch (F : FloatOps) (op : Nat) (hop : op ≠ OpStoreModule) : PM (dispatch F op) := by
  have : Pres SameMods (dispatch F op) := by
    apply dispatch_cases (P := Pres SameMods) <;> intros <;> first | infer_instance | exact absurd ‹_› hop
  exact .of_pres

def fetchOp : M Nat := do
  bumpIp 1
  let op ← instAt (← getIp)
  noteTrace op
  pure op

instance [CtlRel R] : Pres R fetchOp := by unfold fetchOp; pres

theorem pm_fetchOp : PM fetchOp := .of_pres

theorem step_eq (F : FloatOps) : step F = fetchOp >>= dispatch F := by
  simp only [step, fetchOp, bind_assoc, pure_bind]

theorem exec_step (F : FloatOps) (s : State) :
    exec (step F) s = match exec fetchOp s with
      | (.ok op, s1) => exec (dispatch F op) s1
      | (.error e, s1) => (.error e, s1) := by
  rw [step_eq, exec_bind]
  rcases exec fetchOp s with ⟨(_ | _), _⟩ <;> rfl

/-- STOREMODULE after the fetch of its operand -/
theorem pres_storeAt [CtlRel R] (midx : Nat) (hw : ∀ s v, R s { s with modules := s.modules.set! midx v }) :
    Pres R (do
      let sp ← getSp
      let value ← stackGet (sp - 1)
      let value ← copyV value
      stackSet (sp - 1) value
      let s ← getS
      if midx ≥ s.modules.size then
        VM.panic s!"runtime error: index out of range [{midx}] with length {s.modules.size}"
      modS fun s => { s with modules := s.modules.set! midx value }
      bumpIp 2; return Ctl.next) := by
  have (v : V) : Pres R (modS fun s => { s with modules := s.modules.set! midx v }) := ⟨fun s => hw s v⟩
  pres

theorem storeModule_spec (s : State) :
    (exec execStoreModule s).2.modules = s.modules ∨
    ∃ midx v, exec (opnd2 1) s = (.ok midx, s) ∧ (exec execStoreModule s).2.modules = s.modules.set! midx v := by
  unfold execStoreModule
  rw [exec_bind]
  have hro : (exec (opnd2 1) s).2 = s := Pres.h (R := Unchanged) s
  cases h : exec (opnd2 1) s with
  | mk r s' =>
    rw [h] at hro
    simp only at hro
    subst hro
    cases r with
    | error e => exact Or.inl rfl
    | ok midx =>
      have hpw := pres_storeAt (R := WritesAt midx) midx fun s v => Or.inr ⟨v, rfl⟩
      rcases hpw.h s' with h1 | ⟨v, h2⟩
      · exact Or.inl h1
      · exact Or.inr ⟨midx, v, rfl, h2⟩

structure Ghost where
  /-- STOREMODULE m instructions executed -/
  stores : Nat → Nat := fun _ => 0
  /-- LOADMODULE m instructions that found the entry nil (each one starts a load of m) -/
  misses : Nat → Nat := fun _ => 0

def Ghost.bumpStore (g : Ghost) (i : Nat) : Ghost := { g with stores := fun m => if m = i then g.stores m + 1 else g.stores m }
def Ghost.bumpMiss (g : Ghost) (i : Nat) : Ghost := { g with misses := fun m => if m = i then g.misses m + 1 else g.misses m }

/-- LOADMODULE would find entry `midx` nil -/
def isMiss (s : State) (midx : Nat) : Bool :=
  match s.modules[midx]? with
  | some .nil => true
  | _ => false

/-- one instruction with ghost bookkeeping; the state component is that of `step` (`gstep_state`) -/
def gstep (F : FloatOps) (gs : Ghost × State) : Ghost × State :=
  match exec fetchOp gs.2 with
  | (.ok op, s1) =>
    if op = OpStoreModule then
      match exec (opnd2 1) s1 with
      | (.ok midx, _) => (gs.1.bumpStore midx, (exec execStoreModule s1).2)
      | (.error _, _) => (gs.1, (exec execStoreModule s1).2)
    else if op = OpLoadModule then
      match exec (opnd2 3) s1 with
      | (.ok midx, _) => (if isMiss s1 midx then gs.1.bumpMiss midx else gs.1, (exec execLoadModule s1).2)
      | (.error _, _) => (gs.1, (exec execLoadModule s1).2)
    else (gs.1, (exec (dispatch F op) s1).2)
  | (.error _, s1) => (gs.1, s1)

theorem gstep_state (F : FloatOps) (g : Ghost) (s : State) : (gstep F (g, s)).2 = (exec (step F) s).2 := by
  rw [exec_step]
  fun_cases gstep F (g, s) <;> rw [show exec fetchOp s = _ from ‹_›] <;> rfl

/-- executions: any number of instructions -/
inductive Reach (F : FloatOps) : Ghost × State → Ghost × State → Prop
  | refl (a) : Reach F a a
  | step {a b} : Reach F a b → Reach F a (gstep F b)

/-- a cache entry that is not nil has an executed STOREMODULE behind it -/
def GInv (g : Ghost) (s : State) : Prop := ∀ m v, s.modules[m]? = some v → v ≠ .nil → 0 < g.stores m

theorem stores_le_bumpStore (g : Ghost) (i m : Nat) : g.stores m ≤ (g.bumpStore i).stores m := by
  simp only [Ghost.bumpStore]; split <;> omega

theorem GInv.mono {g g' : Ghost} {s s' : State} (hinv : GInv g s) (hm : s'.modules = s.modules)
    (hg : ∀ m, g.stores m ≤ g'.stores m) : GInv g' s' :=
  fun m v h hv => Nat.lt_of_lt_of_le (hinv m v (hm ▸ h) hv) (hg m)

theorem gstep_inv (F : FloatOps) (g : Ghost) (s : State) (hinv : GInv g s) :
    GInv (gstep F (g, s)).1 (gstep F (g, s)).2 := by
  have hf := pm_fetchOp.h s
  -- the six ways of `gstep`: STOREMODULE with its operand read or not, LOADMODULE likewise, another opcode, no fetch
  fun_cases gstep F (g, s)
  all_goals rw [show exec fetchOp s = _ from ‹_›] at hf
  case case1 midx _ ho _ =>
    rcases storeModule_spec _ with hs | ⟨i, v, hi, hs⟩
    · exact hinv.mono (hs.trans hf) (stores_le_bumpStore _ _)
    · -- entry `midx` is written, and its counter goes up
      cases ho.symm.trans hi
      intro m w hm hv
      rw [hs, hf] at hm
      by_cases e : m = midx
      · simp [Ghost.bumpStore, e]
      · have : (s.modules.set! midx v)[m]? = s.modules[m]? := by
          simp [Array.set!, Array.getElem?_setIfInBounds]; intro h; exact absurd h.symm e
        rw [this] at hm
        exact Nat.lt_of_lt_of_le (hinv m w hm hv) (stores_le_bumpStore _ _ _)
  case case2 e _ ho _ =>
    rcases storeModule_spec _ with hs | ⟨i, v, hi, hs⟩
    · exact hinv.mono (hs.trans hf) fun _ => Nat.le_refl _
    · cases ho.symm.trans hi
  case case3 => exact hinv.mono ((pm_execLoadModule.h _).trans hf) fun _ => by split <;> exact Nat.le_refl _
  case case4 => exact hinv.mono ((pm_execLoadModule.h _).trans hf) fun _ => Nat.le_refl _
  case case5 h1 _ => exact hinv.mono (((pm_dispatch F _ h1).h _).trans hf) fun _ => Nat.le_refl _
  case case6 => exact hinv.mono hf fun _ => Nat.le_refl _

theorem reach_inv (F : FloatOps) {a b : Ghost × State} (hr : Reach F a b) (hinv : GInv a.1 a.2) : GInv b.1 b.2 := by
  induction hr with
  | refl => exact hinv
  | step _ ih => exact gstep_inv F _ _ ih

theorem reach_mono (F : FloatOps) {a b : Ghost × State} (hr : Reach F a b) : ∀ m, a.1.stores m ≤ b.1.stores m := by
  induction hr with
  | refl => intro m; exact Nat.le_refl _
  | @step b _ ih =>
    intro m
    refine Nat.le_trans (ih m) ?_
    fun_cases gstep F b
    case case1 => exact stores_le_bumpStore _ _ _
    case case3 => split <;> exact Nat.le_refl _
    all_goals exact Nat.le_refl _

theorem pg_prologue (g : V) (args : List V) : Pres KeepsMods (prologue g args) :=
  pres_prologue (fun _ _ _ _ => rfl) (fun _ _ hj => Array.getElem?_append_left hj) g args

theorem set_size (a : Array V) (i : Nat) (v : V) : (a.set! i v).size = a.size := by simp

end UgoVerif.Proofs.ModCache

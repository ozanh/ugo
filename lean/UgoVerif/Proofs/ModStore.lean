import UgoVerif.Model.ModStore
/-
  Invariants of the compile-time module store (helper lemmas for Props/C12).
-/
namespace UgoVerif.Proofs.ModStore
open UgoVerif.Model.ModStore

def StoreOK (s : Store) : Prop := ∀ n it, s.get n = some it → it.modIdx < s.count

/-- every emitted LOADMODULE operand pair is the store's entry for that name -/
def EmittedOK (st : St) : Prop := ∀ p ∈ st.emitted, st.store.get p.1 = some p.2

def Topo (mm : ModMap) (s : Store) : Prop :=
  ∀ m it is, s.get m = some it → mm.get m = some (.source is) →
    ∀ i ∈ is, ∃ it', s.get i = some it' ∧ it'.modIdx < it.modIdx

def Known (mm : ModMap) (s : Store) : Prop := ∀ n it, s.get n = some it → (mm.get n).isSome

def Inv (mm : ModMap) (st : St) : Prop := StoreOK st.store ∧ EmittedOK st ∧ Topo mm st.store ∧ Known mm st.store

def Mono (a b : St) : Prop := ∀ n it, a.store.get n = some it → b.store.get n = some it

/-- modules on the compiler path are source modules (a builtin is never "being compiled") -/
def PathOK (mm : ModMap) (path : List String) : Prop := ∀ p ∈ path, mm.get p ≠ some .builtin

theorem get_add_self (s : Store) (n : String) (t c : Nat) :
    (s.add n t c).2.get n = some (s.add n t c).1 := by
  simp [Store.add, Store.get, lookup]

theorem get_add_other (s : Store) (n m : String) (t c : Nat) (h : n ≠ m) :
    (s.add n t c).2.get m = s.get m := by
  simp [Store.add, Store.get, lookup, h]

theorem Mono.refl (a : St) : Mono a a := fun _ _ h => h
theorem Mono.trans {a b c : St} (h1 : Mono a b) (h2 : Mono b c) : Mono a c :=
  fun n it h => h2 n it (h1 n it h)

theorem inv_emit {mm : ModMap} {st : St} {name : String} {it : Item} (h : Inv mm st)
    (hg : st.store.get name = some it) : Inv mm { st with emitted := (name, it) :: st.emitted } := by
  refine ⟨h.1, ?_, h.2.2.1, h.2.2.2⟩
  intro p hp
  simp at hp
  rcases hp with rfl | hp
  · exact hg
  · exact h.2.1 p hp

def Post (mm : ModMap) (path : List String) (names : List String) (st st' : St) : Prop :=
  Inv mm st' ∧ Mono st st' ∧ (∀ n ∈ names, (st'.store.get n).isSome) ∧
  (∀ p ∈ path, st.store.get p = none → st'.store.get p = none)

theorem post_add {mm : ModMap} {path : List String} {st st1 : St} {name : String} {t : Nat} (h : Inv mm st1)
    (hmono1 : Mono st st1) (hkeep : ∀ p ∈ path, st.store.get p = none → st1.store.get p = none)
    (hn : st1.store.get name = none) (hnp : name ∉ path) (hk : (mm.get name).isSome)
    (himp : ∀ is, mm.get name = some (.source is) → ∀ i ∈ is, (st1.store.get i).isSome) :
    Post mm path [name] st { store := (st1.store.add name t st1.nconsts).2, nconsts := st1.nconsts + 1,
                             emitted := (name, (st1.store.add name t st1.nconsts).1) :: st1.emitted } := by
  have hmono : ∀ n it, st1.store.get n = some it → (st1.store.add name t st1.nconsts).2.get n = some it := by
    intro n it hg
    by_cases e : name = n
    · subst e; rw [hn] at hg; cases hg
    · rw [get_add_other _ _ _ _ _ e]; exact hg
  refine ⟨⟨?_, ?_, ?_, ?_⟩, fun n it hg => hmono n it (hmono1 n it hg), ?_, ?_⟩
  · intro n it hg
    by_cases e : name = n
    · subst e
      rw [get_add_self] at hg
      cases hg
      simp [Store.add]
    · rw [get_add_other _ _ _ _ _ e] at hg
      have := h.1 n it hg
      simp [Store.add]; omega
  · intro p hp
    simp at hp
    rcases hp with rfl | hp
    · exact get_add_self _ _ _ _
    · exact hmono _ _ (h.2.1 p hp)
  · intro m it is hg hm i hi
    by_cases e : name = m
    · subst e
      rw [get_add_self] at hg
      cases hg
      have hs := himp is hm i hi
      cases hgi : st1.store.get i with
      | none => rw [hgi] at hs; cases hs
      | some it' =>
        refine ⟨it', hmono _ _ hgi, ?_⟩
        have := h.1 i it' hgi
        simpa [Store.add] using this
    · rw [get_add_other _ _ _ _ _ e] at hg
      obtain ⟨it', h1, h2⟩ := h.2.2.1 m it is hg hm i hi
      exact ⟨it', hmono _ _ h1, h2⟩
  · intro n it hg
    by_cases e : name = n
    · subst e; exact hk
    · rw [get_add_other _ _ _ _ _ e] at hg; exact h.2.2.2 n it hg
  · intro n hn'
    simp at hn'; subst hn'
    simp [get_add_self]
  · intro p hpp hpn
    have e : name ≠ p := fun e => hnp (e ▸ hpp)
    rw [get_add_other _ _ _ _ _ e]
    exact hkeep p hpp hpn

theorem compile_post (mm : ModMap) :
    (∀ fuel path name st st', PathOK mm path → Inv mm st → compileImport mm fuel path name st = .ok st' →
        Post mm path [name] st st') ∧
    (∀ fuel path names st st', PathOK mm path → Inv mm st → compileImports mm fuel path names st = .ok st' →
        Post mm path names st st') := by
  -- along the case tree of the two functions; in each case the hypotheses of the case reduce the call
  apply compileImport.mutual_induct (mm := mm)
  case case3 =>
    -- already stored
    intro fuel path name st src hsrc it hit st' hp hinv h
    simp only [compileImport, hsrc, hit] at h
    cases h
    refine ⟨inv_emit hinv hit, fun _ _ h => h, ?_, fun _ _ h => h⟩
    intro n hn; simp at hn; subst hn; simp [hit]
  case case4 =>
    -- builtin
    intro fuel path name st hnone it store hadd hsrc st' hp hinv h
    simp only [compileImport, hsrc, hnone] at h
    cases h
    exact post_add (t := 2) hinv (Mono.refl _) (fun _ _ h => h) hnone (fun hpp => hp _ hpp hsrc) (by simp [hsrc])
      (by intro is hm; rw [hsrc] at hm; cases hm)
  case case7 =>
    -- source
    intro fuel path name st hnone imports hcyc st1 hst1 it store hadd hsrc ih st' hp hinv h
    simp only [compileImport, hsrc, hnone, hcyc, hst1] at h
    cases h
    have hp' : PathOK mm (name :: path) := by
      intro p hpp
      simp at hpp
      rcases hpp with rfl | hpp
      · rw [hsrc]; intro hh; cases hh
      · exact hp p hpp
    obtain ⟨hinv1, hmono1, hall, hkeep⟩ := ih st1 hp' hinv hst1
    exact post_add (t := 1) hinv1 hmono1 (fun p hpp => hkeep p (by simp [hpp])) (hkeep name (by simp) hnone)
      (by simpa [checkCyclic] using hcyc) (by simp [hsrc])
      (by intro is hm i hi; rw [hsrc] at hm; cases hm; exact hall i hi)
  case case9 =>
    intro n path st st' hp hinv h
    cases h
    exact ⟨hinv, Mono.refl _, by simp, fun _ _ h => h⟩
  case case11 =>
    intro fuel path i rest st st1 hst1 ih1 ih2 st' hp hinv h
    simp only [compileImports, hst1] at h
    obtain ⟨hinv1, hmono1, hall1, hkeep1⟩ := ih1 st1 hp hinv hst1
    obtain ⟨hinv2, hmono2, hall2, hkeep2⟩ := ih2 st' hp hinv1 h
    refine ⟨hinv2, Mono.trans hmono1 hmono2, ?_, ?_⟩
    · intro n hn
      simp at hn
      rcases hn with rfl | hn
      · have := hall1 n (by simp)
        cases hg : st1.store.get n with
        | none => rw [hg] at this; cases this
        | some it => rw [hmono2 _ _ hg]; rfl
      · exact hall2 n hn
    · intro p hpp hpn
      exact hkeep2 p hpp (hkeep1 p hpp hpn)
  -- the other cases end in an error
  all_goals (intros; rename_i h; simp [compileImport, compileImports, *] at h)

theorem inv_empty (mm : ModMap) : Inv mm {} := by
  refine ⟨?_, ?_, ?_, ?_⟩ <;> intro <;> simp_all [Store.get, lookup]

/-- import edges (between source modules of the module map) -/
inductive Chain (mm : ModMap) : String → String → Prop
  | edge {a b : String} {is : List String} : mm.get a = some (.source is) → b ∈ is → Chain mm a b
  | step {a b c : String} {is : List String} : mm.get a = some (.source is) → b ∈ is → Chain mm b c → Chain mm a c

theorem chain_decreases {mm : ModMap} {s : Store} (ht : Topo mm s) {a b : String} (hc : Chain mm a b) :
    ∀ ia, s.get a = some ia → ∃ ib, s.get b = some ib ∧ ib.modIdx < ia.modIdx := by
  induction hc with
  | edge hm hb => intro ia ha; exact ht _ ia _ ha hm _ hb
  | step hm hb _ ih =>
    intro ia ha
    obtain ⟨ib, h1, h2⟩ := ht _ ia _ ha hm _ hb
    obtain ⟨ic, h3, h4⟩ := ih ib h1
    exact ⟨ic, h3, by omega⟩

end UgoVerif.Proofs.ModStore

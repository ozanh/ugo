import UgoVerif.Model.Ops
import UgoVerif.Gen.NumericSimp
import Batteries.Data.List.Perm
/-
  Symmetry of `valEqual` (C15 `equal_comm`) on well-formed values, by induction on the left operand.
  `Map.Equal` looks every key of the left map up in the right one, so its symmetry is a pigeonhole
  argument over maps of equal length with unique keys (`mapEqual_flip`).
-/
namespace UgoVerif.Proofs
open UgoVerif UgoVerif.Go UgoVerif.Gen UgoVerif.Model

theorem feq_comm (a b : F64) : feq a b = feq b a := by
  unfold feq
  cases a.isNaN <;> cases b.isNaN <;> simp [Bool.beq_comm]

def isContainer : Val → Bool
  | .array _ | .map _ => true
  | _ => false

/-- Well-formed values: map keys are unique (a Go map cannot hold a key twice). -/
inductive WF : Val → Prop where
  | undefined : WF .undefined
  | int v : WF (.int v)
  | uint v : WF (.uint v)
  | float v : WF (.float v)
  | char v : WF (.char v)
  | bool b : WF (.bool b)
  | str s : WF (.str s)
  | bytes s : WF (.bytes s)
  | opaque tn i : WF (.opaque tn i)
  | array xs : (∀ x ∈ xs, WF x) → WF (.array xs)
  | map kvs : (kvs.map Prod.fst).Nodup → (∀ p ∈ kvs, WF p.2) → WF (.map kvs)

theorem scalar_comm (F : FloatOps) (a b : Val) (ha : isContainer a = false) (hb : isContainer b = false) :
    valEqual F a b = valEqual F b a := by
  cases a <;> cases b <;> simp [isContainer] at ha hb <;>
    simp [valEqual, ugo_cells] <;>
    (try simp [feq_comm, Bool.beq_comm]) <;> (try (split <;> simp_all))

theorem container_scalar (F : FloatOps) (a b : Val) (ha : isContainer a = true) (hb : isContainer b = false) :
    valEqual F a b = false ∧ valEqual F b a = false := by
  cases a <;> cases b <;> simp [isContainer] at ha hb <;>
    simp [valEqual, ugo_cells]

theorem array_map (F : FloatOps) (xs : List Val) (m : List (Bytes × Val)) :
    valEqual F (.array xs) (.map m) = false ∧ valEqual F (.map m) (.array xs) = false := by
  simp [valEqual]

theorem listEqual_comm (F : FloatOps) (xs ys : List Val)
    (ih : ∀ x ∈ xs, ∀ y ∈ ys, valEqual F x y = valEqual F y x) :
    listEqual F xs ys = listEqual F ys xs := by
  induction xs generalizing ys with
  | nil => cases ys <;> simp [listEqual]
  | cons x xs ihx =>
    cases ys with
    | nil => simp [listEqual]
    | cons y ys =>
      simp only [listEqual]
      rw [ih x (by simp) y (by simp),
        ihx ys (fun x hx y hy => ih x (by simp [hx]) y (by simp [hy]))]

theorem lookup_some_mem {k : Bytes} {v : Val} {m : List (Bytes × Val)} (h : lookup k m = some v) : (k, v) ∈ m := by
  fun_induction lookup k m
  · cases h
  next hk => cases h; simp [eq_of_beq hk]
  next ih => exact List.mem_cons_of_mem _ (ih h)

theorem lookup_none_iff {k : Bytes} {m : List (Bytes × Val)} : lookup k m = none ↔ k ∉ m.map Prod.fst := by
  fun_induction lookup k m
  · simp
  next hk => simp [eq_of_beq hk]
  next hk ih => simp [ih, ne_of_beq_false (Bool.eq_false_iff.2 hk)]

theorem lookup_of_mem_nodup {k : Bytes} {v : Val} {m : List (Bytes × Val)}
    (hn : (m.map Prod.fst).Nodup) (h : (k, v) ∈ m) : lookup k m = some v := by
  induction m with
  | nil => simp at h
  | cons p rest ih =>
    obtain ⟨k', v'⟩ := p
    simp only [List.map_cons, List.nodup_cons] at hn
    simp only [lookup]
    rcases List.mem_cons.1 h with h1 | h2
    · simp at h1; obtain ⟨rfl, rfl⟩ := h1; simp
    · have hk : k ≠ k' := by
        intro e; subst e
        exact hn.1 (List.mem_map.2 ⟨(k, v), h2, rfl⟩)
      simp [hk, ih hn.2 h2]

theorem mapEqual_iff (F : FloatOps) (m n : List (Bytes × Val)) :
    mapEqual F m n = true ↔ ∀ p ∈ m, ∃ y, lookup p.1 n = some y ∧ valEqual F p.2 y = true := by
  induction m with
  | nil => simp [mapEqual]
  | cons p rest ih =>
    obtain ⟨k, x⟩ := p
    simp only [mapEqual, Bool.and_eq_true, ih, List.mem_cons, forall_eq_or_imp]
    constructor
    · rintro ⟨h1, h2⟩
      refine ⟨?_, h2⟩
      split at h1
      · rename_i y hy; exact ⟨y, hy, h1⟩
      · simp at h1
    · rintro ⟨⟨y, hy, he⟩, h2⟩
      refine ⟨?_, h2⟩
      simp [hy, he]

theorem keys_subset_of_mapEqual (F : FloatOps) (m n : List (Bytes × Val)) (h : mapEqual F m n = true) :
    m.map Prod.fst ⊆ n.map Prod.fst := by
  intro k hk
  obtain ⟨p, hp, rfl⟩ := List.mem_map.1 hk
  obtain ⟨y, hy, _⟩ := (mapEqual_iff F m n).1 h p hp
  exact List.mem_map.2 ⟨(p.1, y), lookup_some_mem hy, rfl⟩

theorem mapEqual_flip (F : FloatOps) (m n : List (Bytes × Val))
    (hm : (m.map Prod.fst).Nodup) (hn : (n.map Prod.fst).Nodup)
    (hlen : m.length = n.length)
    (ih : ∀ p ∈ m, ∀ q ∈ n, valEqual F p.2 q.2 = valEqual F q.2 p.2)
    (h : mapEqual F m n = true) : mapEqual F n m = true := by
  rw [mapEqual_iff]
  intro q hq
  -- pigeonhole: keys m ⊆ keys n, no key twice and equal lengths, so keys n ⊆ keys m
  have hsub := keys_subset_of_mapEqual F m n h
  have hperm : List.Perm (m.map Prod.fst) (n.map Prod.fst) :=
    (List.subperm_of_subset hm hsub).perm_of_length_le (by simp [hlen])
  have hqk : q.1 ∈ m.map Prod.fst := hperm.symm.subset (List.mem_map.2 ⟨q, hq, rfl⟩)
  obtain ⟨p, hp, hpk⟩ := List.mem_map.1 hqk
  obtain ⟨y, hy, he⟩ := (mapEqual_iff F m n).1 h p hp
  have hq' : lookup q.1 n = some q.2 := lookup_of_mem_nodup hn (by simpa using hq)
  rw [hpk, hq'] at hy
  have : y = q.2 := by simpa using hy.symm
  subst this
  refine ⟨p.2, ?_, ?_⟩
  · rw [← hpk]; exact lookup_of_mem_nodup hm (by simpa using hp)
  · rw [← ih p hp q hq]; exact he

theorem container_scalar_comm (F : FloatOps) (a b : Val) (ha : isContainer a = true)
    (hb : isContainer b = false) : valEqual F a b = valEqual F b a := by
  rw [(container_scalar F a b ha hb).1, (container_scalar F a b ha hb).2]

theorem valEqual_comm (F : FloatOps) (a b : Val) (wa : WF a) (wb : WF b) :
    valEqual F a b = valEqual F b a := by
  induction wa generalizing b with
  | array xs _ ih =>
    cases wb with
    | array ys wys =>
      simp only [valEqual]
      exact listEqual_comm F xs ys fun x hx y hy => ih x hx y (wys y hy)
    | map m => rw [(array_map F xs m).1, (array_map F xs m).2]
    | _ => exact container_scalar_comm F _ _ rfl rfl
  | map m nm _ ih =>
    cases wb with
    | array ys => rw [(array_map F ys m).1, (array_map F ys m).2]
    | map n nn wn =>
      simp only [valEqual]
      have ih' : ∀ p ∈ m, ∀ q ∈ n, valEqual F p.2 q.2 = valEqual F q.2 p.2 :=
        fun p hp q hq => ih p hp q.2 (wn q hq)
      by_cases hlen : m.length = n.length
      · have h1 := mapEqual_flip F m n nm nn hlen ih'
        have h2 := mapEqual_flip F n m nn nm hlen.symm (fun q hq p hp => (ih' p hp q hq).symm)
        have : mapEqual F m n = mapEqual F n m := Bool.eq_iff_iff.2 ⟨h1, h2⟩
        simp [hlen, this]
      · rw [beq_false_of_ne hlen, beq_false_of_ne (Ne.symm hlen)]; rfl
    | _ => exact container_scalar_comm F _ _ rfl rfl
  | _ =>
    by_cases hcb : isContainer b = false
    · exact scalar_comm F _ b rfl hcb
    · exact (container_scalar_comm F b _ (by simpa using hcb) rfl).symm

end UgoVerif.Proofs

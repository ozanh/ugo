import UgoVerif.Proofs.OpsOrder
/-
  The numeric part of the regenerated operator table, read against docs/operators.md.  Of the 25
  pairs of int / uint / float / char / bool operands twelve have code of their own (`cell_*` and the
  char pairs of `numeric_cell`); the others convert an operand and delegate, and `numeric_cell`
  checks pair by pair that the code's conversion is the documented one.  What a pair computes is
  said once, for every operator (`Cell`): the four comparisons on the `key` of the pair, everything
  else as the document says.
-/
namespace UgoVerif.Proofs
open UgoVerif UgoVerif.Go UgoVerif.Gen UgoVerif.Model UgoVerif.Spec.OperatorsDoc

/-! Every `/ %` and every shift by a signed count sits under a guard that answers the operand on
    which the Go primitive would panic; `r` is the cell, `hr` its shape. -/

theorem signed_quo {w} (mk : BitVec w → Val) (x y : BitVec w) (r : Res Val)
    (hr : r = if y == 0#w then .err .zeroDivision else do .ok (mk (← quoS x y))) :
    classify r = signedOp mk .Quo x y := by
  subst hr; unfold quoS signedOp; cases y == 0#w <;> rfl

theorem signed_rem {w} (mk : BitVec w → Val) (x y : BitVec w) (r : Res Val)
    (hr : r = if y == 0#w then .err .zeroDivision else do .ok (mk (← remS x y))) :
    classify r = signedOp mk .Rem x y := by
  subst hr; unfold remS signedOp; cases y == 0#w <;> rfl

theorem signed_shl {w} (mk : BitVec w → Val) (x y : BitVec w) (m : String) (r : Res Val)
    (hr : r = if y.slt 0#w then .err (.typeErr m) else do .ok (mk (← shlS x y))) :
    classify r = signedOp mk .Shl x y := by
  subst hr; unfold shlS signedOp; rw [BitVec.slt_zero_eq_msb]; cases y.msb <;> rfl

theorem signed_shr {w} (mk : BitVec w → Val) (x y : BitVec w) (m : String) (r : Res Val)
    (hr : r = if y.slt 0#w then .err (.typeErr m) else do .ok (mk (← shrSS x y))) :
    classify r = signedOp mk .Shr x y := by
  subst hr; unfold shrSS signedOp; rw [BitVec.slt_zero_eq_msb]; cases y.msb <;> rfl

theorem unsigned_quo (x y : BitVec 64) (r : Res Val)
    (hr : r = if y == 0#64 then .err .zeroDivision else do .ok (.uint (← quoU x y))) :
    classify r = unsignedOp .Quo x y := by
  subst hr; unfold quoU unsignedOp; cases y == 0#64 <;> rfl

theorem unsigned_rem (x y : BitVec 64) (r : Res Val)
    (hr : r = if y == 0#64 then .err .zeroDivision else do .ok (.uint (← remU x y))) :
    classify r = unsignedOp .Rem x y := by
  subst hr; unfold remU unsignedOp; cases y == 0#64 <;> rfl

theorem float_quo (F : FloatOps) (x y : F64) (r : Res Val)
    (hr : r = if feq y 0x0000000000000000#64 then .err .zeroDivision else .ok (.float (F.div x y))) :
    classify r = floatOp F .Quo x y := by
  subst hr; unfold floatOp; cases feq y 0x0000000000000000#64 <;> rfl

theorem signedOp_ne_panic {w} (mk : BitVec w → Val) (tok : Tok) (x y : BitVec w) :
    signedOp mk tok x y ≠ .panic := by
  cases tok <;> simp only [signedOp] <;> (try split) <;> nofun

theorem unsignedOp_ne_panic (tok : Tok) (x y : BitVec 64) : unsignedOp tok x y ≠ .panic := by
  cases tok <;> simp only [unsignedOp] <;> (try split) <;> nofun

theorem floatOp_ne_panic (F : FloatOps) (tok : Tok) (x y : F64) : floatOp F tok x y ≠ .panic := by
  cases tok <;> simp only [floatOp] <;> (try split) <;> nofun

theorem docArith_ne_panic {F : FloatOps} {tok : Tok} {a b : Val} : docArith F tok a b ≠ some .panic := by
  intro h
  unfold docArith at h
  repeat' split at h
  all_goals first
    | cases h
    | exact signedOp_ne_panic _ _ _ _ (Option.some.inj h)
    | exact unsignedOp_ne_panic _ _ _ (Option.some.inj h)
    | exact floatOp_ne_panic _ _ _ _ (Option.some.inj h)

variable (F : FloatOps) (S : ObjOps)

/-- Where `key` or the document (`docArith`) says nothing of the pair, a TypeError. -/
def numericDoc (a b : Val) : Tok → Doc
  | .Less => ((key F a b).map fun k => .value (.bool k.lt)).getD .typeError
  | .LessEq => ((key F a b).map fun k => .value (.bool k.le)).getD .typeError
  | .Greater => ((key F a b).map fun k => .value (.bool k.swap.lt)).getD .typeError
  | .GreaterEq => ((key F a b).map fun k => .value (.bool k.swap.le)).getD .typeError
  | tok => (docArith F tok a b).getD .typeError

variable {F}

theorem numericDoc_arith {a b : Val} {tok : Tok} (ht : isArith tok = true) :
    numericDoc F a b tok = (docArith F tok a b).getD .typeError := by
  cases tok <;> first | rfl | cases ht

theorem numericDoc_ne_panic {a b : Val} {tok : Tok} : numericDoc F a b tok ≠ .panic := by
  have {tok} : (docArith F tok a b).getD .typeError ≠ .panic := by
    cases h : docArith F tok a b with
    | none => nofun
    | some d => exact fun e => docArith_ne_panic (h.trans (congrArg some e))
  cases tok <;> unfold numericDoc
  case Less | LessEq | Greater | GreaterEq => cases key F a b <;> nofun
  all_goals exact this

variable (F)

def Cell (a b : Val) : Prop := ∀ tok, classify (binaryOp F S tok a b) = numericDoc F a b tok

theorem cell_int (x y : BitVec 64) : Cell F S (.int x) (.int y) := by
  intro tok
  cases tok
  case Quo => exact signed_quo _ _ _ _ rfl
  case Rem => exact signed_rem _ _ _ _ rfl
  case Shl => exact signed_shl _ _ _ _ _ rfl
  case Shr => exact signed_shr _ _ _ _ _ rfl
  all_goals rfl

theorem cell_uint (x y : BitVec 64) : Cell F S (.uint x) (.uint y) := by
  intro tok
  cases tok
  case Quo => exact unsigned_quo _ _ _ rfl
  case Rem => exact unsigned_rem _ _ _ rfl
  all_goals rfl

theorem cell_float (x y : F64) : Cell F S (.float x) (.float y) := by
  intro tok
  cases tok
  case Quo => exact float_quo _ _ _ _ rfl
  all_goals rfl

theorem cell_char (x y : BitVec 32) : Cell F S (.char x) (.char y) := by
  intro tok
  cases tok
  case Quo => exact signed_quo _ _ _ _ rfl
  case Rem => exact signed_rem _ _ _ _ rfl
  case Shl => exact signed_shl _ _ _ _ _ rfl
  case Shr => exact signed_shr _ _ _ _ _ rfl
  all_goals rfl

-- `Bool.BinaryOp` (objects.go) with an int or uint on the right is the int and uint code written once more, on 1 or 0.

theorem cell_bool_int (o : Bool) (y : BitVec 64) : Cell F S (.bool o) (.int y) := by
  intro tok
  cases o <;> cases tok
  case true.Quo | false.Quo => exact signed_quo _ _ _ _ rfl
  case true.Rem | false.Rem => exact signed_rem _ _ _ _ rfl
  case true.Shl | false.Shl => exact signed_shl _ _ _ _ _ rfl
  case true.Shr | false.Shr => exact signed_shr _ _ _ _ _ rfl
  all_goals rfl

theorem cell_bool_uint (o : Bool) (y : BitVec 64) : Cell F S (.bool o) (.uint y) := by
  intro tok
  cases o <;> cases tok
  case true.Quo | false.Quo => exact unsigned_quo _ _ _ rfl
  case true.Rem | false.Rem => exact unsigned_rem _ _ _ rfl
  all_goals rfl

/-- Every pair of numeric operands.  Each line lists the pairs one piece of code serves; `exact`
    checks that the code's conversion of the operands (`F.ofInt`, `1#64` for `true`, …), its
    operator table and its comparison are those of `numericDoc` for the pair. -/
theorem numeric_cell (a b : Val) (ha : (kindOf a).isSome) (hb : (kindOf b).isSome) : Cell F S a b := by
  rcases a with _ | x | x | x | x | (_ | _) | _ | _ | _ | _ | _ <;>
  rcases b with _ | y | y | y | y | (_ | _) | _ | _ | _ | _ | _
  case int.int | int.bool.false | int.bool.true => exact cell_int F S _ _
  case int.uint | uint.int | uint.uint | uint.bool.false | uint.bool.true => exact cell_uint F S _ _
  case int.float | uint.float | float.int | float.uint | float.float | float.bool.false | float.bool.true
      | bool.false.float | bool.true.float => exact cell_float F S _ _
  case char.char | char.bool.false | char.bool.true | bool.false.char | bool.true.char => exact cell_char F S _ _
  case bool.false.int | bool.true.int | bool.false.bool.false | bool.false.bool.true | bool.true.bool.false
      | bool.true.bool.true => exact cell_bool_int F S _ _
  case bool.false.uint | bool.true.uint => exact cell_bool_uint F S _ _
  -- a char with an int or uint (`+ -` on chars, comparison in the wider kind) or with a float (no
  -- operator at all): code of their own, without a primitive that could panic
  case int.char | uint.char | char.int | char.uint | float.char | char.float => intro tok; cases tok <;> rfl
  -- an operand that is not numeric
  all_goals cases hb <;> cases ha

end UgoVerif.Proofs

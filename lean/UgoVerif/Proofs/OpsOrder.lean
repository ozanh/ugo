import UgoVerif.Proofs.OpsEqual
import UgoVerif.Spec.OperatorsDoc
/-
  The ordering laws of C15.  A comparable pair of operands is first converted to a common
  domain (`key`: signed or unsigned integers, IEEE-754 bit patterns, byte strings, or a fixed
  answer when an operand is undefined) and compared there; `cmp_key` checks this reading
  against every cell of the regenerated operator table once, and the laws are then those of
  the Go comparison primitives on each domain.
-/
namespace UgoVerif.Proofs
open UgoVerif UgoVerif.Go UgoVerif.Gen UgoVerif.Model UgoVerif.Spec.OperatorsDoc

def cmp (F : FloatOps) (S : ObjOps) (tok : Tok) (a b : Val) : Option Bool :=
  match binaryOp F S tok a b with
  | .ok (.bool r) => some r
  | _ => none

def exactlyOne (x y z : Bool) : Bool := (x && !y && !z) || (!x && y && !z) || (!x && !y && z)

def FloatOps.ConvNoNaN (F : FloatOps) : Prop := ∀ x, (F.ofInt x).isNaN = false ∧ (F.ofUint x).isNaN = false
def notNaN : Val → Prop
  | .float x => x.isNaN = false
  | _ => True

theorem beq_eq_decide_toInt {w} (a b : BitVec w) : (a == b) = decide (a.toInt = b.toInt) := by
  by_cases h : a = b <;> simp [h, BitVec.toInt_inj]

theorem beq_eq_decide_toNat {w} (a b : BitVec w) : (a == b) = decide (a.toNat = b.toNat) := by
  by_cases h : a = b <;> simp [h, BitVec.toNat_inj]

theorem slt_trich {w} (a b : BitVec w) : exactlyOne (a.slt b) (a == b) (b.slt a) = true := by
  simp only [beq_eq_decide_toInt, BitVec.slt, exactlyOne]
  by_cases h1 : a.toInt < b.toInt <;> by_cases h2 : b.toInt < a.toInt <;> by_cases h3 : a.toInt = b.toInt <;> simp [h1,h2,h3] <;> omega

theorem ult_trich {w} (a b : BitVec w) : exactlyOne (a.ult b) (a == b) (b.ult a) = true := by
  simp only [beq_eq_decide_toNat, BitVec.ult, exactlyOne]
  by_cases h1 : a.toNat < b.toNat <;> by_cases h2 : b.toNat < a.toNat <;> by_cases h3 : a.toNat = b.toNat <;> simp [h1,h2,h3] <;> omega

theorem f_trich (a b : F64) (ha : a.isNaN = false) (hb : b.isNaN = false) : exactlyOne (flt a b) (feq a b) (flt b a) = true := by
  simp only [flt, feq, ha, hb, exactlyOne]
  by_cases h1 : a.key < b.key <;> by_cases h2 : b.key < a.key <;> by_cases h3 : a.key = b.key <;> simp [h1,h2,h3] <;> omega

theorem sle_eq {w} (a b : BitVec w) : a.sle b = (a.slt b || a == b) := by
  simp only [beq_eq_decide_toInt, BitVec.slt, BitVec.sle]
  by_cases h1 : a.toInt < b.toInt <;> by_cases h3 : a.toInt = b.toInt <;> simp [h1,h3] <;> omega

theorem ule_eq {w} (a b : BitVec w) : a.ule b = (a.ult b || a == b) := by
  simp only [beq_eq_decide_toNat, BitVec.ult, BitVec.ule]
  by_cases h1 : a.toNat < b.toNat <;> by_cases h3 : a.toNat = b.toNat <;> simp [h1,h3] <;> omega

theorem fle_eq (a b : F64) : fle a b = (flt a b || feq a b) := by
  simp only [fle, flt, feq]
  cases a.isNaN <;> cases b.isNaN <;> simp
  by_cases h1 : a.key < b.key <;> by_cases h3 : a.key = b.key <;> by_cases h2 : a.key ≤ b.key <;> simp [h1,h2,h3] <;> omega

theorem bytesCompare_range (a b : Bytes) : bytesCompare a b = -1 ∨ bytesCompare a b = 0 ∨ bytesCompare a b = 1 := by
  fun_induction bytesCompare a b <;> simp [*]

theorem bytesCompare_eq_zero (a b : Bytes) : bytesCompare a b = 0 ↔ a = b := by
  fun_induction bytesCompare a b
  any_goals simp
  next h => rintro rfl; exact absurd h (UInt8.lt_irrefl _)
  next h => rintro rfl; exact absurd h (UInt8.lt_irrefl _)
  next h1 h2 ih => simp [ih, UInt8.le_antisymm (UInt8.not_lt.1 h2) (UInt8.not_lt.1 h1)]

theorem bytesCompare_flip (a b : Bytes) : bytesCompare b a = - bytesCompare a b := by
  fun_induction bytesCompare a b
  any_goals rfl
  next h => simp [bytesCompare, h, UInt8.lt_asymm h]
  next h1 h2 => simp [bytesCompare, h2]
  next h1 h2 ih => simp [bytesCompare, h1, h2, ih]

theorem nan_one : F64.isNaN 0x3FF0000000000000#64 = false := by decide
theorem nan_zero : F64.isNaN 0#64 = false := by decide

theorem beq_eq_decide_compare (a b : Bytes) : (a == b) = decide (bytesCompare a b = 0) := by
  by_cases h : a = b <;> simp [h, bytesCompare_eq_zero]

theorem bytes_trich (a b : Bytes) : exactlyOne (bytesLt a b) (a == b) (bytesLt b a) = true := by
  simp only [beq_eq_decide_compare, bytesLt, exactlyOne, bytesCompare_flip a b]
  rcases bytesCompare_range a b with h | h | h <;> simp [h]

theorem bytesLe_eq (a b : Bytes) : bytesLe a b = (bytesLt a b || a == b) := by
  simp only [beq_eq_decide_compare, bytesLe, bytesLt]
  rcases bytesCompare_range a b with h | h | h <;> simp [h]

/-! `Bytes.BinaryOp` with a bytes operand answers from `bytes.Compare` directly. -/

theorem bytesCompare_le (a b : Bytes) : (bytesCompare a b == 0 || bytesCompare a b == -1) = bytesLe a b := by
  unfold bytesLe; rcases bytesCompare_range a b with h | h | h <;> simp [h]

theorem bytesCompare_gt (a b : Bytes) : (bytesCompare a b == 1) = bytesLt b a := by
  unfold bytesLt; rw [bytesCompare_flip a b]; rcases bytesCompare_range a b with h | h | h <;> simp [h]

theorem bytesCompare_ge (a b : Bytes) : (bytesCompare a b == 0 || bytesCompare a b == 1) = bytesLe b a := by
  unfold bytesLe; rw [bytesCompare_flip a b]; rcases bytesCompare_range a b with h | h | h <;> simp [h]

inductive Key where
  | signed {w : Nat} (x y : BitVec w)
  | unsigned (x y : BitVec 64)
  | float (x y : F64)
  | text (x y : Bytes)
  /-- an undefined operand: undefined is below every other value and equal to itself -/
  | fixed (o : Ordering)

namespace Key

def lt : Key → Bool
  | signed x y => x.slt y | unsigned x y => x.ult y | float x y => flt x y
  | text x y => bytesLt x y | fixed o => o == .lt

def le : Key → Bool
  | signed x y => x.sle y | unsigned x y => x.ule y | float x y => fle x y
  | text x y => bytesLe x y | fixed o => o != .gt

def eq : Key → Bool
  | signed x y => x == y | unsigned x y => x == y | float x y => feq x y
  | text x y => x == y | fixed o => o == .eq

def swap : Key → Key
  | signed x y => signed y x | unsigned x y => unsigned y x | float x y => float y x
  | text x y => text y x | fixed o => fixed o.swap

def ordered : Key → Prop
  | float x y => x.isNaN = false ∧ y.isNaN = false
  | _ => True

theorem le_eq (k : Key) : k.le = (k.lt || k.eq) := by
  cases k with
  | signed x y => exact sle_eq x y
  | unsigned x y => exact ule_eq x y
  | float x y => exact fle_eq x y
  | text x y => exact bytesLe_eq x y
  | fixed o => cases o <;> rfl

theorem trich (k : Key) (h : k.ordered) : exactlyOne k.lt k.eq k.swap.lt = true := by
  cases k with
  | signed x y => exact slt_trich x y
  | unsigned x y => exact ult_trich x y
  | float x y => exact f_trich x y h.1 h.2
  | text x y => exact bytes_trich x y
  | fixed o => cases o <;> rfl

end Key

/-- The kind in which `<  <=  >  >=` compare two numeric operands: that of the arithmetic
    operators (`common`), except that a char meeting an int or uint is widened to it, where
    arithmetic narrows the other operand to char.  docs/operators.md does not give this table;
    it is what numeric.go does (`cmp_key`). -/
def relKind : Option Kind → Option Kind → Option Kind
  | some .char, some .int | some .int, some .char => some .int
  | some .char, some .uint | some .uint, some .char => some .uint
  | ka, kb => common ka kb

/-- `none`: the pair has no order (`<` is a TypeError).  Function-like values have no
    `BinaryOp` at all, so `undefined < f` is answered and `f > undefined` is not. -/
def key (F : FloatOps) (a b : Val) : Option Key :=
  match kindOf a, kindOf b with
  | some ka, some kb =>
    (relKind ka kb).map fun
      | .int => .signed (toInt a) (toInt b)
      | .uint => .unsigned (toUint a) (toUint b)
      | .float => .float (toFloat F a) (toFloat F b)
      | .char => .signed (toChar a) (toChar b)
  | _, _ =>
    match a, b with
    | .undefined, .undefined => some (.fixed .eq)
    | .undefined, _ => some (.fixed .lt)
    | .opaque .., .undefined => none
    | _, .undefined => some (.fixed .gt)
    | .str x, .str y | .str x, .bytes y | .bytes x, .str y | .bytes x, .bytes y => some (.text x y)
    | _, _ => none

theorem cmp_key (F : FloatOps) (S : ObjOps) (a b : Val) :
    cmp F S .Less a b = (key F a b).map Key.lt ∧ cmp F S .LessEq a b = (key F a b).map Key.le ∧
    cmp F S .Greater a b = (key F a b).map (·.swap.lt) ∧
    cmp F S .GreaterEq a b = (key F a b).map (·.swap.le) := by
  rcases a with _ | a | a | a | a | (_ | _) | a | a | a | a | ⟨tn, i⟩ <;>
  rcases b with _ | b | b | b | b | (_ | _) | b | b | b | b | ⟨tn', i'⟩ <;>
  try exact ⟨rfl, rfl, rfl, rfl⟩
  exact ⟨rfl, congrArg some (bytesCompare_le a b), congrArg some (bytesCompare_gt a b),
    congrArg some (bytesCompare_ge a b)⟩

theorem key_swap {F : FloatOps} {a b : Val} {k k' : Key} (h : key F a b = some k)
    (h' : key F b a = some k') : k = k'.swap := by
  cases a <;> cases b <;> cases h <;> cases h' <;> rfl

theorem valEqual_key {F : FloatOps} {a b : Val} {k : Key} (h : key F a b = some k) :
    valEqual F a b = k.eq := by
  rcases a with _ | a | a | a | a | (_ | _) | a | a | a | a | ⟨tn, i⟩ <;>
  rcases b with _ | b | b | b | b | (_ | _) | b | b | b | b | ⟨tn', i'⟩ <;>
  cases h <;> simp [valEqual, ugo_cells, Key.eq, toInt, toUint, toFloat, toChar, Bool.beq_comm, feq_comm]

theorem toFloat_notNaN {F : FloatOps} (hF : FloatOps.ConvNoNaN F) {a : Val} (ha : notNaN a) :
    (toFloat F a).isNaN = false := by
  cases a with
  | int x => exact (hF x).1
  | uint x => exact (hF x).2
  | float x => exact ha
  | bool b => cases b; exact nan_zero; exact nan_one
  | _ => exact nan_zero

theorem key_ordered {F : FloatOps} (hF : FloatOps.ConvNoNaN F) {a b : Val} (ha : notNaN a)
    (hb : notNaN b) {k : Key} (h : key F a b = some k) : k.ordered := by
  -- only a float key asks for anything, and `toFloat` makes no NaN
  revert h
  fun_cases key F a b <;> intro h
  · obtain ⟨kd, -, rfl⟩ := Option.map_eq_some_iff.1 h
    cases kd <;> first | trivial | exact ⟨toFloat_notNaN hF ha, toFloat_notNaN hF hb⟩
  all_goals cases h <;> trivial

end UgoVerif.Proofs

import UgoVerif.Proofs.OptimTransform
/-
  The pass loop of `optimize`.  A pass takes a file to a `FileRel`-related one whatever the optimizer state,
  so the budget only decides how many passes run: `loop` is `passN k` for some `k` (`loop_is_passN`), and
  `k` grows with the limit (`loop_mono`).
-/
namespace UgoVerif.Proofs.OptimSem
open UgoVerif UgoVerif.Go UgoVerif.Ast UgoVerif.VM UgoVerif.Sem UgoVerif.Proofs.ModCache
open UgoVerif.Model.Optim

inductive StmtRel (F : FloatOps) : Stmt → Stmt → Prop where
  | expr {p p' : Pos} {e e' : Expr} : EvalEq F e e' → StmtRel F (.expr p e) (.expr p' e')
  | ret {p : Pos} {e e' : Expr} : EvalEq F e e' → StmtRel F (.return_ p (some e)) (.return_ p (some e'))
  | same (s : Stmt) : StmtRel F s s

theorem StmtRel.trans {F : FloatOps} {a b c : Stmt} (h1 : StmtRel F a b) (h2 : StmtRel F b c) : StmtRel F a c := by
  cases h1 with
  | same => exact h2
  | expr he =>
    cases h2 with
    | same => exact .expr he
    | expr he2 => exact .expr (EvalEq.trans he he2)
  | ret he =>
    cases h2 with
    | same => exact .ret he
    | ret he2 => exact .ret (EvalEq.trans he he2)

inductive FileRel (F : FloatOps) : List Stmt → List Stmt → Prop where
  | nil : FileRel F [] []
  | cons {s s' : Stmt} {ss ss' : List Stmt} : StmtRel F s s' → FileRel F ss ss' → FileRel F (s :: ss) (s' :: ss')

theorem FileRel.refl (F : FloatOps) (ss : List Stmt) : FileRel F ss ss := by
  induction ss with
  | nil => exact .nil
  | cons s ss ih => exact .cons (.same s) ih

theorem FileRel.trans {F : FloatOps} {a b c : List Stmt} (h1 : FileRel F a b) (h2 : FileRel F b c) : FileRel F a c := by
  induction h1 generalizing c with
  | nil => cases h2; exact .nil
  | cons hs _ ih =>
    cases h2 with
    | cons hs2 ht2 => exact .cons (StmtRel.trans hs hs2) (ih ht2)

theorem transformStmt_ok (F : FloatOps) (lineOf : Pos → Nat) (st : OSt) (s : Stmt) :
    Ret (fun (s', _) => StmtRel F s s') (transformStmt F lineOf st s) := by
  fun_cases transformStmt F lineOf st s
  all_goals simp only [Ret]
  next ht _ _ hs => exact .expr ((transform_sound F lineOf ht).eq.trans (evalStep_sound F lineOf hs).1)
  next ht _ _ hs => exact .ret ((transform_sound F lineOf ht).eq.trans (evalStep_sound F lineOf hs).1)
  all_goals exact .same _

theorem transformStmts_ok (F : FloatOps) (lineOf : Pos → Nat) (st : OSt) (ss : List Stmt) :
    Ret (fun (ss', _) => FileRel F ss ss') (transformStmts F lineOf st ss) := by
  fun_induction transformStmts F lineOf st ss
  all_goals simp_all only [Ret]
  · exact .nil
  next hs _ _ _ ih => exact .cons ((transformStmt_ok F lineOf _ _).of_eq hs) ih

theorem pass_ok (F : FloatOps) (lineOf : Pos → Nat) (st : OSt) (file : List Stmt) :
    Ret (fun (file', _) => FileRel F file file') (pass F lineOf st file) := by
  fun_cases pass F lineOf st file
  · trivial
  next hs => exact (transformStmts_ok F lineOf _ _).of_eq hs

def passN (F : FloatOps) (lineOf : Pos → Nat) : Nat → List Stmt × OSt → Option (List Stmt × OSt)
  | 0, x => some x
  | n+1, (file, st) =>
    match pass F lineOf st file with
    | none => none
    | some x => passN F lineOf n x

theorem passN_ok (F : FloatOps) (lineOf : Pos → Nat) (n : Nat) (x : List Stmt × OSt) :
    Ret (fun (file', _) => FileRel F x.1 file') (passN F lineOf n x) := by
  fun_induction passN F lineOf n x
  · exact FileRel.refl F _
  · trivial
  next hp ih => exact ih.imp fun _ => FileRel.trans ((pass_ok F lineOf _ _).of_eq hp)

theorem loop_is_passN (F : FloatOps) (lineOf : Pos → Nat) (fuel : Nat) (o : Out) :
    ∀ r, loop F lineOf fuel o = some r →
      ∃ k, r.passes = o.passes + k ∧ passN F lineOf k (o.file, o.st) = some (r.file, r.st) := by
  fun_induction loop F lineOf fuel o <;> intro r h
  -- out of fuel or budget: stops where it is
  · cases h; exact ⟨0, rfl, rfl⟩
  · cases h; exact ⟨0, rfl, rfl⟩
  · cases h
  -- one more pass, then stops (nothing replaced, or too many errors)
  next hp _ _ => cases h; exact ⟨1, rfl, by simp only [passN, hp]; rfl⟩
  next hp _ _ _ => cases h; exact ⟨1, rfl, by simp only [passN, hp]; rfl⟩
  -- one more pass, then goes on with a lower limit
  next hp _ _ _ ih =>
    obtain ⟨k, hk, hn⟩ := ih r h
    exact ⟨k+1, by rw [hk]; exact (Nat.add_assoc ..).trans (by rw [Nat.add_comm 1]), by simp only [passN, hp]; exact hn⟩

theorem loop_passes_ge (F : FloatOps) (lineOf : Pos → Nat) (fuel : Nat) (o r : Out)
    (h : loop F lineOf fuel o = some r) : o.passes ≤ r.passes := by
  obtain ⟨k, hk, _⟩ := loop_is_passN F lineOf fuel o r h
  omega

/-- lock step of two loops that differ only in the remaining budget -/
theorem loop_mono (F : FloatOps) (lineOf : Pos → Nat) (fuel : Nat) (o : Out) :
    ∀ (fuel' : Nat) (o' r r' : Out),
      o.file = o'.file → o.st = o'.st → o.passes = o'.passes → o.limit ≤ o'.limit →
      o'.limit.toNat ≤ fuel' →
      loop F lineOf fuel o = some r → loop F lineOf fuel' o' = some r' → r.passes ≤ r'.passes := by
  fun_induction loop F lineOf fuel o <;> intro fuel' o' r r' hf hs hp hl hfu h h'
  -- the run with the lower limit stops where it is: the other one only adds passes
  · cases h; exact hp ▸ loop_passes_ge F lineOf fuel' o' r' h'
  · cases h; exact hp ▸ loop_passes_ge F lineOf fuel' o' r' h'
  · cases h
  -- otherwise the other run has budget and fuel left, makes the same pass and the same tests on its result
  all_goals
    obtain ⟨g, rfl⟩ : ∃ g, fuel' = g + 1 := ⟨fuel' - 1, by omega⟩
    rw [loop, if_neg (by omega), ← hf, ← hs] at h'
  next hp' _ hc => simp only [hp', hc, if_true] at h'; cases h; cases h'; exact hp ▸ Nat.le_refl _
  next hp' _ hc he =>
    simp only [hp', hc, he, Bool.false_eq_true, if_true, if_false] at h'; cases h; cases h'; exact hp ▸ Nat.le_refl _
  next hp' _ hc he ih =>
    simp only [hp', hc, he, Bool.false_eq_true, if_false] at h'
    have hcne : _ ≠ 0 := fun h0 => hc (beq_iff_eq.mpr h0)
    refine ih g _ r r' ?_ ?_ ?_ ?_ ?_ h h'
    · rfl
    · rfl
    · exact congrArg (· + 1) hp
    · simp only; omega
    · simp only; omega

end UgoVerif.Proofs.OptimSem

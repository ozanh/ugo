import UgoVerif.Proofs.OptimEqs
/-
  The private evaluator of the optimizer model (`compilable` + `cEval`) agrees with the
  reference semantics: a compilable expression evaluates, in EVERY environment, state and fuel
  in which `Sem.evalExpr` ends properly, to the value / the thrown error `cEval` computed.
  `cEval` is read in bind form (`andThen`, `crFalsy`, `crEq`, `crOp`), the shape `Sem.evalExpr` has in
  Proofs/OptimEqs, so that each combinator has one agreement lemma (`AgK.andThen`, `.falsy`, `.eq`, `.op`).
-/
namespace UgoVerif.Proofs.OptimSem
open UgoVerif UgoVerif.Go UgoVerif.Ast UgoVerif.VM UgoVerif.Sem UgoVerif.Proofs.ModCache
open UgoVerif.Model.Optim

def Fails {α} (m : SM α) : Prop := ∀ σ s, ∃ e s', srun m σ s = (.error e, s')

theorem fails_zero (F : FloatOps) (env : Env) (e : Expr) : Fails (evalExpr F 0 env e) := by
  intro σ s
  rw [eval_zero, srun_liftM]
  exact ⟨_, _, rfl⟩

theorem Fails.bind {α β} {m : SM α} (f : α → SM β) (h : Fails m) : Fails (m >>= f) := by
  intro σ s
  obtain ⟨e, s', he⟩ := h σ s
  rw [srun_bind, he]
  exact ⟨_, _, rfl⟩

theorem Refines.of_fails {α} {m m' : SM α} (h : Fails m) : Refines m m' := by
  intro σ s r s' h1
  obtain ⟨e, s2, h2⟩ := h σ s
  rw [h2] at h1
  simp at h1

theorem refines_of_succ {F : FloatOps} {e : Expr} {k : Nat → Env → SM ER}
    (h : ∀ f env, Refines (evalExpr F (f+1) env e) (k (f+1) env)) :
    ∀ fuel env, Refines (evalExpr F fuel env e) (k fuel env)
  | 0, env => Refines.of_fails (fails_zero F env e)
  | f+1, env => h f env

theorem Refines.liftM_run {α β} {m : M α} (hm : IsPure m) {b : α} (hr : runM m = .ok b) (g : α → SM β) :
    Refines (Sem.liftM m >>= g) (g b) := by
  intro σ s r s' hrun
  rw [srun_bind, srun_liftM, hm.h s, hr] at hrun
  exact hrun

theorem raise_bind (oe : OpErr) (K : ER → SM ER) (hK : ∀ a, K (.thr a) = pure (.thr a)) :
    raise oe >>= K = raise oe := by
  simp [raise, hK]

def ConstTo (F : FloatOps) (e : Expr) (k : SM ER) : Prop := ∀ fuel env, Refines (evalExpr F fuel env e) k

def kOf : CR → SM ER
  | .val v => pure (.val v)
  | .err oe => raise oe
  | .unknown => Sem.liftM (unsupported "unknown")

def Known : CR → Prop
  | .unknown => False
  | _ => True

structure Agrees (F : FloatOps) (e : Expr) (c : CR) : Prop where
  scalar : ∀ v, c = .val v → Scalar v
  run : Known c → ConstTo F e (kOf c)

theorem agrees_unknown (F : FloatOps) (e : Expr) : Agrees F e .unknown :=
  ⟨fun _ h => (by cases h), fun h => (by cases h)⟩

theorem agrees_lit {F : FloatOps} {e : Expr} {v : V} (hv : Scalar v)
    (h : ∀ f env, evalExpr F (f+1) env e = pure (.val v)) : Agrees F e (.val v) := by
  exact ⟨fun w hw => (by cases hw; exact hv), fun _ => refines_of_succ fun f env => by rw [h]; exact Refines.refl _⟩

theorem both_true {a b : Option Bool} (h : both a b = some true) : a = some true ∧ b = some true := by
  cases a <;> cases b <;> simp [both] at h ⊢
  exact h

theorem unK_thr (F : FloatOps) (tok : Nat) (a : Addr) : unK F tok (.thr a) = pure (.thr a) := rfl
theorem binK_thr (F : FloatOps) (f : Nat) (env : Env) (tok : Nat) (r : Expr) (a : Addr) :
    binK F f env tok r (.thr a) = pure (.thr a) := rfl
theorem binK2_thr (F : FloatOps) (tok : Nat) (lv : V) (a : Addr) : binK2 F tok lv (.thr a) = pure (.thr a) := rfl
theorem condK_thr (F : FloatOps) (f : Nat) (env : Env) (t e : Expr) (a : Addr) :
    condK F f env t e (.thr a) = pure (.thr a) := rfl

def andThen (c : CR) (k : V → CR) : CR :=
  match c with
  | .val v => k v
  | r => r

def crFalsy (v : V) (a b : CR) : CR :=
  match runM (isFalsy v) with
  | .ok true => a
  | .ok false => b
  | .error _ => .unknown

theorem cEval_unary (F : FloatOps) (p : Pos) (tok : Nat) (x : Expr) :
    cEval F (.unary p tok x) = andThen (cEval F x) fun v => crOp (runM (vUnary F (tokOfNat tok) v)) := by
  simp only [cEval, andThen]; cases cEval F x <;> rfl

theorem cEval_cond (F : FloatOps) (p : Pos) (c t f : Expr) :
    cEval F (.cond p c t f) = andThen (cEval F c) fun cv => crFalsy cv (cEval F f) (cEval F t) := by
  simp only [cEval, andThen, crFalsy]; cases cEval F c <;> rfl

def AgK (m : Nat → Env → SM ER) (c : CR) : Prop :=
  (∀ w, c = .val w → Scalar w) ∧ (Known c → ∀ f env, Refines (m f env) (kOf c))

theorem AgK.of_agrees {F : FloatOps} {e : Expr} {c : CR} (h : Agrees F e c) : AgK (fun f env => evalExpr F f env e) c :=
  ⟨h.scalar, fun hk f env => h.run hk f env⟩

theorem AgK.unknown (m : Nat → Env → SM ER) : AgK m .unknown := ⟨nofun, nofun⟩

theorem refines_falsy {lv : V} (hlv : Scalar lv) {b : Bool} (hf : runM (isFalsy lv) = .ok b)
    {a c k : SM ER} (h : Refines (if b = true then a else c) k) :
    Refines (do if (← Sem.liftM (isFalsy lv)) then a else c) k := by
  exact (Refines.liftM_run (isFalsy_pure hlv) hf _).trans h

theorem AgK.falsy {v : V} (hv : Scalar v) {a b : Nat → Env → SM ER} {ca cb : CR}
    (ha : runM (isFalsy v) = .ok true → AgK a ca) (hb : runM (isFalsy v) = .ok false → AgK b cb) :
    AgK (fun f env => do if (← Sem.liftM (isFalsy v)) then a f env else b f env) (crFalsy v ca cb) := by
  unfold crFalsy
  cases hf : runM (isFalsy v) with
  | error e => exact AgK.unknown _
  | ok t =>
    cases t with
    | true => exact ⟨(ha hf).1, fun hk f env => refines_falsy hv hf ((ha hf).2 hk f env)⟩
    | false => exact ⟨(hb hf).1, fun hk f env => refines_falsy hv hf ((hb hf).2 hk f env)⟩

theorem AgK.op {m : M (Except OpErr V)} (h : ScalarOp m) :
    AgK (fun _ _ => do
      match (← Sem.liftM m) with
      | .ok v' => pure (.val v')
      | .error e => raise e) (crOp (runM m)) := by
  cases hr : runM m with
  | error e => exact AgK.unknown _
  | ok b =>
    refine ⟨fun w hw => ?_, fun _ f env => (Refines.liftM_run h.pure hr _).trans ?_⟩
    · cases b <;> simp only [crOp] at hw <;> cases hw
      exact h.res.of_runM hr
    · cases b <;> exact Refines.refl _

def crEq (F : FloatOps) (g : Bool → Bool) (lv rv : V) : CR :=
  match runM (vEqual F lv rv) with
  | .ok b => .val (.bool (g b))
  | .error _ => .unknown

theorem cEval_binary (F : FloatOps) (p : Pos) (tok : Nat) (l r : Expr) :
    cEval F (.binary p tok l r) = andThen (cEval F l) fun lv =>
      if tok == tLAnd then crFalsy lv (.val lv) (cEval F r)
      else if tok == tLOr then crFalsy lv (cEval F r) (.val lv)
      else andThen (cEval F r) fun rv =>
        if tok == tEqual then crEq F id lv rv
        else if tok == tNotEqual then crEq F not lv rv
        else crOp (runM (vBinaryOp F (tokOfNat tok) lv rv)) := by
  simp only [cEval, andThen, crFalsy, crEq]
  cases cEval F l <;> rfl

theorem AgK.val {v : V} (hv : Scalar v) : AgK (fun _ _ => pure (.val v)) (.val v) :=
  ⟨fun _ h => by cases h; exact hv, fun _ _ _ => Refines.refl _⟩

theorem AgK.ite {c : Prop} [Decidable c] {a b : Nat → Env → SM ER} {ca cb : CR} (ha : c → AgK a ca) (hb : ¬c → AgK b cb) :
    AgK (fun f env => if c then a f env else b f env) (if c then ca else cb) := by
  split
  · exact ha ‹_›
  · exact hb ‹_›

theorem AgK.andThen {F : FloatOps} {x : Expr} {K : Nat → Env → ER → SM ER} {cx : CR} {k : V → CR}
    (hK : ∀ f env a, K f env (.thr a) = pure (.thr a)) (hx : Agrees F x cx)
    (hk : ∀ v, cx = .val v → Scalar v → AgK (fun f env => K f env (.val v)) (k v)) :
    AgK (fun f env => evalExpr F f env x >>= K f env) (OptimSem.andThen cx k) := by
  cases cx with
  | unknown => exact AgK.unknown _
  | err oe =>
    refine ⟨nofun, fun _ f env => (Refines.bind (hx.run trivial f env) fun _ => Refines.refl _).trans ?_⟩
    show Refines (raise oe >>= K f env) (raise oe)
    rw [raise_bind oe _ (hK f env)]
    exact Refines.refl _
  | val v =>
    have h := hk v rfl (hx.scalar v rfl)
    refine ⟨h.1, fun hkn f env => (Refines.bind (hx.run trivial f env) fun _ => Refines.refl _).trans ?_⟩
    show Refines (pure (ER.val v) >>= K f env) _
    rw [pure_bind]
    exact h.2 hkn f env

theorem AgK.eq (F : FloatOps) (g : Bool → Bool) {lv rv : V} (hl : Scalar lv) (hr : Scalar rv) :
    AgK (fun _ _ => do pure (.val (.bool (g (← Sem.liftM (vEqual F lv rv)))))) (crEq F g lv rv) := by
  unfold crEq
  cases he : runM (vEqual F lv rv) with
  | error e => exact AgK.unknown _
  | ok b => exact ⟨fun _ h => by cases h; trivial, fun _ _ _ => Refines.liftM_run (vEqual_pure F hl hr) he _⟩

theorem agrees_bind {F : FloatOps} {e x : Expr} {K : Nat → Env → ER → SM ER} {cx : CR} {k : V → CR}
    (heq : ∀ f env, evalExpr F (f+1) env e = evalExpr F f env x >>= K f env)
    (hK : ∀ f env a, K f env (.thr a) = pure (.thr a))
    (hx : Agrees F x cx)
    (hk : ∀ v, cx = .val v → Scalar v → AgK (fun f env => K f env (.val v)) (k v)) : Agrees F e (andThen cx k) :=
  have h := AgK.andThen hK hx hk
  ⟨h.1, fun hkn => refines_of_succ fun f env => by rw [heq]; exact h.2 hkn f env⟩

theorem agrees_unary {F : FloatOps} {p : Pos} {tok : Nat} {x : Expr} (hx : Agrees F x (cEval F x)) :
    Agrees F (.unary p tok x) (cEval F (.unary p tok x)) := by
  rw [cEval_unary]
  exact agrees_bind (K := fun _ _ => unK F tok) (fun f env => eval_unary F f env p tok x) (fun _ _ _ => rfl) hx
    fun v _ hv => AgK.op (vUnary_op F _ hv)

theorem agrees_cond {F : FloatOps} {p : Pos} {c t e : Expr}
    (hc : Agrees F c (cEval F c))
    (ht : ∀ cv, cEval F c = .val cv → runM (isFalsy cv) = .ok false → Agrees F t (cEval F t))
    (he : ∀ cv, cEval F c = .val cv → runM (isFalsy cv) = .ok true → Agrees F e (cEval F e)) :
    Agrees F (.cond p c t e) (cEval F (.cond p c t e)) := by
  rw [cEval_cond]
  exact agrees_bind (K := fun f env => condK F f env t e) (fun f env => eval_cond F f env p c t e) (fun _ _ _ => rfl) hc
    fun v hcv hv => AgK.falsy hv (fun hf => .of_agrees (he v hcv hf)) (fun hf => .of_agrees (ht v hcv hf))

theorem agrees_binary {F : FloatOps} {p : Pos} {tok : Nat} {l r : Expr}
    (hl : Agrees F l (cEval F l)) (hr : Agrees F r (cEval F r)) :
    Agrees F (.binary p tok l r) (cEval F (.binary p tok l r)) := by
  rw [cEval_binary]
  refine agrees_bind (K := fun f env => binK F f env tok r) (fun f env => eval_binary F f env p tok l r)
    (fun _ _ _ => rfl) hl fun lv _ hlv => ?_
  refine AgK.ite (fun _ => AgK.falsy hlv (fun _ => .val hlv) (fun _ => .of_agrees hr)) fun _ =>
    AgK.ite (fun _ => AgK.falsy hlv (fun _ => .of_agrees hr) (fun _ => .val hlv)) fun _ =>
      AgK.andThen (K := fun _ _ => binK2 F tok lv) (fun _ _ _ => rfl) hr fun rv _ hrv => ?_
  exact AgK.ite (fun _ => AgK.eq F id hlv hrv) fun _ => AgK.ite (fun _ => AgK.eq F not hlv hrv) fun _ =>
    AgK.op (vBinaryOp_op F _ hlv hrv)

theorem agrees_paren {F : FloatOps} {p : Pos} {x : Expr} (hx : Agrees F x (cEval F x)) :
    Agrees F (.paren p x) (cEval F (.paren p x)) := by
  simp only [cEval]
  exact ⟨hx.scalar, fun hkn => refines_of_succ fun f env => by rw [eval_paren]; exact hx.run hkn f env⟩

theorem cEval_agrees (F : FloatOps) (e : Expr) : compilable e = some true → Agrees F e (cEval F e) := by
  fun_induction compilable e <;> intro h
  iterate 7 exact agrees_lit trivial fun f env => eval_lit F f env rfl
  · cases h
  · cases h
  next ih => exact agrees_paren (ih h)
  next ih => exact agrees_unary (ih h)
  · cases h
  next ihl ihr => exact agrees_binary (ihl (both_true h).1) (ihr (both_true h).2)
  · cases h
  -- `?:` on a BoolLit: only the taken branch was compiled, and only it is evaluated
  next p _ _ ih =>
    exact agrees_cond (agrees_lit trivial (fun f env => eval_bool F f env p true)) (fun _ _ _ => ih h)
      (fun cv hcv hf => by cases hcv; cases hf)
  next p b _ _ hb ih =>
    cases Bool.eq_false_iff.mpr hb
    exact agrees_cond (agrees_lit trivial (fun f env => eval_bool F f env p false))
      (fun cv hcv hf => by cases hcv; cases hf) (fun _ _ _ => ih h)
  · cases h
  · cases h
  · cases h
end UgoVerif.Proofs.OptimSem

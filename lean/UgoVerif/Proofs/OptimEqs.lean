import UgoVerif.Proofs.OptimSem
/-
  Unfolding equations of `Sem.evalExpr` on the expression fragment, with the continuations of the
  `do` blocks named so that the soundness proofs can use `Refines.bind`.
-/
namespace UgoVerif.Proofs.OptimSem
open UgoVerif UgoVerif.Go UgoVerif.Ast UgoVerif.VM UgoVerif.Sem UgoVerif.Proofs.ModCache
open UgoVerif.Model.Optim (isLit litOf)

def unK (F : FloatOps) (tok : Nat) : ER → SM ER
  | .thr e => pure (.thr e)
  | .val v => do
    match (← Sem.liftM (vUnary F (tokOfNat tok) v)) with
    | .ok v' => pure (.val v')
    | .error e => raise e

def binK2 (F : FloatOps) (tok : Nat) (lv : V) : ER → SM ER
  | .thr e => pure (.thr e)
  | .val rv =>
    if tok == tEqual then do pure (.val (.bool (← Sem.liftM (vEqual F lv rv))))
    else if tok == tNotEqual then do pure (.val (.bool (!(← Sem.liftM (vEqual F lv rv)))))
    else do
      match (← Sem.liftM (vBinaryOp F (tokOfNat tok) lv rv)) with
      | .ok v => pure (.val v)
      | .error e => raise e

def binK (F : FloatOps) (f : Nat) (env : Env) (tok : Nat) (r : Expr) : ER → SM ER
  | .thr e => pure (.thr e)
  | .val lv =>
    if tok == tLAnd then do
      if (← Sem.liftM (isFalsy lv)) then pure (.val lv) else evalExpr F f env r
    else if tok == tLOr then do
      if (← Sem.liftM (isFalsy lv)) then evalExpr F f env r else pure (.val lv)
    else evalExpr F f env r >>= binK2 F tok lv

def condK (F : FloatOps) (f : Nat) (env : Env) (t e : Expr) : ER → SM ER
  | .thr a => pure (.thr a)
  | .val cv => do if (← Sem.liftM (isFalsy cv)) then evalExpr F f env e else evalExpr F f env t

variable (F : FloatOps) (f : Nat) (env : Env) (p : Pos)

theorem eval_zero (e : Expr) : evalExpr F 0 env e = Sem.liftM (unsupported "sem: fuel") := by rw [evalExpr]
theorem eval_int (v : BitVec 64) : evalExpr F (f+1) env (.int p v) = pure (.val (.int v)) := by rw [evalExpr]
theorem eval_uint (v : BitVec 64) : evalExpr F (f+1) env (.uint p v) = pure (.val (.uint v)) := by rw [evalExpr]
theorem eval_float (v : F64) : evalExpr F (f+1) env (.float p v) = pure (.val (.float v)) := by rw [evalExpr]
theorem eval_char (v : BitVec 32) : evalExpr F (f+1) env (.char p v) = pure (.val (.char v)) := by rw [evalExpr]
theorem eval_bool (b : Bool) : evalExpr F (f+1) env (.bool p b) = pure (.val (.bool b)) := by rw [evalExpr]
theorem eval_str (s : Bytes) : evalExpr F (f+1) env (.str p s) = pure (.val (.str s)) := by rw [evalExpr]
theorem eval_undef : evalExpr F (f+1) env (.undef p) = pure (.val .undefined) := by rw [evalExpr]
theorem eval_paren (e : Expr) : evalExpr F (f+1) env (.paren p e) = evalExpr F f env e := by rw [evalExpr]

theorem eval_unary (tok : Nat) (x : Expr) :
    evalExpr F (f+1) env (.unary p tok x) = evalExpr F f env x >>= unK F tok := by
  rw [evalExpr]; rfl

theorem eval_binary (tok : Nat) (l r : Expr) :
    evalExpr F (f+1) env (.binary p tok l r) = evalExpr F f env l >>= binK F f env tok r := by
  rw [evalExpr]; rfl

theorem eval_cond (c t e : Expr) :
    evalExpr F (f+1) env (.cond p c t e) = evalExpr F f env c >>= condK F f env t e := by
  rw [evalExpr]; rfl

def valOfLit : Lit → V
  | .int v => .int v | .uint v => .uint v | .float v => .float v | .char v => .char v
  | .bool b => .bool b | .str s => .str s | .undefined => .undefined | .other => .undefined

theorem eval_lit {e : Expr} (h : isLit e = true) : evalExpr F (f+1) env e = pure (.val (valOfLit (litOf e))) := by
  cases e <;> simp only [isLit, Bool.false_eq_true] at h <;>
    simp only [eval_int, eval_uint, eval_float, eval_char, eval_bool, eval_str, eval_undef, litOf, valOfLit]

end UgoVerif.Proofs.OptimSem

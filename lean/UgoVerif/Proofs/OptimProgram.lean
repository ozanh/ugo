import UgoVerif.Proofs.OptimBudget
/-
  From interchangeable expressions to whole scripts of the fragment: `Sem.execStmt`, `Sem.execList`
  and `Sem.runProgram` on files related by `FileRel`.
-/
namespace UgoVerif.Proofs.OptimSem
open UgoVerif UgoVerif.Go UgoVerif.Ast UgoVerif.VM UgoVerif.Sem UgoVerif.Proofs.ModCache
open UgoVerif.Model.Optim

theorem fails_execStmt_zero (F : FloatOps) (env : Env) (s : Stmt) : Fails (execStmt F 0 env s) := by
  intro σ st
  rw [Sem.execStmt, srun_liftM]
  exact ⟨_, _, rfl⟩

theorem fails_execList_zero (F : FloatOps) (env : Env) (ss : List Stmt) : Fails (execList F 0 env ss) := by
  intro σ st
  rw [Sem.execList, srun_liftM]
  exact ⟨_, _, rfl⟩

theorem execStmt_rel {F : FloatOps} {s s' : Stmt} (h : StmtRel F s s') (fuel : Nat) (env : Env) :
    Refines (execStmt F fuel env s) (execStmt F fuel env s') := by
  cases fuel with
  | zero => exact Refines.of_fails (fails_execStmt_zero F env s)
  | succ f =>
    cases h with
    | same => exact Refines.refl _
    | expr he =>
      rw [Sem.execStmt, Sem.execStmt]
      exact Refines.bind (he f env) (fun _ => Refines.refl _)
    | ret he =>
      rw [Sem.execStmt, Sem.execStmt]
      exact Refines.bind (he f env) (fun _ => Refines.refl _)

theorem execList_rel {F : FloatOps} {ss ss' : List Stmt} (h : FileRel F ss ss') :
    ∀ (fuel : Nat) (env : Env), Refines (execList F fuel env ss) (execList F fuel env ss') := by
  induction h with
  | nil => intro fuel env; exact Refines.refl _
  | cons hs ht ih =>
    intro fuel env
    cases fuel with
    | zero => exact Refines.of_fails (fails_execList_zero F env _)
    | succ f =>
      rw [Sem.execList, Sem.execList]
      refine Refines.bind (execStmt_rel hs f env) (fun x => ?_)
      obtain ⟨c, env'⟩ := x
      cases c <;> first | exact ih f env' | exact Refines.refl _

theorem mainParams_rel {F : FloatOps} {ss ss' : List Stmt} (h : FileRel F ss ss') : mainParams ss = mainParams ss' := by
  induction h with
  | nil => rfl
  | cons hs ht ih =>
    cases hs with
    | same =>
      rename_i s _ _
      cases s <;> simp only [mainParams, ih]
    | expr he => simp only [mainParams, ih]
    | ret he => simp only [mainParams, ih]

theorem runProgram_rel {F : FloatOps} {ss ss' : List Stmt} (h : FileRel F ss ss') (fuel : Nat) (args : List V) :
    Refines (runProgram F fuel ss args) (runProgram F fuel ss' args) := by
  unfold runProgram
  rw [mainParams_rel h]
  refine Refines.bind (Refines.refl _) (fun x => ?_)
  exact Refines.bind (execList_rel h fuel _) (fun _ => Refines.refl _)

end UgoVerif.Proofs.OptimSem

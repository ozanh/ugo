import UgoVerif.Proofs.ScalarOps
/-
  Optimizer model vs reference semantics (Props/C01): a `Sem` computation is run as an action of the
  VM monad (`srun`), and soundness of the optimizer is `Refines` between two such runs.
-/
namespace UgoVerif.Proofs.OptimSem
open UgoVerif UgoVerif.Go UgoVerif.Ast UgoVerif.VM UgoVerif.Sem UgoVerif.Proofs.ModCache

def srun {α} (m : SM α) (σ : SemSt) (s : State) : Except Exc (α × SemSt) × State := exec (m.run σ) s

theorem srun_pure {α} (a : α) (σ : SemSt) (s : State) : srun (pure a : SM α) σ s = (.ok (a, σ), s) := rfl

theorem srun_bind {α β} (m : SM α) (f : α → SM β) (σ : SemSt) (s : State) :
    srun (m >>= f) σ s = match srun m σ s with
      | (.ok (a, σ'), s') => srun (f a) σ' s'
      | (.error e, s') => (.error e, s') := by
  unfold srun
  rw [StateT.run_bind, exec_bind]
  cases exec (m.run σ) s with
  | mk r s' => cases r <;> rfl

theorem srun_liftM {α} (m : M α) (σ : SemSt) (s : State) :
    srun (Sem.liftM m) σ s = match exec m s with
      | (.ok a, s') => (.ok (a, σ), s')
      | (.error e, s') => (.error e, s') := by
  unfold srun Sem.liftM
  show exec (m >>= fun a => pure (a, σ)) s = _
  rw [exec_bind]
  cases exec m s with
  | mk r s' => cases r <;> rfl

/-- `m'` does whatever `m` does, whenever `m` ends with a value or a thrown uGO error
    (not with `unsupported` / fuel exhaustion / a Go panic) -/
def Refines {α} (m m' : SM α) : Prop :=
  ∀ σ s r s', srun m σ s = (.ok r, s') → srun m' σ s = (.ok r, s')

theorem Refines.refl {α} (m : SM α) : Refines m m := fun _ _ _ _ h => h

theorem Refines.trans {α} {a b c : SM α} (h1 : Refines a b) (h2 : Refines b c) : Refines a c :=
  fun σ s r s' h => h2 σ s r s' (h1 σ s r s' h)

theorem Refines.bind {α β} {m m' : SM α} {f f' : α → SM β} (hm : Refines m m')
    (hf : ∀ a, Refines (f a) (f' a)) : Refines (m >>= f) (m' >>= f') := by
  intro σ s r s' h
  rw [srun_bind] at h ⊢
  cases hm0 : srun m σ s with
  | mk x s1 =>
    rw [hm0] at h
    cases x with
    | error e => simp at h
    | ok p =>
      obtain ⟨a, σ1⟩ := p
      rw [hm σ s (a, σ1) s1 hm0]
      exact hf a σ1 s1 r s' h

/-- `P` of whatever a call of the optimizer model returned (`none`: outside the fragment, nothing to show) -/
def Ret {α} (P : α → Prop) : Option α → Prop
  | none => True
  | some a => P a

theorem Ret.of_eq {α} {P : α → Prop} {o : Option α} {a : α} (h : Ret P o) (e : o = some a) : P a := by
  subst e; exact h

theorem Ret.imp {α} {P Q : α → Prop} {o : Option α} (h : Ret P o) (hi : ∀ a, P a → Q a) : Ret Q o := by
  cases o with
  | none => trivial
  | some a => exact hi a h

end UgoVerif.Proofs.OptimSem

import UgoVerif.Proofs.OptimConst
/-
  What one evaluation step of the optimizer model (`Model.Optim.evalExpr`, `evalStep`) guarantees against
  `Spec/Sem`: the node it returns is `EvalEq` to the node it was given (a replacement is a literal), and an
  error it records is the run-time error of that node in every environment (`ErrsAt`; `ErrsFrom` for the
  sub-expressions of a node).  The fold tables of Gen/Fold enter through `binaryop_agree` and `fold_vm_un`:
  a fold is what the operator layer of the VM model computes on the values of the literals.
-/
namespace UgoVerif.Proofs.OptimSem
open UgoVerif UgoVerif.Go UgoVerif.Ast UgoVerif.VM UgoVerif.Sem UgoVerif.Proofs.ModCache
open UgoVerif.Model.Optim

/-- `e'` can replace `e`: in every environment, state and fuel in which `e` evaluates to a value or
    throws a uGO error, `e'` does exactly the same (same value, same thrown error, same final state) -/
def EvalEq (F : FloatOps) (e e' : Expr) : Prop :=
  ∀ fuel env, Refines (evalExpr F fuel env e) (evalExpr F fuel env e')

theorem EvalEq.refl (F : FloatOps) (e : Expr) : EvalEq F e e := fun _ _ => Refines.refl _
theorem EvalEq.trans {F : FloatOps} {a b c : Expr} (h1 : EvalEq F a b) (h2 : EvalEq F b c) : EvalEq F a c :=
  fun f env => Refines.trans (h1 f env) (h2 f env)

theorem ConstTo.of_evalEq {F : FloatOps} {a b : Expr} {k : SM ER} (h1 : EvalEq F a b) (h2 : ConstTo F b k) :
    ConstTo F a k := fun f env => Refines.trans (h1 f env) (h2 f env)

theorem isLit_of_litOf {e : Expr} (h : litOf e ≠ .other) : isLit e = true := by
  cases e <;> first | rfl | exact absurd rfl h

theorem litExpr_spec {p : Pos} {lit : Lit} {e : Expr} (h : litExpr p lit = some e) : isLit e = true ∧ litOf e = lit := by
  cases lit <;> simp only [litExpr, Option.some.injEq, reduceCtorEq] at h <;> subst h <;> exact ⟨rfl, rfl⟩

theorem litOfV_val {v : V} {lit : Lit} (h : litOfV v = some lit) : valOfLit lit = v := by
  cases v <;> simp only [litOfV, Option.some.injEq, reduceCtorEq] at h <;> subst h <;> rfl

theorem evalEq_lit_fuel {F : FloatOps} {x e' : Expr} (hl : isLit e' = true) (h : EvalEq F x e')
    (f : Nat) (env : Env) : Refines (evalExpr F f env x) (evalExpr F (f+1) env e') := by
  cases f with
  | zero => exact Refines.of_fails (fails_zero F env x)
  | succ g =>
    have := h (g+1) env
    rw [eval_lit F _ env hl] at this ⊢
    exact this

inductive Sub : Expr → Expr → Prop where
  | refl (e : Expr) : Sub e e
  | paren {x e : Expr} (p : Pos) : Sub x e → Sub x (.paren p e)
  | unary {x e : Expr} (p : Pos) (tok : Nat) : Sub x e → Sub x (.unary p tok e)
  | binL {x l : Expr} (p : Pos) (tok : Nat) (r : Expr) : Sub x l → Sub x (.binary p tok l r)
  | binR {x r : Expr} (p : Pos) (tok : Nat) (l : Expr) : Sub x r → Sub x (.binary p tok l r)
  | condC {x c : Expr} (p : Pos) (t f : Expr) : Sub x c → Sub x (.cond p c t f)
  | condT {x t : Expr} (p : Pos) (c f : Expr) : Sub x t → Sub x (.cond p c t f)
  | condF {x f : Expr} (p : Pos) (c t : Expr) : Sub x f → Sub x (.cond p c t f)

def ErrsFrom (F : FloatOps) (errs errs' : List (Pos × OpErr)) (e : Expr) : Prop :=
  ∃ new, errs' = errs ++ new ∧ ∀ pe ∈ new, ∃ x₀, Sub x₀ e ∧ ConstTo F x₀ (raise pe.2)

theorem ErrsFrom.none (F : FloatOps) (errs : List (Pos × OpErr)) (e : Expr) : ErrsFrom F errs errs e :=
  ⟨[], by simp, fun _ h => by cases h⟩

theorem ErrsFrom.mono {F : FloatOps} {errs errs' : List (Pos × OpErr)} {a b : Expr}
    (hsub : ∀ x, Sub x a → Sub x b) (h : ErrsFrom F errs errs' a) : ErrsFrom F errs errs' b := by
  obtain ⟨new, h1, h2⟩ := h
  exact ⟨new, h1, fun pe hpe => let ⟨x, hx, hc⟩ := h2 pe hpe; ⟨x, hsub x hx, hc⟩⟩

theorem ErrsFrom.trans {F : FloatOps} {e1 e2 e3 : List (Pos × OpErr)} {a : Expr}
    (h1 : ErrsFrom F e1 e2 a) (h2 : ErrsFrom F e2 e3 a) : ErrsFrom F e1 e3 a := by
  obtain ⟨n1, h11, h12⟩ := h1
  obtain ⟨n2, h21, h22⟩ := h2
  refine ⟨n1 ++ n2, by rw [h21, h11, List.append_assoc], fun pe hpe => ?_⟩
  rcases List.mem_append.mp hpe with h | h
  · exact h12 pe h
  · exact h22 pe h

def ErrsAt (F : FloatOps) (errs errs' : List (Pos × OpErr)) (e : Expr) : Prop :=
  errs' = errs ∨ ∃ oe, errs' = errs ++ [(e.pos, oe)] ∧ ConstTo F e (raise oe)

theorem ErrsAt.to_from {F : FloatOps} {errs errs' : List (Pos × OpErr)} {node orig : Expr}
    (h : ErrsAt F errs errs' node) (heq : EvalEq F orig node) : ErrsFrom F errs errs' orig := by
  rcases h with h | ⟨oe, h, hc⟩
  · rw [h]; exact ErrsFrom.none _ _ _
  · refine ⟨[(node.pos, oe)], h, fun pe hpe => ?_⟩
    simp only [List.mem_singleton] at hpe
    subst hpe
    exact ⟨orig, Sub.refl orig, ConstTo.of_evalEq heq hc⟩

theorem evalEq_litExpr {F : FloatOps} {e e' : Expr} {c : CR} {p : Pos} {lit : Lit} (hag : Agrees F e c)
    (hc : c = .val (valOfLit lit)) (h : litExpr p lit = some e') : EvalEq F e e' ∧ isLit e' = true := by
  obtain ⟨hl, rfl⟩ := litExpr_spec h
  exact ⟨refines_of_succ fun f env => by rw [eval_lit F f env hl]; exact (hc ▸ hag).run trivial (f+1) env, hl⟩

theorem evalExpr_ok (F : FloatOps) (lineOf : Pos → Nat) (st : OSt) (e : Expr) :
    Ret (fun (r, st') => (∀ e', r = some e' → EvalEq F e e' ∧ isLit e' = true) ∧ ErrsAt F st.errors st'.errors e)
      (Model.Optim.evalExpr F lineOf st e) := by
  fun_cases Model.Optim.evalExpr F lineOf st e
  -- the private run ends with an error: it is appended
  case case6 hc _ hce => exact ⟨nofun, .inr ⟨_, rfl, (hce ▸ cEval_agrees F e hc).run trivial⟩⟩
  -- with a value that has a literal: the replacement
  case case7 hc v hce e' hl =>
    obtain ⟨lit, hv, hl⟩ := Option.bind_eq_some_iff.mp hl
    exact ⟨fun _ he => by cases he; exact evalEq_litExpr (cEval_agrees F e hc) (hce.trans (litOfV_val hv ▸ rfl)) hl, .inl rfl⟩
  -- gives up, or is outside the fragment
  all_goals first | trivial | exact ⟨nofun, .inl rfl⟩

theorem evalExpr_sound (F : FloatOps) (lineOf : Pos → Nat) {st st' : OSt} {e : Expr} {r : Option Expr}
    (h : Model.Optim.evalExpr F lineOf st e = some (r, st')) :
    (∀ e', r = some e' → EvalEq F e e' ∧ isLit e' = true) ∧ ErrsAt F st.errors st'.errors e :=
  (evalExpr_ok F lineOf st e).of_eq h

theorem evalStep_sound (F : FloatOps) (lineOf : Pos → Nat) {st st' : OSt} {e e' : Expr}
    (h : evalStep F lineOf st e = some (e', st')) :
    EvalEq F e e' ∧ ErrsAt F st.errors st'.errors e := by
  unfold evalStep at h
  split at h
  · cases h
  next he => cases h; exact ⟨((evalExpr_sound F lineOf he).1 _ rfl).1, (evalExpr_sound F lineOf he).2⟩
  next he => cases h; exact ⟨EvalEq.refl F _, (evalExpr_sound F lineOf he).2⟩

theorem evalEq_paren {F : FloatOps} {p : Pos} {x x' : Expr} (h : EvalEq F x x') :
    EvalEq F (.paren p x) (.paren p x') := by
  exact refines_of_succ fun f env => by rw [eval_paren, eval_paren]; exact h f env

theorem evalEq_unary {F : FloatOps} {p p' : Pos} {tok : Nat} {x x' : Expr} (h : EvalEq F x x') :
    EvalEq F (.unary p tok x) (.unary p' tok x') := by
  refine refines_of_succ fun f env => ?_
  rw [eval_unary, eval_unary]
  exact Refines.bind (h f env) (fun _ => Refines.refl _)

theorem evalEq_binary {F : FloatOps} {p p' : Pos} {tok : Nat} {l l' r r' : Expr}
    (hl : EvalEq F l l') (hr : EvalEq F r r') : EvalEq F (.binary p tok l r) (.binary p' tok l' r') := by
  refine refines_of_succ fun f env => ?_
  rw [eval_binary, eval_binary]
  refine Refines.bind (hl f env) (fun a => ?_)
  cases a with
  | thr e => exact Refines.refl _
  | val lv =>
    simp only [binK]
    split
    · refine Refines.bind (Refines.refl _) (fun b => ?_)
      cases b
      · simp only [Bool.false_eq_true, if_false]; exact hr f env
      · exact Refines.refl _
    · split
      · refine Refines.bind (Refines.refl _) (fun b => ?_)
        cases b
        · exact Refines.refl _
        · simp only [if_true]; exact hr f env
      · exact Refines.bind (hr f env) (fun _ => Refines.refl _)

theorem evalEq_cond {F : FloatOps} {p p' : Pos} {c c' t t' e e' : Expr}
    (hc : EvalEq F c c') (ht : EvalEq F t t') (he : EvalEq F e e') :
    EvalEq F (.cond p c t e) (.cond p' c' t' e') := by
  refine refines_of_succ fun f env => ?_
  rw [eval_cond, eval_cond]
  refine Refines.bind (hc f env) (fun a => ?_)
  cases a with
  | thr e => exact Refines.refl _
  | val cv =>
    simp only [condK]
    refine Refines.bind (Refines.refl _) (fun b => ?_)
    cases b
    · simp only [Bool.false_eq_true, if_false]; exact ht f env
    · simp only [if_true]; exact he f env

/-- the literal as a `Val` of the operator tables of Gen/Numeric; `valOfLit` is the same as a `V` of the VM model -/
def litVal : Lit → Val
  | .int v => .int v | .uint v => .uint v | .float v => .float v | .char v => .char v
  | .bool b => .bool b | .str s => .str s | .undefined => .undefined | .other => .undefined

def BinFoldFact (F : FloatOps) : Prop :=
  ∀ (S : ObjOps) (op : Tok) (a b lit : Lit), Gen.binaryop F op a b = .ok (some lit) →
    Model.binaryOp F S op (litVal a) (litVal b) = .ok (litVal lit)

theorem ofScalarVal_litVal (lit : Lit) : ofScalarVal (litVal lit) = some (valOfLit lit) := by
  cases lit <;> rfl

theorem binaryop_inv {F : FloatOps} {op : Tok} {a b lit : Lit} (h : Gen.binaryop F op a b = .ok (some lit)) :
    (∃ x y, a = .int x ∧ b = .int y ∧ Gen.binaryopInts F op x y = .ok (some lit)) ∨
    (∃ x y, a = .float x ∧ b = .float y ∧ Gen.binaryopFloats F op x y = .ok (some lit)) ∨
    (∃ x y, a = .str x ∧ b = .str y ∧ op = .Add) := by
  cases a <;> cases b <;> simp [Gen.binaryop] at h
  · exact .inl ⟨_, _, rfl, rfl, h⟩
  · exact .inr (.inl ⟨_, _, rfl, rfl, h⟩)
  · exact .inr (.inr ⟨_, _, rfl, rfl, Decidable.byContradiction fun hop => by simp [hop] at h⟩)

theorem binaryop_lits {F : FloatOps} {op : Tok} {a b lit : Lit} (h : Gen.binaryop F op a b = .ok (some lit)) :
    a ≠ .other ∧ b ≠ .other := by
  rcases binaryop_inv h with ⟨x, y, rfl, rfl, -⟩ | ⟨x, y, rfl, rfl, -⟩ | ⟨x, y, rfl, rfl, -⟩ <;>
    exact ⟨nofun, nofun⟩

/-- the four tokens `cEval` treats apart are never folded -/
theorem binaryop_arith {F : FloatOps} {op : Tok} {a b lit : Lit} (h : Gen.binaryop F op a b = .ok (some lit)) :
    op ≠ .LAnd ∧ op ≠ .LOr ∧ op ≠ .Equal ∧ op ≠ .NotEqual := by
  rcases binaryop_inv h with ⟨x, y, -, -, h⟩ | ⟨x, y, -, -, h⟩ | ⟨x, y, -, -, rfl⟩
  · refine ⟨?_, ?_, ?_, ?_⟩ <;> rintro rfl <;> simp [Gen.binaryopInts] at h
  · refine ⟨?_, ?_, ?_, ?_⟩ <;> rintro rfl <;> simp [Gen.binaryopFloats] at h
  · exact ⟨nofun, nofun, nofun, nofun⟩

section Tables
open UgoVerif.Gen UgoVerif.Model

theorem binaryopInts_agree (F : FloatOps) (S : ObjOps) (op : Tok) (l r : BitVec 64) (lit : Lit)
    (h : binaryopInts F op l r = .ok (some lit)) :
    Int_BinaryOp_Int F S op l r = .ok (litVal lit) := by
  cases op <;> simp [binaryopInts, Int_BinaryOp_Int, quoS, remS, shlS, shrSS, BitVec.slt_zero_eq_msb] at h ⊢ <;>
    (try (split at h <;> simp_all [litVal])) <;> (try (subst h; simp [litVal]))

theorem binaryopFloats_agree (F : FloatOps) (S : ObjOps) (op : Tok) (l r : F64) (lit : Lit)
    (h : binaryopFloats F op l r = .ok (some lit)) :
    Float_BinaryOp_Float F S op l r = .ok (litVal lit) := by
  cases op <;> simp [binaryopFloats, Float_BinaryOp_Float] at h ⊢ <;>
    (try (split at h <;> simp_all [litVal])) <;> (try (subst h; simp [litVal]))

/-- every binary fold is what `left.BinaryOp(tok, right)` returns at run time -/
theorem binaryop_agree (F : FloatOps) : BinFoldFact F := by
  intro S op a b lit h
  rcases binaryop_inv h with ⟨l, r, rfl, rfl, h'⟩ | ⟨l, r, rfl, rfl, h'⟩ | ⟨l, r, rfl, rfl, rfl⟩
  · simpa [Model.binaryOp, litVal, Int_BinaryOp] using binaryopInts_agree F S _ l r lit h'
  · simpa [Model.binaryOp, litVal, Float_BinaryOp] using binaryopFloats_agree F S _ l r lit h'
  · simp [Gen.binaryop] at h
    subst h
    simp [Model.binaryOp, litVal, String_BinaryOp, String_BinaryOp_String]

end Tables

theorem fold_vm_bin {F : FloatOps} {op : Tok} {a b lit : Lit}
    (h : Gen.binaryop F op a b = .ok (some lit)) :
    vBinaryOp F op (valOfLit a) (valOfLit b) = pure (.ok (valOfLit lit)) := by
  have hf := fun S => binaryop_agree F S op a b lit h
  rcases binaryop_inv h with ⟨x, y, rfl, rfl, -⟩ | ⟨x, y, rfl, rfl, -⟩ | ⟨x, y, rfl, rfl, rfl⟩ <;>
    (simp only [valOfLit, vBinaryOp, toValShallow, needStr, Bool.false_eq_true, if_false, pure_bind]
     simp only [litVal] at hf
     rw [hf]
     cases lit <;> rfl)

theorem fold_tok_plain {F : FloatOps} {tok : Nat} {a b lit : Lit}
    (h : Gen.binaryop F (tokOfNat tok) a b = .ok (some lit)) :
    (tok == tLAnd) = false ∧ (tok == tLOr) = false ∧ (tok == tEqual) = false ∧ (tok == tNotEqual) = false := by
  obtain ⟨h1, h2, h3, h4⟩ := binaryop_arith h
  exact ⟨Bool.eq_false_iff.mpr fun ht => h1 (eq_of_beq ht ▸ rfl), Bool.eq_false_iff.mpr fun ht => h2 (eq_of_beq ht ▸ rfl),
    Bool.eq_false_iff.mpr fun ht => h3 (eq_of_beq ht ▸ rfl), Bool.eq_false_iff.mpr fun ht => h4 (eq_of_beq ht ▸ rfl)⟩

theorem agrees_of_litOf (F : FloatOps) {e : Expr} (h : litOf e ≠ .other) :
    Agrees F e (cEval F e) ∧ cEval F e = .val (valOfLit (litOf e)) := by
  cases e <;> simp only [litOf, ne_eq, not_true_eq_false] at h <;>
    exact ⟨cEval_agrees F _ rfl, rfl⟩

theorem foldBinary_sound {F : FloatOps} {p : Pos} {tok : Nat} {l r e' : Expr}
    (h : foldBinary F tok l r = some (some e')) : EvalEq F (.binary p tok l r) e' ∧ isLit e' = true := by
  unfold foldBinary at h
  split at h
  next lit hb =>
    obtain ⟨hla, hlb⟩ := binaryop_lits hb
    obtain ⟨hal, hcl⟩ := agrees_of_litOf F hla
    obtain ⟨har, hcr⟩ := agrees_of_litOf F hlb
    obtain ⟨t1, t2, t3, t4⟩ := fold_tok_plain hb
    refine evalEq_litExpr (agrees_binary (p := p) (tok := tok) hal har) ?_ (Option.some.inj h)
    simp only [cEval, hcl, hcr, t1, t2, t3, t4, Bool.false_eq_true, if_false]
    rw [fold_vm_bin hb]
    rfl
  · cases h
  · cases h

theorem fold_vm_un {F : FloatOps} {op : Tok} {a lit : Lit} (h : Gen.unaryop F op a = .ok (some lit)) :
    a ≠ .other ∧ vUnary F op (valOfLit a) = pure (.ok (valOfLit lit)) := by
  cases a <;> cases op <;> simp [Gen.unaryop] at h <;> subst h <;> exact ⟨by simp, rfl⟩

theorem foldUnary_sound {F : FloatOps} {p : Pos} {tok : Nat} {x e' : Expr}
    (h : foldUnary F tok x = some (some e')) : EvalEq F (.unary p tok x) e' ∧ isLit e' = true := by
  unfold foldUnary at h
  split at h
  next lit hb =>
    obtain ⟨hla, hvm⟩ := fold_vm_un hb
    obtain ⟨hax, hcx⟩ := agrees_of_litOf F hla
    refine evalEq_litExpr (agrees_unary (p := p) (tok := tok) hax) ?_ (Option.some.inj h)
    simp only [cEval, hcx]
    rw [hvm]
    rfl
  · cases h
  · cases h

theorem isLiteralFalsy_vm {F : FloatOps} {a : Lit} {falsy : Bool} (h : Gen.isLiteralFalsy F a = .ok (some falsy)) :
    a ≠ .other ∧ isFalsy (valOfLit a) = pure falsy := by
  unfold Gen.isLiteralFalsy at h
  cases a <;> simp at h <;> subst h <;>
    first | exact ⟨by simp, rfl⟩ | exact ⟨by simp, by simp [valOfLit, isFalsy]⟩

theorem cond_lit_taken (F : FloatOps) {c : Expr} {falsy : Bool}
    (h : Gen.isLiteralFalsy F (litOf c) = .ok (some falsy)) (p : Pos) (t e : Expr) (f : Nat) (env : Env) :
    evalExpr F (f+2) env (.cond p c t e) = evalExpr F (f+1) env (if falsy then e else t) := by
  obtain ⟨hne, hf⟩ := isLiteralFalsy_vm h
  rw [eval_cond, eval_lit F _ env (isLit_of_litOf hne), pure_bind]
  simp only [condK, hf]
  show (Sem.liftM (pure falsy) >>= fun b => if b = true then _ else _) = _
  cases falsy <;> rfl

theorem condLit_sound {F : FloatOps} {c2 c3 : Expr} (h : condLit F c2 = some c3) (p p' : Pos) (t e : Expr) :
    EvalEq F (.cond p c2 t e) (.cond p' c3 t e) := by
  unfold condLit at h
  split at h
  · rename_i falsy hb
    cases h
    refine refines_of_succ fun f env => ?_
    cases f with
    | zero =>
      rw [eval_cond]
      exact Refines.of_fails (Fails.bind _ (fails_zero F env _))
    | succ g =>
      rw [cond_lit_taken F hb]
      have hb' : Gen.isLiteralFalsy F (litOf (Expr.bool c2.pos (!falsy))) = .ok (some falsy) := by
        cases falsy <;> rfl
      rw [cond_lit_taken F hb']
      exact Refines.refl _
  · cases h
    exact evalEq_cond (EvalEq.refl F _) (EvalEq.refl F _) (EvalEq.refl F _)
  · cases h

/-- the optimizer's IfStmt rewrite: a literal condition replaced by the BoolLit `!falsy` -/
theorem if_lit_rewrite (F : FloatOps) {c : Expr} {falsy : Bool}
    (h : Gen.isLiteralFalsy F (litOf c) = .ok (some falsy)) (p bp : Pos) (init : Option Stmt) (body : List Stmt)
    (els : Option Stmt) (fuel : Nat) (env : Env) :
    execStmt F fuel env (.if_ p init c bp body els) =
      execStmt F fuel env (.if_ p init (.bool c.pos (!falsy)) bp body els) := by
  obtain ⟨hne, hf⟩ := isLiteralFalsy_vm h
  have hl := fun f env => eval_lit F f env (isLit_of_litOf hne)
  cases fuel with
  | zero => rw [Sem.execStmt.eq_1, Sem.execStmt.eq_1]
  | succ f =>
    rw [Sem.execStmt.eq_def, Sem.execStmt.eq_def]
    simp only []
    cases f with
    | zero => simp only [eval_zero]
    | succ g =>
      simp only [hl, eval_bool, pure_bind, hf]
      have : isFalsy (V.bool (!falsy)) = pure falsy := by cases falsy <;> rfl
      simp only [this]

theorem if_bool_taken (F : FloatOps) (p q bp : Pos) (b : Bool) (body : List Stmt) (els : Option Stmt)
    (f : Nat) (env : Env) :
    execStmt F (f+2) env (.if_ p none (.bool q b) bp body els) =
      (if b then do
          let (c, _) ← execBlock F (f+1) ([] :: env) body
          pure (c, env)
        else
          match els with
          | some e => do let (c, _) ← execStmt F (f+1) ([] :: env) e; pure (c, env)
          | none => pure (.normal, env)) := by
  rw [Sem.execStmt.eq_def]
  simp only [eval_bool, pure_bind]
  cases b <;> rfl

end UgoVerif.Proofs.OptimSem

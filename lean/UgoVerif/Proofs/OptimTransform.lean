import UgoVerif.Proofs.OptimSound
/-
  Soundness of `Model.Optim.transform` (one call on an expression node), by the induction principle of
  `transform` itself: one case per path through the model's `match` chain, with the equations of the
  path as hypotheses.
-/
namespace UgoVerif.Proofs.OptimSem
open UgoVerif UgoVerif.Go UgoVerif.Ast UgoVerif.VM UgoVerif.Sem UgoVerif.Proofs.ModCache
open UgoVerif.Model.Optim

structure TOk (F : FloatOps) (errs errs' : List (Pos × OpErr)) (e e' : Expr) (ok : Bool) : Prop where
  eq : EvalEq F e e'
  lit : ok = true → isLit e' = true
  errs : ErrsFrom F errs errs' e

theorem errors_enterLevel (st : OSt) : (enterLevel st).errors = st.errors := rfl
theorem errors_leaveLevel (st : OSt) : (leaveLevel st).errors = st.errors := rfl

theorem TOk.leaf (F : FloatOps) (errs : List (Pos × OpErr)) (e : Expr) : TOk F errs errs e e false :=
  ⟨EvalEq.refl F e, nofun, ErrsFrom.none _ _ _⟩

theorem evalEq_paren_lit {F : FloatOps} {p : Pos} {x x' : Expr} (hl : isLit x' = true) (h : EvalEq F x x') :
    EvalEq F (.paren p x) x' :=
  refines_of_succ fun f env => by rw [eval_paren]; exact evalEq_lit_fuel hl h f env

theorem tok_eval {F : FloatOps} {lineOf : Pos → Nat} {errs : List (Pos × OpErr)} {st1 st2 : OSt} {e node : Expr}
    {ro : Option Expr} (h : EvalEq F e node ∧ ErrsFrom F errs st1.errors e)
    (hev : Model.Optim.evalExpr F lineOf st1 node = some (ro, st2)) :
    TOk F errs st2.errors e (ro.getD node) ro.isSome := by
  have hs := evalExpr_sound F lineOf hev
  have herr2 : ErrsFrom F errs st2.errors e := ErrsFrom.trans h.2 (hs.2.to_from h.1)
  cases ro with
  | some e2 => exact ⟨EvalEq.trans h.1 (hs.1 _ rfl).1, fun _ => (hs.1 _ rfl).2, herr2⟩
  | none => exact ⟨h.1, nofun, herr2⟩

theorem tok_fold {F : FloatOps} {errs errs' : List (Pos × OpErr)} {e node lit : Expr}
    (h : EvalEq F e node ∧ ErrsFrom F errs errs' e) (hs : EvalEq F node lit ∧ isLit lit = true) :
    TOk F errs errs' e lit true :=
  ⟨h.1.trans hs.1, fun _ => hs.2, h.2⟩

theorem tok_step {F : FloatOps} {lineOf : Pos → Nat} {errs : List (Pos × OpErr)} {st1 st2 : OSt} {x x1 x2 : Expr}
    {ok : Bool} (ih : TOk F errs st1.errors x x1 ok) (hs : evalStep F lineOf st1 x1 = some (x2, st2)) :
    EvalEq F x x2 ∧ ErrsFrom F errs st2.errors x :=
  have h := evalStep_sound F lineOf hs
  ⟨EvalEq.trans ih.eq h.1, ErrsFrom.trans ih.errs (h.2.to_from ih.eq)⟩

theorem TOk.unary {F : FloatOps} {e0 e1 : List (Pos × OpErr)} {x x' : Expr} {ok : Bool} (ih : TOk F e0 e1 x x' ok)
    (p p' : Pos) (tok : Nat) :
    EvalEq F (.unary p tok x) (.unary p' tok x') ∧ ErrsFrom F e0 e1 (.unary p tok x) :=
  ⟨evalEq_unary ih.eq, ih.errs.mono fun _ => Sub.unary p tok⟩

theorem TOk.binary {F : FloatOps} {e0 e1 e2 : List (Pos × OpErr)} {l l' r r' : Expr} {okl okr : Bool}
    (ihl : TOk F e0 e1 l l' okl) (ihr : TOk F e1 e2 r r' okr) (p p' : Pos) (tok : Nat) :
    EvalEq F (.binary p tok l r) (.binary p' tok l' r') ∧ ErrsFrom F e0 e2 (.binary p tok l r) :=
  ⟨evalEq_binary ihl.eq ihr.eq,
    (ihl.errs.mono fun _ => Sub.binL p tok r).trans (ihr.errs.mono fun _ => Sub.binR p tok l)⟩

theorem transform_ok (F : FloatOps) (lineOf : Pos → Nat) (st : OSt) (e : Expr) :
    Ret (fun (e', ok, st') => TOk F st.errors st'.errors e e' ok) (transform F lineOf st e) := by
  fun_induction transform F lineOf st e
  -- the equations of the path taken, put into the induction hypotheses; the `none` paths go
  all_goals simp_all only [Ret, errors_enterLevel, errors_leaveLevel]
  -- paren: the replacement of the operand, or the node around the updated operand
  next ih => exact ⟨evalEq_paren_lit (ih.lit rfl) ih.eq, fun _ => ih.lit rfl, ih.errs.mono fun _ => Sub.paren _⟩
  next ih => exact ⟨evalEq_paren ih.eq, nofun, ih.errs.mono fun _ => Sub.paren _⟩
  -- binary: table fold, else the model's `evalExpr` (replacement or not)
  next hf ihl ihr => exact tok_fold (ihl.binary ihr _ 0 _) (foldBinary_sound hf)
  next hev ihl ihr => exact tok_eval (ihl.binary ihr _ _ _) hev
  next hev ihl ihr => exact tok_eval (ihl.binary ihr _ _ _) hev
  -- unary: the same
  next hf ih => exact tok_fold (ih.unary _ 0 _) (foldUnary_sound hf)
  next hev ih => exact tok_eval (ih.unary _ _ _) hev
  next hev ih => exact tok_eval (ih.unary _ _ _) hev
  -- cond: each operand transformed and handed to `evalStep`, then the literal condition rewritten
  next ihc iht ihf =>
    have hc := tok_step ihc (by assumption)
    have ht := tok_step iht (by assumption)
    have hf := tok_step ihf (by assumption)
    exact ⟨(evalEq_cond (p' := 0) hc.1 ht.1 hf.1).trans (condLit_sound ‹_› _ _ _ _), nofun,
      ((hc.2.mono fun _ => Sub.condC _ _ _).trans (ht.2.mono fun _ => Sub.condT _ _ _)).trans
        (hf.2.mono fun _ => Sub.condF _ _ _)⟩
  -- literals and identifiers stay
  all_goals exact TOk.leaf F _ _

theorem transform_sound (F : FloatOps) (lineOf : Pos → Nat) {st st' : OSt} {e e' : Expr} {ok : Bool}
    (h : transform F lineOf st e = some (e', ok, st')) : TOk F st.errors st'.errors e e' ok :=
  (transform_ok F lineOf st e).of_eq h

theorem optExpr_ok (F : FloatOps) (lineOf : Pos → Nat) (st : OSt) (e : Expr) :
    Ret (fun (e', st') => EvalEq F e e' ∧ ErrsFrom F st.errors st'.errors e) (optExpr F lineOf st e) := by
  fun_cases optExpr F lineOf st e
  · trivial
  next h =>
    cases hs : evalStep F lineOf _ _ with
    | none => trivial
    | some r => exact tok_step (transform_sound F lineOf h) hs

end UgoVerif.Proofs.OptimSem

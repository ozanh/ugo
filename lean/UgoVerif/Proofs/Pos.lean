import UgoVerif.Model.Trace
/-
  The position arithmetic of parser/source_file.go on well-formed tables.  Its two binary searches (`searchInts`, and
  `sort.Search` in `searchFiles`) are one loop of the model, `bsLoop`, with two ways to pick the middle: the loop
  invariant is proved once (`bsLoop_spec`), for any choice of the middle that lies in `[i, j)` (`GoodMid`).
-/
namespace UgoVerif.Proofs.Pos
open UgoVerif.Go UgoVerif.Model

def Mono (a : List Int) : Prop :=
  ∀ (i j : Nat) (vi vj : Int), i ≤ j → a[i]? = some vi → a[j]? = some vj → vi ≤ vj

def GoodMid (mid : Nat → Nat → Nat) : Prop := ∀ i j, i < j → i ≤ mid i j ∧ mid i j < j

theorem goodMid_ints : GoodMid midInts := by
  intro i j h; unfold midInts; constructor
  · omega
  · have : (j - i) / 2 < j - i := Nat.div_lt_self (by omega) (by decide)
    omega

theorem goodMid_sort : GoodMid midSort := by
  intro i j h; unfold midSort; constructor <;> omega

theorem mid_eq (i j : Nat) (h : i ≤ j) : midSort i j = midInts i j := by
  unfold midSort midInts; omega

theorem pairwise_mono {a : List Int} (h : a.Pairwise (· < ·)) : Mono a := by
  intro i j vi vj hij hi hj
  rcases Nat.lt_or_eq_of_le hij with hlt | heq
  · have hi' := List.getElem?_eq_some_iff.mp hi
    have hj' := List.getElem?_eq_some_iff.mp hj
    obtain ⟨hil, hie⟩ := hi'
    obtain ⟨hjl, hje⟩ := hj'
    have := (List.pairwise_iff_getElem.mp h) i j hil hjl hlt
    omega
  · subst heq
    rw [hi] at hj
    cases hj
    exact Int.le_refl _

theorem bsLoop_spec (mid : Nat → Nat → Nat) (hm : GoodMid mid) (a : List Int) (x : Int)
    (hs : Mono a) :
    ∀ fuel i j, j - i ≤ fuel → i ≤ j → j ≤ a.length →
      (∀ k v, k < i → a[k]? = some v → v ≤ x) →
      (∀ k v, j ≤ k → a[k]? = some v → x < v) →
      ∃ r, bsLoop mid a x fuel i j = .ok r ∧ i ≤ r ∧ r ≤ j ∧
        (∀ k v, k < r → a[k]? = some v → v ≤ x) ∧
        (∀ k v, r ≤ k → a[k]? = some v → x < v) := by
  intro fuel
  induction fuel with
  | zero =>
    intro i j hf hij hj hl hr
    have : i = j := by omega
    subst this
    exact ⟨i, by simp [bsLoop], Nat.le_refl _, Nat.le_refl _, hl, hr⟩
  | succ n ih =>
    intro i j hf hij hj hl hr
    by_cases hlt : i < j
    · obtain ⟨hm1, hm2⟩ := hm i j hlt
      have hh : mid i j < a.length := by omega
      have hv : a[mid i j]? = some (a[mid i j]) := List.getElem?_eq_getElem hh
      by_cases hle : a[mid i j] ≤ x
      · have := ih (mid i j + 1) j (by omega) (by omega) hj
          (by
            intro k v hk hkv
            have := hs k (mid i j) v _ (by omega) hkv hv
            omega)
          hr
        obtain ⟨r, h1, h2, h3, h4, h5⟩ := this
        refine ⟨r, ?_, by omega, h3, h4, h5⟩
        rw [bsLoop]; simp [hlt, hv, hle, h1]
      · have := ih i (mid i j) (by omega) (by omega) (by omega) hl
          (by
            intro k v hk hkv
            have := hs (mid i j) k _ v hk hv hkv
            omega)
        obtain ⟨r, h1, h2, h3, h4, h5⟩ := this
        refine ⟨r, ?_, h2, by omega, h4, h5⟩
        rw [bsLoop]; simp [hlt, hv, hle, h1]
    · have : i = j := by omega
      subst this
      refine ⟨i, ?_, Nat.le_refl _, Nat.le_refl _, hl, hr⟩
      rw [bsLoop]; simp

theorem searchInts_spec (a : List Int) (x : Int) (hs : Mono a) :
    ∃ r : Nat, searchInts a x = .ok ((r : Int) - 1) ∧ r ≤ a.length ∧
      (∀ k v, k < r → a[k]? = some v → v ≤ x) ∧
      (∀ k v, r ≤ k → a[k]? = some v → x < v) := by
  obtain ⟨r, h1, _, h3, h4, h5⟩ :=
    bsLoop_spec midInts goodMid_ints a x hs a.length 0 a.length (by omega) (by omega) (Nat.le_refl _)
      (by intro k v hk; omega)
      (by
        intro k v hk hkv
        have := (List.getElem?_eq_some_iff.mp hkv).1
        omega)
  exact ⟨r, by simp [searchInts, h1, bind, Res.bind], h3, h4, h5⟩

theorem searchFiles_spec (fs : List SrcFile) (x : Int) (hs : Mono (fs.map (·.base))) :
    ∃ r : Nat, searchFiles fs x = .ok ((r : Int) - 1) ∧ r ≤ fs.length ∧
      (∀ k f, k < r → fs[k]? = some f → f.base ≤ x) ∧
      (∀ k f, r ≤ k → fs[k]? = some f → x < f.base) := by
  obtain ⟨r, h1, _, h3, h4, h5⟩ :=
    bsLoop_spec midSort goodMid_sort (fs.map (·.base)) x hs fs.length 0 fs.length (by omega) (by omega)
      (by simp)
      (by intro k v hk; omega)
      (by
        intro k v hk hkv
        have := (List.getElem?_eq_some_iff.mp hkv).1
        simp at this
        omega)
  refine ⟨r, by simp [searchFiles, h1, bind, Res.bind], by simpa using h3, ?_, ?_⟩
  · intro k f hk hf
    exact h4 k f.base hk (by simp [hf])
  · intro k f hk hf
    exact h5 k f.base hk (by simp [hf])


/-- well-formed line table of a file of `size` bytes: starts with 0, strictly
    increasing, every later line start lies inside the text -/
structure WFLines (ls : List Int) (size : Int) : Prop where
  first : ls[0]? = some 0
  strict : ls.Pairwise (· < ·)
  bound : ∀ v ∈ ls, v = 0 ∨ v < size

/-- `unpack` on a well-formed table, any offset ≥ 0: the 0-based index `L` of the
    unique line with `start L ≤ offset < start (L+1)`; reported line `L+1`,
    column `offset - start L + 1`. -/
theorem unpack_spec (f : SrcFile) (hwf : WFLines f.lines f.size) (offset : Int) (h0 : 0 ≤ offset) :
    ∃ (L : Nat) (start : Int),
      unpack f offset = .ok ((L : Int) + 1, offset - start + 1) ∧
      f.lines[L]? = some start ∧ start ≤ offset ∧
      (∀ nxt, f.lines[L+1]? = some nxt → offset < nxt) ∧
      (∀ (L' : Nat) (s' : Int), f.lines[L']? = some s' → s' ≤ offset →
        (∀ nxt, f.lines[L'+1]? = some nxt → offset < nxt) → L' = L) := by
  obtain ⟨r, h1, h2, h3, h4⟩ := searchInts_spec f.lines offset (pairwise_mono hwf.strict)
  have hr : 1 ≤ r := by
    rcases Nat.eq_zero_or_pos r with h | h
    · subst h
      have := h4 0 0 (Nat.le_refl _) hwf.first
      omega
    · exact h
  have hlen : r - 1 < f.lines.length := by omega
  have hv : f.lines[r - 1]? = some (f.lines[r - 1]) := List.getElem?_eq_getElem hlen
  refine ⟨r - 1, f.lines[r - 1], ?_, hv, ?_, ?_, ?_⟩
  · have e1 : ((r : Int) - 1).toNat = r - 1 := by omega
    have e2 : ((r : Int) - 1) ≥ 0 := by omega
    have e3 : ((r - 1 : Nat) : Int) + 1 = (r : Int) - 1 + 1 := by omega
    simp [unpack, h1, bind, Res.bind, e1, hv, e3]
    intro hc; omega
  · exact h3 (r - 1) _ (by omega) hv
  · intro nxt hn
    exact h4 (r - 1 + 1) nxt (by omega) hn
  · intro L' s' hs' hle hnext
    have hL' : L' < r := by
      rcases Nat.lt_or_ge L' r with h | h
      · exact h
      · have := h4 L' s' h hs'
        omega
    rcases Nat.lt_or_ge (L' + 1) r with h | h
    · have hl2 : L' + 1 < f.lines.length := by omega
      have := hnext _ (List.getElem?_eq_getElem hl2)
      have := h3 (L' + 1) _ h (List.getElem?_eq_getElem hl2)
      omega
    · omega

/-- files laid out at increasing bases, ranges `[base, base+size]` pairwise
    disjoint and below the set's next base -/
structure WFSet (s : FileSet) : Prop where
  sizes : ∀ f ∈ s.files, 0 ≤ f.size
  disjoint : s.files.Pairwise (fun (f g : SrcFile) => f.base + f.size < g.base)
  below : ∀ f ∈ s.files, f.base + f.size < s.base

theorem wfset_mono {s : FileSet} (h : WFSet s) : Mono (s.files.map (·.base)) := by
  intro i j vi vj hij hi hj
  rcases Nat.lt_or_eq_of_le hij with hlt | heq
  · obtain ⟨hil, hie⟩ := List.getElem?_eq_some_iff.mp hi
    obtain ⟨hjl, hje⟩ := List.getElem?_eq_some_iff.mp hj
    simp at hil hjl hie hje
    have hp := (List.pairwise_iff_getElem.mp h.disjoint) i j hil hjl hlt
    have hsz := h.sizes (s.files[i]) (List.getElem_mem hil)
    omega
  · subst heq
    rw [hi] at hj
    cases hj
    exact Int.le_refl _

theorem file_unique {s : FileSet} (h : WFSet s) (p : Int) (i j : Nat) (fi fj : SrcFile)
    (hi : s.files[i]? = some fi) (hj : s.files[j]? = some fj)
    (hpi : fi.base ≤ p ∧ p ≤ fi.base + fi.size) (hpj : fj.base ≤ p ∧ p ≤ fj.base + fj.size) :
    i = j := by
  obtain ⟨hil, hie⟩ := List.getElem?_eq_some_iff.mp hi
  obtain ⟨hjl, hje⟩ := List.getElem?_eq_some_iff.mp hj
  rcases Nat.lt_trichotomy i j with hlt | heq | hgt
  · have hp := (List.pairwise_iff_getElem.mp h.disjoint) i j hil hjl hlt
    rw [hie, hje] at hp
    omega
  · exact heq
  · have hp := (List.pairwise_iff_getElem.mp h.disjoint) j i hjl hil hgt
    rw [hie, hje] at hp
    omega

/-- `SourceFileSet.file` on a well-formed set, whatever the `LastFile` cache holds:
    no panic; the answer is `some i` exactly when file `i` contains `p`; only the
    cache changes. -/
theorem fileOf_spec (s : FileSet) (h : WFSet s) (p : Int) :
    ∃ r s', fileOf s p = .ok (r, s') ∧ s'.files = s.files ∧ s'.base = s.base ∧
      (∀ i : Nat, r = some i → ∃ f : SrcFile, s.files[i]? = some f ∧ f.base ≤ p ∧ p ≤ f.base + f.size) ∧
      (r = none → ∀ (i : Nat) (f : SrcFile), s.files[i]? = some f → ¬ (f.base ≤ p ∧ p ≤ f.base + f.size)) := by
  by_cases hhit : ∃ (li : Nat) (f : SrcFile), s.last = some li ∧ s.files[li]? = some f ∧ f.base ≤ p ∧ p ≤ f.base + f.size
  · obtain ⟨li, f, hl, hf, hb1, hb2⟩ := hhit
    refine ⟨some li, s, ?_, rfl, rfl, ?_, by simp⟩
    · simp [fileOf, cacheHit, hl, hf, hb1, hb2]
    · intro i hi; cases hi; exact ⟨f, hf, hb1, hb2⟩
  · have hmiss : cacheHit s p = none := by
      unfold cacheHit
      cases hl : s.last with
      | none => rfl
      | some li =>
        cases hf : s.files[li]? with
        | none => simp [hf]
        | some f =>
          by_cases hc : f.base ≤ p ∧ p ≤ f.base + f.size
          · exact absurd ⟨li, f, hl, hf, hc.1, hc.2⟩ hhit
          · simp [hf, hc]
    obtain ⟨r, h1, h2, h3, h4⟩ := searchFiles_spec s.files p (wfset_mono h)
    rcases Nat.eq_zero_or_pos r with hr0 | hrpos
    · subst hr0
      refine ⟨none, s, ?_, rfl, rfl, by simp, ?_⟩
      · simp only [fileOf, hmiss]
        simp [h1, bind, Res.bind]
      · intro _ i f hf hc
        have := h4 i f (Nat.zero_le _) hf
        omega
    · have hlen : r - 1 < s.files.length := by omega
      have hv : s.files[r - 1]? = some (s.files[r - 1]) := List.getElem?_eq_getElem hlen
      have e1 : ((r : Int) - 1).toNat = r - 1 := by omega
      have e2 : ((r : Int) - 1) ≥ 0 := by omega
      by_cases hin : p ≤ (s.files[r - 1]).base + (s.files[r - 1]).size
      · refine ⟨some (r - 1), s, ?_, rfl, rfl, ?_, by simp⟩
        · simp only [fileOf, hmiss]
          simp [h1, bind, Res.bind, e1, hv, hin]
          try omega
        · intro i hi; cases hi
          exact ⟨_, hv, h3 (r - 1) _ (by omega) hv, hin⟩
      · refine ⟨none, s, ?_, rfl, rfl, by simp, ?_⟩
        · simp only [fileOf, hmiss]
          simp [h1, bind, Res.bind, e1, hv, hin]
          try omega
        · intro _ i f hf hc
          rcases Nat.lt_or_ge i r with hlt | hge
          · rcases Nat.lt_or_eq_of_le (Nat.le_pred_of_lt hlt) with hlt2 | heq
            · -- i < r - 1 : file i ends before file r-1 begins, and p ≥ base (r-1)
              obtain ⟨hil, hie⟩ := List.getElem?_eq_some_iff.mp hf
              have hp := (List.pairwise_iff_getElem.mp h.disjoint) i (r - 1) hil hlen hlt2
              have := h3 (r - 1) _ (by omega) hv
              rw [hie] at hp
              omega
            · have : i = r - 1 := heq
              subst this
              rw [hv] at hf
              cases hf
              omega
          · have := h4 i f hge hf
            omega

theorem sourcePosN_spec (sm : SourceMap) :
    ∀ n : Nat,
      (∀ (k : Nat) (v : Int), k ≤ n → smLookup sm (k : Int) = some v →
        (∀ k' : Nat, k < k' → k' ≤ n → smLookup sm (k' : Int) = none) → sourcePosN sm n = v) ∧
      ((∀ k : Nat, k ≤ n → smLookup sm (k : Int) = none) → sourcePosN sm n = NoPos) := by
  intro n
  induction n with
  | zero =>
    constructor
    · intro k v hk hv _
      have : k = 0 := by omega
      subst this
      simp at hv
      simp [sourcePosN, hv]
    · intro hnone
      have := hnone 0 (Nat.le_refl _)
      simp at this
      simp [sourcePosN, this]
  | succ n ih =>
    constructor
    · intro k v hk hv hgap
      rcases Nat.lt_or_eq_of_le hk with hlt | heq
      · have hn : smLookup sm ((n : Int) + 1) = none := by
          have := hgap (n + 1) hlt (Nat.le_refl _)
          simpa using this
        have := ih.1 k v (by omega) hv (fun k' h1 h2 => hgap k' h1 (by omega))
        simp [sourcePosN, hn, this]
      · subst heq
        have hv' : smLookup sm ((n : Int) + 1) = some v := by simpa using hv
        simp [sourcePosN, hv']
    · intro hnone
      have hn : smLookup sm ((n : Int) + 1) = none := by
        have := hnone (n + 1) (Nat.le_refl _)
        simpa using this
      have := ih.2 (fun k hk => hnone k (by omega))
      simp [sourcePosN, hn, this]

theorem unwind_uncaught (tr : List Pos) (callers : List TFrame)
    (h : ∀ f ∈ callers, f.hasHandler = false) :
    unwind tr callers = (tr ++ callers.map getFrameSourcePos, []) := by
  induction callers generalizing tr with
  | nil => simp [unwind]
  | cons f rest ih =>
    have hf : f.hasHandler = false := h f (List.mem_cons_self)
    have := ih (tr ++ [getFrameSourcePos f]) (fun g hg => h g (List.mem_cons_of_mem _ hg))
    simp [unwind, hf, this]

end UgoVerif.Proofs.Pos

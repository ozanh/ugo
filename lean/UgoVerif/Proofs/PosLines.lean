import UgoVerif.Proofs.Pos
/-
  The line table the scanner builds.  `scanFrom` threads the table through
  `addLineL`, whose order test `last < offset` never fails on a scan, so the result is the table it
  started with followed by `nl`: the offsets just behind the newline bytes that are still inside the
  text (`scanFrom_eq`).  What the table contains and that k prepended newlines shift it by k lines are
  then facts about a `filterMap`.  That the order test passes is part of the invariant `ScanInv` of the scan,
  which also gives that the table is well formed (`scanLines_wf`).
-/
namespace UgoVerif.Proofs.Pos
open UgoVerif.Go UgoVerif.Model

theorem last_of_ne_nil {ls : List Int} (hne : ls ≠ []) : ∃ l, ls.getLast? = some l := by
  cases h : ls.getLast? with
  | none => exact absurd (List.getLast?_eq_none_iff.mp h) hne
  | some l => exact ⟨l, rfl⟩

theorem addLineL_of_last {ls : List Int} {l : Int} (h : ls.getLast? = some l) (size off : Int) :
    addLineL ls size off = if l < off ∧ off < size then ls ++ [off] else ls := by
  unfold addLineL
  rw [h]
  simp

structure ScanInv (ls : List Int) (i : Nat) (size : Int) : Prop where
  first : ls[0]? = some 0
  strict : ls.Pairwise (· < ·)
  range : ∀ v ∈ ls, 0 ≤ v ∧ v ≤ (i : Int)
  bound : ∀ v ∈ ls, v = 0 ∨ v < size

theorem ScanInv.next {ls : List Int} {i : Nat} {size : Int} (h : ScanInv ls i size) : ScanInv ls (i + 1) size :=
  ⟨h.first, h.strict, fun v hv => by have := h.range v hv; omega, h.bound⟩

theorem scanInv_addLine {ls : List Int} {i : Nat} {size : Int} (h : ScanInv ls i size) :
    ScanInv (addLineL ls size ((i : Int) + 1)) (i + 1) size := by
  have hne : ls ≠ [] := by
    intro hnil; have := h.first; simp [hnil] at this
  obtain ⟨l, hl⟩ := last_of_ne_nil hne
  rw [addLineL_of_last hl]
  split
  · rename_i hc
    refine ⟨?_, ?_, ?_, ?_⟩
    · rw [List.getElem?_append_left (List.length_pos_iff.mpr hne)]; exact h.first
    · rw [List.pairwise_append]
      refine ⟨h.strict, by simp, ?_⟩
      intro a ha b hb
      simp at hb; subst hb
      have := (h.range a ha).2; omega
    · intro v hv
      rcases List.mem_append.mp hv with hv | hv
      · have := h.range v hv; omega
      · simp at hv; subst hv; omega
    · intro v hv
      rcases List.mem_append.mp hv with hv | hv
      · exact h.bound v hv
      · simp at hv; subst hv; right; exact hc.2
  · exact ⟨h.first, h.strict, fun v hv => by have := h.range v hv; omega, h.bound⟩

theorem scanFrom_inv (size : Int) :
    ∀ (cs : List UInt8) (i : Nat) (ls : List Int), ScanInv ls i size →
      ScanInv (scanFrom size cs i ls) (i + cs.length) size := by
  intro cs
  induction cs with
  | nil => intro i ls h; simpa [scanFrom] using h
  | cons c cs ih =>
    intro i ls h
    simp only [scanFrom]
    have e : i + (c :: cs).length = (i + 1) + cs.length := by simp; omega
    rw [e]
    by_cases hc : c = 10
    · simp only [hc, if_true]
      exact ih (i + 1) _ (scanInv_addLine h)
    · simp only [hc, if_false]
      exact ih (i + 1) ls ⟨h.first, h.strict, fun v hv => by have := h.range v hv; omega, h.bound⟩

theorem scanInv_start (text : List UInt8) : ScanInv [0] 0 (text.length : Int) :=
  ⟨by simp, by simp, by intro v hv; simp at hv; subst hv; simp, by intro v hv; simp at hv; left; exact hv⟩

theorem scanLines_wf (text : List UInt8) : WFLines (scanLines text) text.length := by
  have := scanFrom_inv (text.length : Int) text 0 [0] (scanInv_start text)
  exact ⟨this.first, this.strict, this.bound⟩

theorem scanLines_range (text : List UInt8) : ∀ v ∈ scanLines text, 0 ≤ v ∧ v ≤ (text.length : Int) := by
  have := scanFrom_inv (text.length : Int) text 0 [0] (scanInv_start text)
  intro v hv
  have := this.range v hv
  omega

def startAfter (size : Int) (p : UInt8 × Nat) : Option Int :=
  if p.1 = 10 ∧ (p.2 : Int) + 1 < size then some ((p.2 : Int) + 1) else none

/-- line starts contributed by the bytes `cs` sitting at offsets `i, i+1, …` -/
def nl (size : Int) (cs : List UInt8) (i : Nat) : List Int := (cs.zipIdx i).filterMap (startAfter size)

theorem nl_cons (size : Int) (c : UInt8) (cs : List UInt8) (i : Nat) :
    nl size (c :: cs) i
      = (if c = 10 ∧ (i : Int) + 1 < size then [(i : Int) + 1] else []) ++ nl size cs (i + 1) := by
  by_cases h : c = 10 ∧ (i : Int) + 1 < size <;>
    simp [nl, List.zipIdx_cons, startAfter, h]

theorem nl_append (size : Int) (xs ys : List UInt8) (i : Nat) :
    nl size (xs ++ ys) i = nl size xs i ++ nl size ys (i + xs.length) := by
  simp only [nl, List.zipIdx_append, List.filterMap_append]

theorem mem_nl {size v : Int} {cs : List UInt8} {i : Nat} :
    v ∈ nl size cs i ↔ ∃ j : Nat, cs[j]? = some 10 ∧ v = ((i + j : Nat) : Int) + 1 ∧ v < size := by
  simp only [nl, List.mem_filterMap, List.mem_zipIdx_iff_le_and_getElem?_sub, startAfter]
  constructor
  · rintro ⟨⟨c, n⟩, ⟨hle, hc⟩, h⟩
    split at h
    · next hp =>
      cases h
      exact ⟨n - i, hp.1 ▸ hc, by simp only; omega, hp.2⟩
    · cases h
  · rintro ⟨j, hj, rfl, hs⟩
    exact ⟨(10, i + j), ⟨by omega, by simpa using hj⟩, if_pos ⟨rfl, hs⟩⟩

/-- the same bytes k positions later in a text k bytes longer -/
theorem nl_shift (size : Int) (k : Nat) (cs : List UInt8) :
    nl (size + k) cs k = (nl size cs 0).map (· + (k : Int)) := by
  simp only [nl, List.zipIdx_eq_map_add (i := k), List.filterMap_map, List.map_filterMap]
  congr 1
  funext ⟨c, j⟩
  have e : ((k + j : Nat) : Int) + 1 < size + k ↔ (j : Int) + 1 < size := by omega
  simp only [startAfter, Function.comp, e]
  split <;> simp; omega

theorem nl_newlines (size : Int) : ∀ (m j : Nat), ((j + m : Nat) : Int) < size →
    nl size (List.replicate m 10) j = (List.range' (j + 1) m).map Int.ofNat := by
  intro m
  induction m with
  | zero => intro j _; rfl
  | succ m ih =>
    intro j hlt
    have hs : (j : Int) + 1 < size := by omega
    rw [List.replicate_succ, nl_cons, if_pos ⟨rfl, hs⟩, ih (j + 1) (by omega), List.range'_succ]
    rfl

/-- on a scan the table's last entry is at most `i`: `AddLine`'s order test passes -/
theorem addLineL_scan {ls : List Int} {i : Nat} {size : Int} (h : ScanInv ls i size) :
    addLineL ls size ((i : Int) + 1) = if (i : Int) + 1 < size then ls ++ [(i : Int) + 1] else ls := by
  have hne : ls ≠ [] := by
    intro hnil; have := h.first; simp [hnil] at this
  obtain ⟨l, hl⟩ := last_of_ne_nil hne
  have := (h.range l (List.mem_of_getLast? hl)).2
  rw [addLineL_of_last hl]
  have e : (l < (i : Int) + 1 ∧ (i : Int) + 1 < size) ↔ (i : Int) + 1 < size := by omega
  simp only [e]

theorem scanFrom_eq (size : Int) : ∀ (cs : List UInt8) (i : Nat) (ls : List Int), ScanInv ls i size →
    scanFrom size cs i ls = ls ++ nl size cs i := by
  intro cs
  induction cs with
  | nil => intro i ls _; simp [scanFrom, nl]
  | cons c cs ih =>
    intro i ls h
    simp only [scanFrom, nl_cons]
    by_cases hc : c = 10
    · rw [if_pos hc, ih _ _ (scanInv_addLine h), addLineL_scan h]
      by_cases hs : (i : Int) + 1 < size <;> simp [hc, hs]
    · rw [if_neg hc, ih _ _ h.next]; simp [hc]

theorem scanLines_eq (text : List UInt8) : scanLines text = 0 :: nl text.length text 0 :=
  scanFrom_eq _ text 0 [0] (scanInv_start text)

theorem scanLines_prepend (text : List UInt8) (hne : text ≠ []) (k : Nat) :
    scanLines (List.replicate k 10 ++ text)
      = (List.range k).map Int.ofNat ++ (scanLines text).map (· + (k : Int)) := by
  have hlen : 0 < text.length := List.length_pos_iff.mpr hne
  have hsz : (((List.replicate k (10 : UInt8) ++ text).length : Nat) : Int) = (text.length : Int) + (k : Int) := by
    simp; omega
  have hio : (List.range (k + 1)).map Int.ofNat = (0 : Int) :: (List.range' 1 k).map Int.ofNat := by
    rw [List.range_eq_range', List.range'_succ]; rfl
  rw [scanLines_eq, scanLines_eq, hsz, nl_append, nl_newlines _ k 0 (by omega), List.length_replicate,
    Nat.zero_add, Nat.zero_add, nl_shift, ← List.cons_append, ← hio, List.range_succ]
  simp

theorem scanLines_mem (text : List UInt8) (v : Int) :
    v ∈ scanLines text ↔
      v = 0 ∨ ∃ j : Nat, text[j]? = some 10 ∧ v = (j : Int) + 1 ∧ v < (text.length : Int) := by
  rw [scanLines_eq, List.mem_cons, mem_nl]
  simp

end UgoVerif.Proofs.Pos

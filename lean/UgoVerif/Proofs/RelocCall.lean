import UgoVerif.Proofs.RelocThrow
/-
  Relocation relation: CALL, CALLNAME and RETURN.  The function cell read by `fnCell` stays where it is while the
  arguments are bound (`keeps_fnCell`, carried along by `RelE.frameL`), so the frame that is pushed runs the two codes
  of one function and the ghost `ci` records its index (`R.pushed`); RETURN lands on the caller's saved `ip`, which
  `FrRel.ip` keeps at the instruction behind the call (`R.popped`).
-/
namespace UgoVerif.VM.Reloc
open UgoVerif UgoVerif.Go UgoVerif.VM

variable {P : Params} {ci : Nat → Nat} {c o : Nat} {I : Int → Int → Prop}

theorem bindArgs_congr {code code' : Code} (h1 : code.numParams = code'.numParams)
    (h2 : code.variadic = code'.variadic) : bindArgs code = bindArgs code' := by
  funext bp na fl
  unfold bindArgs
  rw [h1, h2]

def CallPost (P : Params) : Except OpErr Unit → Except OpErr Unit → State → State → Prop :=
  fun a b s t => a = b ∧ RM P s t ∧ (a = .ok () → RB P s t)

theorem callpost_err {A : State → State → Prop} (e : OpErr) (hA : ∀ s t, A s t → RM P s t) :
    RelQ A (CallPost P) (RM P) (pure (Except.error e)) (pure (Except.error e)) :=
  RelQ.pure (fun s t h => ⟨rfl, hA s t h, fun e => by cases e⟩)

@[rel_keep] theorem callpost_error (e : OpErr) :
    RelQ (R P ci c I) (CallPost P) (RM P) (pure (Except.error e)) (pure (Except.error e)) :=
  callpost_err e fun _ _ => R.toRM

@[rel_keep] theorem callpost_ok {n : Nat} :
    RelQ (R P ci c (Ibnd P c n)) (CallPost P) (RM P) (pure (Except.ok ())) (pure (Except.ok ())) :=
  RelQ.pure fun _ _ h => ⟨rfl, h.toRM, fun _ => ⟨ci, c, n, h⟩⟩

theorem rel_callObject (hnext : Next P c o 2) (v : V) (na fl : Int) :
    RelQ (R P ci c (Iat P c o)) (CallPost P) (RM P) (callObject v na fl) (callObject v na fl) := by
  unfold callObject; rlo

@[reducible] def HasCell (fa : Nat) (x : Cell) (s : State) : Prop := s.heap[fa]? = some x

section
variable {fa : Nat} {x : Cell}
local notation "HC" => HasCell fa x

theorem kp_getSp : Keeps HC getSp := Keeps.intro' (fun _ h => h)

end

/-- a function cell survives argument binding: the data primitives move the heap by `HeapStep`s, which keep
    function cells -/
theorem keeps_fnCell {α} {m : M α} {fa k : Nat} {fr : Option (List Addr)} [hm : Pres HeapMoves m] :
    Keeps (HasCell fa (Cell.fn k fr)) m :=
  Pres.inv (fun _ _ h hr => hr.1 fa k fr h) hm

/-- a unary invariant of the source run rides along a triple -/
theorem RelE.frameL {α β} {A B E : State → State → Prop} {VR : α → β → Prop} {m₁ : M α} {m₂ : M β}
    (H : State → Prop) (h : RelE A B E VR m₁ m₂) (hk : Keeps H m₁) :
    RelE (fun s t => A s t ∧ H s) (fun s t => B s t ∧ H s) E VR m₁ m₂ := by
  apply RelE.mk'
  intro s t ⟨hA, hH⟩
  have hk' := hk.elim s hH
  rcases h.elim hA with ⟨a, b, s', t', e1, e2, hv, hB⟩ | ⟨e, s', t', e1, e2, hE⟩ <;> rw [e1, e2]
  · rw [e1] at hk'
    exact ⟨hv, hB, hk'⟩
  · exact ⟨rfl, hE⟩

theorem size_modify_frame (a : Array Frame) (c : Nat) (f : Frame → Frame) : (a.modify c f).size = a.size := by simp

/-- the push of CALL: the caller's saved `ip`s are at the instruction behind the call, the callee is entered at its
    first instruction -/
theorem R.pushed {s t : State} (h : R P ci c I s t) {ip ip' : Int}
    (hip : ∃ o' : Nat, P.BB c o' ∧ ip + 2 + 1 = o' ∧ ip' + 2 + 1 = P.Φ c o')
    {fa k : Nat} {fr : Option (List Addr)} (hcell : s.heap[fa]? = some (Cell.fn k fr)) (hk : P.Entry k) (bp nl : Int)
    (hfi : ¬ (s.frameIndex + 1 > (frameSize : Int) - 1)) :
    RB P (pushed fa fr bp ip nl s) (pushed fa fr bp ip' nl t) := by
  have hlink := h.link
  have hn : s.frameIndex.toNat = s.curFrame + 1 := by omega
  have hnlt : s.curFrame + 1 < frameSize := by simp only [frameSize] at hfi ⊢; omega
  refine ⟨fun i => if i = s.curFrame + 1 then k else ci i, k, 0, ?_⟩
  unfold VM.pushed
  rw [h.frameIndex, hn, h.curFrame]
  exact { h with
    sp := rfl,
    ip := ⟨hk.2.1, by show (-1 : Int) + 1 = ((0 : Nat) : Int); decide, by rw [hk.2.2]; show (-1 : Int) + 1 = ((0 : Nat) : Int); decide⟩
    curFrame := rfl, frameIndex := rfl,
    link := by show ((s.curFrame + 1 : Nat) : Int) + 1 = s.frameIndex + 1; omega
    fsS := by simp [h.fsS], fsT := by simp [h.fsT], cur := hnlt,
    curc := by simp, cok := hk.1,
    cis := by
      intro i hi
      by_cases h1 : i = s.curFrame + 1
      · simp only [h1, if_true]; exact hk.1
      · simp only [h1, if_false]; exact h.cis i (by have : i ≤ s.curFrame + 1 := hi; omega)
    frames := by
      intro i hi
      have hf := h.frames i hi
      simp only [getElem!_modify, size_modify_frame, h.fsS, h.fsT, hi, and_true]
      by_cases h1 : s.curFrame + 1 = i
      · subst h1
        have h2 : ¬ (s.curFrame = s.curFrame + 1) := by omega
        simp only [if_true, h2, if_false]
        exact { fn := rfl, free := rfl, bp := rfl, discard := rfl, hs := trivial,
                ip := fun hlt => absurd hlt (Nat.lt_irrefl _) }
      · have h1' : ¬ (i = s.curFrame + 1) := fun e => h1 e.symm
        simp only [h1, h1', if_false]
        by_cases h2 : s.curFrame = i
        · subst h2
          simp only [if_true]
          rw [h.curc] at hf ⊢
          exact { fn := hf.fn, free := hf.free, bp := hf.bp, discard := hf.discard, hs := hf.hs, ip := fun _ => hip }
        · simp only [h2, if_false]
          exact { hf with ip := fun hlt => hf.ip (by omega) }
    code := by
      intro i hi a ha
      have hi' : i ≤ s.curFrame + 1 := hi
      simp only [getElem!_modify, size_modify_frame, h.fsS] at ha
      by_cases h1 : s.curFrame + 1 = i
      · subst h1
        have h2 : ¬ (s.curFrame = s.curFrame + 1) := by omega
        simp only [hnlt, and_true, if_true, h2, if_false, enterF] at ha
        have hfa : fa = a := by simpa using ha
        subst hfa
        have hcell' : s.heap[fa]? = some (Cell.fn k fr) := hcell
        refine ⟨?_, ?_⟩
        · exact (Array.getElem?_eq_some_iff.1 hcell').1
        · intro k0 fr0 h0
          have h0' : s.heap[fa]? = some (Cell.fn k0 fr0) := h0
          rw [hcell'] at h0'
          cases h0'
          exact ⟨by simp, hk.1⟩
      · have h1' : ¬ (i = s.curFrame + 1) := fun e => h1 e.symm
        have hle : i ≤ s.curFrame := by omega
        simp only [h1, h1', false_and, if_false] at ha ⊢
        by_cases h2 : s.curFrame = i
        · subst h2
          simp only [h.cur, and_true, if_true] at ha
          exact h.code _ hle a ha
        · simp only [h2, false_and, if_false] at ha
          exact h.code _ hle a ha
    fnok := h.fnok }

theorem rel_callTail (hnext : Next P c o 2) {fa k : Nat} {fr : Option (List Addr)}
    (hk : P.Entry k) (bp nl : Int) :
    RelQ (fun s t => R P ci c (Iat P c o) s t ∧ HasCell fa (Cell.fn k fr) s) (CallPost P) (RM P)
      (callTail fa fr bp (o : Int) nl) (callTail fa fr bp (P.Φ c o : Int) nl) := by
  apply RelQ.mk'
  intro s t ⟨h, hH⟩
  -- the tests read `frameIndex`, the same on both sides
  rw [exec_callTail, exec_callTail, h.frameIndex]
  by_cases h1 : s.frameIndex + 1 > (frameSize : Int) - 1
  · rw [if_pos h1, if_pos h1]
    exact ⟨rfl, h.toRM, fun e => by cases e⟩
  · rw [if_neg h1, if_neg h1]
    by_cases h2 : (decide (s.frameIndex < 0) || decide (s.frameIndex ≥ (frameSize : Int))) = true
    · rw [if_pos h2, if_pos h2]
      exact ⟨rfl, h.toRM⟩
    · rw [if_neg h2, if_neg h2]
      have := h.pushed (ip := o) (ip' := P.Φ c o) ⟨o + 3, hnext.1, by omega, by rw [hnext.2]; omega⟩ hH hk bp nl h1
      exact ⟨rfl, this.toRM, fun _ => this⟩

theorem rel_setIp_entry (hc : P.Entry c) :
    RelE (R P ci c I) (R P ci c (Ibnd P c 0)) (RM P) Eq (setIp (-1)) (setIp (-1)) :=
  rel_setIp _ _ ⟨hc.2.1, rfl, by rw [hc.2.2]; rfl⟩

theorem rel_tailCallC (hc : P.Entry c) (curBp bp nl sp : Int) :
    RelQ (R P ci c I) (CallPost P) (RM P) (tailCallC curBp bp nl sp) (tailCallC curBp bp nl sp) := by
  unfold tailCallC
  refine RelQ.bindEq (rel_stackSlice _ _) ?_
  intro src
  refine RelQ.bindEq (rel_copySlots _ _) ?_
  intro _
  refine RelQ.bindEq (rel_clearDown _ _) ?_
  intro _
  refine RelQ.bindEq (rel_setSp _) ?_
  intro _
  refine RelQ.bindEq (rel_setIp_entry hc) ?_
  intro _
  refine RelQ.bindEq (rel_setCurFrame _ _ ?_ ?_) ?_
  · intro f g hfg
    exact { fn := hfg.fn, free := hfg.free, bp := hfg.bp, discard := hfg.discard, hs := trivial, ip := hfg.ip }
  · intro f; exact Or.inl rfl
  · intro _
    exact RelQ.pure (fun s t h => ⟨rfl, h.toRM, fun _ => ⟨ci, c, 0, h⟩⟩)

theorem rel_tailCall (hc : P.Entry c) (curBp bp nl sp : Int) (d : Bool) :
    RelQ (R P ci c I) (CallPost P) (RM P) (tailCall d curBp bp nl sp) (tailCall d curBp bp nl sp) := by
  have hC := rel_tailCallC (ci := ci) (I := I) hc curBp bp nl sp
  have hB : RelQ (R P ci c I) (CallPost P) (RM P) (tailCallB curBp bp nl sp) (tailCallB curBp bp nl sp) := by
    unfold tailCallB
    exact RelQ.ite (RelQ.bind_fails (rel_panic _) _ _) hC
  have hA : RelQ (R P ci c I) (CallPost P) (RM P) (tailCallA curBp bp nl sp) (tailCallA curBp bp nl sp) := by
    unfold tailCallA
    exact RelQ.ite (RelQ.bind_fails (rel_panic _) _ _) hB
  unfold tailCall
  refine RelQ.ite ?_ hA
  refine RelQ.bindEq (rel_setCurFrame _ _ ?_ ?_) (fun _ => hA)
  · intro f g hfg
    exact { fn := hfg.fn, free := hfg.free, bp := hfg.bp, discard := rfl, hs := hfg.hs, ip := hfg.ip }
  · intro f; exact Or.inl rfl

@[reducible] def Outcome {α β} (Q : α → β → State → State → Prop) (E : State → State → Prop)
    (x : Except Exc α × State) (y : Except Exc β × State) : Prop :=
  match x, y with
  | (.ok a, s'), (.ok b, t') => Q a b s' t'
  | (.error e, s'), (.error e', t') => e = e' ∧ E s' t'
  | _, _ => False

theorem RelQ.outcome {α β} {A : State → State → Prop} {Q : α → β → State → State → Prop} {E : State → State → Prop}
    {m₁ : M α} {m₂ : M β} (h : RelQ A Q E m₁ m₂) {s t : State} (hA : A s t) :
    Outcome Q E (exec m₁ s) (exec m₂ t) := h.run s t hA

theorem rel_callBody (hP : P.OK) (hc : c < P.cs.size) (hnext : Next P c o 2)
    {fa k : Nat} {fr : Option (List Addr)} (hk : P.Entry k) (cf cf' : Frame)
    (hcf : FrRel (P.Φ c) (P.BB c) False cf cf') (sp bp nl : Int) :
    RelQ (fun s t => R P ci c (Iat P c o) s t ∧ HasCell fa (Cell.fn k fr) s) (CallPost P) (RM P)
      (callBody fa fr cf sp bp nl (o : Int)) (callBody fa fr cf' sp bp nl (P.Φ c o : Int)) := by
  have hnew := rel_callTail (ci := ci) hnext hk (fa := fa) (fr := fr) bp nl
  unfold callBody
  rw [hcf.fn, hcf.bp]
  refine RelQ.ite ?_ hnew
  -- a call of the running function itself: look at the one or two instructions behind the call
  refine relq_instAt_bind (fun _ _ h => h.1) (hP.rel c hc) hnext.1 (by omega) (by rw [hnext.2]; omega) fun hent => ?_
  have htail := fun d : Bool => RelQ.ite (c := ((((P.cs[c]!).insts)[o + 3]!).toNat == OpReturn || d) = true)
    ((rel_tailCall (ci := ci) (I := Iat P c o) hent cf.bp bp nl sp d).pre fun _ _ h => h.1) hnew
  split
  · rename_i hpop
    have hpop' : (((P.cs[c]!).insts)[o + 3]!).toNat = OpPop := by simpa using hpop
    obtain ⟨-, h4⟩ := plain_facts (hP.rel c hc) hnext.1 _ hpop' 0 (by decide)
    simp only [bind_assoc, pure_bind]
    exact relq_instAt_bind (fun _ _ h => h.1) (hP.rel c hc) h4.1 (by omega) (by rw [h4.2, hnext.2]; omega)
      fun _ => htail _
  · simp only [pure_bind]
    exact htail false

/-- reading a function cell: the two sides get the two codes of one enterable function, and the cell is
    still there afterwards -/
theorem relq_fnCell_bind {α β} {Q : α → β → State → State → Prop} (fa : Addr) {f₁ : Code × Option (List Addr) → M α}
    {f₂ : Code × Option (List Addr) → M β}
    (hf : ∀ k fr, P.Entry k → RelQ (fun s t => R P ci c I s t ∧ HasCell fa (Cell.fn k fr) s) Q (RM P)
      (f₁ (P.cs[k]!, fr)) (f₂ (P.ct[k]!, fr))) :
    RelQ (R P ci c I) Q (RM P) (fnCell fa >>= f₁) (fnCell fa >>= f₂) := by
  apply RelQ.mk'
  intro s t h
  rw [exec_bind, exec_bind, exec_fnCell, exec_fnCell, h.heap, h.codesS, h.codesT]
  cases hc : s.heap[fa]? with
  | none => exact ⟨rfl, h.toRM⟩
  | some x =>
    cases x with
    | fn k fr => exact (hf k fr (h.fnok fa k fr hc)).run s t ⟨h, hc⟩
    | _ => exact ⟨rfl, h.toRM⟩

theorem rel_callRest (hP : P.OK) (hc : c < P.cs.size) (hnext : Next P c o 2)
    {fa k : Nat} {fr : Option (List Addr)} (hk : P.Entry k) (na fl : Int) :
    RelQ (fun s t => R P ci c (Iat P c o) s t ∧ HasCell fa (Cell.fn k fr) s) (CallPost P) (RM P)
      (callRest fa (P.cs[k]!) fr na fl) (callRest fa (P.ct[k]!) fr na fl) := by
  unfold callRest
  rw [hP.numParams k, hP.numLocals k, bindArgs_congr (hP.numParams k) (hP.variadic k)]
  refine RelQ.bindEq (RelE.frameL _ rel_getSp keeps_fnCell) ?_
  intro sp
  refine RelQ.bindEq (RelE.frameL _ (rel_bindArgs _ _ _ _) keeps_fnCell) ?_
  intro r
  cases r with
  | error e => exact callpost_err e (fun _ _ h => h.1.toRM)
  | ok u =>
    cases u
    refine RelQ.bindEq (RelE.frameL _ (rel_fillUndefined _ _) keeps_fnCell) ?_
    intro _
    refine RelQ.bind (RelE.frameL _ rel_curFrame keeps_fnCell) ?_
    intro cf cf' hcf
    refine RelQ.bind (RelE.frameL _ rel_getIp_at keeps_fnCell) ?_
    intro a b hab
    obtain ⟨ha, hb⟩ := hab
    subst ha
    subst hb
    exact rel_callBody hP hc hnext hk cf cf' hcf _ _ _

theorem rel_callCompiled (hP : P.OK) (hc : c < P.cs.size) (hnext : Next P c o 2)
    (fa : Addr) (na fl : Int) :
    RelQ (R P ci c (Iat P c o)) (CallPost P) (RM P) (callCompiled fa na fl) (callCompiled fa na fl) := by
  rw [callCompiled_eq]
  exact relq_fnCell_bind fa fun k fr hk => rel_callRest hP hc hnext hk na fl

theorem rel_callAny (hP : P.OK) (hc : c < P.cs.size) (hnext : Next P c o 2)
    (v : V) (na fl : Int) :
    RelQ (R P ci c (Iat P c o)) (CallPost P) (RM P) (callAny v na fl) (callAny v na fl) := by
  unfold callAny
  split
  · exact rel_callCompiled hP hc hnext _ _ _
  · exact rel_callObject hnext _ _ _

/-- what follows a call in CALL / CALLNAME -/
theorem rel_afterCall (a b : Except OpErr Unit) :
    RelQ (CallPost P a b) (CtlPost P) (RM P)
      (match a with | .ok () => pure Ctl.next | .error e => failWith e)
      (match b with | .ok () => pure Ctl.next | .error e => failWith e) := by
  apply RelQ.mk'
  rintro s t ⟨rfl, hM, hB⟩
  cases a with
  | error e => exact (rel_failWith e).run s t hM
  | ok u => cases u; exact ctl_next_RB.run s t (hB rfl)

theorem rel_execCall (hP : P.OK) (hc : c < P.cs.size) (hw : Win (P.cs[c]!).insts (P.ct[c]!).insts (P.Φ c) o 2) (hnext : Next P c o 2) :
    OpRel P ci c o execCall execCall := by
  unfold execCall
  refine RelQ.bindEq (rel_opnd1 hw 1 (by decide)) ?_
  intro numArgs
  refine RelQ.bindEq (rel_opnd1 hw 2 (by decide)) ?_
  intro flags
  refine RelQ.bindEq rel_getSp ?_
  intro sp
  refine RelQ.bindEq (rel_stackGet _) ?_
  intro callee
  exact RelQ.bindQ (rel_callAny hP hc hnext _ _ _) rel_afterCall

theorem rel_execCallName (hP : P.OK) (hc : c < P.cs.size) (hw : Win (P.cs[c]!).insts (P.ct[c]!).insts (P.Φ c) o 2) (hnext : Next P c o 2) :
    OpRel P ci c o execCallName execCallName := by
  unfold execCallName
  refine RelQ.bindEq (rel_opnd1 hw 1 (by decide)) ?_
  intro numArgs
  refine RelQ.bindEq (rel_opnd1 hw 2 (by decide)) ?_
  intro flags
  refine RelQ.bindEq rel_getSp ?_
  intro sp
  refine RelQ.bindEq (rel_stackGet _) ?_
  intro obj
  refine RelQ.bindEq (rel_stackGet _) ?_
  intro name
  refine RelQ.bindEq (rel_setSp _) ?_
  intro _
  refine RelQ.bindEq (rel_stackSet _ _) ?_
  intro _
  -- the rest of the function is a join point behind the `host` test; the failing branch never reaches it
  dsimp only
  split
  · exact RelQ.bind_fails (rel_unsupported _) _ _
  refine RelQ.bindEq (rel_of_data (CompSim.ho_vIndexGet _ _)) ?_
  intro r
  cases r with
  | error e => exact rel_failWith_R e
  | ok v =>
    refine RelQ.bindEq rel_getSp ?_
    intro sp
    refine RelQ.bindEq (rel_stackSet _ _) ?_
    intro _
    exact RelQ.bindQ (rel_callAny hP hc hnext _ _ _) rel_afterCall

theorem R.popped {s t : State} (h : R P ci c I s t) (h1 : s.frameIndex ≠ 1) :
    ∃ o', R P ci (ci (s.curFrame - 1)) (Ibnd P (ci (s.curFrame - 1)) o') (popped s) (popped t) := by
  have hlink := h.link
  have hcur := h.cur
  have h' := h.modifyFrame h.curFrame clearF clearF (fun _ _ hr => { hr with fn := rfl, free := rfl, hs := trivial })
    fun _ => Or.inr rfl
  have hlt : s.curFrame - 1 < s.curFrame := by omega
  -- the caller's saved `ip` is at the instruction behind its call
  obtain ⟨o', hip⟩ := (h'.frames (s.curFrame - 1) (by omega)).ip hlt
  rw [popped_eq hlink (by omega), popped_eq (by rw [h.curFrame, h.frameIndex]; exact hlink) (by rw [h.curFrame]; omega),
    show t.curFrame - 1 = s.curFrame - 1 by rw [h.curFrame]]
  exact ⟨o', h'.toFrame hlt hip⟩

@[rel_keep] theorem rel_retTail : RelQ (R P ci c I) (CtlPost P) (RM P) retTail retTail := by
  apply RelQ.mk'
  intro s t h
  rw [exec_retTail, exec_retTail, h.frameIndex]
  by_cases h1 : (s.frameIndex == 1) = true
  · rw [if_pos h1, if_pos h1]
    exact ⟨rfl, h.toRM, fun e => by cases e⟩
  · rw [if_neg h1, if_neg h1]
    have h1' : s.frameIndex ≠ 1 := by simpa using h1
    have hlink := h.link
    have hcur := h.cur
    have hpi : ¬ ((decide (s.frameIndex - 2 < 0) || decide (s.frameIndex - 2 ≥ (frameSize : Int))) = true) := by
      simp only [Bool.or_eq_true, decide_eq_true_eq, not_or, Int.not_lt, ge_iff_le, Int.not_le]
      unfold frameSize at hcur ⊢
      omega
    obtain ⟨o', hR⟩ := h.popped h1'
    rw [if_neg hpi, if_neg hpi]
    have hfn : ((t.frames.modify t.curFrame clearF)[(s.frameIndex - 2).toNat]!).fn =
        ((s.frames.modify s.curFrame clearF)[(s.frameIndex - 2).toNat]!).fn := (hR.frames _ hR.cur).fn
    rw [hfn]
    cases ((s.frames.modify s.curFrame clearF)[(s.frameIndex - 2).toNat]!).fn with
    | none => exact ⟨rfl, hR.toRM⟩
    | some a => exact ⟨rfl, hR.toRM, fun _ => ⟨ci, _, o', hR⟩⟩

@[rel_keep] theorem rel_retClear (hi bp : Int) :
    RelQ (R P ci c I) (CtlPost P) (RM P) (retClear hi bp) (retClear hi bp) :=
  RelQ.bindEq (rel_clearDown _ _) fun _ => RelQ.bindEq (rel_setSp _) fun _ => rel_retTail

theorem rel_retRest (numRet : Nat) (d : Bool) (bp : Int) :
    RelQ (R P ci c I) (CtlPost P) (RM P) (retRest numRet d bp) (retRest numRet d bp) := by
  unfold retRest; rlo

theorem rel_execReturn (hP : P.OK) (hc : c < P.cs.size) (hB : P.BB c o)
    (hop : (((P.cs[c]!).insts)[o]!).toNat = OpReturn) :
    OpRel P ci c o execReturn execReturn := by
  have hw : Win (P.cs[c]!).insts (P.ct[c]!).insts (P.Φ c) o 1 := by
    have := ((hP.rel c hc).plain o hB (by rw [hop]; decide)).1
    rwa [hop] at this
  rw [execReturn_rest]
  refine RelQ.bindEq (rel_opnd1 hw 1 (by decide)) ?_
  intro numRet
  refine RelQ.bind rel_curFrame ?_
  intro f g hfg
  rw [hfg.bp, hfg.fn, hfg.discard]
  refine RelQ.ite ?_ (rel_retRest _ _ _)
  split
  · exact RelQ.bind_fails (rel_panic _) _ _
  · rename_i fa _
    refine relq_fnCell_bind fa fun k fr _ => ?_
    rw [hP.numLocals k]
    exact (rel_retRest _ _ _).pre fun _ _ h => h.1

end UgoVerif.VM.Reloc

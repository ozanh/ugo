import UgoVerif.Props.C11
import UgoVerif.Proofs.RelocRel
/-
  `CodeRel` (RelocRel) from two decodings: a well-formed version-1 function and any stream that decodes, in the
  current table, to the same instructions moved by a strictly monotone offset map are related by that map
  (`codeRel_of_dec`).  The version-1 → current converter `Model/V1.convFn` with `newOff ins` is the instance
  (`Props.C11.conv_decodes`; used in RelocConvMain).
-/
namespace UgoVerif.VM.Reloc
open UgoVerif UgoVerif.Go UgoVerif.VM
open UgoVerif.Model.Bytecode UgoVerif.Model.V1 UgoVerif.Proofs.Bytecode UgoVerif.Proofs.V1

theorem drop_cons_tail {full : Bytes} {off : Nat} {b : UInt8} {tail : Bytes} (h : full.drop off = b :: tail) :
    tail = full.drop (off + 1) ∧ off + 1 + tail.length = full.length := by
  constructor
  · have := congrArg (List.drop 1) h
    simp only [List.drop_drop, List.drop_succ_cons, List.drop_zero] at this
    exact this.symm
  · have := congrArg List.length h
    simp at this; omega

theorem get_of_drop {l : Bytes} {o : Nat} {b : UInt8} {tail : Bytes} (h : l.drop o = b :: tail)
    (i k : Nat) (hi : i = o + k) : l.toArray[i]! = ((b :: tail)[k]?).getD default := by
  subst hi
  rw [← h, List.getElem?_drop]; simp

theorem get_head_of_drop {l : Bytes} {o : Nat} {b : UInt8} {tail : Bytes} (h : l.drop o = b :: tail) :
    l.toArray[o]! = b := by
  rw [get_of_drop h o 0 rfl]; simp

theorem rd2_eq (l : Bytes) (i : Nat) (h : i + 2 ≤ l.length) : rd2 l.toArray i = beVal ((l.drop i).take 2) := by
  cases hd : l.drop i with
  | nil => have := congrArg List.length hd; simp at this; omega
  | cons t0 r0 =>
    cases r0 with
    | nil => have := congrArg List.length hd; simp at this; omega
    | cons t1 r1 =>
      unfold rd2
      rw [get_of_drop hd i 0 rfl, get_of_drop hd (i + 1) 1 rfl]
      simp only [List.getElem?_cons_zero, List.getElem?_cons_succ, Option.getD_some]
      exact or2_beVal t0 t1

theorem rd4_eq (l : Bytes) (i : Nat) (h : i + 4 ≤ l.length) : rd4 l.toArray i = beVal ((l.drop i).take 4) := by
  cases hd : l.drop i with
  | nil => have := congrArg List.length hd; simp at this; omega
  | cons t0 r0 =>
    cases r0 with
    | nil => have := congrArg List.length hd; simp at this; omega
    | cons t1 r1 =>
    cases r1 with
    | nil => have := congrArg List.length hd; simp at this; omega
    | cons t2 r2 =>
    cases r2 with
    | nil => have := congrArg List.length hd; simp at this; omega
    | cons t3 r3 =>
      unfold rd4
      rw [get_of_drop hd i 0 rfl, get_of_drop hd (i + 1) 1 rfl, get_of_drop hd (i + 2) 2 rfl,
        get_of_drop hd (i + 3) 3 rfl]
      simp only [List.getElem?_cons_zero, List.getElem?_cons_succ, Option.getD_some]
      exact or4_beVal t0 t1 t2 t3

theorem isJ_eq (op : Nat) : isJ op = isJumpClass op := by
  simp [isJ, isJumpClass, Gen.Opcodes.convJumpClass, OpJump, OpJumpFalsy, OpAndJump, OpOrJump, OpSetupTry,
    Bool.or_assoc]
  rfl

/-- well-formedness of a version-1 function (what the compiler emits): every jump operand and
    every non-zero SETUPTRY operand is the offset of an instruction, and the last instruction is
    RETURN -/
structure WF1 (is : List Instr) : Prop where
  jumps : ∀ x ∈ is, isJumpClass x.op = true → ∀ a ∈ x.args,
    (x.op = Gen.Opcodes.convKeepZeroOp ∧ a = 0) ∨ ∃ y ∈ is, y.off = a
  last : ∃ pre x, is = pre ++ [x] ∧ x.op = Gen.Opcodes.OpReturn

theorem WF1.has_next {is : List Instr} (h : WF1 is) {pre : List Instr} {x : Instr} {suf : List Instr}
    (his : is = pre ++ x :: suf) (hx : x.op ≠ 39) : ∃ y suf', suf = y :: suf' := by
  cases suf with
  | cons y suf' => exact ⟨y, suf', rfl⟩
  | nil =>
    obtain ⟨pre', x', h', hop⟩ := h.last
    rw [his] at h'
    have := (List.append_inj' h' rfl).2
    simp only [List.cons.injEq, and_true] at this
    subst this
    exact absurd hop hx

/-- An instruction `x` of the version-1 stream and its image in the converted stream: the same opcode byte,
    operands that decode to `x.args` and to the relocated arguments, and behind every instruction but RETURN
    there is another one, at the offset that `φ` moves along with the widened operands. -/
theorem conv_at (ins out : Bytes) (φ : Nat → Nat) (is : List Instr)
    (hd : decodeV1 ins = some is) (hd2 : decodeV2 out = some (is.map (relocInstr φ))) (hwf : WF1 is)
    (x : Instr) (hx : x ∈ is) :
    ∃ ws1 ws2 b tail tail', Gen.Opcodes.V1.opcodeOperands x.op = some ws1 ∧
      Gen.Opcodes.opcodeOperands x.op = some ws2 ∧
      ins.drop x.off = b :: tail ∧ out.drop (φ x.off) = b :: tail' ∧ b.toNat = x.op ∧
      ins.toArray[x.off]! = b ∧ out.toArray[φ x.off]! = b ∧
      x.args = decodeArgs ws1 tail ∧ ws1.sum ≤ tail.length ∧
      (relocInstr φ x).args = decodeArgs ws2 tail' ∧ ws2.sum ≤ tail'.length ∧
      (x.op ≠ 39 → (∃ y ∈ is, y.off = x.off + ws1.sum + 1) ∧ φ (x.off + ws1.sum + 1) = φ x.off + ws2.sum + 1) := by
  obtain ⟨pre, suf, his⟩ := List.append_of_mem hx
  obtain ⟨ws1, b, tail, h1, hdr, hb, hro, hsum, _, hnext⟩ :=
    (Dec.of_aux (fun _ _ h => v1_supported h) (his ▸ hd)).at
  have hd2' : decodeAll Gen.Opcodes.opcodeOperands out =
      some (pre.map (relocInstr φ) ++ relocInstr φ x :: suf.map (relocInstr φ)) := by
    simpa [decodeV2, his] using hd2
  obtain ⟨ws2, b', tail', h2, hdr', hb', hro', hsum', _, hnext'⟩ :=
    (Dec.of_aux (fun _ _ h => v2_supported h) hd2').at
  have hbb : b' = b := UInt8.toNat_inj.mp (by rw [hb, hb']; rfl)
  subst hbb
  refine ⟨ws1, ws2, b', tail, tail', h1, h2, hdr, hdr', hb, get_head_of_drop hdr, get_head_of_drop hdr',
    hro, hsum, hro', hsum', ?_⟩
  intro hne
  obtain ⟨y, suf', hs⟩ := hwf.has_next his hne
  have e1 := hnext y suf' hs
  refine ⟨⟨y, by rw [his, hs]; simp, e1⟩, ?_⟩
  rw [← e1]
  exact hnext' (relocInstr φ y) (suf'.map (relocInstr φ)) (by rw [hs]; rfl)

theorem jump_tables (op : Nat) (h : op = 12 ∨ op = 13 ∨ op = 14 ∨ op = 15) :
    Gen.Opcodes.V1.opcodeOperands op = some (List.replicate 1 2) ∧
      Gen.Opcodes.opcodeOperands op = some (List.replicate 1 4) := by
  rcases h with rfl | rfl | rfl | rfl <;> decide

theorem try_tables : Gen.Opcodes.V1.opcodeOperands 34 = some (List.replicate 2 2) ∧
    Gen.Opcodes.opcodeOperands 34 = some (List.replicate 2 4) := by
  decide

theorem conv_op (ins out : Bytes) (φ : Nat → Nat) (is : List Instr)
    (hd : decodeV1 ins = some is) (hd2 : decodeV2 out = some (is.map (relocInstr φ))) (hwf : WF1 is)
    (x : Instr) (hx : x ∈ is) : (ins.toArray[x.off]!).toNat = x.op := by
  obtain ⟨_, _, b, _, _, _, _, _, _, hb, hsrc, _⟩ := conv_at ins out φ is hd hd2 hwf x hx
  rw [hsrc, hb]

/-- `CodeRel.plain`: an instruction that is not re-encoded has the same operand table in both formats -/
theorem conv_plain (ins out : Bytes) (φ : Nat → Nat) (is : List Instr)
    (hd : decodeV1 ins = some is) (hd2 : decodeV2 out = some (is.map (relocInstr φ))) (hwf : WF1 is)
    (o : Nat) (hB : ∃ x ∈ is, x.off = o) (hj : isJ (ins.toArray[o]!).toNat = false) :
    Win ins.toArray out.toArray φ o (opW (ins.toArray[o]!).toNat) ∧
    ((ins.toArray[o]!).toNat ≠ OpReturn →
      (∃ y ∈ is, y.off = o + opW (ins.toArray[o]!).toNat + 1) ∧
      φ (o + opW (ins.toArray[o]!).toNat + 1) = φ o + opW (ins.toArray[o]!).toNat + 1) := by
  obtain ⟨x, hx, rfl⟩ := hB
  obtain ⟨ws1, ws2, b, tail, tail', h1, h2, hdr, hdr', hb, hsrc, -, hro, hsum, hro', hsum', hnext⟩ :=
    conv_at ins out φ is hd hd2 hwf x hx
  rw [hsrc, hb] at hj ⊢
  rw [isJ_eq] at hj
  have h2' := nonjump_same hj h1
  rw [h2] at h2'
  simp only [Option.some.injEq] at h2'
  subst h2'
  have hw : opW x.op = ws2.sum := by simp [opW, h2]
  rw [hw]
  have hargs : (relocInstr φ x).args = x.args := by simp [relocInstr, hj]
  have htake : tail.take ws2.sum = tail'.take ws2.sum := by
    rw [← encodeArgs_decodeArgs _ _ hsum, ← encodeArgs_decodeArgs _ _ hsum', ← hro, ← hro', hargs]
  obtain ⟨_, hl⟩ := drop_cons_tail hdr
  obtain ⟨_, hl'⟩ := drop_cons_tail hdr'
  refine ⟨⟨by simp; omega, by simp; omega, ?_⟩, hnext⟩
  intro k hk
  rw [get_of_drop hdr' _ k rfl, get_of_drop hdr _ k rfl]
  cases k with
  | zero => rfl
  | succ j =>
    simp only [List.getElem?_cons_succ]
    have := congrArg (fun l => l[j]?) htake
    simp [show j < ws2.sum by omega] at this
    rw [this]

/-- under `φ 0 = 0` the zero operand that SETUPTRY keeps is a relocated operand like every other -/
theorem relocArgs_map {φ : Nat → Nat} (h0 : φ 0 = 0) (op : Nat) (args : List Nat) :
    relocArgs φ op args = args.map φ := by
  unfold relocArgs
  refine List.map_congr_left fun a _ => ?_
  split
  · rfl
  · next h => rw [show a = 0 by omega, h0]

theorem decodeArgs_replicate (w : Nat) : ∀ (n : Nat) (bs : Bytes) (k : Nat), k < n →
    (decodeArgs (List.replicate n w) bs)[k]? = some (beVal ((bs.drop (w * k)).take w))
  | n + 1, bs, 0, _ => by simp [List.replicate_succ, decodeArgs]
  | n + 1, bs, k + 1, h => by
    rw [List.replicate_succ, decodeArgs, List.getElem?_cons_succ, decodeArgs_replicate w n _ k (by omega),
      List.drop_drop, Nat.mul_succ, Nat.add_comm]

/-- The five re-encoded opcodes are one case: `n` operands (two for SETUPTRY, one for a jump), 2 bytes each at
    `x.off + 1 + 2 k` of the version-1 stream and 4 bytes each at `φ x.off + 1 + 4 k` of the converted one, which
    holds the image under `φ` of what the version-1 stream holds; behind them stands another instruction. -/
theorem conv_wide (ins out : Bytes) (φ : Nat → Nat) (h0 : φ 0 = 0) (is : List Instr)
    (hd : decodeV1 ins = some is) (hd2 : decodeV2 out = some (is.map (relocInstr φ))) (hwf : WF1 is)
    (x : Instr) (hx : x ∈ is) (hj : isJumpClass x.op = true) (n : Nat)
    (hn : Gen.Opcodes.V1.opcodeOperands x.op = some (List.replicate n 2) ∧
      Gen.Opcodes.opcodeOperands x.op = some (List.replicate n 4)) :
    x.off + 2 * n < ins.toArray.size ∧ φ x.off + 4 * n < out.toArray.size ∧
    out.toArray[φ x.off]! = ins.toArray[x.off]! ∧
    (∀ k, k < n → rd2 ins.toArray (x.off + 1 + 2 * k) ∈ x.args ∧
      rd4 out.toArray (φ x.off + 1 + 4 * k) = φ (rd2 ins.toArray (x.off + 1 + 2 * k))) ∧
    (∃ y ∈ is, y.off = x.off + 2 * n + 1) ∧ φ (x.off + 2 * n + 1) = φ x.off + 4 * n + 1 := by
  obtain ⟨ws1, ws2, b, tail, tail', h1, h2, hdr, hdr', hb, hsrc, htgt, hro, hsum, hro', hsum', hnext⟩ :=
    conv_at ins out φ is hd hd2 hwf x hx
  cases Option.some.inj (h1.symm.trans hn.1)
  cases Option.some.inj (h2.symm.trans hn.2)
  have hargs : (relocInstr φ x).args = x.args.map φ := by simp only [relocInstr, hj, if_true, relocArgs_map h0]
  rw [hargs] at hro'
  obtain ⟨ht, hl⟩ := drop_cons_tail hdr
  obtain ⟨ht', hl'⟩ := drop_cons_tail hdr'
  simp only [List.sum_replicate_nat] at hsum hsum' hnext
  refine ⟨by simp; omega, by simp; omega, by rw [hsrc, htgt], fun k hk => ?_, ?_⟩
  · have r2 : rd2 ins.toArray (x.off + 1 + 2 * k) = beVal ((tail.drop (2 * k)).take 2) := by
      rw [rd2_eq _ _ (by omega), ht, List.drop_drop]
    have r4 : rd4 out.toArray (φ x.off + 1 + 4 * k) = beVal ((tail'.drop (4 * k)).take 4) := by
      rw [rd4_eq _ _ (by omega), ht', List.drop_drop]
    have a1 := decodeArgs_replicate 2 n tail k hk
    have a2 := decodeArgs_replicate 4 n tail' k hk
    rw [← hro, ← r2] at a1
    rw [← hro', List.getElem?_map, a1, ← r4] at a2
    exact ⟨List.mem_of_getElem? a1, (Option.some.inj a2).symm⟩
  · have := hnext (by rintro h; rw [h] at hj; exact absurd hj (by decide))
    rwa [Nat.mul_comm n 2, Nat.mul_comm n 4] at this

theorem arel_map {φ : Nat → Nat} {B : Nat → Prop} (h0 : φ 0 = 0) (hpos : ∀ n, 0 < n → 0 < φ n) (a : Nat)
    (hB : a ≠ 0 → B a) : ARel φ B (a : Int) (φ a : Int) := by
  by_cases ha : a = 0
  · left; simp [ha, h0]
  · right; exact ⟨a, by omega, hpos a (by omega), hB ha, rfl, rfl⟩

/-- **Relocation of instructions gives `CodeRel`.**  `ins` decodes in the version-1 table to well-formed
    instructions, `out` decodes in the current table to the same instructions moved by `φ` (`relocInstr`), and `φ` is
    strictly monotone with `φ 0 = 0`: then the two byte streams are related by `φ` on the instruction offsets of
    `ins`.  Nothing else is asked of `out` and `φ`; the converter is the instance `conv_decodes`. -/
theorem codeRel_of_dec (ins out : Bytes) (φ : Nat → Nat) (hmono : ∀ a b, a < b → φ a < φ b) (h0 : φ 0 = 0)
    (is : List Instr) (hd : decodeV1 ins = some is) (hd2 : decodeV2 out = some (is.map (relocInstr φ)))
    (hwf : WF1 is) : CodeRel false φ (fun o => ∃ x ∈ is, x.off = o) ins.toArray out.toArray := by
  have hpos : ∀ n, 0 < n → 0 < φ n := fun n hn => by have := hmono 0 n hn; omega
  -- an operand of a re-encoded instruction is `0` in SETUPTRY or an instruction offset
  have hB : ∀ x ∈ is, isJumpClass x.op = true → ∀ a ∈ x.args, a ≠ 0 ∨ x.op ≠ Gen.Opcodes.convKeepZeroOp →
      ∃ y ∈ is, y.off = a := fun x hx hjc a ha hne => by
    rcases hwf.jumps x hx hjc a ha with ⟨h34, h0⟩ | h
    · exact absurd h0 (hne.resolve_right (fun h => h h34))
    · exact h
  refine { mono := hmono, fin0 := fun _ _ => h0, plain := conv_plain ins out φ is hd hd2 hwf, jump := ?_, try_ := ?_ }
  · rintro _ ⟨x, hx, rfl⟩ hj hne
    rw [conv_op ins out φ is hd hd2 hwf x hx] at hj hne
    have hop : x.op = 12 ∨ x.op = 13 ∨ x.op = 14 ∨ x.op = 15 := by
      simp [isJ, OpJump, OpJumpFalsy, OpAndJump, OpOrJump, OpSetupTry] at hj hne
      omega
    have hjc : isJumpClass x.op = true := by rw [← isJ_eq]; exact hj
    obtain ⟨s1, s2, s3, hk, hn⟩ := conv_wide ins out φ h0 is hd hd2 hwf x hx hjc 1 (jump_tables x.op hop)
    obtain ⟨hm, h4⟩ := hk 0 (by decide)
    exact ⟨s1, s2, s3, hB x hx hjc _ hm (.inr (by simp [Gen.Opcodes.convKeepZeroOp]; omega)), h4, hn⟩
  · rintro _ ⟨x, hx, rfl⟩ htry
    rw [conv_op ins out φ is hd hd2 hwf x hx] at htry
    have hop : x.op = 34 := htry
    have hjc : isJumpClass x.op = true := by rw [hop]; decide
    obtain ⟨s1, s2, s3, hk, hn⟩ := conv_wide ins out φ h0 is hd hd2 hwf x hx hjc 2 (hop ▸ try_tables)
    obtain ⟨hm, h4⟩ := hk 0 (by decide)
    obtain ⟨hm', h4'⟩ := hk 1 (by decide)
    refine ⟨s1, s2, s3, ?_, ?_, hn⟩
    · rw [h4]; exact arel_map h0 hpos _ fun h => hB x hx hjc _ hm (.inl h)
    · rw [h4']; exact arel_map h0 hpos _ fun h => hB x hx hjc _ hm' (.inl h)

/-- `WF1` is satisfiable together with `decodeV1`: JUMPFALSY 8; CONSTANT 0; RETURN 1; NULL; RETURN 1
    (offsets 0, 3, 6, 8, 9) -/
example : decodeV1 [13, 0, 8, 1, 0, 0, 39, 1, 21, 39, 1] =
      some [⟨0, 13, [8]⟩, ⟨3, 1, [0]⟩, ⟨6, 39, [1]⟩, ⟨8, 21, []⟩, ⟨9, 39, [1]⟩] ∧
    WF1 [⟨0, 13, [8]⟩, ⟨3, 1, [0]⟩, ⟨6, 39, [1]⟩, ⟨8, 21, []⟩, ⟨9, 39, [1]⟩] :=
  ⟨by decide, ⟨by decide, ⟨[⟨0, 13, [8]⟩, ⟨3, 1, [0]⟩, ⟨6, 39, [1]⟩, ⟨8, 21, []⟩], ⟨9, 39, [1]⟩, rfl, rfl⟩⟩⟩

end UgoVerif.VM.Reloc

import UgoVerif.Proofs.RelocMain
import UgoVerif.Proofs.RelocConv
/-
  The instance of the relocation parameters for the version-1 converter: source program = the
  functions in the version-1 layout, target program = each function through `convFn`, offset map
  `newOff`, instruction offsets = those of the version-1 decoding.
-/
namespace UgoVerif.VM.Reloc
open UgoVerif UgoVerif.Go UgoVerif.VM
open UgoVerif.Model.Bytecode UgoVerif.Model.V1

/-- `convCompFuncV1ToV2` on one function of the VM model (fields other than the instructions are
    untouched; a stream the converter rejects is left as it is) -/
def convCode (c : Code) : Code :=
  match convFn c.insts.toList [] with
  | .ok (out, _) => { c with insts := out.toArray }
  | _ => c

/-- `convBytecodeV1ToV2` on the functions of a program -/
def convCodes (cs : Array Code) : Array Code := cs.map convCode

def convParams (cs : Array Code) : Params :=
  { wide := false, cs := cs, ct := convCodes cs,
    Φ := fun k => newOff (cs[k]!).insts.toList,
    BB := fun k o => ∃ is, decodeV1 (cs[k]!).insts.toList = some is ∧ ∃ x ∈ is, x.off = o }

/-- every function of the version-1 program decodes and is well formed (`WF1`: jump / try operands
    are instruction offsets, the last instruction is RETURN) -/
def WFProg (cs : Array Code) : Prop :=
  ∀ k, k < cs.size → ∃ is, decodeV1 (cs[k]!).insts.toList = some is ∧ WF1 is

theorem convCode_fields (c : Code) : (convCode c).numParams = c.numParams ∧ (convCode c).numLocals = c.numLocals ∧
    (convCode c).variadic = c.variadic := by
  unfold convCode; split <;> exact ⟨rfl, rfl, rfl⟩

theorem convCodes_get (cs : Array Code) (k : Nat) :
    (convCodes cs)[k]! = if k < cs.size then convCode cs[k]! else default := by
  unfold convCodes
  by_cases hk : k < cs.size
  · simp [hk]
  · simp [hk]

theorem convCodes_field {α} (f : Code → α) (hf : ∀ c, f (convCode c) = f c) (cs : Array Code) (k : Nat) :
    f (convCodes cs)[k]! = f cs[k]! := by
  rw [convCodes_get]
  split
  · exact hf _
  · next hk => rw [show cs[k]! = default by simp [hk]]

theorem convParams_OK (cs : Array Code) (h : WFProg cs) : (convParams cs).OK := by
  refine ⟨by simp [convParams, convCodes], convCodes_field (·.numParams) (fun c => (convCode_fields c).1) cs,
    convCodes_field (·.numLocals) (fun c => (convCode_fields c).2.1) cs,
    convCodes_field (·.variadic) (fun c => (convCode_fields c).2.2) cs, ?_⟩
  · intro c hc
    obtain ⟨is, hd, hwf⟩ := h c hc
    obtain ⟨out, m, hcv, hd2, _⟩ := Props.C11.conv_decodes (cs[c]!).insts.toList [] is hd
    have hrel := codeRel_of_dec _ out _ (Props.C11.newOff_strict_mono _) (Props.C11.newOff_zero _) is hd hd2 hwf
    have hB : (convParams cs).BB c = fun o => ∃ x ∈ is, x.off = o := by
      funext o
      apply propext
      constructor
      · rintro ⟨is', hd', hx⟩
        rw [hd] at hd'; cases hd'; exact hx
      · intro hx; exact ⟨is, hd, hx⟩
    have hT : ((convParams cs).ct[c]!).insts = out.toArray := by
      show ((convCodes cs)[c]!).insts = _
      rw [convCodes_get, if_pos (show c < cs.size from hc)]
      unfold convCode
      rw [hcv]
    show CodeRel false (newOff (cs[c]!).insts.toList) ((convParams cs).BB c) (cs[c]!).insts ((convParams cs).ct[c]!).insts
    rw [hB, hT]
    simpa using hrel

theorem decode_first (ins : Bytes) (is : List Instr) (hd : decodeV1 ins = some is) (hne : is ≠ []) :
    ∃ x ∈ is, x.off = 0 := by
  cases is with
  | nil => exact absurd rfl hne
  | cons x xs => exact ⟨x, List.mem_cons_self, (UgoVerif.Proofs.V1.Dec1.of_aux hd).head_off⟩

theorem convParams_entry (cs : Array Code) (h : WFProg cs) (k : Nat) (hk : k < cs.size) : (convParams cs).Entry k := by
  obtain ⟨is, hd, hwf⟩ := h k hk
  refine ⟨hk, ⟨is, hd, ?_⟩, Props.C11.newOff_zero _⟩
  apply decode_first _ is hd
  obtain ⟨pre, x, hx, _⟩ := hwf.last
  rw [hx]; simp

end UgoVerif.VM.Reloc

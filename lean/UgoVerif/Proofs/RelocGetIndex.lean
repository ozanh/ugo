import UgoVerif.Proofs.RelocOps
/-
  Relocation relation: `OpGetIndex` (a loop with an early `return` out of the opcode function).
-/
namespace UgoVerif.VM.Reloc
open UgoVerif UgoVerif.Go UgoVerif.VM

namespace RelQ
variable {A A' E : State → State → Prop}

theorem or_pre {α β} {Q : α → β → State → State → Prop} {m₁ : M α} {m₂ : M β}
    (h : RelQ A Q E m₁ m₂) (h' : RelQ A' Q E m₁ m₂) : RelQ (fun s t => A s t ∨ A' s t) Q E m₁ m₂ :=
  RelQ.mk' (fun s t hA => hA.elim (h.run s t) (h'.run s t))

theorem forIn_list {α β} (l : List α) (f : α → β → M (ForInStep β))
    (Inv D : β → State → State → Prop)
    (hf : ∀ a b, RelQ (Inv b)
      (fun x y s t => x = y ∧ match x with | .yield b' => Inv b' s t | .done b' => D b' s t) E (f a b) (f a b)) :
    ∀ init, RelQ (Inv init) (fun x y s t => x = y ∧ (Inv x s t ∨ D x s t)) E (forIn l init f) (forIn l init f) := by
  induction l with
  | nil => intro init; exact RelQ.pure (fun s t h => ⟨rfl, Or.inl h⟩)
  | cons a as ih =>
    intro init
    rw [List.forIn_cons]
    refine RelQ.bindQ (hf a init) ?_
    intro x y
    refine RelQ.pre_and ?_
    intro hxy
    subst hxy
    cases x with
    | done b => exact RelQ.pure (fun s t h => ⟨rfl, Or.inr h⟩)
    | yield b => exact ih b

theorem forIn_range {β} (r : Std.Legacy.Range) (f : Nat → β → M (ForInStep β))
    (Inv D : β → State → State → Prop)
    (hf : ∀ a b, RelQ (Inv b)
      (fun x y s t => x = y ∧ match x with | .yield b' => Inv b' s t | .done b' => D b' s t) E (f a b) (f a b))
    (init : β) :
    RelQ (Inv init) (fun x y s t => x = y ∧ (Inv x s t ∨ D x s t)) E (forIn r init f) (forIn r init f) := by
  rw [Std.Legacy.Range.forIn_eq_forIn_range']
  exact forIn_list _ _ Inv D hf init

end RelQ

theorem rel_execGetIndex {P : Params} {ci : Nat → Nat} {c o : Nat}
    (hw : Win (P.cs[c]!).insts (P.ct[c]!).insts (P.Φ c) o 1) (hnext : Next P c o 1) :
    OpRel P ci c o execGetIndex execGetIndex := by
  unfold execGetIndex
  refine RelQ.bindK (rel_opnd1 hw 1 (by decide)) fun n => ?_
  refine RelQ.bindK rel_getSp fun sp => ?_
  refine RelQ.bindK (rel_stackGet _) fun target => ?_
  refine RelQ.bindQ
    (RelQ.forIn_range _ _
      (fun b s t => b.1 = none ∧ R P ci c (Iat P c o) s t)
      (fun b s t => ∃ ctl, b.1 = some ctl ∧ RM P s t ∧ (ctl = .next → RB P s t)) ?_ _
      |>.pre (fun s t h => ⟨rfl, h⟩)) ?_
  ·
    intro k b
    refine RelQ.pre_and ?_
    intro hb
    refine RelQ.bindK (rel_stackGet _) fun index => ?_
    refine RelQ.bindK (rel_stackSet _ _) fun _ => ?_
    refine RelQ.bindK (rel_of_data (CompSim.ho_vIndexGet _ _)) fun r => ?_
    cases r with
    | error e =>
      refine RelQ.bindK (by rlc) fun e' => ?_
      refine RelQ.bindQ (rel_failWith_R e') ?_
      intro x y
      exact RelQ.pure (fun s t h => ⟨by rw [h.1], x, rfl, h.2⟩)
    | ok v =>
      exact RelQ.pure (fun s t h => ⟨rfl, rfl, h⟩)
  ·
    intro x y
    refine RelQ.pre_and ?_
    intro hxy
    subst hxy
    refine RelQ.or_pre (RelQ.pre_and ?_) ?_
    · intro hx
      rw [hx]
      dsimp only
      rlo
    · apply RelQ.mk'
      rintro s t ⟨ctl, hx, h⟩
      rw [hx]
      exact ⟨rfl, h⟩

end UgoVerif.VM.Reloc

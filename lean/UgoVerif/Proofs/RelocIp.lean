import UgoVerif.Proofs.RelocPrims
/-
  Relocation relation: where `ip` matters.  An opcode function starts inside the instruction at `o` (`Iat`), reads
  its operands inside the window `CodeRel` gives for an instruction that is not re-encoded, advances or sets `ip`
  and ends at an instruction boundary (`Ibnd`; `CtlPost`).  The walk `rlo` through such a function.
-/
namespace UgoVerif.VM.Reloc
open UgoVerif UgoVerif.Go UgoVerif.VM

def CtlPost (P : Params) : Ctl → Ctl → State → State → Prop :=
  fun a b s t => a = b ∧ RM P s t ∧ (a = .next → RB P s t)

abbrev OpRel (P : Params) (ci : Nat → Nat) (c o : Nat) (m₁ m₂ : M Ctl) : Prop :=
  RelQ (R P ci c (Iat P c o)) (CtlPost P) (RM P) m₁ m₂

variable {P : Params} {ci : Nat → Nat} {c : Nat} {I : Int → Int → Prop}

@[rel_keep] theorem ctl_next_RB : RelQ (RB P) (CtlPost P) (RM P) (pure Ctl.next) (pure Ctl.next) :=
  RelQ.pure (fun _ _ h => ⟨rfl, h.toRM, fun _ => h⟩)

@[rel_keep] theorem ctl_ret : RelQ (R P ci c I) (CtlPost P) (RM P) (pure Ctl.ret) (pure Ctl.ret) :=
  RelQ.pure (fun s t h => ⟨rfl, h.toRM, fun e => by cases e⟩)

theorem ctl_ret_RM : RelQ (RM P) (CtlPost P) (RM P) (pure Ctl.ret) (pure Ctl.ret) :=
  RelQ.pure (fun s t h => ⟨rfl, h, fun e => by cases e⟩)

@[rel_keep] theorem ctl_next_bnd {o : Nat} :
    RelQ (R P ci c (Ibnd P c o)) (CtlPost P) (RM P) (pure Ctl.next) (pure Ctl.next) :=
  ctl_next_RB.pre fun _ _ h => ⟨ci, c, o, h⟩

@[rel_keep] theorem relq_panic {α β} {Q : α → β → State → State → Prop} (m : String) :
    RelQ (R P ci c I) Q (RM P) (VM.panic m) (VM.panic m) := RelQ.panic m fun _ _ => R.toRM

@[rel_keep] theorem relq_unsupported {α β} {Q : α → β → State → State → Prop} (m : String) :
    RelQ (R P ci c I) Q (RM P) (VM.unsupported m) (VM.unsupported m) := RelQ.unsupported m fun _ _ => R.toRM

theorem relq_getS_bind {α β} {Q : α → β → State → State → Prop} {f₁ : State → M α} {f₂ : State → M β}
    (h : ∀ a b, R P ci c I a b → RelQ (R P ci c I) Q (RM P) (f₁ a) (f₂ b)) :
    RelQ (R P ci c I) Q (RM P) (getS >>= f₁) (getS >>= f₂) :=
  RelQ.bind rel_getS h

theorem relq_curFrame_bind {α β} {Q : α → β → State → State → Prop} {f₁ : Frame → M α} {f₂ : Frame → M β}
    (h : ∀ f g, FrRel (P.Φ c) (P.BB c) False f g → RelQ (R P ci c I) Q (RM P) (f₁ f) (f₂ g)) :
    RelQ (R P ci c I) Q (RM P) (curFrame >>= f₁) (curFrame >>= f₂) :=
  RelQ.bind rel_curFrame h

theorem exec_curFrame (s : State) : exec curFrame s = (.ok (s.frames[s.curFrame]!), s) := rfl

theorem curCode_rel {s t : State} (h : R P ci c I s t) :
    (exec curCode s = (.ok (P.cs[c]!), s) ∧ exec curCode t = (.ok (P.ct[c]!), t) ∧ P.Entry c) ∨
    (∃ e, exec curCode s = (.error e, s) ∧ exec curCode t = (.error e, t)) := by
  rw [show exec curCode s = _ from Proofs.Fetch.exec_curCode s, show exec curCode t = _ from Proofs.Fetch.exec_curCode t]
  have hf := h.frames s.curFrame h.cur
  rw [h.curFrame, hf.fn, h.heap]
  cases hfn : (s.frames[s.curFrame]!).fn with
  | none => exact Or.inr ⟨_, rfl, rfl⟩
  | some a =>
    simp only
    cases hc : s.heap[a]? with
    | none => exact Or.inr ⟨_, rfl, rfl⟩
    | some x =>
      cases x with
      | fn k fr =>
        have := ((h.code s.curFrame (Nat.le_refl _) a hfn).2 k fr hc).1
        rw [h.curc] at this
        have hent := h.fnok a k fr hc
        subst this
        simp only [h.codesS, h.codesT]
        exact Or.inl ⟨by first | rfl | trivial, by first | rfl | trivial, hent⟩
      | _ => exact Or.inr ⟨_, rfl, rfl⟩

theorem exec_instAt_ok {s : State} {code : Code} (hc : exec curCode s = (.ok code, s)) (i : Int) (n : Nat)
    (hi : i = n) (hn : n < code.insts.size) : exec (instAt i) s = (.ok (code.insts[n]!).toNat, s) :=
  Proofs.Fetch.exec_instAt_ok hc i n hi hn

theorem exec_instAt_err {s : State} {e : Exc} (hc : exec curCode s = (.error e, s)) (i : Int) :
    exec (instAt i) s = (.error e, s) := Proofs.Fetch.exec_instAt_err hc i

theorem exec_opnd1_ok {s : State} {code : Code} (hc : exec curCode s = (.ok code, s)) (o : Nat) (hip : s.ip = o)
    (k : Int) (kn : Nat) (hk : k = kn) (hn : o + kn < code.insts.size) :
    exec (opnd1 k) s = (.ok (code.insts[o + kn]!).toNat, s) := Proofs.Fetch.exec_opnd1_ok hc o hip k kn hk hn

theorem exec_opnd1_err {s : State} {e : Exc} (hc : exec curCode s = (.error e, s)) (k : Int) :
    exec (opnd1 k) s = (.error e, s) := (Proofs.Fetch.exec_opnd_err hc k).1

theorem exec_opnd2_ok {s : State} {code : Code} (hc : exec curCode s = (.ok code, s)) (o : Nat) (hip : s.ip = o)
    (k : Int) (kn : Nat) (hk : k = kn) (hn : o + kn + 1 < code.insts.size) :
    exec (opnd2 k) s = (.ok (rd2 code.insts (o + kn)), s) := Proofs.Fetch.exec_opnd2_ok hc o hip k kn hk hn

theorem exec_opnd2_err {s : State} {e : Exc} (hc : exec curCode s = (.error e, s)) (k : Int) :
    exec (opnd2 k) s = (.error e, s) := (Proofs.Fetch.exec_opnd_err hc k).2.1

theorem exec_opnd4_ok {s : State} {code : Code} (hc : exec curCode s = (.ok code, s)) (o : Nat) (hip : s.ip = o)
    (k : Int) (kn : Nat) (hk : k = kn) (hn : o + kn + 3 < code.insts.size) :
    exec (opnd4 k) s = (.ok (rd4 code.insts (o + kn)), s) := Proofs.Fetch.exec_opnd4_ok hc o hip k kn hk hn

theorem exec_opnd4_err {s : State} {e : Exc} (hc : exec curCode s = (.error e, s)) (k : Int) :
    exec (opnd4 k) s = (.error e, s) := (Proofs.Fetch.exec_opnd_err hc k).2.2

theorem rel_opnd1 {o w : Nat} (hw : Win (P.cs[c]!).insts (P.ct[c]!).insts (P.Φ c) o w) (k : Int)
    (hk : 0 ≤ k ∧ k ≤ w) :
    RelE (R P ci c (Iat P c o)) (R P ci c (Iat P c o)) (RM P) Eq (opnd1 k) (opnd1 k) := by
  obtain ⟨kn, rfl⟩ := Int.eq_ofNat_of_zero_le hk.1
  apply RelE.mk'
  intro s t h
  rcases curCode_rel h with ⟨h1, h2, _⟩ | ⟨e, h1, h2⟩
  · rw [exec_opnd1_ok h1 o h.ip.2.1 kn kn rfl (by have := hw.s; omega),
      exec_opnd1_ok h2 (P.Φ c o) h.ip.2.2 kn kn rfl (by have := hw.t; omega)]
    exact ⟨by rw [hw.eq kn (by omega)], h⟩
  · rw [exec_opnd1_err h1, exec_opnd1_err h2]
    exact ⟨rfl, h.toRM⟩

theorem rel_opnd2 {o w : Nat} (hw : Win (P.cs[c]!).insts (P.ct[c]!).insts (P.Φ c) o w) (k : Int)
    (hk : 0 ≤ k ∧ k + 1 ≤ w) :
    RelE (R P ci c (Iat P c o)) (R P ci c (Iat P c o)) (RM P) Eq (opnd2 k) (opnd2 k) := by
  obtain ⟨kn, rfl⟩ := Int.eq_ofNat_of_zero_le hk.1
  apply RelE.mk'
  intro s t h
  rcases curCode_rel h with ⟨h1, h2, _⟩ | ⟨e, h1, h2⟩
  · rw [exec_opnd2_ok h1 o h.ip.2.1 kn kn rfl (by have := hw.s; omega),
      exec_opnd2_ok h2 (P.Φ c o) h.ip.2.2 kn kn rfl (by have := hw.t; omega)]
    refine ⟨?_, h⟩
    have e1 := hw.eq kn (by omega)
    have e2 := hw.eq (kn + 1) (by omega)
    simp only [rd2, ← Nat.add_assoc] at e1 e2 ⊢
    rw [e1, e2]
  · rw [exec_opnd2_err h1, exec_opnd2_err h2]
    exact ⟨rfl, h.toRM⟩

abbrev Next (P : Params) (c o w : Nat) : Prop := P.BB c (o + w + 1) ∧ P.Φ c (o + w + 1) = P.Φ c o + w + 1

/-- `nn` bytes of operands in the source layout, `mm` in the target's -/
theorem rel_bumpW {o : Nat} (n m : Int) {nn mm : Nat} (hB : P.BB c (o + nn + 1))
    (hΦ : P.Φ c (o + nn + 1) = P.Φ c o + mm + 1) (hn : n = nn) (hm : m = mm) :
    RelE (R P ci c (Iat P c o)) (R P ci c (Ibnd P c (o + nn + 1))) (RM P) Eq (bumpIp n) (bumpIp m) := by
  apply RelE.mk'
  intro s t h
  rw [exec_bumpIp, exec_bumpIp]
  refine ⟨rfl, { h with ip := ⟨hB, ?_, ?_⟩ }⟩
  · show s.ip + n + 1 = ((o + nn + 1 : Nat) : Int)
    rw [h.ip.2.1, hn]; simp
  · show t.ip + m + 1 = ((P.Φ c (o + nn + 1) : Nat) : Int)
    rw [h.ip.2.2, hm, hΦ]; simp

theorem rel_bump {o : Nat} (n : Int) {nn : Nat} (hnext : Next P c o nn) (hn : n = nn) :
    RelE (R P ci c (Iat P c o)) (R P ci c (Ibnd P c (o + nn + 1))) (RM P) Eq (bumpIp n) (bumpIp n) :=
  rel_bumpW n n hnext.1 hnext.2 hn hn

theorem relq_bump {o : Nat} {n : Int} {nn : Nat} {α β} {Q : α → β → State → State → Prop} {f₁ : Unit → M α}
    {f₂ : Unit → M β} (hnext : Next P c o nn) (hn : n = nn)
    (h : ∀ u, RelQ (R P ci c (Ibnd P c (o + nn + 1))) Q (RM P) (f₁ u) (f₂ u)) :
    RelQ (R P ci c (Iat P c o)) Q (RM P) (bumpIp n >>= f₁) (bumpIp n >>= f₂) :=
  RelQ.bindEq (rel_bump n hnext hn) h

theorem rel_bumpIp_next {o : Nat} (n : Int) (nn : Nat) (hn : n = nn) (hnext : Next P c o nn) :
    RelE (R P ci c (Iat P c o)) (RB P) (RM P) Eq (bumpIp n) (bumpIp n) :=
  (rel_bump n hnext hn).post fun _ _ h => ⟨ci, c, _, h⟩

/-- an instruction without operands: falling out of the `switch` is at the next boundary already -/
theorem at_to_RB {o : Nat} (hnext : Next P c o 0) {s t : State}
    (h : R P ci c (Iat P c o) s t) : RB P s t := by
  refine ⟨ci, c, o + 1, { h with ip := ⟨hnext.1, ?_, ?_⟩ }⟩
  · rw [h.ip.2.1]; simp
  · rw [h.ip.2.2, hnext.2]; simp

theorem ctl_next_at {o : Nat} (hnext : Next P c o 0) :
    RelQ (R P ci c (Iat P c o)) (CtlPost P) (RM P) (pure Ctl.next) (pure Ctl.next) :=
  RelQ.pure (fun _ _ h => ⟨rfl, h.toRM, fun _ => at_to_RB hnext h⟩)

theorem rel_setIp {I' : Int → Int → Prop} (a b : Int) (h' : I' a b) :
    RelE (R P ci c I) (R P ci c I') (RM P) Eq (setIp a) (setIp b) :=
  RelE.modS fun _ _ h => { h with ip := h' }

/-- `vm.ip = target - 1` with related targets: the boundary of the instruction at the target -/
theorem rel_setIp_bnd (a b : Int) (n : Nat) (hB : P.BB c n) (ha : a = n) (hb : b = P.Φ c n) :
    RelE (R P ci c I) (R P ci c (Ibnd P c n)) (RM P) Eq (setIp (a - 1)) (setIp (b - 1)) :=
  rel_setIp _ _ ⟨hB, by omega, by omega⟩

theorem rel_setIp_target (a b : Int) (n : Nat) (hB : P.BB c n) (ha : a = n) (hb : b = P.Φ c n) :
    RelE (R P ci c I) (RB P) (RM P) Eq (setIp (a - 1)) (setIp (b - 1)) :=
  (rel_setIp_bnd a b n hB ha hb).post fun _ _ h => ⟨ci, c, n, h⟩

section
variable {o : Nat}

theorem plain_facts (hcr : CodeRel P.wide (P.Φ c) (P.BB c) (P.cs[c]!).insts (P.ct[c]!).insts) (hB : P.BB c o)
    (op : Nat) (hop : (((P.cs[c]!).insts)[o]!).toNat = op) (w : Nat)
    (h : isJ op = false ∧ op ≠ OpReturn ∧ opW op = w) :
    Win (P.cs[c]!).insts (P.ct[c]!).insts (P.Φ c) o w ∧ Next P c o w := by
  subst hop
  obtain ⟨hj, hr, rfl⟩ := h
  obtain ⟨h1, h2⟩ := hcr.plain o hB hj
  exact ⟨h1, h2 hr⟩

theorem op_facts (hcr : CodeRel P.wide (P.Φ c) (P.BB c) (P.cs[c]!).insts (P.ct[c]!).insts) (hB : P.BB c o) :
    o < (P.cs[c]!).insts.size ∧ P.Φ c o < (P.ct[c]!).insts.size ∧
      ((P.ct[c]!).insts)[P.Φ c o]! = ((P.cs[c]!).insts)[o]! := by
  cases hj : isJ (((P.cs[c]!).insts)[o]!).toNat with
  | false =>
    obtain ⟨hw, _⟩ := hcr.plain o hB hj
    exact ⟨by have := hw.s; omega, by have := hw.t; omega, by simpa using hw.eq 0 (Nat.zero_le _)⟩
  | true =>
    by_cases ht : (((P.cs[c]!).insts)[o]!).toNat = OpSetupTry
    · obtain ⟨h1, h2, h3, _⟩ := hcr.try_ o hB ht
      exact ⟨by omega, by omega, h3⟩
    · obtain ⟨h1, h2, h3, _⟩ := hcr.jump o hB hj ht
      exact ⟨by omega, by omega, h3⟩

/-- Reading the opcode at the instruction offset `n`: both sides get the same byte, from the code of an
    enterable function.  The read leaves the states alone, so any precondition that implies `R` survives it. -/
theorem relq_instAt_bind {α β} {A : State → State → Prop} {Q : α → β → State → State → Prop} {f₁ : Nat → M α}
    {f₂ : Nat → M β} {n : Nat} {i j : Int} (hA : ∀ s t, A s t → R P ci c I s t)
    (hcr : CodeRel P.wide (P.Φ c) (P.BB c) (P.cs[c]!).insts (P.ct[c]!).insts) (hB : P.BB c n)
    (hi : i = n) (hj : j = P.Φ c n)
    (hf : P.Entry c → RelQ A Q (RM P) (f₁ (((P.cs[c]!).insts)[n]!).toNat) (f₂ (((P.cs[c]!).insts)[n]!).toNat)) :
    RelQ A Q (RM P) (instAt i >>= f₁) (instAt j >>= f₂) := by
  apply RelQ.mk'
  intro s t hst
  have h := hA s t hst
  rw [exec_bind, exec_bind]
  rcases curCode_rel h with ⟨h1, h2, hent⟩ | ⟨e, h1, h2⟩
  · obtain ⟨b1, b2, b3⟩ := op_facts hcr hB
    rw [exec_instAt_ok h1 i n hi b1, exec_instAt_ok h2 j (P.Φ c n) hj b2, b3]
    exact (hf hent).run s t hst
  · rw [exec_instAt_err h1, exec_instAt_err h2]
    exact ⟨rfl, h.toRM⟩

theorem rel_getIp_at {o : Nat} :
    RelE (R P ci c (Iat P c o)) (R P ci c (Iat P c o)) (RM P) (fun a b => a = (o : Int) ∧ b = (P.Φ c o : Int))
      getIp getIp := by
  apply RelE.mk'
  intro s t h
  rw [exec_getIp, exec_getIp]
  exact ⟨⟨h.ip.2.1, h.ip.2.2⟩, h⟩

end

/-- `rlc` for an opcode function, started inside the instruction at `o` (`Iat`).  Its operands are read in the
    window `hw`; `bumpIp` over them leaves the boundary of the next instruction (`hnext`), where the same
    lemmas about data apply; `failWith` is `rel_failWith_R` (RelocThrow); the re-encoded jumps read and set
    their target by `hjt`, skip it by `hjb`. -/
syntax "rlo" : tactic
set_option hygiene false in
macro_rules | `(tactic| rlo) => `(tactic|
  repeat (first
    | ((with_reducible apply relq_bump hnext); decide; intro _)
    | (with_reducible refine RelQ.bind hjt ?_; rintro a__ b__ ⟨n__, hn__, ha__, hb__⟩;
       refine RelQ.bind (rel_setIp_target a__ b__ n__ hn__ ha__ hb__) ?_; intro _ _ _)
    | (with_reducible refine RelQ.bind hjb ?_; intro _ _ _)
    | (with_reducible apply relq_getS_bind; intro a__ b__ hab__;
       simp only [hab__.heap, hab__.globals, hab__.modules, hab__.consts, hab__.stack, hab__.sp,
         hab__.frameIndex, hab__.err]; clear hab__; clear b__)
    | (with_reducible apply relq_curFrame_bind; intro f__ g__ hfg__;
       simp only [hfg__.fn, hfg__.free, hfg__.bp, hfg__.discard]; clear hfg__; clear g__)
    | ((with_reducible refine RelQ.bindK ?_ fun _ => ?_); (first | focus (simp only [rel_keep]; done) | skip))
    | with_reducible apply RelQ.ite
    | (with_reducible apply ctl_next_at; exact hnext)
    | with_reducible apply rel_failWith_R
    | ((with_reducible apply rel_opnd1 hw); decide)
    | ((with_reducible apply rel_opnd2 hw); decide)
    | rlc_step))

end UgoVerif.VM.Reloc

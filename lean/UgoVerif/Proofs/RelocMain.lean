import UgoVerif.Proofs.RelocRun
/-
  Relocation relation: the prologue of `Run` on two new VMs, and the run-level theorem `vm_reloc`.  `D` (the same
  data, the two programs, no frame in use) is a `PreRel`, so `initLocals` is the walk of VMLive (`rel_initLocals`); the
  last part of the prologue is read off its closed form (`exec_prologueB`).
-/
namespace UgoVerif.VM.Reloc
open UgoVerif UgoVerif.Go UgoVerif.VM

variable {P : Params}

/-- two VMs before `Run`: same data, code `P.cs` / `P.ct`, no frame in use; `ip`, `frameIndex`,
    `curFrame` are arbitrary (the prologue sets them) -/
structure D (P : Params) (s t : State) : Prop where
  stack : t.stack = s.stack
  sp : t.sp = s.sp
  heap : t.heap = s.heap
  codesS : s.codes = P.cs
  codesT : t.codes = P.ct
  consts : t.consts = s.consts
  mainFn : t.mainFn = s.mainFn
  numModules : t.numModules = s.numModules
  globals : t.globals = s.globals
  modules : t.modules = s.modules
  err : t.err = s.err
  abort : t.abort = s.abort
  steps : t.steps = s.steps
  traceOn : t.traceOn = s.traceOn
  noPanic : t.noPanic = s.noPanic
  framesS : s.frames = emptyFrames
  framesT : t.frames = emptyFrames
  fnok : ∀ (a : Nat) k fr, s.heap[a]? = some (Cell.fn k fr) → P.Entry k

instance : PreRel (D P) where
  heap h := h.heap
  heapStep h hs := { h with
    heap := rfl
    fnok := fun a k fr e => by
      obtain ⟨a', fr', e'⟩ := hs.2.1 a k fr e
      exact h.fnok a' k fr' e' }
  stackSet {s t} i v h := { h with stack := by show t.stack.set! i v = s.stack.set! i v; rw [h.stack] }

theorem relD_prologueA (g : V) {s t : State} (h : D P s t) :
    SameEnd (D P) (exec (prologueA g) s) (exec (prologueA g) t) := by
  refine Rel2.sameEnd ?_ h
  unfold prologueA
  refine Rel2.bind (VR := Eq) (B := D P) (Rel2.modS fun s t h => { h with err := rfl, abort := rfl }) fun _ _ _ => ?_
  refine Rel2.bindEq (B := D P) ?_ fun _ => Rel2.modS fun s t h => { h with globals := rfl }
  cases g <;> first
    | exact Rel2.pure rfl
    | exact Rel2.bindEq (Rel2.of_data (CompSim.ho_alloc _)) fun _ => Rel2.pure rfl

theorem prologueB_RB (hP : P.OK) {s t : State} (h : D P s t) :
    SameEnd (RB P) (exec prologueB s) (exec prologueB t) := by
  rw [exec_prologueB, exec_prologueB, h.mainFn, h.heap]
  split <;> try exact rfl
  next k fr hc =>
  have hE := h.fnok _ k fr hc
  have hsz : (0 : Nat) < emptyFrames.size := by simp [emptyFrames, frameSize]
  refine ⟨rfl, fun _ => k, k, 0, ?_⟩
  exact {
    stack := h.stack, sp := by
      show ((t.codes[k]!).numLocals : Int) = ((s.codes[k]!).numLocals : Int)
      rw [h.codesS, h.codesT, hP.numLocals k], heap := h.heap,
    codesS := h.codesS, codesT := h.codesT, consts := h.consts, mainFn := h.mainFn,
    numModules := h.numModules, globals := h.globals,
    modules := by simp [h.modules, h.numModules], err := h.err, abort := h.abort, steps := h.steps,
    traceOn := h.traceOn, noPanic := h.noPanic,
    ip := ⟨hE.2.1, by simp, by simp [hE.2.2]⟩,
    curFrame := rfl, frameIndex := rfl, link := by simp,
    fsS := by simp [h.framesS, emptyFrames], fsT := by simp [h.framesT, emptyFrames],
    cur := by simp [frameSize], curc := rfl, cok := hE.1, cis := fun _ _ => hE.1,
    frames := by
      intro i hi
      show FrRel _ _ _ (_ : Frame) (_ : Frame)
      rw [entered_frames, entered_frames, h.framesS, h.framesT, h.mainFn]
      by_cases h0 : 0 = i
      · subst h0
        simp only [hsz, and_self, if_true]
        exact ⟨rfl, rfl, rfl, rfl, trivial, fun hf => absurd hf (Nat.lt_irrefl 0)⟩
      · simp only [h0, false_and, if_false, emptyFrames_get]
        exact ⟨rfl, rfl, rfl, rfl, trivial, fun hf => absurd hf (Nat.not_lt_zero _)⟩,
    code := by
      intro i hi a ha
      have hi0 : i = 0 := Nat.le_zero.mp hi
      subst hi0
      have ha' := ha
      change ((entered s k fr).frames[0]!).fn = some a at ha'
      rw [entered_frames, h.framesS] at ha'
      simp only [hsz, and_self, if_true] at ha'
      cases ha'
      refine ⟨?_, ?_⟩
      · rcases Nat.lt_or_ge s.mainFn s.heap.size with hl | hl
        · exact hl
        · rw [Array.getElem?_eq_none hl] at hc; cases hc
      · intro k' fr' hk
        have : s.heap[s.mainFn]? = some (Cell.fn k' fr') := hk
        rw [hc] at this
        cases this
        exact ⟨rfl, hE.1⟩,
    fnok := h.fnok }

theorem prologue_RB (hP : P.OK) (g : V) (args : List V) {s t : State} (h : D P s t) :
    SameEnd (RB P) (exec (prologue g args) s) (exec (prologue g args) t) := by
  rw [prologue_eq]
  refine SameEnd.bind (relD_prologueA g h) fun _ s1 t1 _ _ h1 => ?_
  refine SameEnd.bind (rel_initLocals args h1 h1.mainFn fun c => ?_) fun _ s2 t2 _ _ h2 => prologueB_RB hP h2
  rw [h1.codesS, h1.codesT]
  exact ⟨hP.numParams c, hP.numLocals c, hP.variadic c⟩

/-- two new VMs (`NewVM`) over the two programs -/
theorem D_new (P : Params) (heap : Array Cell) (consts : Array V) (mainFn : Addr) (nm : Nat)
    (hfn : ∀ (a : Nat) k fr, heap[a]? = some (Cell.fn k fr) → P.Entry k) :
    D P (newState P.cs heap consts mainFn nm) (newState P.ct heap consts mainFn nm) :=
  { stack := rfl, sp := rfl, heap := rfl, codesS := rfl, codesT := rfl, consts := rfl, mainFn := rfl,
    numModules := rfl, globals := rfl, modules := rfl, err := rfl, abort := rfl, steps := rfl, traceOn := rfl,
    noPanic := rfl, framesS := rfl, framesT := rfl, fnok := hfn }

/-- **Run-level relocation theorem for the VM model.**  `P` describes two programs: per function the
    source stream (layout `P.wide`), the target stream (current layout), the offset map and the
    instruction offsets, related by `CodeRel`.  From two VMs holding the same data (`D`), `Run` on the
    source VM and `VM.runFrom` (the VM model) on the target return the same outcome, for every fuel,
    globals and arguments, whether or not panics are recovered. -/
theorem vm_reloc (hP : P.OK) (F : FloatOps) (fuel : Nat) (g : V) (args : List V) {s0 t0 : State} (h : D P s0 t0) :
    (runFromW P.wide F fuel g args s0).1 = (runFrom F fuel g args t0).1 := by
  rw [← runFromG_step]
  exact (runRel (rel_step hP F)).run fuel g args s0 t0 (prologue_RB hP g args h)

end UgoVerif.VM.Reloc

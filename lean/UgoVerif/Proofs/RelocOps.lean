import UgoVerif.Proofs.RelocThrow
/-
  Relocation relation, opcode by opcode: the opcodes that are not re-encoded and touch neither
  frames nor handlers ("position independent": they read their operands inside the window of the
  instruction, work on data, advance `ip` over the operands), and the five re-encoded opcodes.
  A lemma of the first kind asks for the window of its operands (`hw`) and the boundary behind them (`hnext`),
  nothing else of the code; `plainOp` gets both from `CodeRel`.
-/
namespace UgoVerif.VM.Reloc
open UgoVerif UgoVerif.Go UgoVerif.VM

theorem rel_fnCode {P : Params} {ci : Nat → Nat} {c : Nat} {I : Int → Int → Prop} (fa : Addr) :
    RelE (R P ci c I) (R P ci c I) (RM P) (fun a b => a = b ∧ P.Entry a)
      (do match (← heapGet fa) with | .fn k _ => pure k | _ => unsupported "model: bad fn")
      (do match (← heapGet fa) with | .fn k _ => pure k | _ => unsupported "model: bad fn") := by
  refine RelE.bind (rel_heapGet fa) ?_
  rintro x y ⟨rfl, hx⟩
  cases x <;> first
    | exact RelE.unsupported _ (fun _ _ h => R.toRM h)
    | exact RelE.pure ⟨rfl, hx _ _ rfl⟩

section
variable {P : Params} {ci : Nat → Nat} {c o : Nat}
local notation "Op " m => OpRel P ci c o m m

section
variable (hnext : Next P c o 0)
include hnext

theorem rel_execTrue : Op execTrue := by unfold execTrue; rlo
theorem rel_execFalse : Op execFalse := by unfold execFalse; rlo
theorem rel_execNull : Op execNull := by unfold execNull; rlo
theorem rel_execPop : Op execPop := by unfold execPop; rlo
theorem rel_execNoOp : Op execNoOp := by unfold execNoOp; rlo
theorem rel_execSetIndex : Op execSetIndex := by unfold execSetIndex; rlo
theorem rel_execIterInit : Op execIterInit := by unfold execIterInit; rlo
theorem rel_execEqual (F : FloatOps) (op : Nat) : Op (execEqual F op) := by unfold execEqual; rlo
theorem rel_execIterNext (op : Nat) : Op (execIterNext op) := by unfold execIterNext; rlo

theorem rel_execSliceIndex : Op execSliceIndex := by
  unfold execSliceIndex
  refine RelQ.bindK rel_getSp fun sp => ?_
  refine RelQ.bindK (rel_stackGet _) fun obj => ?_
  refine RelQ.bindK (rel_stackGet _) fun left => ?_
  refine RelQ.bindK (rel_stackGet _) fun right => ?_
  -- the length of `obj` and the index conversion are values: as variables they are not split into cases
  lift_lets
  intro objlen conv
  clear_value objlen conv
  rlo

end

section
variable (hw : Win (P.cs[c]!).insts (P.ct[c]!).insts (P.Φ c) o 1) (hnext : Next P c o 1)
include hw hnext

theorem rel_execGetLocal : Op execGetLocal := by unfold execGetLocal; rlo
theorem rel_execSetLocal : Op execSetLocal := by unfold execSetLocal; rlo
theorem rel_execDefineLocal : Op execDefineLocal := by unfold execDefineLocal; rlo
theorem rel_execGetBuiltin : Op execGetBuiltin := by unfold execGetBuiltin; rlo
theorem rel_execGetFree : Op execGetFree := by unfold execGetFree; rlo
theorem rel_execSetFree : Op execSetFree := by unfold execSetFree; rlo
theorem rel_execGetLocalPtr : Op execGetLocalPtr := by unfold execGetLocalPtr; rlo
theorem rel_execGetFreePtr : Op execGetFreePtr := by unfold execGetFreePtr; rlo
theorem rel_execBinaryOp (F : FloatOps) : Op (execBinaryOp F) := by unfold execBinaryOp; rlo
theorem rel_execUnary (F : FloatOps) : Op (execUnary F) := by unfold execUnary; rlo

end

/-! `Copier.Copy()` (`copyV`) in OpStoreModule only pushes cells behind the heap; every function cell it pushes is a copy
  `.fn k free` of a function cell that was there already (`HeapStep.copy`, Frame.lean), so its code
  index `k` can be entered (`R.fnok`): `copyV` is a leaf of the walk like the other heap primitives. -/

def FnFrom (h h' : Array Cell) : Prop :=
  ∀ (a : Nat) k fr, h'[a]? = some (Cell.fn k fr) → ∃ (a' : Nat) (fr' : Option (List Addr)), h[a']? = some (Cell.fn k fr')

def FnSpec (f : Array Cell → V → Option (V × Array Cell)) : Prop :=
  ∀ h v v' h', f h v = some (v', h') → FnFrom h h'

theorem copyVal_fnFrom : ∀ fuel, FnSpec (copyVal fuel) :=
  fun fuel h v v' h' e => Cfi.copyVal_fnFrom fuel h v v' h' e

@[rel_keep] theorem rel_setModule {P : Params} {ci : Nat → Nat} {c : Nat} {I : Int → Int → Prop} (i : Nat) (v : V) :
    RelE (R P ci c I) (R P ci c I) (RM P) Eq
      (modS fun s => { s with modules := s.modules.set! i v })
      (modS fun s => { s with modules := s.modules.set! i v }) :=
  RelE.modS (fun s t h =>
    { h with modules := by show t.modules.set! i v = s.modules.set! i v; rw [h.modules] })

section
variable (hw : Win (P.cs[c]!).insts (P.ct[c]!).insts (P.Φ c) o 2) (hnext : Next P c o 2)
include hw hnext

theorem rel_execConstant : Op execConstant := by unfold execConstant; rlo
theorem rel_execGetGlobal : Op execGetGlobal := by unfold execGetGlobal; rlo
theorem rel_execSetGlobal : Op execSetGlobal := by unfold execSetGlobal; rlo
theorem rel_execArray : Op execArray := by unfold execArray; rlo
theorem rel_execMap : Op execMap := by unfold execMap; rlo
theorem rel_execStoreModule : Op execStoreModule := by unfold execStoreModule; rlo

end

theorem rel_execLoadModule (hw : Win (P.cs[c]!).insts (P.ct[c]!).insts (P.Φ c) o 4) (hnext : Next P c o 4) :
    Op execLoadModule := by unfold execLoadModule; rlo

theorem rel_execClosure (hw : Win (P.cs[c]!).insts (P.ct[c]!).insts (P.Φ c) o 3) (hnext : Next P c o 3) :
    Op execClosure := by
  unfold execClosure
  refine RelQ.bindK (rel_opnd2 hw 1 (by decide)) fun cidx => ?_
  refine RelQ.bindK (rel_constAt cidx) fun v => ?_
  refine RelQ.bindK (by rlc) fun fa => ?_
  refine RelQ.bindK (rel_opnd1 hw 3 (by decide)) fun numFree => ?_
  refine RelQ.bindK rel_getSp fun sp => ?_
  refine RelQ.bindK (by rlc) fun free => ?_
  refine RelQ.bindK (rel_setSp _) fun _ => ?_
  -- the new function cell gets the code index of an existing one, which can be entered
  refine RelQ.bind (rel_heapGet fa) ?_
  rintro x _ ⟨rfl, hx⟩
  cases x with
  | fn k fr =>
    simp only [pure_bind]
    refine RelQ.bindK (rel_alloc _ ?_) fun na => ?_
    · rintro _ _ ⟨⟩; exact hx _ _ rfl
    rlo
  | _ => exact relq_unsupported _

theorem rel_execUnknown (op : Nat) : OpRel P ci c o (execUnknown op) (execUnknown op) := by
  unfold execUnknown
  refine RelQ.bind (VR := Eq) (B := R P ci c (Iat P c o)) (RelE.modS (fun s t h => { h with err := rfl })) ?_
  intro _ _ _
  exact ctl_ret


theorem eq_of_beq_nat {a b : Nat} (h : (a == b) = true) : a = b := by simpa using h

/-- the instruction at `o` is the opcode `x`, which is not re-encoded and has `w` bytes of operands: its lemma gets
    their window and the boundary behind them from `CodeRel` -/
theorem plainOp (hcr : CodeRel P.wide (P.Φ c) (P.BB c) (P.cs[c]!).insts (P.ct[c]!).insts) (hB : P.BB c o)
    {op x : Nat} (hop : (((P.cs[c]!).insts)[o]!).toNat = op) (h : op = x) (w : Nat) {m₁ m₂ : M Ctl}
    (k : Win (P.cs[c]!).insts (P.ct[c]!).insts (P.Φ c) o w → Next P c o w → OpRel P ci c o m₁ m₂)
    (hd : isJ x = false ∧ x ≠ OpReturn ∧ opW x = w := by decide) : OpRel P ci c o m₁ m₂ :=
  have ⟨hw, hn⟩ := plain_facts hcr hB x (hop.trans h) w hd
  k hw hn

end

section
variable {P : Params} {ci : Nat → Nat} {c o : Nat}

/-- the operand of a jump: source `jw wide` bytes, target 4 bytes -/
theorem rel_opndJ (k : Int) (kn : Nat) (hk : k = kn) (k' : Int) (kn' : Nat) (hk' : k' = kn')
    (hs : o + kn + jw P.wide ≤ (P.cs[c]!).insts.size) (ht : P.Φ c o + kn' + 3 < (P.ct[c]!).insts.size) :
    RelE (R P ci c (Iat P c o)) (R P ci c (Iat P c o)) (RM P)
      (fun a b => a = rdJ P.wide (P.cs[c]!).insts (o + kn) ∧ b = rd4 (P.ct[c]!).insts (P.Φ c o + kn'))
      (opndJ P.wide k) (opnd4 k') := by
  apply RelE.mk'
  intro s t h
  rcases curCode_rel h with ⟨h1, h2, _⟩ | ⟨e, h1, h2⟩
  · rw [exec_opnd4_ok h2 (P.Φ c o) h.ip.2.2 k' kn' hk' ht]
    unfold opndJ rdJ
    cases hwd : P.wide with
    | true =>
      simp only [if_true]
      rw [exec_opnd4_ok h1 o h.ip.2.1 k kn hk (by simp [jw, hwd] at hs; omega)]
      exact ⟨⟨rfl, rfl⟩, h⟩
    | false =>
      simp only [Bool.false_eq_true, if_false]
      rw [exec_opnd2_ok h1 o h.ip.2.1 k kn hk (by simp [jw, hwd] at hs; omega)]
      exact ⟨⟨rfl, rfl⟩, h⟩
  · rw [exec_opnd4_err h2]
    have : exec (opndJ P.wide k) s = (.error e, s) := by
      unfold opndJ; split
      · exact exec_opnd4_err h1 k
      · exact exec_opnd2_err h1 k
    rw [this]
    exact ⟨rfl, h.toRM⟩

/-- a jump reads its target: an instruction offset on the source side, its image on the target side -/
abbrev JumpT (P : Params) (ci : Nat → Nat) (c o : Nat) : Prop :=
  RelE (R P ci c (Iat P c o)) (R P ci c (Iat P c o)) (RM P)
    (fun a b => ∃ n : Nat, P.BB c n ∧ a = (n : Int) ∧ b = ((P.Φ c n : Nat) : Int)) (jumpTargetW P.wide) jumpTarget
/-- a jump not taken skips its operand -/
abbrev JumpB (P : Params) (ci : Nat → Nat) (c o : Nat) : Prop :=
  RelE (R P ci c (Iat P c o)) (RB P) (RM P) Eq (bumpIp ((jw P.wide : Nat) : Int)) (bumpIp 4)

section
variable (hjt : JumpT P ci c o)
include hjt

theorem rel_execJump : OpRel P ci c o (execJumpW P.wide) execJump := by unfold execJumpW execJump; rlo

variable (hjb : JumpB P ci c o)
include hjb

theorem rel_execJumpFalsy : OpRel P ci c o (execJumpFalsyW P.wide) execJumpFalsy := by
  unfold execJumpFalsyW execJumpFalsy; rlo
theorem rel_execAndJump : OpRel P ci c o (execAndJumpW P.wide) execAndJump := by unfold execAndJumpW execAndJump; rlo
theorem rel_execOrJump : OpRel P ci c o (execOrJumpW P.wide) execOrJump := by unfold execOrJumpW execOrJump; rlo

end

/-- the instruction at `o` is the jump `x`: its lemma gets the read of the target and the skip from `CodeRel` -/
theorem jumpOp (hcr : CodeRel P.wide (P.Φ c) (P.BB c) (P.cs[c]!).insts (P.ct[c]!).insts) (hB : P.BB c o)
    {op x : Nat} (hop : (((P.cs[c]!).insts)[o]!).toNat = op) (h : op = x) {m₁ m₂ : M Ctl}
    (k : JumpT P ci c o → JumpB P ci c o → OpRel P ci c o m₁ m₂)
    (hd : isJ x = true ∧ x ≠ OpSetupTry := by decide) : OpRel P ci c o m₁ m₂ := by
  have hx := hop.trans h
  obtain ⟨h1, h2, _, h4, h5, h6, h7⟩ := hcr.jump o hB (hx ▸ hd.1) (hx ▸ hd.2)
  refine k ?_ ((rel_bumpW _ 4 h6 h7 rfl rfl).post fun _ _ h => ⟨ci, c, _, h⟩)
  unfold JumpT jumpTargetW jumpTarget
  refine RelE.bind (rel_opndJ 1 1 rfl 1 1 rfl (by omega) (by omega)) ?_
  rintro a b ⟨ha, hb⟩
  exact RelE.pure ⟨_, h4, by rw [ha], by rw [hb, h5]⟩

end

section
variable {P : Params} {ci : Nat → Nat} {c o : Nat}

theorem HsRel.getD {φ : Nat → Nat} {B : Nat → Prop} {l l' : Option (List Handler)} (h : HsRel φ B l l') :
    HLRel φ B (l.getD []) (l'.getD []) := by
  cases l <;> cases l' <;> simp_all [HsRel, HLRel]

theorem rel_execSetupTry (hcr : CodeRel P.wide (P.Φ c) (P.BB c) (P.cs[c]!).insts (P.ct[c]!).insts) (hB : P.BB c o)
    (hop : (((P.cs[c]!).insts)[o]!).toNat = OpSetupTry) :
    OpRel P ci c o (execSetupTryW P.wide) execSetupTry := by
  obtain ⟨h1, h2, _, h4, h5, h6, h7⟩ := hcr.try_ o hB hop
  unfold execSetupTryW execSetupTry
  refine RelQ.bind (rel_opndJ 1 1 rfl 1 1 rfl (by omega) (by omega)) ?_
  rintro a b ⟨ha, hb⟩
  refine RelQ.bind (rel_opndJ (1 + (jw P.wide : Nat)) (1 + jw P.wide) (by simp) 5 5 rfl (by omega) (by omega)) ?_
  rintro a' b' ⟨ha', hb'⟩
  apply RelQ.bindEq rel_getSp
  intro sp
  have hA : ARel (P.Φ c) (P.BB c) (a : Int) (b : Int) := by rw [ha, hb]; exact h4
  have hA' : ARel (P.Φ c) (P.BB c) (a' : Int) (b' : Int) := by
    rw [ha', hb', ← Nat.add_assoc]; exact h5
  refine RelQ.bind (VR := Eq) (rel_setCurFrame _ _ ?_ (fun fr => Or.inl rfl)) ?_
  · intro fr gr hfg
    refine { hfg with hs := ?_ }
    show HLRel _ _ _ _
    exact ⟨⟨rfl, rfl, hA, hA', Or.inl ⟨rfl, rfl⟩⟩, hfg.hs.getD⟩
  intro _ _ _
  exact RelQ.bind (VR := Eq) (rel_bumpW _ 8 h6 h7 rfl rfl) fun _ _ _ => ctl_next_bnd

end

end UgoVerif.VM.Reloc

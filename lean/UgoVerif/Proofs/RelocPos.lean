import UgoVerif.Props.C11
/-
  Source-map lookups agree across the v1 → v2 conversion (`hpos` of `C11_partial`).

  `srcPos_conv`: for a decodable version-1 stream whose source-map keys are instruction
  offsets (what the compiler emits: `SourceMap[len(instructions)] = pos` before each
  instruction), the converted source map answers `SourcePos` at the relocated offset like the
  original one at the original offset, for every offset (instruction offset or not).
-/
namespace UgoVerif.Proofs.RelocPos
open UgoVerif.Go UgoVerif.Model.Bytecode UgoVerif.Model.V1 UgoVerif.Spec.Reloc UgoVerif.Props.C11

theorem mem_of_lookup {sm : SrcMap} {k p : Nat} (h : sm.lookup k = some p) : (k, p) ∈ sm := by
  obtain ⟨l₁, l₂, rfl, _⟩ := List.lookup_eq_some_iff.mp h
  simp

/-- where every entry under the key `k` has the value `p`, the first one has -/
theorem lookup_of_mem {sm : SrcMap} {k p : Nat} (hm : (k, p) ∈ sm) (hf : ∀ q, (k, q) ∈ sm → q = p) :
    sm.lookup k = some p := by
  cases h : sm.lookup k with
  | none => exact absurd (List.lookup_eq_none_iff.mp h _ hm) (by simp)
  | some q => rw [hf q (mem_of_lookup h)]

/-- the source map the converter builds when it re-keys through `φ` -/
def rekey (φ : Nat → Nat) (sm : SrcMap) (is : List Instr) : SrcMap :=
  is.filterMap (fun x => (sm.lookup x.off).map (fun p => (φ x.off, p)))

theorem rekey_nil (φ : Nat → Nat) (sm : SrcMap) : rekey φ sm [] = [] := rfl

theorem mem_rekey {φ : Nat → Nat} {sm : SrcMap} {is : List Instr} {e : Nat × Nat} :
    e ∈ rekey φ sm is ↔ ∃ x ∈ is, e.1 = φ x.off ∧ sm.lookup x.off = some e.2 := by
  simp only [rekey, List.mem_filterMap, Option.map_eq_some_iff]
  constructor
  · rintro ⟨x, hx, q, hq, rfl⟩; exact ⟨x, hx, rfl, hq⟩
  · rintro ⟨x, hx, h1, hq⟩; exact ⟨x, hx, e.2, hq, by rw [← h1]⟩

/-- `φ` is injective, so the entries under one new key come from one old key: looking up is membership -/
theorem rekey_lookup (φ : Nat → Nat) (hinj : ∀ a b, φ a = φ b → a = b)
    (sm : SrcMap) (is : List Instr)
    (hkeys : ∀ k p, (k, p) ∈ sm → ∃ x ∈ is, x.off = k) (k : Nat) :
    (rekey φ sm is).lookup (φ k) = sm.lookup k := by
  cases hs : sm.lookup k with
  | some p =>
    obtain ⟨x, hx, rfl⟩ := hkeys k p (mem_of_lookup hs)
    refine lookup_of_mem (mem_rekey.mpr ⟨x, hx, rfl, hs⟩) fun q hq => ?_
    obtain ⟨y, _, h1, h2⟩ := mem_rekey.mp hq
    rw [← hinj _ _ h1, hs] at h2
    exact (Option.some.inj h2).symm
  | none =>
    refine List.lookup_eq_none_iff.mpr fun e he => ?_
    obtain ⟨x, _, h1, h2⟩ := mem_rekey.mp he
    rw [bne_iff_ne]
    intro h
    rw [← hinj _ _ (h.trans h1), hs] at h2
    cases h2

theorem rekey_lookup_none (φ : Nat → Nat) (sm : SrcMap) (is : List Instr) (j : Nat)
    (hj : ∀ k, j ≠ φ k) : (rekey φ sm is).lookup j = none :=
  List.lookup_eq_none_iff.mpr fun e he => by
    obtain ⟨x, _, h1, _⟩ := mem_rekey.mp he
    rw [bne_iff_ne, h1]
    exact hj _

theorem lt_of_mono_lt (φ : Nat → Nat) (hmono : ∀ a b, a < b → φ a < φ b) (a b : Nat)
    (h : φ a < φ b) : a < b := by
  rcases Nat.lt_trichotomy a b with hlt | heq | hgt
  · exact hlt
  · subst heq; omega
  · have := hmono b a hgt; omega

/-- `SourcePos` of a map re-keyed along a strictly monotone `φ` with `φ 0 = 0`: a query anywhere
    in `[φ o, φ (o+1))` answers like `sm` at `o`. -/
theorem srcPos_rekey_between (φ : Nat → Nat) (hmono : ∀ a b, a < b → φ a < φ b) (h0 : φ 0 = 0)
    (sm m : SrcMap) (h1 : ∀ k, m.lookup (φ k) = sm.lookup k)
    (h2 : ∀ j, (∀ k, j ≠ φ k) → m.lookup j = none) :
    ∀ j o, φ o ≤ j → j < φ (o + 1) → srcPos m j = srcPos sm o := by
  intro j
  induction j with
  | zero =>
    intro o ho _
    have ho0 : o = 0 := by
      cases o with
      | zero => rfl
      | succ o' => have := hmono 0 (o' + 1) (by omega); omega
    subst ho0
    have := h1 0
    rw [h0] at this
    simp only [srcPos]; exact this
  | succ j ih =>
    intro o ho hlt
    by_cases he : φ o = j + 1
    · cases o with
      | zero => omega
      | succ o' =>
        have hrec : srcPos m j = srcPos sm o' :=
          ih o' (by have := hmono o' (o' + 1) (by omega); omega) (by omega)
        have hl := h1 (o' + 1)
        rw [he] at hl
        simp only [srcPos, hl, hrec]
    · have hrec : srcPos m j = srcPos sm o := ih o (by omega) (by omega)
      have hn : m.lookup (j + 1) = none := by
        apply h2
        intro k hk
        have ha : o < k := lt_of_mono_lt φ hmono _ _ (by omega)
        have hb : k < o + 1 := lt_of_mono_lt φ hmono _ _ (by omega)
        omega
      simp only [srcPos, hn, hrec]

theorem srcPos_rekey (φ : Nat → Nat) (hmono : ∀ a b, a < b → φ a < φ b) (h0 : φ 0 = 0)
    (sm m : SrcMap) (h1 : ∀ k, m.lookup (φ k) = sm.lookup k)
    (h2 : ∀ j, (∀ k, j ≠ φ k) → m.lookup j = none) (o : Nat) :
    srcPos m (φ o) = srcPos sm o :=
  srcPos_rekey_between φ hmono h0 sm m h1 h2 (φ o) o (Nat.le_refl _) (hmono _ _ (Nat.lt_succ_self _))

theorem srcPos_conv (ins : Bytes) (sm : SrcMap) (is : List Instr) (hd : decodeV1 ins = some is)
    (hkeys : ∀ k p, (k, p) ∈ sm → ∃ x ∈ is, x.off = k)
    (out : Bytes) (m : SrcMap) (hc : convFn ins sm = .ok (out, m)) :
    ∀ o, srcPos m (newOff ins o) = srcPos sm o := by
  obtain ⟨out', m', hc', _, _, hm⟩ := conv_decodes ins sm is hd
  rw [hc] at hc'
  injection hc' with hc'
  injection hc' with _ hmm
  subst hmm
  intro o
  rcases hm with ⟨hm, hid⟩ | hm
  · rw [hm, hid]
  · have hmono := newOff_strict_mono ins
    have hinj := inj_of_mono _ hmono
    have hm' : m = rekey (newOff ins) sm is := hm
    rw [hm']
    exact srcPos_rekey (newOff ins) hmono (newOff_zero ins) sm _
      (rekey_lookup _ hinj sm is hkeys) (rekey_lookup_none _ sm is) o

/-- the hypotheses are satisfiable, on a stream where the converter does widen: a 2-byte jump
    operand becomes 4 bytes wide, the source-map key 6 moves to 8 -/
example :
    decodeV1 [13, 0, 8, 1, 0, 0, 39, 1, 21, 39, 1] =
      some [⟨0, 13, [8]⟩, ⟨3, 1, [0]⟩, ⟨6, 39, [1]⟩, ⟨8, 21, []⟩, ⟨9, 39, [1]⟩] ∧
    (∀ k p, (k, p) ∈ ([(0, 5), (6, 9)] : SrcMap) →
      ∃ x ∈ ([⟨0, 13, [8]⟩, ⟨3, 1, [0]⟩, ⟨6, 39, [1]⟩, ⟨8, 21, []⟩, ⟨9, 39, [1]⟩] : List Instr),
        x.off = k) ∧
    convFn [13, 0, 8, 1, 0, 0, 39, 1, 21, 39, 1] [(0, 5), (6, 9)] =
      .ok ([13, 0, 0, 0, 10, 1, 0, 0, 39, 1, 21, 39, 1], [(0, 5), (8, 9)]) := by
  refine ⟨by decide, ?_, by decide⟩
  intro k p h
  simp at h
  rcases h with ⟨rfl, rfl⟩ | ⟨rfl, rfl⟩ <;> simp

end UgoVerif.Proofs.RelocPos

import UgoVerif.Proofs.RelocRel
/-
  Relocation relation: what holds whatever `I` is.  The primitive accessors of `VM/Base.lean` / `VM/Step.lean`, the
  structural tactic `rlc`, and every function of the VM model that does not look at code offsets: for these the
  relation `R P ci c I` is an invariant.
-/
namespace UgoVerif.VM.Reloc
open UgoVerif UgoVerif.Go UgoVerif.VM

variable {P : Params} {ci : Nat → Nat} {c : Nat} {I : Int → Int → Prop}

@[rel_keep] theorem rel_panic {α β} {B} {VR : α → β → Prop} (m : String) :
    RelE (R P ci c I) B (RM P) VR (VM.panic m) (VM.panic m) := RelE.panic m fun _ _ => R.toRM

@[rel_keep] theorem rel_unsupported {α β} {B} {VR : α → β → Prop} (m : String) :
    RelE (R P ci c I) B (RM P) VR (VM.unsupported m) (VM.unsupported m) := RelE.unsupported m fun _ _ => R.toRM

@[rel_keep] theorem rel_stackGet (i : Int) : RelE (R P ci c I) (R P ci c I) (RM P) Eq (stackGet i) (stackGet i) := by
  apply RelE.mk'
  intro s t h
  rw [exec_stackGet, exec_stackGet]
  by_cases hb : (decide (i < 0) || decide (i ≥ (stackSize : Int))) = true
  · rw [if_pos hb, if_pos hb]; exact ⟨rfl, h.toRM⟩
  · rw [if_neg hb, if_neg hb]; exact ⟨by rw [h.stack], h⟩

@[rel_keep] theorem rel_stackSet (i : Int) (v : V) : RelE (R P ci c I) (R P ci c I) (RM P) Eq (stackSet i v) (stackSet i v) :=
  RelE.ite (rel_panic _) (RelE.modS fun s t h =>
    { h with stack := by show t.stack.set! _ _ = s.stack.set! _ _; rw [h.stack] })

@[rel_keep] theorem rel_getSp : RelE (R P ci c I) (R P ci c I) (RM P) Eq getSp getSp := by
  apply RelE.mk'
  intro s t h
  exact ⟨h.sp.symm, h⟩

@[rel_keep] theorem rel_setSp (v : Int) : RelE (R P ci c I) (R P ci c I) (RM P) Eq (setSp v) (setSp v) :=
  RelE.modS fun _ _ h => { h with sp := rfl }

theorem exec_constAt (i : Nat) (s : State) : exec (constAt i) s =
    match s.consts[i]? with
    | some v => (.ok v, s)
    | none => (.error (.panic s!"runtime error: index out of range [{i}] with length {s.consts.size}"), s) :=
  Proofs.Fetch.exec_constAt i s

@[rel_keep] theorem rel_constAt (i : Nat) : RelE (R P ci c I) (R P ci c I) (RM P) Eq (constAt i) (constAt i) := by
  apply RelE.mk'
  intro s t h
  rw [exec_constAt, exec_constAt, h.consts]
  cases s.consts[i]? with
  | none => exact ⟨rfl, h.toRM⟩
  | some v => exact ⟨rfl, h⟩

@[rel_keep] theorem rel_stackSlice (lo hi : Int) : RelE (R P ci c I) (R P ci c I) (RM P) Eq (stackSlice lo hi) (stackSlice lo hi) := by
  apply RelE.mk'
  intro s t h
  unfold stackSlice
  by_cases hb : (decide (lo < 0) || decide (hi > (stackSize : Int)) || decide (lo > hi)) = true
  · rw [if_pos hb]; exact ⟨rfl, h.toRM⟩
  · rw [if_neg hb]
    simp only [exec_bind, exec_getS, exec_pure, h.stack]
    exact ⟨trivial, h⟩

theorem rel_heapGet (a : Addr) : RelE (R P ci c I) (R P ci c I) (RM P)
    (fun x y => x = y ∧ ∀ k fr, x = Cell.fn k fr → P.Entry k) (heapGet a) (heapGet a) := by
  apply RelE.mk'
  intro s t h
  rw [exec_heapGet, exec_heapGet, h.heap]
  cases hc : s.heap[a]? with
  | none => exact ⟨rfl, h.toRM⟩
  | some x => exact ⟨⟨rfl, fun k fr e => h.fnok a k fr (by rw [hc, e])⟩, h⟩

/-- The heap of both sides becomes `h'`: `R.code` needs that the heap does not shrink and that no old cell becomes a
    function cell, `R.fnok` that every function cell of `h'` can be entered. -/
theorem R.heapTo {s t : State} (h : R P ci c I s t) {h' : Array Cell} (hsz : s.heap.size ≤ h'.size)
    (hold : FnOld s.heap h') (hnew : ∀ (a k : Nat) fr, h'[a]? = some (Cell.fn k fr) → P.Entry k) :
    R P ci c I { s with heap := h' } { t with heap := h' } := by
  refine { h with heap := rfl, code := ?_, fnok := hnew }
  intro i hi b hb
  obtain ⟨h1, h2⟩ := h.code i hi b hb
  exact ⟨Nat.lt_of_lt_of_le h1 hsz, fun k fr hk => h2 k fr (hold b k fr h1 hk)⟩

theorem R.heapStep {s t : State} (h : R P ci c I s t) {h' : Array Cell} (hs : HeapStep s.heap h') :
    R P ci c I { s with heap := h' } { t with heap := h' } :=
  h.heapTo hs.2.2.1 hs.2.2.2 fun a k fr e => by
    obtain ⟨a', fr', e'⟩ := hs.2.1 a k fr e
    exact h.fnok a' k fr' e'

/-- A heap primitive does the same on both sides, because their heaps are equal; its heap step keeps the relation,
    because it is a `HeapStep` (`Pres HeapMoves`, Frame.lean). -/
theorem rel_of_data {α} {m : M α} (h : CompSim.HeapOnly m) [hm : Pres HeapMoves m] :
    RelE (R P ci c I) (R P ci c I) (RM P) Eq m m := by
  apply RelE.mk'; intro s t hR
  have e1 := h.run hR.heap
  have e2 := h.loc s
  have e3 : HeapStep s.heap (exec m s).2.heap := hm.h s
  generalize exec m s = x at e1 e2 e3 ⊢
  obtain ⟨r, s1⟩ := x
  simp only at e1 e2 e3 ⊢
  rw [e1, e2]
  have hR' := hR.heapStep e3
  cases r with
  | error e => exact ⟨rfl, hR'.toRM⟩
  | ok a => exact ⟨rfl, hR'⟩

/-- allocation of any cell, a function cell included (CLOSURE) when its code can be entered -/
theorem rel_alloc (x : Cell) (hx : ∀ k fr, x = Cell.fn k fr → P.Entry k) :
    RelE (R P ci c I) (R P ci c I) (RM P) Eq (alloc x) (alloc x) := by
  apply RelE.mk'
  intro s t h
  show (_ ∧ _)
  refine ⟨by show s.heap.size = t.heap.size; rw [h.heap], ?_⟩
  show R P ci c I { s with heap := s.heap.push x } { t with heap := t.heap.push x }
  rw [h.heap]
  refine h.heapTo (by simp) (fun a k fr ha e => ?_) fun a k fr e => ?_
  · exact ((Cfi.push_fn_iff s.heap x a k fr).mp e).resolve_right fun y => by omega
  · rcases (Cfi.push_fn_iff s.heap x a k fr).mp e with e' | ⟨-, e'⟩
    · exact h.fnok a k fr e'
    · exact hx k fr e'

theorem rel_curFrame : RelE (R P ci c I) (R P ci c I) (RM P)
    (fun f g => FrRel (P.Φ c) (P.BB c) False f g) curFrame curFrame := by
  apply RelE.mk'
  intro s t h
  show (_ ∧ _)
  refine ⟨?_, h⟩
  show FrRel _ _ _ (s.frames[s.curFrame]!) (t.frames[t.curFrame]!)
  rw [h.curFrame]
  have := h.frames s.curFrame h.cur
  rw [h.curc] at this
  exact { this with ip := fun hf => hf.elim }

theorem R.modifyFrame {s t : State} (h : R P ci c I s t) {n n' : Nat} (hn' : n' = n) (f g : Frame → Frame)
    (hfg : ∀ fr gr, FrRel (P.Φ (ci n)) (P.BB (ci n)) (n < s.curFrame) fr gr →
      FrRel (P.Φ (ci n)) (P.BB (ci n)) (n < s.curFrame) (f fr) (g gr))
    (hfn : ∀ fr, (f fr).fn = fr.fn ∨ (f fr).fn = none) :
    R P ci c I { s with frames := s.frames.modify n f } { t with frames := t.frames.modify n' g } := by
  subst hn'
  refine { h with fsS := by simp [h.fsS], fsT := by simp [h.fsT], frames := ?_, code := ?_ }
  · intro i hi
    show FrRel _ _ _ ((s.frames.modify n' f)[i]!) ((t.frames.modify n' g)[i]!)
    rw [getElem!_modify, getElem!_modify, h.fsS, h.fsT]
    have hfi := h.frames i hi
    by_cases hn : n' = i ∧ i < frameSize
    · rw [if_pos hn, if_pos hn]
      obtain ⟨rfl, _⟩ := hn
      exact hfg _ _ hfi
    · rw [if_neg hn, if_neg hn]
      exact hfi
  · intro i hi a ha
    have ha' : ((s.frames.modify n' f)[i]!).fn = some a := ha
    rw [getElem!_modify] at ha'
    split at ha'
    · rcases hfn (s.frames[i]!) with h1 | h1
      · rw [h1] at ha'; exact h.code i hi a ha'
      · rw [h1] at ha'; cases ha'
    · exact h.code i hi a ha'

theorem rel_setCurFrame (f g : Frame → Frame)
    (hfg : ∀ fr gr, FrRel (P.Φ c) (P.BB c) False fr gr → FrRel (P.Φ c) (P.BB c) False (f fr) (g gr))
    (hfn : ∀ fr, (f fr).fn = fr.fn ∨ (f fr).fn = none) :
    RelE (R P ci c I) (R P ci c I) (RM P) Eq (setCurFrame f) (setCurFrame g) := by
  apply RelE.mk'
  intro s t h
  show (_ ∧ _)
  refine ⟨rfl, ?_⟩
  show R P ci c I { s with frames := s.frames.modify s.curFrame f } { t with frames := t.frames.modify t.curFrame g }
  refine h.modifyFrame h.curFrame f g (fun fr gr hr => ?_) hfn
  -- the current frame is not below itself, so its saved `ip` is not constrained
  rw [h.curc] at hr ⊢
  exact { hfg _ _ { hr with ip := fun hf => hf.elim } with ip := fun hf => absurd hf (Nat.lt_irrefl _) }

theorem rel_getS : RelE (R P ci c I) (R P ci c I) (RM P) (fun a b => R P ci c I a b) getS getS := by
  apply RelE.mk'
  intro s t h
  exact ⟨h, h⟩

/-- One step through a `do` block that runs on both sides under the invariant `R P ci c I`, whatever `I` is:
    `>>=` by `RelE.bindK`, `if` and `match` by cases, loops by the `forIn` rules.
    What is left is a call `m`; the lemma about `m` is found by `simp only [rel_keep]`, that is by the head
    symbol of `m` (trying the lemmas one after the other unfolds the monad at every failure).  A heap primitive is a
    leaf by `rel_of_data` (the cells that the model writes are not function cells, by their constructor: the
    instances of Frame.lean); that rule stands last, it applies to every goal.  Join points are inlined. -/
syntax "rlc_step" : tactic
set_option hygiene false in
macro_rules | `(tactic| rlc_step) => `(tactic|
  first
    | with_reducible apply RelE.bindK
    | with_reducible apply RelE.ite
    | with_reducible apply RelE.forIn_range
    | with_reducible apply RelE.forIn_list
    | intro _
    | split
    | focus (simp only [rel_keep]; done)
    | ((with_reducible refine rel_of_data ?_); focus (simp only [heap_only]; done)))

macro "rlc" : tactic => `(tactic| repeat rlc_step)

@[rel_keep] theorem rel_clearDown (hi lo : Int) :
    RelE (R P ci c I) (R P ci c I) (RM P) Eq (clearDown hi lo) (clearDown hi lo) := by unfold clearDown; rlc
@[rel_keep] theorem rel_pushV (v : V) : RelE (R P ci c I) (R P ci c I) (RM P) Eq (pushV v) (pushV v) := by
  unfold pushV; rlc
@[rel_keep] theorem rel_copyToStack (a : Int) (xs : List V) :
    RelE (R P ci c I) (R P ci c I) (RM P) Eq (copyToStack a xs) (copyToStack a xs) := by unfold copyToStack; rlc
@[rel_keep] theorem rel_fillUndefined (lo : Int) (n : Nat) :
    RelE (R P ci c I) (R P ci c I) (RM P) Eq (fillUndefined lo n) (fillUndefined lo n) := by unfold fillUndefined; rlc
@[rel_keep] theorem rel_copySlots (d : Int) (xs : List V) :
    RelE (R P ci c I) (R P ci c I) (RM P) Eq (copySlots d xs) (copySlots d xs) := by unfold copySlots; rlc
@[rel_keep] theorem rel_popArgs (n : Nat) : RelE (R P ci c I) (R P ci c I) (RM P) Eq (popArgs n) (popArgs n) := by
  unfold popArgs; rlc
@[rel_keep] theorem rel_bindArgs (code : Code) (bp na fl : Int) :
    RelE (R P ci c I) (R P ci c I) (RM P) Eq (bindArgs code bp na fl) (bindArgs code bp na fl) := by unfold bindArgs; rlc
@[rel_keep] theorem rel_callBuiltin (i : Nat) (args : List V) :
    RelE (R P ci c I) (R P ci c I) (RM P) Eq (callBuiltin i args) (callBuiltin i args) :=
  rel_of_data (CompSim.ho_callBuiltin i args)

end UgoVerif.VM.Reloc

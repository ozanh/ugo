import UgoVerif.Spec.RelocVM
import UgoVerif.Proofs.VMLiveRun
import UgoVerif.Gen.Opcodes
/-
  The relocation relation between two states of the VM model and the relational calculus
  `RelE` / `RelQ` that carries it through every function of `VM/Step.lean`.

  Source side: a program whose instruction streams `cs[c]` are in the layout `wide`
  (`false` = version 1); target side: the streams `ct[c]` in the current layout, related to
  `cs[c]` by the per-function offset map `Φ c` (`CodeRel`).  Two states are related when they
  are equal except for: the code, `ip`, the saved `ip` of the frames below the current one and
  the `catch/finally/returnTo` addresses of the handlers, which correspond through `Φ` of the
  function each frame runs; the recorded trace (which holds `ip`s) is not compared.
-/
namespace UgoVerif.VM.Reloc
open UgoVerif UgoVerif.Go UgoVerif.VM

/-- `E` relates the states of an abnormal end: when the Go panic is recovered, the run goes on from them
    (`handlePanic`) -/
def RelE {α β} (A B E : State → State → Prop) (VR : α → β → Prop) (m₁ : M α) (m₂ : M β) : Prop :=
  ∀ s t, A s t →
    match exec m₁ s, exec m₂ t with
    | (.ok a, s'), (.ok b, t') => VR a b ∧ B s' t'
    | (.error e, s'), (.error e', t') => e = e' ∧ E s' t'
    | _, _ => False

/-- `RelE` with a postcondition that depends on the results (the `Ctl` of an opcode function) -/
def RelQ {α β} (A : State → State → Prop) (Q : α → β → State → State → Prop) (E : State → State → Prop)
    (m₁ : M α) (m₂ : M β) : Prop :=
  ∀ s t, A s t →
    match exec m₁ s, exec m₂ t with
    | (.ok a, s'), (.ok b, t') => Q a b s' t'
    | (.error e, s'), (.error e', t') => e = e' ∧ E s' t'
    | _, _ => False

namespace RelQ
variable {A B E : State → State → Prop}

theorem ofE {α β} {VR : α → β → Prop} {m₁ : M α} {m₂ : M β} (h : RelE A B E VR m₁ m₂) :
    RelQ A (fun a b s t => VR a b ∧ B s t) E m₁ m₂ := h

theorem toE {α β} {VR : α → β → Prop} {m₁ : M α} {m₂ : M β}
    (h : RelQ A (fun a b s t => VR a b ∧ B s t) E m₁ m₂) : RelE A B E VR m₁ m₂ := h

/-- the ways two related runs can end; the rules below read the judgement through it -/
theorem elim {α β} {Q : α → β → State → State → Prop} {m₁ : M α} {m₂ : M β} (h : RelQ A Q E m₁ m₂) {s t : State}
    (hA : A s t) :
    (∃ a b s' t', exec m₁ s = (.ok a, s') ∧ exec m₂ t = (.ok b, t') ∧ Q a b s' t') ∨
    (∃ e s' t', exec m₁ s = (.error e, s') ∧ exec m₂ t = (.error e, t') ∧ E s' t') := by
  have := h s t hA
  rcases h1 : exec m₁ s with ⟨r1, s1⟩
  rcases h2 : exec m₂ t with ⟨r2, t1⟩
  rw [h1, h2] at this
  cases r1 <;> cases r2 <;> simp only at this
  · obtain ⟨he, hE⟩ := this
    subst he
    exact Or.inr ⟨_, _, _, rfl, rfl, hE⟩
  · exact Or.inl ⟨_, _, _, _, rfl, rfl, this⟩

theorem pure {α β} {Q : α → β → State → State → Prop} {a : α} {b : β} (h : ∀ s t, A s t → Q a b s t) :
    RelQ A Q E (Pure.pure a) (Pure.pure b) := by
  intro s t hA; exact h s t hA

theorem bindQ {α α' β β'} {Q₁ : α → α' → State → State → Prop} {Q : β → β' → State → State → Prop}
    {m₁ : M α} {m₂ : M α'} {f₁ : α → M β} {f₂ : α' → M β'}
    (hm : RelQ A Q₁ E m₁ m₂) (hf : ∀ a b, RelQ (Q₁ a b) Q E (f₁ a) (f₂ b)) :
    RelQ A Q E (m₁ >>= f₁) (m₂ >>= f₂) := by
  intro s t hA
  rw [exec_bind, exec_bind]
  rcases hm.elim hA with ⟨a, b, s', t', e1, e2, hq⟩ | ⟨e, s', t', e1, e2, hE⟩ <;> rw [e1, e2]
  · exact hf a b s' t' hq
  · exact ⟨rfl, hE⟩

theorem pre_and {α β} {p : Prop} {Q : α → β → State → State → Prop} {m₁ : M α} {m₂ : M β}
    (h : p → RelQ A Q E m₁ m₂) : RelQ (fun s t => p ∧ A s t) Q E m₁ m₂ :=
  fun s t hA => h hA.1 s t hA.2

theorem bind {α α' β β'} {VR : α → α' → Prop} {Q : β → β' → State → State → Prop} {m₁ : M α} {m₂ : M α'}
    {f₁ : α → M β} {f₂ : α' → M β'}
    (hm : RelE A B E VR m₁ m₂) (hf : ∀ a b, VR a b → RelQ B Q E (f₁ a) (f₂ b)) :
    RelQ A Q E (m₁ >>= f₁) (m₂ >>= f₂) :=
  bindQ (ofE hm) fun a b => pre_and (hf a b)

theorem bind_fails {α α' β β'} {Q : β → β' → State → State → Prop} {m₁ : M α} {m₂ : M α'}
    (hm : RelE A (fun _ _ => False) E (fun _ _ => True) m₁ m₂) (f₁ : α → M β) (f₂ : α' → M β') :
    RelQ A Q E (m₁ >>= f₁) (m₂ >>= f₂) :=
  bind hm fun _ _ _ _ _ h => h.elim

theorem bindEq {α β β'} {Q : β → β' → State → State → Prop} {m : M α} {f₁ : α → M β} {f₂ : α → M β'}
    (hm : RelE A B E Eq m m) (hf : ∀ a, RelQ B Q E (f₁ a) (f₂ a)) : RelQ A Q E (m >>= f₁) (m >>= f₂) :=
  bind hm (fun a b hab => by subst hab; exact hf a)

theorem bindK {α β β'} {Q : β → β' → State → State → Prop} {m : M α} {f₁ : α → M β} {f₂ : α → M β'}
    (hm : RelE A A E Eq m m) (hf : ∀ a, RelQ A Q E (f₁ a) (f₂ a)) : RelQ A Q E (m >>= f₁) (m >>= f₂) :=
  bindEq hm hf

theorem ite {α β} {Q : α → β → State → State → Prop} {c : Prop} [Decidable c] {a₁ b₁ : M α} {a₂ b₂ : M β}
    (ha : RelQ A Q E a₁ a₂) (hb : RelQ A Q E b₁ b₂) :
    RelQ A Q E (if c then a₁ else b₁) (if c then a₂ else b₂) := by
  split <;> assumption

theorem iteIff {α β} {Q : α → β → State → State → Prop} {c₁ c₂ : Prop} [Decidable c₁] [Decidable c₂]
    {a₁ b₁ : M α} {a₂ b₂ : M β} (hc : c₁ ↔ c₂) (ha : c₁ → RelQ A Q E a₁ a₂) (hb : ¬ c₁ → RelQ A Q E b₁ b₂) :
    RelQ A Q E (if c₁ then a₁ else b₁) (if c₂ then a₂ else b₂) := by
  by_cases h : c₁
  · rw [if_pos h, if_pos (hc.1 h)]; exact ha h
  · rw [if_neg h, if_neg (fun h' => h (hc.2 h'))]; exact hb h

theorem iteL {α β} {Q : α → β → State → State → Prop} {c : Prop} [Decidable c] {a₁ b₁ : M α} {m₂ : M β}
    (ha : c → RelQ A Q E a₁ m₂) (hb : ¬ c → RelQ A Q E b₁ m₂) : RelQ A Q E (if c then a₁ else b₁) m₂ := by
  split
  · exact ha ‹_›
  · exact hb ‹_›

theorem panic {α β} {Q : α → β → State → State → Prop} (m : String) (hE : ∀ s t, A s t → E s t) :
    RelQ A Q E (VM.panic m) (VM.panic m) := by
  intro s t hA; exact ⟨rfl, hE s t hA⟩

theorem unsupported {α β} {Q : α → β → State → State → Prop} (m : String) (hE : ∀ s t, A s t → E s t) :
    RelQ A Q E (VM.unsupported m) (VM.unsupported m) := by
  intro s t hA; exact ⟨rfl, hE s t hA⟩

theorem pre {α β} {A' : State → State → Prop} {Q : α → β → State → State → Prop} {m₁ : M α} {m₂ : M β}
    (h : RelQ A Q E m₁ m₂) (hA : ∀ s t, A' s t → A s t) : RelQ A' Q E m₁ m₂ :=
  fun s t h' => h s t (hA s t h')

theorem conseq {α β} {A' E' : State → State → Prop} {Q Q' : α → β → State → State → Prop} {m₁ : M α} {m₂ : M β}
    (h : RelQ A Q E m₁ m₂) (hA : ∀ s t, A' s t → A s t) (hQ : ∀ a b s t, Q a b s t → Q' a b s t)
    (hE : ∀ s t, E s t → E' s t) : RelQ A' Q' E' m₁ m₂ := by
  intro s t h'
  rcases h.elim (hA s t h') with ⟨a, b, s', t', e1, e2, hq⟩ | ⟨e, s', t', e1, e2, he⟩ <;> rw [e1, e2]
  · exact hQ a b s' t' hq
  · exact ⟨rfl, hE s' t' he⟩

theorem assume {α β} {Q : α → β → State → State → Prop} {m₁ : M α} {m₂ : M β}
    (h : ∀ s t, A s t → RelQ (fun s' t' => s' = s ∧ t' = t) Q E m₁ m₂) : RelQ A Q E m₁ m₂ := by
  intro s t hA
  exact h s t hA s t ⟨rfl, rfl⟩

theorem mk' {α β} {Q : α → β → State → State → Prop} {m₁ : M α} {m₂ : M β}
    (h : ∀ s t, A s t →
      match exec m₁ s, exec m₂ t with
      | (.ok a, s'), (.ok b, t') => Q a b s' t'
      | (.error e, s'), (.error e', t') => e = e' ∧ E s' t'
      | _, _ => False) : RelQ A Q E m₁ m₂ := h

theorem run {α β} {Q : α → β → State → State → Prop} {m₁ : M α} {m₂ : M β} (h : RelQ A Q E m₁ m₂) :
    ∀ s t, A s t →
      match exec m₁ s, exec m₂ t with
      | (.ok a, s'), (.ok b, t') => Q a b s' t'
      | (.error e, s'), (.error e', t') => e = e' ∧ E s' t'
      | _, _ => False := h

end RelQ
attribute [irreducible] RelQ

namespace RelE
variable {A B C E : State → State → Prop}

theorem pure {α β} {VR : α → β → Prop} {a : α} {b : β} (h : VR a b) :
    RelE A A E VR (Pure.pure a) (Pure.pure b) := by
  intro s t hA; exact ⟨h, hA⟩

@[rel_keep] theorem pureEq {α} (a : α) : RelE A A E Eq (Pure.pure a) (Pure.pure a) := pure rfl

theorem pure' {α β} {VR : α → β → Prop} {a : α} {b : β} (h : VR a b) (hAB : ∀ s t, A s t → B s t) :
    RelE A B E VR (Pure.pure a) (Pure.pure b) := by
  intro s t hA; exact ⟨h, hAB s t hA⟩

theorem panic {α β} {VR : α → β → Prop} (m : String) (hE : ∀ s t, A s t → E s t) :
    RelE A B E VR (VM.panic m) (VM.panic m) := by
  intro s t hA; exact ⟨rfl, hE s t hA⟩

theorem unsupported {α β} {VR : α → β → Prop} (m : String) (hE : ∀ s t, A s t → E s t) :
    RelE A B E VR (VM.unsupported m) (VM.unsupported m) := by
  intro s t hA; exact ⟨rfl, hE s t hA⟩

theorem bind {α α' β β'} {VR : α → α' → Prop} {VR' : β → β' → Prop} {m₁ : M α} {m₂ : M α'}
    {f₁ : α → M β} {f₂ : α' → M β'}
    (hm : RelE A B E VR m₁ m₂) (hf : ∀ a b, VR a b → RelE B C E VR' (f₁ a) (f₂ b)) :
    RelE A C E VR' (m₁ >>= f₁) (m₂ >>= f₂) :=
  RelQ.toE (RelQ.bind hm fun a b h => RelQ.ofE (hf a b h))

theorem bindEq {α β β'} {VR' : β → β' → Prop} {m : M α} {f₁ : α → M β} {f₂ : α → M β'}
    (hm : RelE A B E Eq m m) (hf : ∀ a, RelE B C E VR' (f₁ a) (f₂ a)) :
    RelE A C E VR' (m >>= f₁) (m >>= f₂) :=
  bind hm (fun a b hab => by subst hab; exact hf a)

theorem conseq {α β} {A' B' E' : State → State → Prop} {VR VR' : α → β → Prop} {m₁ : M α} {m₂ : M β}
    (h : RelE A B E VR m₁ m₂) (hA : ∀ s t, A' s t → A s t) (hB : ∀ s t, B s t → B' s t)
    (hE : ∀ s t, E s t → E' s t) (hV : ∀ a b, VR a b → VR' a b) :
    RelE A' B' E' VR' m₁ m₂ :=
  RelQ.toE ((RelQ.ofE h).conseq hA (fun _ _ _ _ h => ⟨hV _ _ h.1, hB _ _ h.2⟩) hE)

theorem post {α β} {B' : State → State → Prop} {VR : α → β → Prop} {m₁ : M α} {m₂ : M β}
    (h : RelE A B E VR m₁ m₂) (hB : ∀ s t, B s t → B' s t) : RelE A B' E VR m₁ m₂ :=
  h.conseq (fun _ _ h => h) hB (fun _ _ h => h) (fun _ _ h => h)

theorem pre {α β} {A' : State → State → Prop} {VR : α → β → Prop} {m₁ : M α} {m₂ : M β}
    (h : RelE A B E VR m₁ m₂) (hA : ∀ s t, A' s t → A s t) : RelE A' B E VR m₁ m₂ :=
  h.conseq hA (fun _ _ h => h) (fun _ _ h => h) (fun _ _ h => h)

theorem bindK {α β β'} {VR' : β → β' → Prop} {m : M α} {f₁ : α → M β} {f₂ : α → M β'}
    (hm : RelE A A E Eq m m) (hf : ∀ a, RelE A A E VR' (f₁ a) (f₂ a)) : RelE A A E VR' (m >>= f₁) (m >>= f₂) :=
  bindEq hm hf

theorem modS {f₁ f₂ : State → State} (h : ∀ s t, A s t → B (f₁ s) (f₂ t)) :
    RelE A B E Eq (VM.modS f₁) (VM.modS f₂) := by
  intro s t hA; exact ⟨rfl, h s t hA⟩

theorem ite {α β} {VR : α → β → Prop} {c : Prop} [Decidable c] {a₁ b₁ : M α} {a₂ b₂ : M β}
    (ha : RelE A B E VR a₁ a₂) (hb : RelE A B E VR b₁ b₂) :
    RelE A B E VR (if c then a₁ else b₁) (if c then a₂ else b₂) := by
  split <;> assumption

theorem iteIff {α β} {VR : α → β → Prop} {c₁ c₂ : Prop} [Decidable c₁] [Decidable c₂] {a₁ b₁ : M α} {a₂ b₂ : M β}
    (hc : c₁ ↔ c₂) (ha : c₁ → RelE A B E VR a₁ a₂) (hb : ¬ c₁ → RelE A B E VR b₁ b₂) :
    RelE A B E VR (if c₁ then a₁ else b₁) (if c₂ then a₂ else b₂) :=
  RelQ.toE (RelQ.iteIff hc (fun h => RelQ.ofE (ha h)) fun h => RelQ.ofE (hb h))

theorem assume {α β} {VR : α → β → Prop} {m₁ : M α} {m₂ : M β}
    (h : ∀ s t, A s t → RelE (fun s' t' => s' = s ∧ t' = t) B E VR m₁ m₂) : RelE A B E VR m₁ m₂ := by
  intro s t hA
  exact h s t hA s t ⟨rfl, rfl⟩

theorem forIn_list {α β} (l : List α) (init : β) (f : α → β → M (ForInStep β))
    (hf : ∀ a b, RelE A A E Eq (f a b) (f a b)) : RelE A A E Eq (forIn l init f) (forIn l init f) :=
  forIn_list_closed (T := fun m => RelE A A E Eq m m) (fun _ => RelE.pure rfl) RelE.bindEq l init f hf

theorem forIn_range {β} (r : Std.Legacy.Range) (init : β) (f : Nat → β → M (ForInStep β))
    (hf : ∀ a b, RelE A A E Eq (f a b) (f a b)) : RelE A A E Eq (forIn r init f) (forIn r init f) := by
  rw [Std.Legacy.Range.forIn_eq_forIn_range']
  exact forIn_list _ _ _ hf

theorem elim {α β} {VR : α → β → Prop} {m₁ : M α} {m₂ : M β} (h : RelE A B E VR m₁ m₂) {s t : State}
    (hA : A s t) :
    (∃ a b s' t', exec m₁ s = (.ok a, s') ∧ exec m₂ t = (.ok b, t') ∧ VR a b ∧ B s' t') ∨
    (∃ e s' t', exec m₁ s = (.error e, s') ∧ exec m₂ t = (.error e, t') ∧ E s' t') :=
  (RelQ.ofE h).elim hA

theorem mk' {α β} {VR : α → β → Prop} {m₁ : M α} {m₂ : M β}
    (h : ∀ s t, A s t →
      match exec m₁ s, exec m₂ t with
      | (.ok a, s'), (.ok b, t') => VR a b ∧ B s' t'
      | (.error e, s'), (.error e', t') => e = e' ∧ E s' t'
      | _, _ => False) : RelE A B E VR m₁ m₂ := h

end RelE
attribute [irreducible] RelE

open UgoVerif.Gen.Opcodes in
/-- total operand width of an opcode in the current layout (0 for an unknown opcode) -/
def opW (op : Nat) : Nat := ((opcodeOperands op).getD []).sum

/-- the re-encoded opcodes -/
def isJ (op : Nat) : Bool :=
  op == OpJump || op == OpJumpFalsy || op == OpAndJump || op == OpOrJump || op == OpSetupTry

def rdJ (wide : Bool) (a : Array UInt8) (i : Nat) : Nat := if wide then rd4 a i else rd2 a i

/-- the instruction at `o` (opcode and `w` operand bytes) stands unchanged at `φ o` of the target -/
structure Win (src tgt : Array UInt8) (φ : Nat → Nat) (o w : Nat) : Prop where
  s : o + w < src.size
  t : φ o + w < tgt.size
  eq : ∀ k, k ≤ w → tgt[φ o + k]! = src[o + k]!

/-- a jump / catch / finally / return address and its image: `0` (absent) stays `0`, every other
    address is an instruction offset and goes through `φ` -/
def ARel (φ : Nat → Nat) (B : Nat → Prop) (a b : Int) : Prop :=
  (a = 0 ∧ b = 0) ∨ (∃ n : Nat, 0 < n ∧ 0 < φ n ∧ B n ∧ a = n ∧ b = φ n)

/-- What relocation needs of one function: `B` = its instruction offsets in the source stream.
    * an instruction that is not re-encoded has the same bytes at `φ o`, and the instruction behind
      it (if it can fall through: every opcode but RETURN) starts at an offset that `φ` moves by
      the same amount;
    * a jump's operand is an instruction offset and the target holds its image;
    * SETUPTRY's operands are `0` or instruction offsets, likewise. -/
structure CodeRel (wide : Bool) (φ : Nat → Nat) (B : Nat → Prop) (src tgt : Array UInt8) : Prop where
  mono : ∀ a b, a < b → φ a < φ b
  fin0 : B 0 → (src[0]!).toNat = OpFinalizer → φ 0 = 0
  plain : ∀ o, B o → isJ (src[o]!).toNat = false →
    Win src tgt φ o (opW (src[o]!).toNat) ∧
    ((src[o]!).toNat ≠ OpReturn →
      B (o + opW (src[o]!).toNat + 1) ∧ φ (o + opW (src[o]!).toNat + 1) = φ o + opW (src[o]!).toNat + 1)
  jump : ∀ o, B o → isJ (src[o]!).toNat = true → (src[o]!).toNat ≠ OpSetupTry →
    o + jw wide < src.size ∧ φ o + 4 < tgt.size ∧ tgt[φ o]! = src[o]! ∧
    B (rdJ wide src (o + 1)) ∧ rd4 tgt (φ o + 1) = φ (rdJ wide src (o + 1)) ∧
    B (o + jw wide + 1) ∧ φ (o + jw wide + 1) = φ o + 5
  try_ : ∀ o, B o → (src[o]!).toNat = OpSetupTry →
    o + 2 * jw wide < src.size ∧ φ o + 8 < tgt.size ∧ tgt[φ o]! = src[o]! ∧
    ARel φ B (rdJ wide src (o + 1)) (rd4 tgt (φ o + 1)) ∧
    ARel φ B (rdJ wide src (o + 1 + jw wide)) (rd4 tgt (φ o + 5)) ∧
    B (o + 2 * jw wide + 1) ∧ φ (o + 2 * jw wide + 1) = φ o + 9

/-- the two programs: per function index its source and target code, offset map and instruction
    offsets -/
structure Params where
  wide : Bool
  cs : Array Code
  ct : Array Code
  Φ : Nat → Nat → Nat
  BB : Nat → Nat → Prop

def Params.Entry (P : Params) (c : Nat) : Prop := c < P.cs.size ∧ P.BB c 0 ∧ P.Φ c 0 = 0

structure Params.OK (P : Params) : Prop where
  size : P.ct.size = P.cs.size
  numParams : ∀ c : Nat, (P.ct[c]!).numParams = (P.cs[c]!).numParams
  numLocals : ∀ c : Nat, (P.ct[c]!).numLocals = (P.cs[c]!).numLocals
  variadic : ∀ c : Nat, (P.ct[c]!).variadic = (P.cs[c]!).variadic
  rel : ∀ c, c < P.cs.size → CodeRel P.wide (P.Φ c) (P.BB c) (P.cs[c]!).insts (P.ct[c]!).insts

structure HRel (φ : Nat → Nat) (B : Nat → Prop) (h g : Handler) : Prop where
  sp : g.sp = h.sp
  err : g.err = h.err
  catch_ : ARel φ B h.catch_ g.catch_
  finally_ : ARel φ B h.finally_ g.finally_
  returnTo : ARel φ B h.returnTo g.returnTo

def HLRel (φ : Nat → Nat) (B : Nat → Prop) : List Handler → List Handler → Prop
  | [], [] => True
  | h :: r, g :: r' => HRel φ B h g ∧ HLRel φ B r r'
  | _, _ => False

def HsRel (φ : Nat → Nat) (B : Nat → Prop) : Option (List Handler) → Option (List Handler) → Prop
  | none, none => True
  | some l, some l' => HLRel φ B l l'
  | _, _ => False

/-- frames: everything equal but the handler addresses and, for a frame below the current one
    (`below`), the saved `ip` (the offset of the instruction behind the call, minus one) -/
structure FrRel (φ : Nat → Nat) (B : Nat → Prop) (below : Prop) (f g : Frame) : Prop where
  fn : g.fn = f.fn
  free : g.free = f.free
  bp : g.bp = f.bp
  discard : g.discard = f.discard
  hs : HsRel φ B f.handlers g.handlers
  ip : below → ∃ o : Nat, B o ∧ f.ip + 1 = o ∧ g.ip + 1 = φ o

/-- The relocation relation.  `ci i` = the function index frame `i` runs (ghost), `c = ci curFrame`,
    `I` relates the two instruction pointers. -/
structure R (P : Params) (ci : Nat → Nat) (c : Nat) (I : Int → Int → Prop) (s t : State) : Prop where
  stack : t.stack = s.stack
  sp : t.sp = s.sp
  heap : t.heap = s.heap
  codesS : s.codes = P.cs
  codesT : t.codes = P.ct
  consts : t.consts = s.consts
  mainFn : t.mainFn = s.mainFn
  numModules : t.numModules = s.numModules
  globals : t.globals = s.globals
  modules : t.modules = s.modules
  err : t.err = s.err
  abort : t.abort = s.abort
  steps : t.steps = s.steps
  traceOn : t.traceOn = s.traceOn
  noPanic : t.noPanic = s.noPanic
  ip : I s.ip t.ip
  curFrame : t.curFrame = s.curFrame
  frameIndex : t.frameIndex = s.frameIndex
  link : (s.curFrame : Int) + 1 = s.frameIndex
  fsS : s.frames.size = frameSize
  fsT : t.frames.size = frameSize
  cur : s.curFrame < frameSize
  curc : ci s.curFrame = c
  cok : c < P.cs.size
  cis : ∀ i, i ≤ s.curFrame → ci i < P.cs.size
  frames : ∀ i, i < frameSize →
    FrRel (P.Φ (ci i)) (P.BB (ci i)) (i < s.curFrame) (s.frames[i]!) (t.frames[i]!)
  code : ∀ i, i ≤ s.curFrame → ∀ a, (s.frames[i]!).fn = some a →
    a < s.heap.size ∧ (∀ k fr, s.heap[a]? = some (Cell.fn k fr) → k = ci i ∧ k < P.cs.size)
  fnok : ∀ (a : Nat) k fr, s.heap[a]? = some (Cell.fn k fr) → P.Entry k

/-- between two instructions: `ip + 1` is the offset `o` of the next one -/
def Ibnd (P : Params) (c o : Nat) : Int → Int → Prop := fun a b => P.BB c o ∧ a + 1 = o ∧ b + 1 = P.Φ c o
/-- inside the instruction at offset `o`, before `ip` is advanced over its operands -/
def Iat (P : Params) (c o : Nat) : Int → Int → Prop := fun a b => P.BB c o ∧ a = o ∧ b = P.Φ c o

/-- related at an instruction boundary -/
def RB (P : Params) (s t : State) : Prop := ∃ ci c o, R P ci c (Ibnd P c o) s t
/-- related, instruction pointers arbitrary (states at a panic site, or after `vm.err` is set) -/
def RM (P : Params) (s t : State) : Prop := ∃ ci c, R P ci c (fun _ _ => True) s t

theorem R.weaken {P ci c I I' s t} (h : R P ci c I s t) (hI : I s.ip t.ip → I' s.ip t.ip) : R P ci c I' s t :=
  { h with ip := hI h.ip }

theorem R.toRM {P ci c I s t} (h : R P ci c I s t) : RM P s t := ⟨ci, c, h.weaken (fun _ => trivial)⟩
theorem RB.toRM {P s t} (h : RB P s t) : RM P s t := by
  obtain ⟨ci, c, o, h⟩ := h; exact h.toRM

end UgoVerif.VM.Reloc

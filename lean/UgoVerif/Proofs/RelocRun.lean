import UgoVerif.Proofs.RelocStep
/-
  Relocation relation: from one instruction to whole runs (`runFromG`), as the instance `RB`/`RM` of
  `RunRel` (VMLiveRun).  Also: in the current layout the source VM's step is `VM.step`.
-/
namespace UgoVerif.VM.Reloc
open UgoVerif UgoVerif.Go UgoVerif.VM

theorem dispatchW_true (F : FloatOps) (op : Nat) : dispatchW true F op = dispatch F op := by
  unfold dispatchW
  iterate 5
    split
    · next h => cases eq_of_beq_nat h; rfl
  rfl

theorem stepW_true (F : FloatOps) : stepW true F = step F := by
  unfold stepW step
  simp only [dispatchW_true]

variable {P : Params}

theorem ccf_rel {s t : State} (h : RM P s t) : RM P (exec clearCurrentFrame s).2 (exec clearCurrentFrame t).2 := by
  obtain ⟨ci, c, h⟩ := h
  rw [exec_clearCurrentFrame, exec_clearCurrentFrame]
  exact ⟨ci, c, h.modifyFrame h.curFrame _ _ (fun _ _ hfg => { hfg with fn := rfl, free := rfl, hs := trivial })
    fun _ => Or.inr rfl⟩

theorem RM.reads {s t : State} (h : RM P s t) : s.noPanic = t.noPanic ∧ s.err = t.err ∧ s.steps = t.steps ∧
    (runFrom.finish s).1 = (runFrom.finish t).1 := by
  obtain ⟨ci, c, h⟩ := h
  exact ⟨h.noPanic.symm, h.err.symm, h.steps.symm,
    finish_congr h.err.symm h.sp.symm (fun i _ => by rw [h.stack]) h.heap.symm⟩

theorem runRel {stp₁ stp₂ : M Ctl} (hstep : RelQ (RB P) (CtlPost P) (RM P) stp₁ stp₂) :
    RunRel stp₁ stp₂ (RB P) (RM P) where
  toAny := RB.toRM
  abortEq := fun ⟨_, _, _, h⟩ => h.abort.symm
  reads := RM.reads
  step s t h := by
    rcases hstep.elim h with ⟨a, b, s', t', h1, h2, rfl, hRM, hRB⟩ | ⟨e, s', t', h1, h2, hE⟩ <;> rw [h1, h2]
    · exact ⟨⟨rfl, hRM⟩, fun e => hRB (by cases e; rfl)⟩
    · exact ⟨⟨rfl, hE⟩, fun e => by cases e⟩
  panic m s t h := by
    rcases (rel_handlePanic m).elim h with ⟨a, b, s', t', h1, h2, rfl, hRM, hRB⟩ | ⟨e, s', t', h1, h2, hE⟩ <;> rw [h1, h2]
    · exact ⟨⟨rfl, hRM⟩, fun _ => hRB⟩
    · exact ⟨⟨rfl, hE⟩, fun e => by cases e⟩
  abort := fun s t ⟨ci, c, o, h⟩ => ⟨ci, c, { h with err := rfl, ip := trivial }⟩
  ccf _ _ := ccf_rel

end UgoVerif.VM.Reloc

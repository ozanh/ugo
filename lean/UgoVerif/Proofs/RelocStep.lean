import UgoVerif.Proofs.RelocCall
import UgoVerif.Proofs.RelocGetIndex
/-
  Relocation relation: one instruction (`stepW wide` against `step`): the fetch, and the dispatch over all
  opcodes, where an opcode that is not re-encoded gets the window of its operands from `CodeRel` (`plainOp`).
-/
namespace UgoVerif.VM.Reloc
open UgoVerif UgoVerif.Go UgoVerif.VM

section
variable {P : Params} {ci : Nat → Nat} {c o : Nat}

theorem rel_noteTrace {I : Int → Int → Prop} (op : Nat) :
    RelE (R P ci c I) (R P ci c I) (RM P) Eq (noteTrace op) (noteTrace op) := by
  apply RelE.mk'
  intro s t h
  have hs : t.steps + 1 = s.steps + 1 := by rw [h.steps]
  rw [exec_noteTrace, exec_noteTrace]
  by_cases ht : s.traceOn = true
  · rw [if_pos ht, if_pos (h.traceOn.trans ht)]; exact ⟨rfl, { h with steps := hs }⟩
  · rw [if_neg ht, if_neg (h.traceOn ▸ ht)]; exact ⟨rfl, { h with steps := hs }⟩

end

/-- The source VM (`dispatchW`) tests for the five re-encoded opcodes first; behind them both sides go down the same
    `switch`. -/
theorem rel_dispatch {P : Params} (hP : P.OK) (F : FloatOps) {ci : Nat → Nat} {c o : Nat} (op : Nat)
    (hB : P.BB c o) (hc : c < P.cs.size) (hop : (((P.cs[c]!).insts)[o]!).toNat = op) :
    OpRel P ci c o (dispatchW P.wide F op) (dispatch F op) := by
  have hcr := hP.rel c hc
  unfold dispatchW
  refine RelQ.iteL (fun h => ?_) fun h1 => RelQ.iteL (fun h => ?_) fun h2 => RelQ.iteL (fun h => ?_) fun h3 =>
    RelQ.iteL (fun h => ?_) fun h4 => RelQ.iteL (fun h => ?_) fun h5 => ?_
  · cases eq_of_beq_nat h; exact jumpOp hcr hB hop rfl fun hjt _ => rel_execJump hjt
  · cases eq_of_beq_nat h; exact jumpOp hcr hB hop rfl rel_execJumpFalsy
  · cases eq_of_beq_nat h; exact jumpOp hcr hB hop rfl rel_execAndJump
  · cases eq_of_beq_nat h; exact jumpOp hcr hB hop rfl rel_execOrJump
  · cases eq_of_beq_nat h; exact rel_execSetupTry hcr hB hop
  refine dispatch_cases (P := fun m => OpRel P ci c o m m) F op
    (fun h => plainOp hcr hB hop h 2 rel_execConstant)
    (fun h => plainOp hcr hB hop h 1 rel_execGetLocal)
    (fun h => plainOp hcr hB hop h 1 rel_execSetLocal)
    (fun h => plainOp hcr hB hop h 1 (rel_execBinaryOp · · F))
    (fun h => absurd (beq_iff_eq.mpr h) h3)
    (fun h => absurd (beq_iff_eq.mpr h) h4)
    (fun h => h.elim (plainOp hcr hB hop · 0 fun _ hn => rel_execEqual hn F op) (plainOp hcr hB hop · 0 fun _ hn => rel_execEqual hn F op))
    (fun h => plainOp hcr hB hop h 0 fun _ => rel_execTrue)
    (fun h => plainOp hcr hB hop h 0 fun _ => rel_execFalse)
    (fun h => plainOp hcr hB hop h 2 (rel_execCall hP hc))
    (fun h => plainOp hcr hB hop h 2 (rel_execCallName hP hc))
    (fun h => rel_execReturn hP hc hB (hop.trans h))
    (fun h => plainOp hcr hB hop h 1 rel_execGetBuiltin)
    (fun h => plainOp hcr hB hop h 3 rel_execClosure)
    (fun h => absurd (beq_iff_eq.mpr h) h1)
    (fun h => absurd (beq_iff_eq.mpr h) h2)
    (fun h => plainOp hcr hB hop h 2 rel_execGetGlobal)
    (fun h => plainOp hcr hB hop h 2 rel_execSetGlobal)
    (fun h => plainOp hcr hB hop h 2 rel_execArray)
    (fun h => plainOp hcr hB hop h 2 rel_execMap)
    (fun h => plainOp hcr hB hop h 1 rel_execGetIndex)
    (fun h => plainOp hcr hB hop h 0 fun _ => rel_execSetIndex)
    (fun h => plainOp hcr hB hop h 0 fun _ => rel_execSliceIndex)
    (fun h => plainOp hcr hB hop h 1 rel_execGetFree)
    (fun h => plainOp hcr hB hop h 1 rel_execSetFree)
    (fun h => plainOp hcr hB hop h 1 rel_execGetLocalPtr)
    (fun h => plainOp hcr hB hop h 1 rel_execGetFreePtr)
    (fun h => plainOp hcr hB hop h 1 rel_execDefineLocal)
    (fun h => plainOp hcr hB hop h 0 fun _ => rel_execNull)
    (fun h => plainOp hcr hB hop h 0 fun _ => rel_execPop)
    (fun h => plainOp hcr hB hop h 0 fun _ => rel_execIterInit)
    (fun h => by rcases h with (h | h) | h <;> exact plainOp hcr hB hop h 0 fun _ hn => rel_execIterNext hn op)
    (fun h => plainOp hcr hB hop h 4 rel_execLoadModule)
    (fun h => plainOp hcr hB hop h 2 rel_execStoreModule)
    (fun h => absurd (beq_iff_eq.mpr h) h5)
    (fun h => plainOp hcr hB hop h 0 fun _ => rel_execSetupCatch)
    (fun h => plainOp hcr hB hop h 0 fun _ => rel_execSetupFinally)
    (fun h => plainOp hcr hB hop h 1 rel_execThrow)
    (fun h => rel_execFinalizer hP hc hB (hop.trans h))
    (fun h => plainOp hcr hB hop h 1 (rel_execUnary · · F))
    (fun h => plainOp hcr hB hop h 0 fun _ => rel_execNoOp)
    (rel_execUnknown op)

theorem rel_step {P : Params} (hP : P.OK) (F : FloatOps) :
    RelQ (RB P) (CtlPost P) (RM P) (stepW P.wide F) (step F) := by
  apply RelQ.mk'
  rintro s t ⟨ci, c, o, h⟩
  refine RelQ.run ?_ s t h
  unfold stepW step
  -- `bumpIp 1` enters the instruction at `o`; both sides fetch its opcode there
  refine RelQ.bind (VR := Eq) (B := R P ci c (Iat P c o)) (RelE.modS fun _ _ h => { h with ip := h.ip }) fun _ _ _ => ?_
  refine RelQ.bind rel_getIp_at ?_
  rintro _ _ ⟨rfl, rfl⟩
  refine relq_instAt_bind (fun _ _ h => h) (hP.rel c h.cok) h.ip.1 rfl rfl fun _ => ?_
  exact RelQ.bind (rel_noteTrace _) fun _ _ _ => rel_dispatch hP F _ h.ip.1 h.cok rfl

end UgoVerif.VM.Reloc

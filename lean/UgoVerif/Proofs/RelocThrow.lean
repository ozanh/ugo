import UgoVerif.Proofs.RelocIp
import UgoVerif.Proofs.FrameOps
/-
  Relocation relation: `throw`, `failWith`, `handlePanic` and the handler opcodes (SETUPCATCH, SETUPFINALLY, THROW,
  FINALIZER).  `throw` may leave the running function, so its lemmas start from `RM P`, the union of the
  `R P ci c I` (`RelQ.ofRM`), and follow the cut of FrameOps: `throwPre`, `handlePre`, `throwK`.  The addresses of a
  handler are related by `ARel`, so a handler that takes the error lands at an instruction boundary (`ThrowPost`).
-/
namespace UgoVerif.VM.Reloc
open UgoVerif UgoVerif.Go UgoVerif.VM

variable {P : Params} {ci : Nat → Nat} {c : Nat} {I : Int → Int → Prop}

theorem ARel.zero {φ : Nat → Nat} {B : Nat → Prop} : ARel φ B 0 0 := Or.inl ⟨rfl, rfl⟩

theorem ARel.pos_iff {φ : Nat → Nat} {B : Nat → Prop} {a b : Int} (h : ARel φ B a b) : a > 0 ↔ b > 0 := by
  rcases h with ⟨h1, h2⟩ | ⟨n, h1, h2, _, h3, h4⟩ <;> omega

theorem ARel.le_zero_iff {φ : Nat → Nat} {B : Nat → Prop} {a b : Int} (h : ARel φ B a b) : a ≤ 0 ↔ b ≤ 0 := by
  rcases h with ⟨h1, h2⟩ | ⟨n, h1, h2, _, h3, h4⟩ <;> omega

theorem ARel.zero_iff {φ : Nat → Nat} {B : Nat → Prop} {a b : Int} (h : ARel φ B a b) : a = 0 ↔ b = 0 := by
  rcases h with ⟨h1, h2⟩ | ⟨n, h1, h2, _, h3, h4⟩ <;> omega

theorem ARel.target {φ : Nat → Nat} {B : Nat → Prop} {a b : Int} (h : ARel φ B a b) (ha : a > 0) :
    ∃ n : Nat, B n ∧ a = n ∧ b = φ n := by
  rcases h with ⟨h1, h2⟩ | ⟨n, h1, h2, hb, h3, h4⟩
  · omega
  · exact ⟨n, hb, h3, h4⟩

theorem HLRel.length {φ : Nat → Nat} {B : Nat → Prop} : ∀ {l l' : List Handler}, HLRel φ B l l' → l'.length = l.length
  | [], [], _ => rfl
  | _ :: r, _ :: r', h => by simp [HLRel.length h.2]
  | [], _ :: _, h => h.elim
  | _ :: _, [], h => h.elim

theorem HsRel.cases {φ : Nat → Nat} {B : Nat → Prop} {x y : Option (List Handler)} (h : HsRel φ B x y) :
    (x = none ∧ y = none) ∨ (x = some [] ∧ y = some []) ∨
    (∃ a r b r', x = some (a :: r) ∧ y = some (b :: r') ∧ HRel φ B a b ∧ HLRel φ B r r') :=
  match x, y, h with
  | none, none, _ => Or.inl ⟨rfl, rfl⟩
  | some [], some [], _ => Or.inr (Or.inl ⟨rfl, rfl⟩)
  | some (a :: r), some (b :: r'), h => Or.inr (Or.inr ⟨a, r, b, r', rfl, rfl, h.1, h.2⟩)
  | none, some _, h | some _, none, h | some [], some (_ :: _), h | some (_ :: _), some [], h => h.elim

section frames
variable {φ : Nat → Nat} {B : Nat → Prop} {bl : Prop} {f g : Frame}

theorem FrRel.nhl (h : FrRel φ B bl f g) : nhl g = nhl f := by
  unfold VM.nhl
  rcases h.hs.cases with ⟨h1, h2⟩ | ⟨h1, h2⟩ | ⟨a, r, b, r', h1, h2, _, hr⟩
  · rw [h1, h2]
  · rw [h1, h2]
  · rw [h1, h2]; simp [hr.length]

theorem FrRel.hasHandler (h : FrRel φ B bl f g) : hasHandler g = hasHandler f := by
  unfold VM.hasHandler
  rcases h.hs.cases with ⟨h1, h2⟩ | ⟨h1, h2⟩ | ⟨a, r, b, r', h1, h2, _, hr⟩ <;> rw [h1, h2]

theorem FrRel.lastHandler (h : FrRel φ B bl f g) :
    (lastHandler f = none ∧ lastHandler g = none) ∨
    (∃ a b, lastHandler f = some a ∧ lastHandler g = some b ∧ HRel φ B a b) := by
  unfold VM.lastHandler
  rcases h.hs.cases with ⟨h1, h2⟩ | ⟨h1, h2⟩ | ⟨a, r, b, r', h1, h2, hab, hr⟩
  · rw [h1, h2]; exact Or.inl ⟨rfl, rfl⟩
  · rw [h1, h2]; exact Or.inl ⟨rfl, rfl⟩
  · rw [h1, h2]; exact Or.inr ⟨a, b, rfl, rfl, hab⟩

theorem FrRel.setLast (h : FrRel φ B bl f g) (u v : Handler → Handler)
    (huv : ∀ a b, HRel φ B a b → HRel φ B (u a) (v b)) : FrRel φ B bl (setLast f u) (setLast g v) := by
  unfold VM.setLast
  rcases h.hs.cases with ⟨h1, h2⟩ | ⟨h1, h2⟩ | ⟨a, r, b, r', h1, h2, hab, hr⟩
  · rw [h1, h2]; exact h
  · rw [h1, h2]; exact h
  · rw [h1, h2]
    exact { h with hs := ⟨huv a b hab, hr⟩ }

theorem FrRel.popHandler (h : FrRel φ B bl f g) : FrRel φ B bl (popHandler f) (popHandler g) := by
  unfold VM.popHandler
  rcases h.hs.cases with ⟨h1, h2⟩ | ⟨h1, h2⟩ | ⟨a, r, b, r', h1, h2, hab, hr⟩
  · rw [h1, h2]; exact h
  · rw [h1, h2]; exact h
  · rw [h1, h2]
    exact { h with hs := hr }

end frames

theorem rel_setLast (u v : Handler → Handler)
    (huv : ∀ a b, HRel (P.Φ c) (P.BB c) a b → HRel (P.Φ c) (P.BB c) (u a) (v b)) :
    RelE (R P ci c I) (R P ci c I) (RM P) Eq (setCurFrame fun f => setLast f u) (setCurFrame fun f => setLast f v) :=
  rel_setCurFrame _ _ (fun _ _ h => h.setLast u v huv) (fun fr => Or.inl (setLast_fn fr u))

theorem rel_popHandler :
    RelE (R P ci c I) (R P ci c I) (RM P) Eq (setCurFrame popHandler) (setCurFrame popHandler) :=
  rel_setCurFrame _ _ (fun _ _ h => h.popHandler) (fun fr => Or.inl (popHandler_fn fr))

/-- `vm.err = e; return`, from states related anyhow -/
theorem ctl_setErr_ret (e : VmErr) : RelQ (RM P) (CtlPost P) (RM P)
    (do modS (fun s => { s with err := some e }); pure Ctl.ret)
    (do modS (fun s => { s with err := some e }); pure Ctl.ret) :=
  RelQ.bindEq (RelE.modS fun _ _ ⟨ci, c, h⟩ => ⟨ci, c, { h with err := rfl }⟩) fun _ => ctl_ret_RM

/-- `RM P` is the union of the `R P ci c` with any instruction pointers -/
theorem RelQ.ofRM {α β} {Q : α → β → State → State → Prop} {E : State → State → Prop} {m₁ : M α} {m₂ : M β}
    (h : ∀ ci c, RelQ (R P ci c fun _ _ => True) Q E m₁ m₂) : RelQ (RM P) Q E m₁ m₂ :=
  RelQ.mk' fun s t ⟨ci, c, hR⟩ => (h ci c).run s t hR

theorem RelE.ofRM {α β} {B E : State → State → Prop} {VR : α → β → Prop} {m₁ : M α} {m₂ : M β}
    (h : ∀ ci c, RelE (R P ci c fun _ _ => True) B E VR m₁ m₂) : RelE (RM P) B E VR m₁ m₂ :=
  RelQ.toE (RelQ.ofRM fun ci c => RelQ.ofE (h ci c))

theorem rel_throwFuel_R : RelE (R P ci c I) (R P ci c I) (RM P) Eq throwFuel throwFuel := by
  apply RelE.mk'
  intro s t h
  rw [exec_throwFuel, exec_throwFuel]
  exact ⟨(fuelOf_congr (by rw [h.fsS, h.fsT]) fun i hi => (h.frames i (h.fsS ▸ hi)).nhl).symm, h⟩

theorem rel_throwFuel : RelE (RM P) (RM P) (RM P) Eq throwFuel throwFuel :=
  RelE.ofRM fun _ _ => rel_throwFuel_R.post fun _ _ => R.toRM

theorem R.clearFrame {s t : State} (h : R P ci c I s t) (n : Nat) :
    R P ci c I { s with frames := s.frames.modify n clrF } { t with frames := t.frames.modify n clrF } :=
  h.modifyFrame rfl _ _ (fun _ _ hr => { hr with fn := rfl, free := rfl }) fun _ => Or.inr rfl

/-- the search of `throw` visits the frames below the current one: both runs find the same frame -/
theorem R.searchedS {s t : State} (h : R P ci c I s t) :
    (searched t.frames (t.frameIndex - 1).toNat).1 = (searched s.frames (s.frameIndex - 1).toNat).1 ∧
      R P ci c I (searchedS s) (searchedS t) := by
  have hcur := h.cur
  have hlink := h.link
  have e : (t.frameIndex - 1).toNat = (s.frameIndex - 1).toNat := by rw [h.frameIndex]
  unfold VM.searchedS
  rw [e]
  exact searched_rel0 (A := fun fr gr => R P ci c I { s with frames := fr } { t with frames := gr }) _
    (fun _ _ j hj hr => (hr.frames j (by omega)).hasHandler) (fun _ _ j _ hr _ => hr.clearFrame j) h

/-- going down to the outer frame `i` (the handling frame of `throw`, the caller at RETURN): `R` for function
    `ci i` -/
theorem R.toFrame {s t : State} (h : R P ci c I s t) {i : Nat} (hi : i < s.curFrame) {I' : Int → Int → Prop}
    {a b : Int} (hI : I' a b) : R P ci (ci i) I' { toFrame s i with ip := a } { toFrame t i with ip := b } :=
  have hcur := h.cur
  { h with ip := hI, curFrame := rfl, frameIndex := rfl, link := rfl, cur := by show i < frameSize; omega, curc := rfl,
           cok := h.cis i (by omega), cis := fun j hj => h.cis j (by have : j ≤ i := hj; omega),
           frames := fun j hj => { h.frames j hj with ip := fun hb => (h.frames j hj).ip (by have : j < i := hb; omega) },
           code := fun j hj => h.code j (by have : j ≤ i := hj; omega) }

/-- `none`: a handler took the error, and the run goes on at an instruction boundary -/
def ThrowPost (P : Params) : Option Addr → Option Addr → State → State → Prop :=
  fun a b s t => a = b ∧ RM P s t ∧ (a = none → RB P s t)

theorem rel_throwPre (err : Addr) :
    RelQ (R P ci c I) (fun a b s t => a = b ∧ RM P s t ∧ a ≠ some none) (RM P) (throwPre err) (throwPre err) := by
  apply RelQ.mk'
  intro s t h
  rw [exec_throwPre, exec_throwPre, h.curFrame, h.frameIndex, (h.frames s.curFrame h.cur).hasHandler]
  by_cases hh : hasHandler (s.frames[s.curFrame]!) = true
  · rw [if_pos hh, if_pos hh]; exact ⟨rfl, h.toRM, fun e => by cases e⟩
  rw [if_neg hh, if_neg hh]
  by_cases hn : (s.frameIndex - 1).toNat > frameSize
  · rw [if_pos hn, if_pos hn]; exact ⟨rfl, h.toRM⟩
  rw [if_neg hn, if_neg hn]
  have hlink := h.link
  obtain ⟨e, h1'⟩ := h.searchedS
  rw [h.frameIndex] at e
  rw [e]
  cases hr : (searched s.frames (s.frameIndex - 1).toNat).1 with
  | none => exact ⟨rfl, h1'.toRM, fun e => by cases e⟩
  | some i =>
    have hi : i < s.curFrame := by have := (searched_some hr).1; omega
    dsimp only
    rw [(h.frames i (by have := h.cur; omega)).fn]
    cases (s.frames[i]!).fn with
    | none => exact ⟨rfl, ci, ci i, h1'.toFrame hi trivial⟩
    | some a => exact ⟨rfl, ⟨ci, ci i, h1'.toFrame hi trivial⟩, fun e => by cases e⟩

/-- the jump to a catch or finally address `x` of a handler of the running function -/
theorem rel_landAt {x y : Int} (hxy : ARel (P.Φ c) (P.BB c) x y) (hx : x > 0) (hsp : Int) :
    RelQ (R P ci c I) (fun a b s t => a = b ∧ RM P s t ∧ (a = some none → RB P s t)) (RM P)
      (landAt (x - 1) hsp) (landAt (y - 1) hsp) := by
  obtain ⟨n, hB, e1, e2⟩ := hxy.target hx
  unfold landAt
  refine RelQ.bind (rel_setIp_bnd x y n hB e1 e2) fun _ _ _ => ?_
  refine RelQ.bindEq rel_getSp fun sp => ?_
  have jp : RelQ (R P ci c (Ibnd P c n)) (fun a b s t => a = b ∧ RM P s t ∧ (a = some none → RB P s t)) (RM P)
      (setSp hsp >>= fun _ => pure (some (none : Option Addr))) (setSp hsp >>= fun _ => pure (some none)) :=
    RelQ.bindEq (rel_setSp hsp) fun _ => RelQ.pure fun _ _ h => ⟨rfl, h.toRM, fun _ => ⟨ci, c, n, h⟩⟩
  exact RelQ.ite (RelQ.bindEq (rel_clearDown _ _) fun _ => jp) jp

theorem rel_handlePre (err : Addr) :
    RelQ (R P ci c I) (fun a b s t => a = b ∧ RM P s t ∧ (a = some none → RB P s t)) (RM P)
      (handlePre err) (handlePre err) := by
  unfold handlePre
  refine RelQ.bind (rel_setLast _ _ (fun a b hab => { hab with err := rfl })) ?_
  intro _ _ _
  refine RelQ.bind rel_curFrame ?_
  intro f g hfg
  rcases hfg.lastHandler with ⟨h1, h2⟩ | ⟨a, b, h1, h2, hab⟩
  · rw [h1, h2]
    exact RelQ.panic _ (fun _ _ h => h.toRM)
  · rw [h1, h2]
    dsimp only
    rw [hab.sp]
    refine RelQ.iteIff hab.catch_.pos_iff (rel_landAt hab.catch_ · _) fun _ => ?_
    refine RelQ.iteIff hab.finally_.pos_iff (rel_landAt hab.finally_ · _) fun _ => ?_
    exact RelQ.bindEq rel_popHandler fun _ => RelQ.pure fun _ _ h => ⟨rfl, h.toRM, fun e => by cases e⟩

theorem rel_handleK {k : M (Option Addr)} (hk : RelQ (RM P) (ThrowPost P) (RM P) k k) (err : Addr) :
    RelQ (RM P) (ThrowPost P) (RM P) (handleK k err) (handleK k err) := by
  unfold handleK
  refine RelQ.bindQ (RelQ.ofRM fun _ _ => rel_handlePre err) fun a b => RelQ.pre_and fun e => ?_
  subst e
  cases a with
  | none => exact hk.pre fun _ _ h => h.1
  | some r => exact RelQ.pure fun _ _ h => ⟨rfl, h.1, fun e => h.2 (by rw [e])⟩

theorem rel_throwK {k : M (Option Addr)} (hk : RelQ (RM P) (ThrowPost P) (RM P) k k) (err : Addr) :
    RelQ (RM P) (ThrowPost P) (RM P) (throwK k err) (throwK k err) := by
  unfold throwK
  refine RelQ.bindQ (RelQ.ofRM fun _ _ => rel_throwPre err) fun a b => RelQ.pre_and fun e => ?_
  subst e
  cases a with
  | none => exact (rel_handleK hk err).pre fun _ _ h => h.1
  | some r => exact RelQ.pure fun _ _ h => ⟨rfl, h.1, fun e => absurd (by rw [e]) h.2⟩

theorem rel_throwF (fuel : Nat) : ∀ err : Addr, RelQ (RM P) (ThrowPost P) (RM P) (throwF fuel err) (throwF fuel err) := by
  induction fuel with
  | zero => intro err; rw [throwF]; exact RelQ.unsupported _ (fun _ _ h => h)
  | succ n ih => intro err; rw [throwF_succ]; exact rel_throwK (ih err) err

/-- `vm.throw(err)` with the fuel the model computes for it -/
theorem rel_throwNow (ra : Addr) :
    RelQ (R P ci c I) (ThrowPost P) (RM P) (throwFuel >>= fun n => throwF n ra) (throwFuel >>= fun n => throwF n ra) := by
  refine RelQ.bindEq rel_throwFuel_R ?_
  intro n
  exact (rel_throwF n ra).pre (fun _ _ h => h.toRM)

/-- Behind `throw`: when a handler took the error the run goes on at an instruction boundary, else the
    error comes back and the states are related anyhow. -/
theorem rel_afterThrow {α β γ} {Q : β → γ → State → State → Prop} (k₁ : Option α → M β) (k₂ : Option α → M γ)
    (hnone : RelQ (RB P) Q (RM P) (k₁ none) (k₂ none))
    (hsome : ∀ x, RelQ (RM P) Q (RM P) (k₁ (some x)) (k₂ (some x))) (a b : Option α) :
    RelQ (fun s t => a = b ∧ RM P s t ∧ (a = none → RB P s t)) Q (RM P) (k₁ a) (k₂ b) := by
  apply RelQ.mk'
  rintro s t ⟨rfl, hM, hB⟩
  cases a with
  | none => exact hnone.run s t (hB rfl)
  | some x => exact (hsome x).run s t hM

/-- `r := vm.throw(e)` followed by a continuation -/
theorem rel_throwThen {β γ} {Q : β → γ → State → State → Prop} (e : Addr) (k₁ : Option Addr → M β)
    (k₂ : Option Addr → M γ) (hnone : RelQ (RB P) Q (RM P) (k₁ none) (k₂ none))
    (hsome : ∀ x, RelQ (RM P) Q (RM P) (k₁ (some x)) (k₂ (some x))) :
    RelQ (R P ci c I) Q (RM P) (do let n ← throwFuel; let r ← throwF n e; k₁ r)
      (do let n ← throwFuel; let r ← throwF n e; k₂ r) :=
  RelQ.bindEq rel_throwFuel_R fun n =>
    RelQ.bindQ ((rel_throwF n e).pre fun _ _ => R.toRM) (rel_afterThrow k₁ k₂ hnone hsome)

theorem rel_throwGenErr_R (e : OpErr) :
    RelQ (R P ci c I) (fun a b s t => a = b ∧ RM P s t ∧ (a = none → RB P s t)) (RM P)
      (throwGenErr e) (throwGenErr e) :=
  RelQ.bindEq (rel_of_data (CompSim.ho_rtErrOfOpErr e)) fun ra =>
    rel_throwThen ra _ _ (RelQ.pure fun s t h => ⟨rfl, h.toRM, fun _ => h⟩)
      fun x => RelQ.pure fun s t h => ⟨rfl, h, fun e => by cases e⟩

theorem rel_failWith_R (e : OpErr) : RelQ (R P ci c I) (CtlPost P) (RM P) (failWith e) (failWith e) :=
  RelQ.bindQ (rel_throwGenErr_R e) (rel_afterThrow _ _ ctl_next_RB fun ve => ctl_setErr_ret ve)

theorem rel_failWith (e : OpErr) : RelQ (RM P) (CtlPost P) (RM P) (failWith e) (failWith e) :=
  RelQ.ofRM fun _ _ => rel_failWith_R e

theorem rel_handlePanic_R (msg : String) :
    RelE (R P ci c I) (fun s t => RM P s t ∧ (s.err = none → RB P s t)) (RM P) Eq (handlePanic msg) (handlePanic msg) := by
  have hset : ∀ e, RelE (RM P) (fun s t => RM P s t ∧ (s.err = none → RB P s t)) (RM P) Eq
      (modS fun s => { s with err := some e }) (modS fun s => { s with err := some e }) :=
    fun e => RelE.modS fun s t ⟨ci, c, h⟩ => ⟨⟨ci, c, { h with err := rfl }⟩, fun e => by cases e⟩
  unfold handlePanic
  refine RelE.bind rel_getS ?_
  intro s0 t0 h0
  simp only [h0.sp, h0.frameIndex, h0.err]
  refine RelE.ite (RelQ.toE ?_) ((hset _).pre fun _ _ => R.toRM)
  refine RelQ.bindEq (rel_alloc _ (by intro k fr e; cases e)) fun ea => ?_
  refine RelQ.bindEq (rel_alloc _ (by intro k fr e; cases e)) fun ra => ?_
  exact rel_throwThen ra _ _ (RelQ.pure fun s t h => ⟨rfl, h.toRM, fun _ => h⟩) fun _ => RelQ.ofE (hset _)

theorem rel_handlePanic (msg : String) :
    RelE (RM P) (fun s t => RM P s t ∧ (s.err = none → RB P s t)) (RM P) Eq (handlePanic msg) (handlePanic msg) :=
  RelE.ofRM fun _ _ => rel_handlePanic_R msg

theorem rel_execSetupCatch {o : Nat} (hnext : Next P c o 0) :
    OpRel P ci c o execSetupCatch execSetupCatch := by
  unfold execSetupCatch
  refine RelQ.bind rel_curFrame ?_
  intro f g hfg
  dsimp only
  have jp : ∀ v, RelQ (R P ci c (Iat P c o)) (CtlPost P) (RM P)
      (pushV v >>= fun _ => pure Ctl.next) (pushV v >>= fun _ => pure Ctl.next) :=
    fun v => RelQ.bindEq (rel_pushV v) (fun _ => ctl_next_at hnext)
  rw [hfg.hasHandler]
  refine RelQ.ite ?_ (jp _)
  refine RelQ.bind (rel_setLast _ _ (fun a b hab => { hab with catch_ := ARel.zero })) ?_
  intro _ _ _
  rcases hfg.lastHandler with ⟨h1, h2⟩ | ⟨a, b, h1, h2, hab⟩
  · rw [h1, h2]; exact jp _
  · rw [h1, h2]
    dsimp only
    rw [hab.err]
    cases a.err with
    | none => exact jp _
    | some e =>
      dsimp only
      refine RelQ.bind (rel_setLast _ _ (fun a b hab => { hab with err := rfl })) ?_
      intro _ _ _
      exact jp _

theorem rel_execSetupFinally {o : Nat} (hnext : Next P c o 0) :
    OpRel P ci c o execSetupFinally execSetupFinally := by
  unfold execSetupFinally
  refine RelQ.bind rel_curFrame ?_
  intro f g hfg
  dsimp only
  rw [hfg.hasHandler]
  refine RelQ.ite ?_ (ctl_next_at hnext)
  refine RelQ.bind (rel_setLast _ _ (fun a b hab => { hab with catch_ := ARel.zero, finally_ := ARel.zero })) ?_
  intro _ _ _
  exact ctl_next_at hnext

/-- `findFinally` returns `0` or the address of a finally block -/
theorem rel_findFinally (fuel : Nat) (upto : Int) :
    RelE (R P ci c I) (R P ci c I) (RM P) (ARel (P.Φ c) (P.BB c)) (findFinally fuel upto) (findFinally fuel upto) := by
  induction fuel with
  | zero =>
    rw [findFinally]
    exact RelE.unsupported _ (fun _ _ h => h.toRM)
  | succ n ih =>
    rw [findFinally]
    refine RelE.bind rel_curFrame ?_
    intro f g hfg
    rcases hfg.hs.cases with ⟨h1, h2⟩ | ⟨h1, h2⟩ | ⟨a, r, b, r', h1, h2, hab, hr⟩
    · rw [h1, h2]
      exact RelE.pure ARel.zero
    · rw [h1, h2]
      dsimp only
      exact RelE.ite (RelE.pure ARel.zero) (RelE.pure ARel.zero)
    · rw [h1, h2]
      dsimp only
      have hl : (b :: r').length = (a :: r).length := by simp [hr.length]
      rw [hl]
      refine RelE.ite (RelE.pure ARel.zero) ?_
      exact RelE.iteIff (by simp [hab.finally_.zero_iff]) (fun _ => RelE.bindEq rel_popHandler fun _ => ih)
        fun _ => RelE.pure hab.finally_

theorem rel_execFinalizer (hP : P.OK) {o : Nat} (hc : c < P.cs.size) (hB : P.BB c o)
    (hop : (((P.cs[c]!).insts)[o]!).toNat = OpFinalizer) :
    OpRel P ci c o execFinalizer execFinalizer := by
  obtain ⟨hw, hnext⟩ := plain_facts (hP.rel c hc) hB _ hop 1 (by decide)
  have hret : ARel (P.Φ c) (P.BB c) (o : Int) (P.Φ c o : Int) := by
    by_cases ho : o = 0
    · subst ho
      have := (hP.rel c hc).fin0 hB hop
      rw [this]
      exact ARel.zero
    · exact Or.inr ⟨o, by omega, by have := (hP.rel c hc).mono 0 o (by omega); omega, hB, rfl, rfl⟩
  rw [execFinalizer_eq]
  refine RelQ.bindEq (rel_opnd1 hw 1 (by decide)) ?_
  intro upto
  refine RelQ.bind rel_curFrame ?_
  intro f g hfg
  rw [hfg.nhl]
  unfold finalizerRest
  refine RelQ.bind (rel_findFinally _ _) ?_
  intro pos pos' hpos
  refine RelQ.iteIff hpos.le_zero_iff
    (fun _ => RelQ.bind (rel_bumpIp_next 1 1 rfl hnext) fun _ _ _ => ctl_next_RB) fun hp => ?_
  refine RelQ.bind rel_getIp_at ?_
  rintro _ _ ⟨rfl, rfl⟩
  refine RelQ.bindEq rel_getSp ?_
  intro sp
  refine RelQ.bind (rel_setLast _ _ (fun a b hab => { hab with returnTo := hret, sp := rfl, err := rfl })) ?_
  intro _ _ _
  obtain ⟨n, hBn, e1, e2⟩ := hpos.target (by omega)
  exact RelQ.bind (rel_setIp_target pos pos' n hBn e1 e2) fun _ _ _ => ctl_next_RB

/-- `if err := vm.throw(e); err != nil { vm.err = err; return }` -/
theorem rel_throwEnd (e : Addr) : RelQ (R P ci c I) (CtlPost P) (RM P) (throwNow e) (throwNow e) :=
  rel_throwThen e _ _ ctl_next_RB fun a => ctl_setErr_ret (.rt a)

theorem rel_execThrow {o : Nat} (hw : Win (P.cs[c]!).insts (P.ct[c]!).insts (P.Φ c) o 1) (hnext : Next P c o 1) :
    OpRel P ci c o execThrow execThrow := by
  unfold execThrow
  refine RelQ.bindEq (rel_opnd1 hw 1 (by decide)) ?_
  intro k
  refine RelQ.bind (rel_bump 1 hnext rfl) ?_
  intro _ _ _
  refine RelQ.ite ?_ (RelQ.ite ?_ ?_)
  · -- `throw` without operand: the end of a finally block
    refine RelQ.bind rel_curFrame ?_
    intro f g hfg
    rcases hfg.lastHandler with ⟨h1, h2⟩ | ⟨a, b, h1, h2, hab⟩
    · rw [h1, h2]; exact ctl_next_bnd
    · rw [h1, h2]
      dsimp only
      rw [hab.err]
      cases a.err with
      | some e =>
        dsimp only
        refine RelQ.bindEq rel_popHandler ?_
        intro _
        exact rel_throwEnd e
      | none =>
        dsimp only
        refine RelQ.iteIff hab.returnTo.pos_iff (fun hr => ?_) fun _ => RelQ.bindEq rel_popHandler fun _ => ctl_next_bnd
        obtain ⟨n, hBn, e1, e2⟩ := hab.returnTo.target hr
        refine RelQ.bindEq rel_popHandler ?_
        intro _
        rw [hab.sp]
        refine RelQ.bindEq rel_getSp ?_
        intro sp
        have jp : RelQ (R P ci c (Ibnd P c (o + 1 + 1))) (CtlPost P) (RM P)
            (do setSp a.sp; setIp (a.returnTo - 1); pure Ctl.next)
            (do setSp a.sp; setIp (b.returnTo - 1); pure Ctl.next) :=
          RelQ.bindEq (rel_setSp _) fun _ => RelQ.bind (rel_setIp_target _ _ n hBn e1 e2) fun _ _ _ => ctl_next_RB
        exact RelQ.ite (RelQ.bindEq (rel_clearDown _ _) (fun _ => jp)) jp
  · -- `throw obj`
    refine RelQ.bindEq rel_getSp ?_
    intro sp
    refine RelQ.bindEq (rel_stackGet _) ?_
    intro obj
    refine RelQ.bindEq (rel_stackSet _ _) ?_
    intro _
    refine RelQ.bindEq (rel_setSp _) ?_
    intro _
    -- the thrown object becomes a `*RuntimeError`: allocation only
    refine RelQ.bindK (by rlc) ?_
    intro ra
    exact rel_throwEnd ra
  · exact (ctl_setErr_ret _).pre fun _ _ => R.toRM

end UgoVerif.VM.Reloc

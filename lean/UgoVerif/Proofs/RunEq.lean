import UgoVerif.VM.Run
import UgoVerif.Spec.RelocVM
/-
  The equations of `Run` (`runFromG`, of which `runFrom` is the instance `step F`): one round of `go`, the
  epilogue.  Stated on `m.run.run s`, which both `VM.exec` and `ModCache.exec`
  unfold to, so that either side can use them.
-/
namespace UgoVerif.VM
open UgoVerif UgoVerif.Go

theorem emptyFrames_get (i : Nat) : emptyFrames[i]! = ({} : Frame) := by
  unfold emptyFrames
  by_cases hi : i < frameSize
  · simp [hi]
  · simp [hi]; rfl

theorem loopG_step (F : FloatOps) (fuel : Nat) : loopG (step F) fuel = loopF F fuel := by
  induction fuel with
  | zero => rfl
  | succ n ih =>
    unfold loopG loopF; rw [ih]
    apply bind_congr; intro s0
    split
    · rfl
    · apply bind_congr; intro r; cases r <;> rfl

def afterLoop (again : Nat → State → Outcome × State) (fuel : Nat) (r : Except Exc (Option Unit)) (s : State) :
    Outcome × State :=
  match r with
  | .ok none => (.outOfFuel, s)
  | .ok (some ()) => runFrom.finish (clearCurrentFrame.run.run s).2
  | .error (.unsupported m) => (.unsupported m, s)
  | .error (.panic m) =>
    if s.noPanic then
      match (handlePanic m).run.run s with
      | (.error (.panic m'), s) => (.goPanic m', s)
      | (.error (.unsupported m'), s) => (.unsupported m', s)
      | (.ok (), s) => if s.err.isNone then again (fuel - s.steps) s else runFrom.finish s
    else (.goPanic m, s)

theorem goG_succ (stp : M Ctl) (n fuel : Nat) (s : State) :
    runFromG.go stp (n + 1) fuel s =
      afterLoop (runFromG.go stp n) fuel ((loopG stp fuel).run.run s).1 ((loopG stp fuel).run.run s).2 := by
  unfold runFromG.go afterLoop
  rcases (loopG stp fuel).run.run s with ⟨r, s1⟩
  rcases r with (_ | _) | (_ | _) <;> rfl

theorem go_succ (F : FloatOps) (n fuel : Nat) (s : State) :
    runFrom.go F (n + 1) fuel s =
      afterLoop (runFrom.go F n) fuel ((loopF F fuel).run.run s).1 ((loopF F fuel).run.run s).2 := by
  unfold runFrom.go afterLoop
  rcases (loopF F fuel).run.run s with ⟨r, s1⟩
  rcases r with (_ | _) | (_ | _) <;> rfl

theorem go_step (F : FloatOps) (reruns : Nat) : ∀ fuel s, runFromG.go (step F) reruns fuel s = runFrom.go F reruns fuel s := by
  induction reruns with
  | zero => intro fuel s; rfl
  | succ n ih =>
    intro fuel s
    rw [goG_succ, go_succ, loopG_step, funext fun f => funext fun s => ih f s]

theorem runFromG_step (F : FloatOps) (fuel : Nat) (g : V) (args : List V) (s0 : State) :
    runFromG (step F) fuel g args s0 = runFrom F fuel g args s0 := by
  unfold runFromG runFrom
  rcases (prologue g args).run.run s0 with ⟨r, s⟩
  cases r with
  | ok u => exact go_step F fuel fuel s
  | error e => cases e <;> rfl

theorem runFrom_of_loop (F : FloatOps) {fuel : Nat} {g : V} {args : List V} {sI s0 s2 : State} (hf : 0 < fuel)
    (hpro : (prologue g args).run.run sI = (.ok (), s0)) (hloop : (loopF F fuel).run.run s0 = (.ok (some ()), s2)) :
    runFrom F fuel g args sI = runFrom.finish (clearCurrentFrame.run.run s2).2 := by
  obtain ⟨n, rfl⟩ : ∃ n, fuel = n + 1 := ⟨fuel - 1, by omega⟩
  unfold runFrom
  rw [hpro]
  show runFrom.go F (n + 1) (n + 1) s0 = _
  rw [go_succ, hloop]
  rfl

theorem finish_of_result {u : State} {v : V} (herr : u.err = none) (hsp : u.sp < (stackSize : Int))
    (hr : resultValue.run.run u = (.ok v, u)) : runFrom.finish u = (.value v, u) := by
  unfold runFrom.finish
  rw [herr]
  simp only [hsp, if_true, hr]

theorem finish_of_err (u : State) (e : VmErr) (herr : u.err = some e) : runFrom.finish u = (.error e, u) := by
  unfold runFrom.finish
  rw [herr]

end UgoVerif.VM

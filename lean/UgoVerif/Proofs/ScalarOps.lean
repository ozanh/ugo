import UgoVerif.Model.Optim
import UgoVerif.Proofs.Frame
/-
  The operator layer of the VM model (`isFalsy`, `vString`, `vUnary`, `vBinaryOp`, `vEqual`) on scalar values:
  it neither reads nor writes the state (`IsPure`), returns scalars and `named` errors (`Post OpRes`); an operator
  has both at once (`ScalarOp`), by one walk over its code.
  Shared by the optimizer proofs (C01) and the compiler simulation (C02).
-/
namespace UgoVerif.Proofs.OptimSem
open UgoVerif UgoVerif.Go UgoVerif.Ast UgoVerif.VM UgoVerif.Proofs.ModCache
open UgoVerif.Model.Optim (runM)

/-- values without a heap address -/
def Scalar : V → Prop
  | .undefined | .int _ | .uint _ | .float _ | .char _ | .bool _ | .str _ | .bytes _ => True
  | _ => False

structure IsPure {α} (m : M α) : Prop where
  h : ∀ s, exec m s = (runM m, s)

theorem IsPure.of_const {α} {m : M α} (r : Except Exc α) (h : ∀ s, exec m s = (r, s)) : IsPure m := by
  constructor
  intro s
  have h0 : runM m = r := by
    show (exec m default).1 = r
    rw [h default]
  rw [h0, h s]

theorem IsPure.pure {α} (a : α) : IsPure (Pure.pure a : M α) := IsPure.of_const (.ok a) (fun _ => rfl)
theorem IsPure.throw {α} (e : Exc) : IsPure (throw e : M α) := IsPure.of_const (.error e) (fun _ => rfl)
theorem IsPure.panic {α} (m : String) : IsPure (VM.panic m : M α) := IsPure.throw _
theorem IsPure.unsupported {α} (m : String) : IsPure (VM.unsupported m : M α) := IsPure.throw _

theorem IsPure.bind {α β} {m : M α} {f : α → M β} (hm : IsPure m) (hf : ∀ a, IsPure (f a)) :
    IsPure (m >>= f) := by
  cases hr : runM m with
  | error e =>
    apply IsPure.of_const (.error e)
    intro s
    rw [exec_bind, hm.h s, hr]
  | ok a =>
    apply IsPure.of_const (runM (f a))
    intro s
    rw [exec_bind, hm.h s, hr]
    exact (hf a).h s

theorem IsPure.ite {α} {c : Prop} [Decidable c] {a b : M α} (ha : IsPure a) (hb : IsPure b) :
    IsPure (if c then a else b) := by
  split <;> assumption

structure Post {α} (P : α → Prop) (m : M α) : Prop where
  h : ∀ s a s', exec m s = (.ok a, s') → P a

theorem Post.pure {α} {P : α → Prop} {a : α} (h : P a) : Post P (Pure.pure a : M α) := by
  constructor
  intro s b s' hb
  cases hb
  exact h

theorem Post.throw {α} {P : α → Prop} (e : Exc) : Post P (throw e : M α) := by
  constructor
  intro s b s' hb
  cases hb

theorem Post.panic {α} {P : α → Prop} (m : String) : Post P (VM.panic m : M α) := Post.throw _
theorem Post.unsupported {α} {P : α → Prop} (m : String) : Post P (VM.unsupported m : M α) := Post.throw _

theorem Post.bind {α β} {P : β → Prop} {m : M α} {f : α → M β} (hf : ∀ a, Post P (f a)) :
    Post P (m >>= f) := by
  constructor
  intro s b s' hb
  rw [exec_bind] at hb
  cases hm : exec m s with
  | mk x s1 =>
    rw [hm] at hb
    cases x with
    | error e => simp at hb
    | ok a => exact (hf a).h s1 b s' hb

theorem Post.of_runM {α} {P : α → Prop} {m : M α} (h : Post P m) {a : α} (hr : runM m = .ok a) : P a := by
  have h1 : (exec m default).1 = .ok a := hr
  have : exec m default = (.ok a, (exec m default).2) := by
    rw [← h1]
  exact h.h default a _ this

theorem isFalsy_pure {v : V} (h : Scalar v) : IsPure (isFalsy v) := by
  cases v <;> simp only [Scalar] at h <;> exact IsPure.pure _

theorem vString_pure {v : V} (h : Scalar v) : IsPure (vString v) := by
  cases v <;> simp only [Scalar] at h <;> unfold vString <;>
    first | exact IsPure.pure _ | exact IsPure.unsupported _

theorem toValShallow_scalar {v : V} (h : Scalar v) : ∃ a, toValShallow v = some a := by
  cases v <;> simp only [Scalar] at h <;> exact ⟨_, rfl⟩

theorem ofScalarVal_scalar {a : Val} {v : V} (h : ofScalarVal a = some v) : Scalar v := by
  cases a <;> simp only [ofScalarVal, Option.some.injEq, reduceCtorEq] at h <;> subst h <;> trivial

def OpRes : Except OpErr V → Prop
  | .ok v => Scalar v
  | .error oe => ∃ n m, oe = .named n m

theorem opErrOfErr_named (e : Err) : ∃ n m, opErrOfErr e = .named n m := by
  cases e <;> exact ⟨_, _, rfl⟩

structure ScalarOp (m : M (Except OpErr V)) : Prop where
  pure : IsPure m
  res : Post OpRes m

theorem ScalarOp.ret {r : Except OpErr V} (h : OpRes r) : ScalarOp (Pure.pure r) := ⟨.pure r, .pure h⟩
theorem ScalarOp.unsupported (msg : String) : ScalarOp (VM.unsupported msg) := ⟨.unsupported msg, .unsupported msg⟩
theorem ScalarOp.panic (msg : String) : ScalarOp (VM.panic msg) := ⟨.panic msg, .panic msg⟩
theorem ScalarOp.bind {α} {m : M α} {f : α → M (Except OpErr V)} (hm : IsPure m) (hf : ∀ a, ScalarOp (f a)) :
    ScalarOp (m >>= f) := ⟨hm.bind fun a => (hf a).pure, .bind fun a => (hf a).res⟩
theorem ScalarOp.ite {c : Prop} [Decidable c] {a b : M (Except OpErr V)} (ha : ScalarOp a) (hb : ScalarOp b) :
    ScalarOp (if c then a else b) := by
  split <;> assumption

theorem vUnary_op (F : FloatOps) (tok : Tok) {x : V} (hx : Scalar x) : ScalarOp (vUnary F tok x) := by
  obtain ⟨a, ha⟩ := toValShallow_scalar hx
  unfold vUnary
  dsimp only
  split
  · exact False.elim hx
  refine .bind (IsPure.ite (isFalsy_pure hx) (IsPure.pure _)) fun falsy => ?_
  simp only [ha]
  split
  · split
    · exact .ret hx
    · exact .ret hx
    · exact .ret hx
    · split
      · exact .ret (ofScalarVal_scalar ‹_›)
      · exact .unsupported _
  · exact .ret (opErrOfErr_named _)
  · exact .panic _

theorem vBinaryOp_op (F : FloatOps) (tok : Tok) {l r : V} (hl : Scalar l) (hr : Scalar r) :
    ScalarOp (vBinaryOp F tok l r) := by
  obtain ⟨a, ha⟩ := toValShallow_scalar hl
  obtain ⟨b, hb⟩ := toValShallow_scalar hr
  unfold vBinaryOp
  split
  case h_10 =>
    simp only [ha, hb]
    refine .ite (.bind (vString_pure hr) fun rs => ?_) (.bind (IsPure.pure _) fun rs => ?_)
    all_goals
      split
      · split
        · exact .ret (ofScalarVal_scalar ‹_›)
        · exact .unsupported _
      · exact .ret (opErrOfErr_named _)
      · exact .panic _
  all_goals exact False.elim hl

theorem toValDeep_scalar {v : V} (h : Scalar v) (heap : Array Cell) (n : Nat) : toValDeep heap (n + 1) v = toValShallow v := by
  cases v <;> first | rfl | exact False.elim h

theorem vEqual_pure (F : FloatOps) {l r : V} (hl : Scalar l) (hr : Scalar r) : IsPure (vEqual F l r) := by
  obtain ⟨a, ha⟩ := toValShallow_scalar hl
  obtain ⟨b, hb⟩ := toValShallow_scalar hr
  refine IsPure.of_const (.ok (Model.valEqual F a b)) fun s => ?_
  have e : exec getS s = (.ok s, s) := rfl
  unfold vEqual
  rw [exec_bind, e]
  simp only
  split
  case h_5 => rw [toValDeep_scalar hl, toValDeep_scalar hr, ha, hb]; rfl
  all_goals exact False.elim hl

end UgoVerif.Proofs.OptimSem

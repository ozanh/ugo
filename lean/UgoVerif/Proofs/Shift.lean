import UgoVerif.Proofs.VMLiveRun
/-
  C14, `frame_shift`: the offset relation between a child VM that runs a function in frame 0 /
  base 0 and the parent VM that runs the same function in frame k / base bp, and a relational
  calculus (`RelS`) for proving that model actions preserve it.

  `RelS A Q m₁ m₂`: started in `A`-related states, IF both actions end normally THEN their
  results and final states satisfy `Q`.  Nothing is claimed when one side ends with a Go panic
  or leaves the modelled subset: the child has `bp` more stack slots and k more frames than the
  parent's callee frame, so resource panics cannot coincide.
-/
namespace UgoVerif.Proofs.Shift
open UgoVerif UgoVerif.Go UgoVerif.VM

def RelS {α β} (A : State → State → Prop) (Q : α → β → State → State → Prop) (m₁ : M α) (m₂ : M β) : Prop :=
  ∀ s t, A s t → ∀ a s' b t', exec m₁ s = (.ok a, s') → exec m₂ t = (.ok b, t') → Q a b s' t'

abbrev PQ {α β} (VR : α → β → Prop) (B : State → State → Prop) : α → β → State → State → Prop :=
  fun x y s t => VR x y ∧ B s t

abbrev StepQ {σ τ} (Y D : σ → τ → State → State → Prop) : ForInStep σ → ForInStep τ → State → State → Prop
  | .yield u, .yield u' => Y u u'
  | .done u, .done u' => D u u'
  | _, _ => fun _ _ => False

namespace RelS
variable {A B : State → State → Prop}

theorem pure {α β} {Q : α → β → State → State → Prop} {a : α} {b : β} (h : ∀ s t, A s t → Q a b s t) :
    RelS A Q (Pure.pure a) (Pure.pure b) := by
  intro s t hA a' s' b' t' h1 h2
  simp only [exec_pure, Prod.mk.injEq, Except.ok.injEq] at h1 h2
  obtain ⟨rfl, rfl⟩ := h1
  obtain ⟨rfl, rfl⟩ := h2
  exact h _ _ hA

theorem bind {α β γ δ} {Q : α → β → State → State → Prop} {R : γ → δ → State → State → Prop}
    {m₁ : M α} {m₂ : M β} {f : α → M γ} {g : β → M δ}
    (hm : RelS A Q m₁ m₂) (hf : ∀ a b, RelS (Q a b) R (f a) (g b)) : RelS A R (m₁ >>= f) (m₂ >>= g) := by
  intro s t hA c s' d t' h1 h2
  rw [exec_bind] at h1 h2
  rcases e1 : exec m₁ s with ⟨r1, s1⟩
  rcases e2 : exec m₂ t with ⟨r2, t1⟩
  rw [e1] at h1
  rw [e2] at h2
  cases r1 with
  | error e => simp at h1
  | ok a =>
    cases r2 with
    | error e => simp at h2
    | ok b => exact hf a b s1 t1 (hm s t hA a s1 b t1 e1 e2) c s' d t' h1 h2

theorem bindV {α β γ δ} {VR : α → β → Prop} {R : γ → δ → State → State → Prop}
    {m₁ : M α} {m₂ : M β} {f : α → M γ} {g : β → M δ}
    (hm : RelS A (PQ VR B) m₁ m₂) (hf : ∀ a b, VR a b → RelS B R (f a) (g b)) :
    RelS A R (m₁ >>= f) (m₂ >>= g) := by
  refine bind hm ?_
  intro a b s t hA
  exact hf a b hA.1 s t hA.2

theorem conseq {α β} {A' : State → State → Prop} {Q Q' : α → β → State → State → Prop} {m₁ : M α} {m₂ : M β}
    (h : RelS A Q m₁ m₂) (hA : ∀ s t, A' s t → A s t) (hQ : ∀ a b s t, Q a b s t → Q' a b s t) :
    RelS A' Q' m₁ m₂ := by
  intro s t h' a s' b t' h1 h2
  exact hQ _ _ _ _ (h s t (hA s t h') a s' b t' h1 h2)

theorem and {α β} {A' : State → State → Prop} {Q Q' : α → β → State → State → Prop} {m₁ : M α} {m₂ : M β}
    (h : RelS A Q m₁ m₂) (h' : RelS A' Q' m₁ m₂) :
    RelS (fun s t => A s t ∧ A' s t) (fun x y s t => Q x y s t ∧ Q' x y s t) m₁ m₂ :=
  fun s t hA a s' b t' e1 e2 => ⟨h s t hA.1 a s' b t' e1 e2, h' s t hA.2 a s' b t' e1 e2⟩

theorem errL {α β} {Q : α → β → State → State → Prop} {m₂ : M β} (e : Exc) :
    RelS A Q (throw e : M α) m₂ := by
  intro s t _ a s' b t' h1 _
  simp at h1

theorem errR {α β} {Q : α → β → State → State → Prop} {m₁ : M α} (e : Exc) :
    RelS A Q m₁ (throw e : M β) := by
  intro s t _ a s' b t' _ h2
  simp at h2

theorem ite' {α β} {Q : α → β → State → State → Prop} {c c' : Prop} [Decidable c] [Decidable c'] (hc : c ↔ c')
    {a₁ b₁ : M α} {a₂ b₂ : M β} (ha : RelS A Q a₁ a₂) (hb : RelS A Q b₁ b₂) :
    RelS A Q (if c then a₁ else b₁) (if c' then a₂ else b₂) := by
  by_cases h : c
  · rw [if_pos h, if_pos (hc.mp h)]; exact ha
  · rw [if_neg h, if_neg (fun h' => h (hc.mpr h'))]; exact hb

theorem ite {α β} {Q : α → β → State → State → Prop} {c : Prop} [Decidable c] {a₁ b₁ : M α} {a₂ b₂ : M β}
    (ha : RelS A Q a₁ a₂) (hb : RelS A Q b₁ b₂) :
    RelS A Q (if c then a₁ else b₁) (if c then a₂ else b₂) :=
  ite' Iff.rfl ha hb

theorem pre_or {α β} {A₁ A₂ : State → State → Prop} {Q : α → β → State → State → Prop} {m₁ : M α} {m₂ : M β}
    (h1 : RelS A₁ Q m₁ m₂) (h2 : RelS A₂ Q m₁ m₂) : RelS (fun s t => A₁ s t ∨ A₂ s t) Q m₁ m₂ := by
  intro s t h
  rcases h with h | h
  · exact h1 s t h
  · exact h2 s t h

theorem pre_and {α β} {P : Prop} {Q : α → β → State → State → Prop} {m₁ : M α} {m₂ : M β}
    (h : P → RelS A Q m₁ m₂) : RelS (fun s t => P ∧ A s t) Q m₁ m₂ := by
  intro s t hp
  exact h hp.1 s t hp.2

theorem pre_exists {α β ι} {A' : ι → State → State → Prop} {Q : α → β → State → State → Prop} {m₁ : M α} {m₂ : M β}
    (h : ∀ i, RelS (A' i) Q m₁ m₂) : RelS (fun s t => ∃ i, A' i s t) Q m₁ m₂ := by
  intro s t ⟨i, hi⟩
  exact h i s t hi

theorem forIn_list_pos {ι σ τ} {J : Nat → σ → τ → State → State → Prop} {E : σ → τ → State → State → Prop}
    (l : List ι) (init : σ) (init' : τ) (f : ι → σ → M (ForInStep σ)) (g : ι → τ → M (ForInStep τ))
    (hf : ∀ n (hn : n < l.length) b b', RelS (J n b b') (StepQ (J (n + 1)) E) (f l[n] b) (g l[n] b')) :
    RelS (J 0 init init') (fun x y s t => J l.length x y s t ∨ E x y s t) (forIn l init f) (forIn l init' g) := by
  induction l generalizing J init init' with
  | nil => exact RelS.pure (fun s t h => Or.inl h)
  | cons i r ih =>
    rw [List.forIn_cons, List.forIn_cons]
    refine bind (hf 0 (Nat.zero_lt_succ _) init init') ?_
    intro x y
    rcases x with u | u <;> rcases y with u' | u'
    · exact RelS.pure (fun s t h => Or.inr h)
    · exact fun _ _ h => h.elim
    · exact fun _ _ h => h.elim
    · exact ih (J := fun n => J (n + 1)) u u' fun n hn => hf (n + 1) (Nat.succ_lt_succ hn)

theorem forIn_list_exit {ι σ τ} {VR : σ → τ → Prop} {E : σ → τ → State → State → Prop} (l : List ι) (init : σ) (init' : τ)
    (f : ι → σ → M (ForInStep σ)) (g : ι → τ → M (ForInStep τ)) (h0 : VR init init')
    (hf : ∀ i, i ∈ l → ∀ b b', VR b b' → RelS A (StepQ (PQ VR A) E) (f i b) (g i b')) :
    RelS A (fun x y s t => (VR x y ∧ A s t) ∨ E x y s t) (forIn l init f) (forIn l init' g) :=
  (forIn_list_pos (J := fun _ => PQ VR A) l init init' f g fun _ hn b b' =>
    pre_and fun hb => hf _ (List.getElem_mem hn) b b' hb).conseq (fun _ _ h => ⟨h0, h⟩) fun _ _ _ _ h => h

theorem forIn_list {ι σ τ} {VR : σ → τ → Prop} (l : List ι) (init : σ) (init' : τ)
    (f : ι → σ → M (ForInStep σ)) (g : ι → τ → M (ForInStep τ)) (h0 : VR init init')
    (hf : ∀ i, i ∈ l → ∀ b b', VR b b' → RelS A (StepQ (PQ VR A) (PQ VR A)) (f i b) (g i b')) :
    RelS A (PQ VR A) (forIn l init f) (forIn l init' g) :=
  (forIn_list_exit l init init' f g h0 hf).conseq (fun _ _ h => h) fun _ _ _ _ h => h.elim id id

theorem forIn_range {σ τ} {VR : σ → τ → Prop} (r : Std.Legacy.Range) (init : σ) (init' : τ)
    (f : Nat → σ → M (ForInStep σ)) (g : Nat → τ → M (ForInStep τ)) (h0 : VR init init')
    (hf : ∀ i b b', VR b b' → RelS A (fun x y s t =>
        ((∃ u u', x = .yield u ∧ y = .yield u' ∧ VR u u') ∨ (∃ u u', x = .done u ∧ y = .done u' ∧ VR u u')) ∧ A s t) (f i b) (g i b')) :
    RelS A (fun x y s t => VR x y ∧ A s t) (forIn r init f) (forIn r init' g) := by
  rw [Std.Legacy.Range.forIn_eq_forIn_range', Std.Legacy.Range.forIn_eq_forIn_range']
  refine forIn_list _ _ _ _ _ h0 fun i _ b b' hb => (hf i b b' hb).conseq (fun _ _ h => h) fun x y s t h => ?_
  rcases h with ⟨⟨u, u', rfl, rfl, hu⟩ | ⟨u, u', rfl, rfl, hu⟩, hA⟩ <;> exact ⟨hu, hA⟩

theorem mem_upto {n i : Nat} (hi : i ∈ List.range' [:n].start [:n].size [:n].step) : i < n := by
  simp [List.mem_range', Std.Legacy.Range.size] at hi
  omega

theorem forIn_upto {σ τ} {VR : σ → τ → Prop} (n : Nat) (init : σ) (init' : τ)
    (f : Nat → σ → M (ForInStep σ)) (g : Nat → τ → M (ForInStep τ)) (h0 : VR init init')
    (hf : ∀ i, i < n → ∀ b b', VR b b' → RelS A (StepQ (PQ VR A) (PQ VR A)) (f i b) (g i b')) :
    RelS A (PQ VR A) (forIn [:n] init f) (forIn [:n] init' g) := by
  rw [Std.Legacy.Range.forIn_eq_forIn_range', Std.Legacy.Range.forIn_eq_forIn_range']
  exact forIn_list _ _ _ _ _ h0 fun i hi => hf i (mem_upto hi)

theorem forIn_upto_exit {σ τ} {VR : σ → τ → Prop} {E : σ → τ → State → State → Prop} (n : Nat) (init : σ) (init' : τ)
    (f : Nat → σ → M (ForInStep σ)) (g : Nat → τ → M (ForInStep τ)) (h0 : VR init init')
    (hf : ∀ i, i < n → ∀ b b', VR b b' → RelS A (StepQ (PQ VR A) E) (f i b) (g i b')) :
    RelS A (fun x y s t => (VR x y ∧ A s t) ∨ E x y s t) (forIn [:n] init f) (forIn [:n] init' g) := by
  rw [Std.Legacy.Range.forIn_eq_forIn_range', Std.Legacy.Range.forIn_eq_forIn_range']
  exact forIn_list_exit _ _ _ _ _ h0 fun i hi => hf i (mem_upto hi)

theorem forIn_upto_inv {A : Nat → State → State → Prop} (n : Nat) (f g : Nat → PUnit → M (ForInStep PUnit))
    (hf : ∀ i, i < n → RelS (A i) (StepQ (fun _ _ => A (i + 1)) fun _ _ _ _ => False) (f i ⟨⟩) (g i ⟨⟩)) :
    RelS (A 0) (fun _ _ s t => A n s t) (forIn [:n] PUnit.unit f) (forIn [:n] PUnit.unit g) := by
  rw [Std.Legacy.Range.forIn_eq_forIn_range', Std.Legacy.Range.forIn_eq_forIn_range']
  refine (forIn_list_pos (J := fun i _ _ => A i) (E := fun _ _ _ _ => False) _ _ _ f g fun i hi _ _ => ?_).conseq
    (fun _ _ h => h) fun _ _ _ _ h => ?_
  · simp only [List.length_range', Std.Legacy.Range.size] at hi
    simp only [List.getElem_range', Nat.zero_add, Nat.one_mul]
    exact hf i (by omega)
  · simpa [Std.Legacy.Range.size] using h

end RelS

/-- a table in the sense of the head comment of Proofs/WalkAttr.lean; the walk `sh1` (Proofs/ShiftTac.lean)
    hands `C` to `omega`, so an entry states `C` in linear arithmetic over the arguments -/
class RelPrim {α β} (A : State → State → Prop) (m₁ : M α) (m₂ : M β) (C : outParam Prop)
    (Q : outParam (α → β → State → State → Prop)) : Prop where
  rel : C → RelS A Q m₁ m₂

structure HSh (bp H : Nat) (h g : Handler) : Prop where
  sp : g.sp = h.sp + (bp : Int)
  spH : h.sp ≤ (H : Int)
  catch_ : h.catch_ = g.catch_
  finally_ : h.finally_ = g.finally_
  returnTo : h.returnTo = g.returnTo
  err : h.err = g.err

inductive HsL (bp H : Nat) : List Handler → List Handler → Prop
  | nil : HsL bp H [] []
  | cons {a b : Handler} {l l' : List Handler} : HSh bp H a b → HsL bp H l l' → HsL bp H (a :: l) (b :: l')

theorem HsL.length_eq {bp H : Nat} {l l' : List Handler} (x : HsL bp H l l') : l.length = l'.length := by
  induction x with
  | nil => rfl
  | cons _ _ ih => simp [ih]

def HsSh (bp H : Nat) : Option (List Handler) → Option (List Handler) → Prop
  | none, none => True
  | some l, some l' => HsL bp H l l'
  | _, _ => False

structure FrameSh (bp H : Nat) (f g : Frame) : Prop where
  fn : f.fn = g.fn
  free : f.free = g.free
  bpT : g.bp = f.bp + (bp : Int)
  hs : HsSh bp H f.handlers g.handlers
  discard : f.discard = g.discard
  bpH : f.bp ≤ (H : Int)

theorem HSh.mono {bp H H' : Nat} {h g : Handler} (x : HSh bp H h g) (hH : H ≤ H') : HSh bp H' h g :=
  { x with spH := by have := x.spH; omega }

theorem HsSh.mono {bp H H' : Nat} {l l' : Option (List Handler)} (x : HsSh bp H l l') (hH : H ≤ H') : HsSh bp H' l l' := by
  cases l <;> cases l' <;> simp only [HsSh] at x ⊢
  induction x with
  | nil => exact .nil
  | cons a _ ih => exact .cons (a.mono hH) ih

theorem FrameSh.mono {bp H H' : Nat} {f g : Frame} (x : FrameSh bp H f g) (hH : H ≤ H') : FrameSh bp H' f g :=
  { x with hs := x.hs.mono hH, bpH := by have := x.bpH; omega }

theorem HsSh.hasHandler {bp H : Nat} {f g : Frame} (x : HsSh bp H f.handlers g.handlers) : VM.hasHandler f = VM.hasHandler g := by
  unfold VM.hasHandler
  rcases hf : f.handlers with _ | l <;> rcases hg : g.handlers with _ | l' <;> rw [hf, hg] at x <;> simp only [HsSh] at x
  · cases x <;> rfl

/-- child `s` (the invoked function in frame 0 / base 0, now `d` frames deeper, `sp = a`) and parent `t`
    (the same function in frame `k` / base `bp`).  `N` stack slots of the child are related to the parent's;
    `H` bounds every stack pointer a handler of the child recorded and every base pointer of its frames: what a
    throw or a return may set `sp` back to, which has to lie in the related region (`ShB`).  `T0` is the parent
    when the function was entered. -/
structure Sh (T0 : State) (bp k d H N : Nat) (a : Int) (s t : State) : Prop where
  heap : s.heap = t.heap
  codes : s.codes = t.codes
  consts : s.consts = t.consts
  globals : s.globals = t.globals
  modules : s.modules = t.modules
  numModules : s.numModules = t.numModules
  ip : s.ip = t.ip
  spS : s.sp = a
  spT : t.sp = a + bp
  curS : s.curFrame = d
  curT : t.curFrame = k + d
  fiS : s.frameIndex = (d : Int) + 1
  fiT : t.frameIndex = (k : Int) + (d : Int) + 1
  errS : s.err = none
  errT : t.err = none
  shapeS : Shape s
  shapeT : Shape t
  kLt : k + d < frameSize
  frames : ∀ j : Nat, j ≤ d → FrameSh bp H (s.frames[j]!) (t.frames[k + j]!)
  ips : ∀ j : Nat, j < d → (s.frames[j]!).ip = (t.frames[k + j]!).ip
  bp0 : (s.frames[0]!).bp = 0
  bpPos : ∀ j : Nat, 1 ≤ j → j ≤ d → 1 ≤ (s.frames[j]!).bp
  stack : ∀ i : Nat, i < N → s.stack[i]! = t.stack[bp + i]!
  room : N + bp ≤ stackSize
  lowF : ∀ j : Nat, j < k → t.frames[j]! = T0.frames[j]!
  -- slot `bp - 1` holds the callee, and RETURN writes the result there (`vm.stack[bp-1] = …`)
  lowS : ∀ i : Nat, i + 1 < bp → t.stack[i]! = T0.stack[i]!

theorem Sh.mono {T0 : State} {bp k d H N N' : Nat} {a : Int} {s t : State} (h : Sh T0 bp k d H N a s t) (hN : N' ≤ N) : Sh T0 bp k d H N' a s t :=
  { h with stack := fun i hi => h.stack i (by omega), room := by have := h.room; omega }

theorem Sh.monoH {T0 : State} {bp k d H H' N : Nat} {a : Int} {s t : State} (h : Sh T0 bp k d H N a s t) (hH : H ≤ H') : Sh T0 bp k d H' N a s t :=
  { h with frames := fun j hj => (h.frames j hj).mono hH }

theorem Sh.frame {T0 : State} {bp k d H N : Nat} {a : Int} {s t : State} (h : Sh T0 bp k d H N a s t) :
    FrameSh bp H (s.frames[d]!) (t.frames[k + d]!) := h.frames d (Nat.le_refl _)

/-- `Sh` between instructions -/
def ShB (T0 : State) (bp k d : Nat) (s t : State) : Prop := ∃ (H N : Nat) (a : Int), Sh T0 bp k d H N a s t ∧ a ≤ N ∧ H ≤ N

section prims
variable {T0 : State} {bp k d H N : Nat} {a : Int}

theorem RelS.read {α β} {A : State → State → Prop} {VR : α → β → Prop} {m₁ : M α} {m₂ : M β} {f : State → α} {g : State → β}
    (h1 : ∀ s, exec m₁ s = (.ok (f s), s)) (h2 : ∀ s, exec m₂ s = (.ok (g s), s)) (h : ∀ s t, A s t → VR (f s) (g t)) :
    RelS A (PQ VR A) m₁ m₂ := by
  intro s t hA x s' y t' e1 e2
  rw [h1] at e1; rw [h2] at e2
  simp only [Prod.mk.injEq, Except.ok.injEq] at e1 e2
  obtain ⟨rfl, rfl⟩ := e1
  obtain ⟨rfl, rfl⟩ := e2
  exact ⟨h _ _ hA, hA⟩

theorem RelS.modS {A B : State → State → Prop} {F G : State → State} (h : ∀ s t, A s t → B (F s) (G t)) :
    RelS A (PQ (fun _ _ => True) B) (modS F) (modS G) := by
  intro s t hA x s' y t' e1 e2
  simp only [exec_modS, Prod.mk.injEq] at e1 e2
  obtain ⟨_, rfl⟩ := e1
  obtain ⟨_, rfl⟩ := e2
  exact ⟨trivial, h _ _ hA⟩

instance sh_getSp : RelPrim (Sh T0 bp k d H N a) getSp getSp True (PQ (fun x y => a = x ∧ a + bp = y) (Sh T0 bp k d H N a)) :=
  ⟨fun _ => RelS.read (fun _ => rfl) (fun _ => rfl) fun _ _ h => ⟨h.spS.symm, h.spT.symm⟩⟩

instance sh_setSp (v w : Int) :
    RelPrim (Sh T0 bp k d H N a) (setSp v) (setSp w) (w = v + bp) (PQ (fun _ _ => True) (Sh T0 bp k d H N v)) :=
  ⟨fun hw => RelS.modS fun _ _ h => { h with spS := rfl, spT := hw, shapeS := ⟨h.shapeS.stack, h.shapeS.frames⟩,
                                             shapeT := ⟨h.shapeT.stack, h.shapeT.frames⟩ }⟩

theorem sh_getIp : RelS (Sh T0 bp k d H N a) (PQ Eq (Sh T0 bp k d H N a)) getIp getIp :=
  RelS.read (fun _ => rfl) (fun _ => rfl) fun _ _ h => h.ip

instance sh_setIp (v : Int) : RelPrim (Sh T0 bp k d H N a) (setIp v) (setIp v) True (PQ (fun _ _ => True) (Sh T0 bp k d H N a)) :=
  ⟨fun _ => RelS.modS fun _ _ h => { h with ip := rfl, shapeS := ⟨h.shapeS.stack, h.shapeS.frames⟩,
                                            shapeT := ⟨h.shapeT.stack, h.shapeT.frames⟩ }⟩

instance sh_bumpIp (n : Int) : RelPrim (Sh T0 bp k d H N a) (bumpIp n) (bumpIp n) True (PQ (fun _ _ => True) (Sh T0 bp k d H N a)) where
  rel _ := by
    unfold bumpIp
    refine RelS.bindV sh_getIp ?_
    rintro x _ rfl
    exact (sh_setIp _).rel trivial

theorem stackGet_inv {i : Int} {s s' : State} {x : V} (h : exec (stackGet i) s = (.ok x, s')) :
    0 ≤ i ∧ i < (stackSize : Int) ∧ x = s.stack[i.toNat]! ∧ s' = s := by
  rw [exec_stackGet] at h
  split at h
  · cases h
  · rename_i hb
    simp only [Bool.or_eq_true, decide_eq_true_eq, not_or, Int.not_lt, ge_iff_le, Int.not_le] at hb
    cases h
    exact ⟨hb.1, hb.2, rfl, rfl⟩

theorem stackSet_inv {i : Int} {v : V} {s s' : State} {r : Unit} (h : exec (stackSet i v) s = (.ok r, s')) :
    0 ≤ i ∧ i < (stackSize : Int) ∧ s' = { s with stack := s.stack.set! i.toNat v } := by
  rw [exec_stackSet] at h
  split at h
  · cases h
  · rename_i hb
    simp only [Bool.or_eq_true, decide_eq_true_eq, not_or, Int.not_lt, ge_iff_le, Int.not_le] at hb
    cases h
    exact ⟨hb.1, hb.2, rfl⟩

instance sh_stackGet (i j : Int) :
    RelPrim (Sh T0 bp k d H N a) (stackGet i) (stackGet j) (j = i + bp ∧ (0 ≤ i → i < N)) (PQ Eq (Sh T0 bp k d H N a)) where
  rel := by
    rintro ⟨hj, hN⟩ s t h x s' y t' h1 h2
    obtain ⟨hi, _, rfl, rfl⟩ := stackGet_inv h1
    obtain ⟨_, _, rfl, rfl⟩ := stackGet_inv h2
    refine ⟨?_, h⟩
    rw [show j.toNat = bp + i.toNat by omega]
    exact h.stack i.toNat (by have := hN hi; omega)

theorem sh_stackSet (i j : Int) (v : V) (hj : j = i + bp) (N' : Nat) (hN' : 0 ≤ i → N' ≤ N ∨ (N' = N + 1 ∧ i = N)) :
    RelS (Sh T0 bp k d H N a) (PQ (fun _ _ => True) (Sh T0 bp k d H N' a)) (stackSet i v) (stackSet j v) := by
  intro s t h x s' y t' h1 h2
  obtain ⟨hi, hi', rfl⟩ := stackSet_inv h1
  obtain ⟨_, hj', rfl⟩ := stackSet_inv h2
  have hN' := hN' hi
  refine ⟨trivial, { h with shapeS := ⟨?_, h.shapeS.frames⟩, shapeT := ⟨?_, h.shapeT.frames⟩, stack := ?_, room := ?_, lowS := ?_ }⟩
  · simp [Array.set!_eq_setIfInBounds, h.shapeS.stack]
  · simp [Array.set!_eq_setIfInBounds, h.shapeT.stack]
  rotate_left
  · have := h.room
    omega
  · intro i' hi'
    show (t.stack.set! j.toNat v)[i']! = T0.stack[i']!
    rw [getElem!_set!]
    have c : ¬ (j.toNat = i' ∧ j.toNat < t.stack.size) := fun c => by omega
    rw [if_neg c]
    exact h.lowS i' hi'
  · intro i' hi'
    show (s.stack.set! i.toNat v)[i']! = (t.stack.set! j.toNat v)[bp + i']!
    rw [getElem!_set!, getElem!_set!, h.shapeS.stack, h.shapeT.stack]
    have e : j.toNat = bp + i.toNat := by omega
    by_cases hii : i.toNat = i'
    · have c1 : i.toNat = i' ∧ i.toNat < stackSize := ⟨hii, by omega⟩
      have c2 : j.toNat = bp + i' ∧ j.toNat < stackSize := ⟨by omega, by omega⟩
      rw [if_pos c1, if_pos c2]
    · have c1 : ¬ (i.toNat = i' ∧ i.toNat < stackSize) := fun c => hii c.1
      have c2 : ¬ (j.toNat = bp + i' ∧ j.toNat < stackSize) := fun c => hii (by omega)
      rw [if_neg c1, if_neg c2]
      exact h.stack i' (by omega)

instance sh_curFrame : RelPrim (Sh T0 bp k d H N a) curFrame curFrame True (PQ (FrameSh bp H) (Sh T0 bp k d H N a)) :=
  ⟨fun _ => RelS.read (fun _ => rfl) (fun _ => rfl) fun s t h => by rw [h.curS, h.curT]; exact h.frame⟩

theorem sh_noteTrace (op : Nat) : RelS (Sh T0 bp k d H N a) (PQ (fun _ _ => True) (Sh T0 bp k d H N a)) (noteTrace op) (noteTrace op) := by
  intro s t h x s' y t' h1 h2
  obtain ⟨tr1, st1, e1⟩ := exec_noteTrace_ok op s
  obtain ⟨tr2, st2, e2⟩ := exec_noteTrace_ok op t
  rw [e1] at h1; rw [e2] at h2
  simp only [Prod.mk.injEq] at h1 h2
  obtain ⟨_, rfl⟩ := h1
  obtain ⟨_, rfl⟩ := h2
  exact ⟨trivial, { h with shapeS := ⟨h.shapeS.stack, h.shapeS.frames⟩, shapeT := ⟨h.shapeT.stack, h.shapeT.frames⟩ }⟩

end prims

/-- what an action with a footprint (`Foot`) may read; child and parent agree on it (`Sh.view_eq`) -/
def view (s : State) : Array Cell × Option Addr × Option (List Addr) × Array Code × Int × Array V × V × Array V :=
  (s.heap, (s.frames[s.curFrame]!).fn, (s.frames[s.curFrame]!).free, s.codes, s.ip, s.consts, s.globals, s.modules)

structure Foot {α} (m : M α) : Prop where
  loc : ∀ s, (exec m s).2 = { s with heap := (exec m s).2.heap }
  dep : ∀ s t, view s = view t → (exec m s).1 = (exec m t).1 ∧ (exec m s).2.heap = (exec m t).2.heap

theorem view_heap (s : State) (h : Array Cell) : view { s with heap := h } = (h, (view s).2) := rfl

namespace Foot

theorem pure {α} (a : α) : Foot (Pure.pure a : M α) := ⟨fun _ => rfl, fun _ _ h => ⟨rfl, congrArg (·.1) h⟩⟩
theorem throw {α} (e : Exc) : Foot (MonadExcept.throw e : M α) := ⟨fun _ => rfl, fun _ _ h => ⟨rfl, congrArg (·.1) h⟩⟩
theorem panic {α} (m : String) : Foot (VM.panic m : M α) := throw _
theorem unsupported {α} (m : String) : Foot (VM.unsupported m : M α) := throw _

theorem bind {α β} {m : M α} {f : α → M β} (hm : Foot m) (hf : ∀ a, Foot (f a)) : Foot (m >>= f) := by
  constructor
  · intro s
    rw [exec_bind]
    have l1 := hm.loc s
    rcases e1 : exec m s with ⟨r1, s1⟩
    rw [e1] at l1
    cases r1 with
    | error e => exact l1
    | ok a =>
      have l2 := (hf a).loc s1
      simp only at l1 l2 ⊢
      rw [l2, l1]
  · intro s t hv
    rw [exec_bind, exec_bind]
    have d1 := hm.dep s t hv
    have l1 := hm.loc s
    have l1' := hm.loc t
    rcases e1 : exec m s with ⟨r1, s1⟩
    rcases e2 : exec m t with ⟨r2, t1⟩
    rw [e1, e2] at d1
    rw [e1] at l1
    rw [e2] at l1'
    simp only at d1 l1 l1'
    obtain ⟨d1a, d1b⟩ := d1
    subst d1a
    cases r1 with
    | error e => exact ⟨rfl, d1b⟩
    | ok a =>
      have a1 : view s1 = (s1.heap, (view s).2) := (congrArg view l1).trans (view_heap s s1.heap)
      have a2 : view t1 = (t1.heap, (view t).2) := (congrArg view l1').trans (view_heap t t1.heap)
      have hv' : view s1 = view t1 := by
        rw [a1, a2, d1b, hv]
      exact (hf a).dep s1 t1 hv'

theorem ite {α} {c : Prop} [Decidable c] {a b : M α} (ha : Foot a) (hb : Foot b) : Foot (if c then a else b) := by
  split <;> assumption

theorem of_heapOnly {α} {m : M α} (h : CompSim.HeapOnly m) : Foot m :=
  ⟨h.loc, fun s t hv => by
    have e := h.run (s := s) (t := t) (congrArg (·.1) hv).symm
    rw [e]; exact ⟨rfl, rfl⟩⟩

theorem getS_bind {α} {f : State → M α} (hf : ∀ s, Foot (f s)) (hd : ∀ s t, view s = view t → f s = f t) :
    Foot (VM.getS >>= f) := by
  constructor
  · intro s
    rw [exec_bind]
    exact (hf s).loc s
  · intro s t hv
    rw [exec_bind, exec_bind]
    simp only [exec_getS]
    rw [hd s t hv]
    exact (hf t).dep s t hv

theorem of_read {α} {m : M α} (hl : ∀ s, (exec m s).2 = s) (hv : ∀ s t, view s = view t → (exec m s).1 = (exec m t).1) : Foot m :=
  ⟨fun s => by rw [hl], fun s t e => ⟨hv s t e, by rw [hl, hl]; exact congrArg (·.1) e⟩⟩

theorem getIp : Foot VM.getIp :=
  of_read (fun _ => rfl) fun s t hv => congrArg Except.ok (congrArg (·.2.2.2.2.1) hv : s.ip = t.ip)

theorem forIn_list {ι σ} (l : List ι) (init : σ) (f : ι → σ → M (ForInStep σ)) (hf : ∀ i b, Foot (f i b)) :
    Foot (forIn l init f) := by
  induction l generalizing init with
  | nil => exact Foot.pure _
  | cons i r ih =>
    rw [List.forIn_cons]
    refine Foot.bind (hf i init) ?_
    intro x
    cases x with
    | done b => exact Foot.pure _
    | yield b => exact ih b

end Foot

attribute [class] Foot
attribute [instance] Foot.pure Foot.throw Foot.panic Foot.unsupported Foot.getIp

/-- The leaves (an instance, a join point's hypothesis, a heap primitive by `Foot.of_heapOnly`) come before
    `Foot.bind`: `apply` would unfold a primitive that is a `>>=`. -/
syntax "foot" : tactic
set_option hygiene false in
macro_rules | `(tactic| foot) => `(tactic|
  repeat (first
    | with_reducible infer_instance
    | keeps_hyp
    | with_reducible ((apply Foot.of_heapOnly); focus (simp only [heap_only]; done))
    | apply Foot.bind
    | apply Foot.ite
    | apply Foot.forIn_list
    | walk_jp Foot by foot
    | intro _
    | split
    | dsimp only))

instance foot_curCode : Foot curCode := by
  refine Foot.of_read (fun s => ?_) fun s t hv => ?_
  · have e := Fetch.exec_curCode s
    show (exec curCode s).2 = s
    rw [show exec curCode s = _ from e]
    repeat' split
    all_goals rfl
  · have h1 : (s.frames[s.curFrame]!).fn = (t.frames[t.curFrame]!).fn := congrArg (·.2.1) hv
    have h2 : s.heap = t.heap := congrArg (·.1) hv
    have h3 : s.codes = t.codes := congrArg (·.2.2.2.1) hv
    rw [show exec curCode s = _ from Fetch.exec_curCode s, show exec curCode t = _ from Fetch.exec_curCode t, h1, h2, h3]
    repeat' split
    all_goals rfl

instance foot_constAt (i : Nat) : Foot (constAt i) := by
  unfold constAt
  refine Foot.getS_bind ?_ ?_
  · intro s; foot
  · intro s t hv
    have hc : s.consts = t.consts := congrArg (·.2.2.2.2.2.1) hv
    simp only [hc]

instance foot_instAt (i : Int) : Foot (instAt i) := by unfold instAt; foot

instance foot_opnd1 (k : Int) : Foot (opnd1 k) := by unfold opnd1; foot
instance foot_opnd2 (k : Int) : Foot (opnd2 k) := by unfold opnd2; foot
instance foot_opnd4 (k : Int) : Foot (opnd4 k) := by unfold opnd4; foot
instance foot_jumpTarget : Foot jumpTarget := by unfold jumpTarget; foot

theorem foot_globalsGet (index : V) : Foot (do vIndexGet (← VM.getS).globals index) := by
  refine Foot.getS_bind (fun _ => .of_heapOnly (CompSim.ho_vIndexGet _ _)) ?_
  intro s t hv
  have hc : s.globals = t.globals := congrArg (·.2.2.2.2.2.2.1) hv
  simp only [hc]

theorem foot_globalsSet (index value : V) : Foot (do vIndexSet (← VM.getS).globals index value) := by
  refine Foot.getS_bind (fun _ => .of_heapOnly (CompSim.ho_vIndexSet _ _ _)) ?_
  intro s t hv
  have hc : s.globals = t.globals := congrArg (·.2.2.2.2.2.2.1) hv
  simp only [hc]

section prims2
variable {T0 : State} {bp k d H N : Nat} {a : Int}

theorem Sh.view_eq {s t : State} (h : Sh T0 bp k d H N a s t) : view s = view t := by
  have h1 := h.frame.fn
  have h2 := h.frame.free
  simp only [view, h.heap, h.curS, h.curT, h.codes, h.ip, h.consts, h.globals, h.modules, h1, h2]

theorem sh_foot {α} {m : M α} (hm : Foot m) : RelS (Sh T0 bp k d H N a) (PQ Eq (Sh T0 bp k d H N a)) m m := by
  intro s t h x s' y t' h1 h2
  have d := hm.dep s t h.view_eq
  have l1 := hm.loc s
  have l2 := hm.loc t
  rw [h1] at l1 d
  rw [h2] at l2 d
  simp only [Except.ok.injEq] at d l1 l2
  refine ⟨d.1, ?_⟩
  rw [l1, l2]
  exact { h with heap := d.2, shapeS := ⟨h.shapeS.stack, h.shapeS.frames⟩, shapeT := ⟨h.shapeT.stack, h.shapeT.frames⟩ }

end prims2

end UgoVerif.Proofs.Shift

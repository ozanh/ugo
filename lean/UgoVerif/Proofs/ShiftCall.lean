import UgoVerif.Proofs.ShiftTry
/-
  C14, `frame_shift`: CALL / CALLNAME (compiled callee without spread: a new frame above the invoked
  function's frame on both sides; builtin callee) under the offset relation `Sh`.
-/
namespace UgoVerif.Proofs.Shift
open UgoVerif UgoVerif.Go UgoVerif.VM

section
variable {T0 : State} {bp k d H N : Nat} {a : Int}

theorem sh_fillUndefined (lo : Int) (n : Nat) (hlo : lo ≤ N) :
    RelS (Sh T0 bp k d H N a) (fun _ _ s t => ∃ N', (N ≤ N' ∧ lo + n ≤ N') ∧ Sh T0 bp k d H N' a s t)
      (fillUndefined lo n) (fillUndefined (lo + bp) n) := by
  unfold fillUndefined
  refine RelS.bind (Q := fun _ _ s t => ∃ N', (N ≤ N' ∧ lo + n ≤ N') ∧ Sh T0 bp k d H N' a s t)
    (RelS.conseq (RelS.forIn_upto_inv (A := fun i s t => ∃ N', (N ≤ N' ∧ lo + i ≤ N') ∧ Sh T0 bp k d H N' a s t) n _ _ ?_)
      (fun s t h => ⟨N, ⟨Nat.le_refl _, by omega⟩, h⟩) (fun _ _ _ _ h => h)) ?_
  · intro i hi
    refine RelS.pre_exists fun N' => RelS.pre_and fun h12 => ?_
    refine RelS.bindV (sh_stackSet_grow _ _ _ (by omega) (by omega)) ?_
    intro _ _ _
    exact RelS.pure (fun s t h => ⟨_, ⟨by omega, by omega⟩, h⟩)
  · intro _ _
    exact RelS.pure (fun s t h => h)

instance sh_popArgs (n : Nat) :
    RelPrim (Sh T0 bp k d H N a) (popArgs n) (popArgs n) True (PQ (fun _ _ => True) (Sh T0 bp k d H N (a - n))) where
  rel _ := by
    unfold popArgs
    refine RelS.bind (Q := fun _ _ s t => Sh T0 bp k d H N (a - n) s t)
      (RelS.conseq (RelS.forIn_upto_inv (A := fun i s t => Sh T0 bp k d H N (a - i) s t) n _ _ ?_)
        (fun s t h => by simpa using h) (fun _ _ _ _ h => h)) ?_
    · intro i hi
      sh1; sh1; sh1
      exact RelS.pure (fun s t h => by
        have e : a - ((i + 1 : Nat) : Int) = a - (i : Int) - 1 := by omega
        rw [e]; exact h)
    · intro _ _
      exact RelS.pure (fun s t h => ⟨trivial, h⟩)

instance foot_fnCell (fa : Addr) : Foot (fnCell fa) := by
  unfold fnCell
  refine Foot.bind (.of_heapOnly (CompSim.ho_heapGet _)) ?_
  intro c
  split
  · refine Foot.getS_bind (fun _ => Foot.pure _) ?_
    intro s t hv
    have hc : s.codes = t.codes := congrArg (·.2.2.2.1) hv
    simp only [hc]
  · exact Foot.unsupported _

syntax "shb" : tactic
macro_rules | `(tactic| shb) => `(tactic| repeat (first
  | ((with_reducible refine RelS.pure ?_); exact fun _ _ h => ⟨rfl, _, ⟨by omega, fun _ => by omega⟩, h⟩)
  | ((with_reducible refine RelS.pure ?_); exact fun _ _ h => ⟨rfl, _, ⟨by omega, fun hx => by cases hx⟩, h⟩)
  | sh1))

theorem sh_bindArgs0 (code : Code) (b numArgs : Int) (hb : b + numArgs = a) (ha : a ≤ N) :
    RelS (Sh T0 bp k d H N a)
      (fun x y s t => x = y ∧ ∃ N', (N ≤ N' ∧ (x = .ok () → b + code.numParams ≤ N')) ∧ Sh T0 bp k d H N' a s t)
      (bindArgs code b numArgs 0) (bindArgs code (b + bp) numArgs 0) := by
  unfold bindArgs
  have e0 : ((0 : Int) == 0) = true := rfl
  simp only [e0, if_true]
  cases hv : code.variadic with
  | false =>
    simp only [Bool.not_false, if_true]
    by_cases heq : numArgs = code.numParams
    · subst heq
      simp only [bne_self_eq_false, Bool.false_eq_true, if_false]
      shb
    · have hne : (numArgs != (code.numParams : Int)) = true := by simpa [bne_iff_ne] using heq
      simp only [hne, if_true]
      shb
  | true =>
    simp only [Bool.not_true, Bool.false_eq_true, if_false]
    by_cases h1 : numArgs < (code.numParams : Int) - 1
    · simp only [h1, if_true]
      shb
    · simp only [h1, if_false]
      by_cases h2 : numArgs = (code.numParams : Int) - 1
      · have h2' : (numArgs == (code.numParams : Int) - 1) = true := by simpa using h2
        simp only [h2', if_true]
        shb
      · have h2' : (numArgs == (code.numParams : Int) - 1) = false := by simpa using h2
        simp only [h2', Bool.false_eq_true, if_false]
        shb

theorem Sh.push {s t : State} (h : Sh T0 bp k d H N a s t) (hip : (s.frames[d]!).ip = (t.frames[k + d]!).ip)
    (fa : Addr) (free : Option (List Addr)) (b : Int) (nl : Int) (hb : 1 ≤ b) (hroom : k + d + 1 < frameSize) :
    Sh T0 bp k (d + 1) (max H b.toNat) N (b + nl)
      { s with frameIndex := s.frameIndex + 1,
               frames := s.frames.modify s.frameIndex.toNat fun f =>
                  { f with fn := some fa, free := free, handlers := none, bp := b, discard := false },
               curFrame := s.frameIndex.toNat, sp := b + nl, ip := -1 }
      { t with frameIndex := t.frameIndex + 1,
               frames := t.frames.modify t.frameIndex.toNat fun f =>
                  { f with fn := some fa, free := free, handlers := none, bp := b + bp, discard := false },
               curFrame := t.frameIndex.toNat, sp := b + bp + nl, ip := -1 } := by
  have hsS := h.shapeS.frames
  have hsT := h.shapeT.frames
  have hfs := h.fiS
  have hft := h.fiT
  have e1 : s.frameIndex.toNat = d + 1 := by omega
  have e2 : t.frameIndex.toNat = k + (d + 1) := by omega
  refine { h with ip := rfl, spS := rfl, spT := by show b + (bp : Int) + nl = b + nl + bp; omega,
                  curS := e1, curT := e2, fiS := by show s.frameIndex + 1 = _; omega,
                  fiT := by show t.frameIndex + 1 = _; omega,
                  shapeS := ⟨h.shapeS.stack, by simp [hsS]⟩, shapeT := ⟨h.shapeT.stack, by simp [hsT]⟩,
                  kLt := by omega, frames := ?_, ips := ?_, bp0 := ?_, bpPos := ?_, lowF := ?_ }
  rotate_right
  · intro j hj
    dsimp only
    rw [getElem!_modify, e2, if_neg (fun c => by omega)]
    exact h.lowF j hj
  · intro j hj
    dsimp only
    rw [getElem!_modify, getElem!_modify, e1, e2, hsS, hsT]
    by_cases hj1 : d + 1 = j
    · subst hj1
      rw [if_pos ⟨rfl, by omega⟩, if_pos ⟨rfl, by omega⟩]
      exact ⟨rfl, rfl, rfl, trivial, rfl, by show b ≤ ((max H b.toNat : Nat) : Int); omega⟩
    · rw [if_neg (fun c => hj1 c.1), if_neg (fun c => hj1 (by omega))]
      exact (h.frames j (by omega)).mono (Nat.le_max_left H b.toNat)
  · intro j hj
    dsimp only
    rw [getElem!_modify, getElem!_modify, e1, e2, if_neg (fun c => by omega), if_neg (fun c => by omega)]
    by_cases hj2 : j = d
    · subst hj2; exact hip
    · exact h.ips j (by omega)
  · dsimp only
    rw [getElem!_modify, e1, if_neg (fun c => by omega)]
    exact h.bp0
  · intro j h1 hj
    dsimp only
    rw [getElem!_modify, e1, hsS]
    by_cases hj1 : d + 1 = j
    · subst hj1
      rw [if_pos ⟨rfl, by omega⟩]
      exact hb
    · rw [if_neg (fun c => hj1 c.1)]
      exact h.bpPos j h1 (by omega)

theorem Sh.pushed {s t : State} (h : Sh T0 bp k d H N a s t) (fa : Addr) (free : Option (List Addr)) (b : Int) (nl : Int)
    (hb : 1 ≤ b) (hroom : k + d + 1 < frameSize) (ip : Int) :
    Sh T0 bp k (d + 1) (max H b.toNat) N (b + nl) (pushed fa free b ip nl s) (pushed fa free (b + bp) ip nl t) := by
  have hm := h.modifyFrame s.curFrame t.curFrame (Nat.le_of_eq h.curS) (by rw [h.curS, h.curT])
    (fun f => { f with ip := ip + 2 }) (fun f => { f with ip := ip + 2 }) H
    (fun _ _ x => ⟨x.fn, x.free, x.bpT, x.hs, x.discard, x.bpH⟩) (Nat.le_refl _) (fun _ => rfl) (fun _ _ _ _ => rfl)
  refine hm.push ?_ fa free b nl hb hroom
  have hk := h.kLt
  show ((s.frames.modify s.curFrame _)[d]!).ip = ((t.frames.modify t.curFrame _)[k + d]!).ip
  rw [getElem!_modify, getElem!_modify, h.curS, h.curT, h.shapeS.frames, h.shapeT.frames,
    if_pos ⟨rfl, by omega⟩, if_pos ⟨rfl, by omega⟩]

/-- what `callAny` establishes: a frame entered or a builtin applied, or the same uGO error on both sides, which the
    call instruction then throws (`sh_callEnd`) -/
def CallQ (T0 : State) (bp k d : Nat) (x y : Except OpErr Unit) (s t : State) : Prop :=
  (x = .ok () ∧ y = .ok () ∧ ∃ d', ShB T0 bp k d' s t) ∨
  (∃ e, x = .error e ∧ y = .error e ∧ ShB T0 bp k d s t)

instance sh_copySlots (dst dst' : Int) (src : List V) : RelPrim (Sh T0 bp k d H N a) (copySlots dst src) (copySlots dst' src)
    (dst' = dst + bp) (PQ (fun _ _ => True) (Sh T0 bp k d H N a)) where
  rel hd := by
    subst hd
    unfold copySlots
    refine RelS.bindV (RelS.forIn_list (VR := Eq) _ _ _ _ _ rfl ?_) ?_
    · intro x _ b b' hb
      subst hb
      shrun
    · intro _ _ _
      exact RelS.pure (fun _ _ h => ⟨trivial, h⟩)

instance sh_dropHandlers : RelPrim (Sh T0 bp k d H N a) (setCurFrame fun f => { f with handlers := none })
    (setCurFrame fun f => { f with handlers := none }) True (PQ (fun _ _ => True) (Sh T0 bp k d H N a)) :=
  ⟨fun _ => sh_setCurFrame _ _ H (fun _ _ x => ⟨x.fn, x.free, x.bpT, trivial, x.discard, x.bpH⟩) (Nat.le_refl _) (fun _ => rfl)⟩

instance sh_setDiscard : RelPrim (Sh T0 bp k d H N a) (setCurFrame fun f => { f with discard := true })
    (setCurFrame fun f => { f with discard := true }) True (PQ (fun _ _ => True) (Sh T0 bp k d H N a)) :=
  ⟨fun _ => sh_setCurFrame _ _ H (fun _ _ x => ⟨x.fn, x.free, x.bpT, x.hs, rfl, x.bpH⟩) (Nat.le_refl _) (fun _ => rfl)⟩

instance sh_callOk : RelPrim (Sh T0 bp k d H N a) (pure (Except.ok ())) (pure (Except.ok ())) (a ≤ N ∧ H ≤ N) (CallQ T0 bp k d) :=
  ⟨fun hc => RelS.pure fun _ _ h => Or.inl ⟨rfl, rfl, _, _, _, _, h, hc.1, hc.2⟩⟩
instance sh_callErr (e : OpErr) :
    RelPrim (Sh T0 bp k d H N a) (pure (Except.error e)) (pure (Except.error e)) (a ≤ N ∧ H ≤ N) (CallQ T0 bp k d) :=
  ⟨fun hc => RelS.pure fun _ _ h => Or.inr ⟨_, rfl, rfl, _, _, _, h, hc.1, hc.2⟩⟩

theorem sh_callTail (fa : Addr) (free : Option (List Addr)) (b ip : Int) (nl : Nat) (hb : 1 ≤ b) (hN : b + nl ≤ N) (hH : H ≤ N)
    (hroom : k + d + 2 < frameSize) :
    RelS (Sh T0 bp k d H N a) (CallQ T0 bp k d) (callTail fa free b ip nl) (callTail fa free (b + bp) ip nl) := by
  intro s t h r s' r' t' h1 h2
  have hfs := h.fiS
  have hft := h.fiT
  rw [exec_callTail] at h1 h2
  have c1 : ¬ (s.frameIndex + 1 > (frameSize : Int) - 1) := by simp only [frameSize] at hroom ⊢; omega
  have c2 : ¬ (t.frameIndex + 1 > (frameSize : Int) - 1) := by simp only [frameSize] at hroom ⊢; omega
  have c3 : ¬ (decide (s.frameIndex < 0) || decide (s.frameIndex ≥ (frameSize : Int))) = true := by
    simp only [frameSize] at hroom ⊢; simp; omega
  have c4 : ¬ (decide (t.frameIndex < 0) || decide (t.frameIndex ≥ (frameSize : Int))) = true := by
    simp only [frameSize] at hroom ⊢; simp; omega
  rw [if_neg c1, if_neg c3] at h1
  rw [if_neg c2, if_neg c4] at h2
  cases h1
  cases h2
  exact Or.inl ⟨rfl, rfl, d + 1, max H (b).toNat, N, b + nl, h.pushed fa free b nl hb (by omega) ip, by omega, by omega⟩

theorem sh_tailCall (discard : Bool) (c b : Int) (nl : Nat) (hN : b + nl ≤ N) (ha : a ≤ N) (hH : H ≤ N) :
    RelS (Sh T0 bp k d H N a) (CallQ T0 bp k d) (tailCall discard c b nl a) (tailCall discard (c + bp) (b + bp) nl (a + bp)) := by
  unfold tailCall tailCallA tailCallB tailCallC
  -- the related region fits into the parent's stack, so the slice ends at `b + nl` on both sides
  refine RelS.conseq (A := fun s t => (N + bp ≤ stackSize) ∧ Sh T0 bp k d H N a s t) ?_
    (fun s t h => ⟨h.room, h⟩) (fun _ _ _ _ h => h)
  refine RelS.pre_and fun hrm => ?_
  rw [Int.min_eq_right (by omega), Int.min_eq_right (by omega)]
  shrun

/-- `hroom`: the parent has a free frame (`CallRoom` of Proofs/ShiftRun.lean says why it is asked) -/
theorem sh_callCompiled (fa : Addr) (numArgs : Int) (hb : 1 ≤ a - numArgs) (ha : a ≤ N) (hH : H ≤ N)
    (hroom : k + d + 2 < frameSize) :
    RelS (Sh T0 bp k d H N a) (CallQ T0 bp k d) (callCompiled fa numArgs 0) (callCompiled fa numArgs 0) := by
  unfold callCompiled
  refine RelS.bindV (sh_foot (foot_fnCell fa)) ?_
  intro cf cf' hcf
  subst hcf
  obtain ⟨code, free⟩ := cf
  dsimp only
  refine RelS.bindV (sh_getSp.rel trivial) ?_
  intro sp sp' hsp
  obtain ⟨hsp1, hsp2⟩ := hsp
  subst hsp1; subst hsp2
  have eb : a + (bp : Int) - numArgs = (a - numArgs) + bp := by omega
  rw [eb]
  refine RelS.bind (sh_bindArgs0 code (a - numArgs) numArgs (by omega) ha) ?_
  intro x y
  refine RelS.pre_and fun hxy => ?_
  subst hxy
  cases x with
  | error e =>
    dsimp only
    exact RelS.pure (fun s t h => by
      obtain ⟨N', ⟨h1, _⟩, h2⟩ := h
      exact Or.inr ⟨e, rfl, rfl, H, N', a, h2, by omega, by omega⟩)
  | ok u =>
    dsimp only
    refine RelS.pre_exists fun N' => RelS.pre_and fun hN' => ?_
    obtain ⟨hN1, hN2⟩ := hN'
    replace hN2 := hN2 rfl
    have ef : a - numArgs + (bp : Int) + (code.numParams : Int) = (a - numArgs + (code.numParams : Int)) + bp := by omega
    rw [ef]
    refine RelS.bind (sh_fillUndefined _ _ hN2) ?_
    intro _ _
    refine RelS.pre_exists fun N'' => RelS.pre_and fun hN'' => ?_
    obtain ⟨hM1, hM2⟩ := hN''
    refine RelS.bindV (sh_curFrame.rel trivial) ?_
    intro f g hfg
    rw [← hfg.fn, hfg.bpT]
    refine RelS.bindV sh_getIp ?_
    intro ip _ hip
    subst hip
    have nontail := sh_callTail (T0 := T0) (bp := bp) (k := k) (d := d) (H := H) (N := N'') (a := a)
      fa free (a - numArgs) ip code.numLocals hb (by omega) (by omega) hroom
    apply RelS.ite
    · -- the callee is the running function: a tail call reuses the frame
      sh1; sh1
      apply RelS.ite
      · exact sh_tailCall _ _ (a - numArgs) _ (by omega) (by omega) (by omega)
      · exact nontail
    · exact nontail

instance foot_callBuiltin (i : Nat) (args : List V) : Foot (callBuiltin i args) := Foot.of_heapOnly (CompSim.ho_callBuiltin i args)

theorem sh_callObject (callee : V) (numArgs : Int) (ha : a ≤ N) (hH : H ≤ N) :
    RelS (Sh T0 bp k d H N a) (CallQ T0 bp k d) (callObject callee numArgs 0) (callObject callee numArgs 0) := by
  unfold callObject
  have e0 : ¬ ((0 : Int) > 0) := by decide
  split
  · exact RelS.errL _
  · simp only [e0, if_false]
    shrun
  · exact RelS.errL _
  · exact RelS.errL _
  · shrun

theorem sh_callAny (callee : V) (numArgs : Int) (hb : 1 ≤ a - numArgs) (ha : a ≤ N) (hH : H ≤ N)
    (hroom : k + d + 2 < frameSize) :
    RelS (Sh T0 bp k d H N a) (CallQ T0 bp k d) (callAny callee numArgs 0) (callAny callee numArgs 0) := by
  unfold callAny
  split
  · exact sh_callCompiled _ numArgs hb ha hH hroom
  · exact sh_callObject _ numArgs ha hH

theorem sh_callEnd (x y : Except OpErr Unit) :
    RelS (CallQ T0 bp k d x y) (PostC T0 bp k)
      (match x with | .ok () => pure Ctl.next | .error e => failWith e)
      (match y with | .ok () => pure Ctl.next | .error e => failWith e) := by
  intro s t h r s' r' t' h1 h2
  rcases h with ⟨rfl, rfl, hsh⟩ | ⟨e, rfl, rfl, H', N', a', hsh, ha', hH'⟩
  · simp only [exec_pure, Prod.mk.injEq, Except.ok.injEq] at h1 h2
    obtain ⟨rfl, rfl⟩ := h1
    obtain ⟨rfl, rfl⟩ := h2
    exact Or.inl ⟨rfl, rfl, hsh⟩
  · exact (sh_failWith e).rel ⟨ha', hH'⟩ s t hsh r s' r' t' h1 h2

theorem sh_stackGet_nn (i j : Int) (hj : j = i + bp) (hN : 0 ≤ i → i < N) :
    RelS (Sh T0 bp k d H N a) (PQ (fun x y => x = y ∧ 0 ≤ i) (Sh T0 bp k d H N a)) (stackGet i) (stackGet j) := by
  intro s t h x s' y t' h1 h2
  have := (sh_stackGet i j).rel ⟨hj, hN⟩ s t h x s' y t' h1 h2
  exact ⟨⟨this.1, (stackGet_inv h1).1⟩, this.2⟩

def callOperands : M (Nat × Nat) := do
  let n ← opnd1 1
  let fl ← opnd1 2
  pure (n, fl)

/-- the call instruction about to be executed has no spread argument (`flags = 0`) -/
def NoSpread (s : State) : Prop := ∀ p s', exec callOperands s = (.ok p, s') → p.2 = 0

theorem foot_callOperands : Foot callOperands := by unfold callOperands; foot

theorem sh_callStart {Q : Ctl → Ctl → State → State → Prop} {f g : Nat × Nat → M Ctl}
    (h : ∀ n : Nat, RelS (Sh T0 bp k d H N a) Q (f (n, 0)) (g (n, 0))) :
    RelS (fun s t => Sh T0 bp k d H N a s t ∧ NoSpread s) Q (callOperands >>= f) (callOperands >>= g) := by
  refine RelS.bind (Q := fun x y s t => (x = y ∧ x.2 = 0) ∧ Sh T0 bp k d H N a s t) ?_ ?_
  · intro s t h x s' y t' h1 h2
    have := sh_foot foot_callOperands s t h.1 x s' y t' h1 h2
    exact ⟨⟨this.1, h.2 x s' h1⟩, this.2⟩
  · rintro ⟨n, fl⟩ _
    refine RelS.pre_and fun hx => ?_
    obtain ⟨rfl, rfl⟩ := hx
    exact h n

theorem execCall_eq : execCall = (callOperands >>= fun p => do
    let callee ← stackGet ((← getSp) - (p.1 : Int) - 1)
    match (← callAny callee p.1 p.2) with
    | .ok () => return .next
    | .error e => failWith e) := by
  unfold execCall callOperands
  simp only [bind_assoc, pure_bind]
  rfl

theorem sh_execCall (ha : a ≤ N) (hH : H ≤ N) (hroom : k + d + 2 < frameSize) :
    RelS (fun s t => Sh T0 bp k d H N a s t ∧ NoSpread s) (PostC T0 bp k) execCall execCall := by
  rw [execCall_eq]
  refine sh_callStart fun n => ?_
  dsimp only
  refine RelS.bindV (sh_getSp.rel trivial) ?_
  intro sp sp' hsp
  obtain ⟨hsp1, hsp2⟩ := hsp
  subst hsp1; subst hsp2
  refine RelS.bindV (sh_stackGet_nn _ _ (by omega) (by omega)) ?_
  intro callee _ hc
  obtain ⟨hc1, hc2⟩ := hc
  subst hc1
  refine RelS.bind (sh_callAny callee n (by omega) ha hH hroom) ?_
  intro x y
  exact sh_callEnd x y

theorem execCallName_eq : execCallName = (callOperands >>= fun p => do
    let numArgs : Int := p.1
    let flags : Int := p.2
    let sp ← getSp
    let obj ← stackGet (sp - numArgs - 2)
    let name ← stackGet (sp - 1)
    setSp (sp - 1); stackSet (sp - 1) .nil
    match obj with
    | .host _ => unsupported "CallName on a host object"
    | _ => pure ()
    match (← vIndexGet obj name) with
    | .error e => failWith e
    | .ok v =>
      stackSet ((← getSp) - numArgs - 1) v
      match (← callAny v numArgs flags) with
      | .ok () => return .next
      | .error e => failWith e) := by
  unfold execCallName callOperands
  simp only [bind_assoc, pure_bind]
  rfl

theorem sh_execCallName (ha : a ≤ N) (hH : H ≤ N) (hroom : k + d + 2 < frameSize) :
    RelS (fun s t => Sh T0 bp k d H N a s t ∧ NoSpread s) (PostC T0 bp k) execCallName execCallName := by
  rw [execCallName_eq]
  refine sh_callStart fun n => ?_
  dsimp only
  refine RelS.bindV (sh_getSp.rel trivial) ?_
  intro sp sp' hsp
  obtain ⟨hsp1, hsp2⟩ := hsp
  subst hsp1; subst hsp2
  refine RelS.bindV (sh_stackGet_nn _ _ (by omega) (by omega)) ?_
  intro obj _ hc
  obtain ⟨hc1, hc2⟩ := hc
  subst hc1
  refine RelS.bindV ((sh_stackGet _ _).rel ⟨by omega, by omega⟩) ?_
  intro x__ _ hnm
  subst hnm
  sh1; sh1
  split
  · exact RelS.errL_bind' _ _
  · -- `vIndexGet obj name`, its error thrown or its value stored; what is left is the call
    shrun
    refine RelS.bind (sh_callAny _ n (by omega) (by omega) (by omega) hroom) ?_
    intro x y
    exact sh_callEnd x y

end
end UgoVerif.Proofs.Shift

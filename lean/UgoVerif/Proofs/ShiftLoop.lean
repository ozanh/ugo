import UgoVerif.Proofs.ShiftRun
import UgoVerif.VM.Invoke
/-
  C14: the child's real loop (`loopF`: abort check, then one instruction) and the epilogue of `Run`
  (`runFrom.finish`) on top of `invoke_eq_call_partial`.
-/
namespace UgoVerif.Proofs.Shift
open UgoVerif UgoVerif.Go UgoVerif.VM

theorem loopF_round {F : FloatOps} {n : Nat} {s s' : State} (h : exec (loopF F (n + 1)) s = (.ok (some ()), s')) :
    (s.abort = true ∧ s' = { s with err := some .aborted }) ∨ s.abort = false ∧ ∃ c s1, exec (step F) s = (.ok c, s1) ∧
      match c with
      | .ret => s1 = s'
      | .next => exec (loopF F n) s1 = (.ok (some ()), s') := by
  unfold loopF at h
  simp only [exec_bind, exec_getS] at h
  by_cases hab : s.abort = true
  · simp only [hab, if_true] at h
    exact .inl ⟨hab, (Prod.mk.inj h).2.symm⟩
  · simp only [hab, Bool.false_eq_true, if_false, exec_bind] at h
    rcases e1 : exec (step F) s with ⟨_ | c, s1⟩ <;> rw [e1] at h
    · cases h
    · refine .inr ⟨by simpa using hab, c, s1, rfl, ?_⟩
      cases c with
      | next => exact h
      | ret => exact (Prod.mk.inj h).2

/-- a loop that ends within `n` instructions without abort is `runSteps` at `n` itself: `runSteps` stays at the
    instruction that returned -/
theorem loopF_ret (F : FloatOps) (n : Nat) (s s' : State) (h : exec (loopF F n) s = (.ok (some ()), s')) :
    runSteps F n s = some (.ret, s') ∨ s'.err = some .aborted := by
  induction n generalizing s with
  | zero =>
    unfold loopF at h
    simp at h
  | succ n ih =>
    rcases loopF_round h with ⟨_, rfl⟩ | ⟨_, c, s1, e1, h1⟩
    · exact .inr rfl
    · rw [runSteps, e1]
      cases c with
      | ret => exact .inl (by rw [h1])
      | next => exact ih s1 h1

theorem invoke_loop_partial {T0 : State} {bp k : Nat} (F : FloatOps) (hk : 1 ≤ k) (hbp : 1 ≤ bp) (n : Nat) (s t : State)
    (h : ∃ d, ShB T0 bp k d s t) (hok : OkRun F n s t) (s' : State)
    (hs : exec (loopF F n) s = (.ok (some ()), s')) (hna : s'.err ≠ some .aborted) :
    ∃ m s0, m < n ∧ runSteps F m s = some (.next, s0) ∧ exec (step F) s0 = (.ok .ret, s') ∧
      ∀ r0 t0, runSteps F m t = some (r0, t0) → r0 = .next ∧
        ∀ r' t', exec (step F) t0 = (.ok r', t') → EndQ T0 bp k r' s' t' :=
  invoke_eq_call_partial F hk hbp n s t h hok s' ((loopF_ret F n s s' hs).resolve_right hna)

theorem finish_of_noerr (u : State) (herr : u.err = none) (hsp : 1 ≤ u.sp ∧ u.sp < (stackSize : Int))
    (hnb : ∀ a, u.stack[(u.sp - 1).toNat]! ≠ .box a) :
    runFrom.finish u = (.value (u.stack[(u.sp - 1).toNat]!), u) :=
  finish_of_result herr hsp.2 (resultValue_of_slot u ⟨hsp.1, by have := hsp.2; omega⟩ hnb)

/- `clearCurrentFrame` changes the frame array only: `err`, `sp` and `stack` of `(exec clearCurrentFrame s).2`
   are those of `s` by computation. -/

theorem finish_value (s : State) (herr : s.err = none) (hsp : 1 ≤ s.sp ∧ s.sp < (stackSize : Int))
    (hnb : ∀ a, s.stack[(s.sp - 1).toNat]! ≠ .box a) :
    (runFrom.finish (exec clearCurrentFrame s).2).1 = .value (s.stack[(s.sp - 1).toNat]!) :=
  congrArg Prod.fst (finish_of_noerr (exec clearCurrentFrame s).2 herr hsp hnb)

/-- the part of `fetch` after the trace: is the instruction a CALL of a host function? -/
def hostCheck (op : Nat) : M (Nat × Option (Nat × Int × Int)) :=
  if op == OpCall then do
    let numArgs ← opnd1 1
    let flags ← opnd1 2
    let callee ← stackGet ((← getSp) - numArgs - 1)
    match callee with
    | .host k => pure (op, some (k, (numArgs : Int), (flags : Int)))
    | _ => pure (op, none)
  else pure (op, none)

theorem fetch_eq : fetch = (fetchOp >>= fun op => noteTrace op >>= fun _ => hostCheck op) := by
  unfold fetch fetchOp hostCheck
  simp only [bind_assoc]
  rfl

/-- an instruction that ends normally is not a call of a host function: `xOpCallObject` of a host object is outside `step` -/
theorem hostCheck_of_dispatch (F : FloatOps) (op : Nat) (s : State) (r : Ctl) (s1 : State)
    (h : exec (dispatch F op) s = (.ok r, s1)) : exec (hostCheck op) s = (.ok (op, none), s) := by
  unfold hostCheck
  by_cases hop : op = OpCall
  · subst hop
    have hd : dispatch F OpCall = execCall := rfl
    rw [hd] at h
    unfold execCall at h
    simp only [beq_self_eq_true, if_true]
    rw [exec_bind_reader (opnd1 1)] at h ⊢
    cases h1 : (exec (opnd1 1) s).1 with
    | error e => rw [h1] at h; simp at h
    | ok n =>
      rw [h1] at h
      simp only at h ⊢
      rw [exec_bind_reader (opnd1 2)] at h ⊢
      cases h2 : (exec (opnd1 2) s).1 with
      | error e => rw [h2] at h; simp at h
      | ok fl =>
        rw [h2] at h
        simp only at h ⊢
        rw [exec_bind_reader getSp] at h ⊢
        have e0 : (exec getSp s).1 = .ok s.sp := rfl
        rw [e0] at h ⊢
        simp only at h ⊢
        rw [exec_bind_reader (stackGet _)] at h ⊢
        cases h3 : (exec (stackGet (s.sp - (n : Int) - 1)) s).1 with
        | error e => rw [h3] at h; simp at h
        | ok callee =>
          rw [h3] at h
          simp only at h ⊢
          cases callee <;> first | rfl | skip
          -- host callee: `callObject` is unsupported
          exfalso
          simp only [callAny, callObject, exec_bind, exec_unsupported] at h
          simp at h
  · have : (op == OpCall) = false := by simpa using hop
    simp only [this, Bool.false_eq_true, if_false, exec_pure]

theorem fetch_of_step (F : FloatOps) (s : State) (r : Ctl) (s1 : State) (h : exec (step F) s = (.ok r, s1)) :
    ∃ op sm, exec fetch s = (.ok (op, none), sm) ∧ exec (dispatch F op) sm = (.ok r, s1) := by
  rw [step_eq, exec_bind] at h
  rw [fetch_eq, exec_bind]
  rcases e1 : exec fetchOp s with ⟨r1, s2⟩
  rw [e1] at h
  cases r1 with
  | error e => simp at h
  | ok op =>
    simp only at h ⊢
    rw [exec_bind] at h ⊢
    rcases e2 : exec (noteTrace op) s2 with ⟨r2, s3⟩
    rw [e2] at h
    cases r2 with
    | error e => simp at h
    | ok u =>
      simp only at h ⊢
      exact ⟨op, s3, hostCheck_of_dispatch F op s3 r s1 h, h⟩

/-- a child whose `loopF` ends called no host function (`hostCheck_of_dispatch`), so the host-aware loop does the same -/
theorem loopI_of_loopF (F : FloatOps) (cfg : HostCfg) (root : State) (rc : ChildRun) :
    ∀ (n : Nat) (w : World) (s s' : State), exec (loopF F n) s = (.ok (some ()), s') →
      loopI F cfg root rc n w s = (.ok (some ()), w, s') := by
  intro n
  induction n with
  | zero =>
    intro w s s' h
    unfold loopF at h
    simp at h
  | succ n ih =>
    intro w s s' h
    unfold loopI
    rcases loopF_round h with ⟨hab, rfl⟩ | ⟨hab, c, s1, e1, h1⟩
    · rw [if_pos hab]
    · obtain ⟨op, sm, hf, hd⟩ := fetch_of_step F s c s1 e1
      have hf' : fetch.run.run s = (.ok (op, none), sm) := hf
      have hd' : (dispatch F op).run.run sm = (.ok c, s1) := hd
      rw [if_neg (by simp [hab]), hf']
      simp only
      rw [hd']
      cases c with
      | ret => rw [← h1]
      | next => exact ih w s1 s' h1

theorem runWithW_of_loop (F : FloatOps) (cfg : HostCfg) (root : State) (rc : ChildRun) (fuel : Nat) (w : World) (g : V)
    (args : List V) (c c0 c1 : State) (hp : exec (prologue g args) c = (.ok (), c0))
    (hl : exec (loopF F fuel) c0 = (.ok (some ()), c1)) :
    runWithW F cfg root rc fuel w g args c =
      ((runFrom.finish (exec clearCurrentFrame c1).2).1, w, (runFrom.finish (exec clearCurrentFrame c1).2).2) := by
  unfold runWithW
  have hp' : (prologue g args).run.run c = (.ok (), c0) := hp
  rw [hp']
  simp only
  cases fuel with
  | zero => unfold loopF at hl; simp at hl
  | succ n =>
    unfold goW
    rw [loopI_of_loopF F cfg root rc (n + 1) w c0 c1 hl]
    rfl

theorem EscQ.unhandled {T0 : State} {bp k : Nat} {e : Addr} {r' : Ctl} {s' t' : State} (h : EscQ T0 bp k e r' s' t')
    (hk : k ≤ frameSize) (hnh : ∀ j, j < k → hasHandler (T0.frames[j]!) = false) :
    r' = .ret ∧ t'.err = some (.rt e) ∧ t'.heap = s'.heap ∧ t'.globals = s'.globals ∧ t'.modules = s'.modules := by
  obtain ⟨n, u, hh, hg, hm, _, hfr, _, hrun⟩ := h
  unfold escBelow at hrun
  rw [exec_bind, exec_throwBelow, exec_searchFrames, if_neg (Nat.not_lt.mpr hk),
    searched_eq_none.mpr fun j hj => by rw [hfr j hj]; exact hnh j hj] at hrun
  cases hrun
  exact ⟨rfl, rfl, hh, hg, hm⟩

end UgoVerif.Proofs.Shift

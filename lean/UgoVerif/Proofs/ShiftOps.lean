import UgoVerif.Proofs.ShiftThrow
/-
  C14, `frame_shift`: the opcodes that touch neither the frame stack nor the handler stack preserve the
  offset relation `Sh` (Proofs/Shift.lean).
-/
namespace UgoVerif.Proofs.Shift
open UgoVerif UgoVerif.Go UgoVerif.VM

section
variable {T0 : State} {bp k d H N : Nat} {a : Int}

/-- SETLOCAL reads the value to store before the frame; with the frame first it has the shape `sh_localSlot` asks for -/
theorem curFrame_swap {α} (i : Int → Int) (k : Int → V → Frame → M α) :
    (do let sp ← getSp; let v ← stackGet (i sp); let f ← curFrame; k sp v f) =
    (do let f ← curFrame; let sp ← getSp; let v ← stackGet (i sp); k sp v f) := by
  funext s
  show exec _ s = exec _ s
  have e1 : exec getSp s = (.ok s.sp, s) := rfl
  simp only [exec_bind, e1, exec_curFrame, exec_stackGet]
  by_cases hb : (decide (i s.sp < 0) || decide (i s.sp ≥ (stackSize : Int))) = true
  · rw [if_pos hb]
  · rw [if_neg hb]

theorem sh_localSlot (m : Nat → M Ctl) (f : Nat → Frame → M Ctl) (hm : ∀ idx, m idx = curFrame >>= f idx)
    (h : ∀ (idx : Nat) fn fr ip ip' (b : Int) hs hs' dc, b + (idx : Int) < a → b ≤ (H : Int) → HsSh bp H hs hs' →
      RelS (Sh T0 bp k d H N a) (PostC T0 bp k) (f idx ⟨fn, fr, ip, b, hs, dc⟩) (f idx ⟨fn, fr, ip', b + bp, hs', dc⟩)) :
    RelS (fun s t => Sh T0 bp k d H N a s t ∧ OpLt s) (PostC T0 bp k) (opnd1 1 >>= m) (opnd1 1 >>= m) := by
  refine RelS.bind sh_opnd1_lt ?_
  intro idx idx'
  refine RelS.pre_and fun h1 => ?_
  subst h1
  rw [hm]
  refine RelS.bindV (sh_curFrame_P (·.bp + (idx : Int) < a)) ?_
  rintro ⟨fn1, fr1, ip1, bp1, hs1, d1⟩ ⟨fn2, fr2, ip2, bp2, hs2, d2⟩ ⟨⟨e1, e2, e3, e4, e5, e6⟩, hlt⟩
  simp only at e1 e2 e3 e4 e5 e6 hlt
  subst e1 e2 e3 e5
  exact h idx _ _ _ _ _ _ _ _ hlt e6 e4

theorem sh_execGetLocal (ha : a ≤ N) (hH : H ≤ N) :
    RelS (fun s t => Sh T0 bp k d H N a s t ∧ OpLt s) (PostC T0 bp k) execGetLocal execGetLocal :=
  sh_localSlot _ _ (fun _ => rfl) fun idx fn fr ip ip' b hs hs' dc hlt hb _ => by dsimp only; shrun
theorem sh_execSetLocal (ha : a ≤ N) (hH : H ≤ N) :
    RelS (fun s t => Sh T0 bp k d H N a s t ∧ OpLt s) (PostC T0 bp k) execSetLocal execSetLocal :=
  sh_localSlot _ _ (fun _ => curFrame_swap (· - 1) _) fun idx fn fr ip ip' b hs hs' dc hlt hb _ => by dsimp only; shrun
theorem sh_execGetLocalPtr (ha : a ≤ N) (hH : H ≤ N) :
    RelS (fun s t => Sh T0 bp k d H N a s t ∧ OpLt s) (PostC T0 bp k) execGetLocalPtr execGetLocalPtr :=
  sh_localSlot _ _ (fun _ => rfl) fun idx fn fr ip ip' b hs hs' dc hlt hb _ => by dsimp only; shrun
theorem sh_execGetIndex (ha : a ≤ N) (hH : H ≤ N) : RelS (Sh T0 bp k d H N a) (PostC T0 bp k) execGetIndex execGetIndex := by
  unfold execGetIndex
  sh1; sh1; sh1
  refine RelS.bind (RelS.forIn_upto_exit (A := Sh T0 bp k d H N a)
      (VR := fun u u' => u = u' ∧ u.1 = none)
      (E := fun u u' s t => ∃ r r', u.1 = some r ∧ u'.1 = some r' ∧ PostC T0 bp k r r' s t) _ _ _ _ _ ⟨rfl, rfl⟩ ?_) ?_
  · intro i hi b b' hb
    obtain ⟨hb1, hb2⟩ := hb
    subst hb1
    sh1; sh1; sh1
    split
    · -- error: the adjusted error is thrown
      sh1
      refine RelS.bind ((sh_failWith _).rel ⟨by omega, by omega⟩) ?_
      intro r r'
      exact RelS.pure (fun s t h => ⟨r, r', rfl, rfl, h⟩)
    · exact RelS.pure (fun s t h => ⟨⟨rfl, rfl⟩, h⟩)
  · intro x y
    refine RelS.pre_or ?_ ?_
    · refine RelS.pre_and fun hxy => ?_
      obtain ⟨h1, h2⟩ := hxy
      subst h1
      obtain ⟨o, v1, v2⟩ := x
      simp only at h2
      subst h2
      dsimp only
      shrun
    · refine RelS.pre_exists fun r => RelS.pre_exists fun r' => ?_
      refine RelS.pre_and fun hx => RelS.pre_and fun hy => ?_
      rw [hx, hy]
      exact RelS.pure (fun s t h => h)

/-- the operand of MAP (number of stack items: keys and values) is even -/
def OpEven (s : State) : Prop := ∀ n s', exec (opnd2 1) s = (.ok n, s') → n % 2 = 0

theorem sh_opnd2_even :
    RelS (fun s t => Sh T0 bp k d H N a s t ∧ OpEven s) (PQ (fun x y => x = y ∧ x % 2 = 0) (Sh T0 bp k d H N a)) (opnd2 1) (opnd2 1) := by
  intro s t h x s' y t' h1 h2
  have := sh_foot (foot_opnd2 1) s t h.1 x s' y t' h1 h2
  exact ⟨⟨this.1, h.2 x s' h1⟩, this.2⟩

theorem sh_execMap (ha : a ≤ N) (hH : H ≤ N) :
    RelS (fun s t => Sh T0 bp k d H N a s t ∧ OpEven s) (PostC T0 bp k) execMap execMap := by
  unfold execMap
  refine RelS.bindV sh_opnd2_even ?_
  intro n _ ⟨h1, hn⟩
  subst h1
  shrun

/-- all but CALL, CALLNAME, RETURN, THROW and SETUPTRY / SETUPCATCH / SETUPFINALLY / FINALIZER (frame and handler stack) -/
def coveredOps : List Nat :=
  [OpNoOp, OpConstant, OpGetGlobal, OpSetGlobal, OpGetLocal, OpSetLocal, OpGetBuiltin, OpBinaryOp, OpUnary,
   OpEqual, OpNotEqual, OpJump, OpJumpFalsy, OpAndJump, OpOrJump, OpArray, OpSliceIndex, OpSetIndex, OpNull, OpPop,
   OpGetFree, OpSetFree, OpGetLocalPtr, OpGetFreePtr, OpClosure, OpIterInit, OpIterNext, OpIterKey, OpIterValue,
   OpLoadModule, OpStoreModule, OpDefineLocal, OpTrue, OpFalse, OpMap, OpGetIndex]

def localReadOps : List Nat := [OpGetLocal, OpSetLocal, OpGetLocalPtr]

theorem sh_execUnknown (op : Nat) : RelS (Sh T0 bp k d H N a) (PostC T0 bp k) (execUnknown op) (execUnknown op) := by
  intro s t h r s' r' t' h1 h2
  simp only [execUnknown, exec_bind, exec_modS, exec_pure, Prod.mk.injEq, Except.ok.injEq] at h1 h2
  obtain ⟨rfl, rfl⟩ := h1
  obtain ⟨rfl, rfl⟩ := h2
  exact Or.inr (Or.inr ⟨rfl, rfl, ⟨_, rfl, rfl⟩, h.heap, h.globals, h.modules⟩)

theorem sh_dispatch (F : FloatOps) (op : Nat) (hcov : op ∈ coveredOps) (ha : a ≤ N) (hH : H ≤ N) :
    RelS (fun s t => Sh T0 bp k d H N a s t ∧ (op ∈ localReadOps → OpLt s) ∧ (op = OpMap → OpEven s)) (PostC T0 bp k)
      (dispatch F op) (dispatch F op) := by
  let P (m : M Ctl) : Prop :=
    RelS (fun s t => Sh T0 bp k d H N a s t ∧ (op ∈ localReadOps → OpLt s) ∧ (op = OpMap → OpEven s)) (PostC T0 bp k) m m
  have weak {m : M Ctl} (h : RelS (Sh T0 bp k d H N a) (PostC T0 bp k) m m) : P m :=
    h.conseq (fun _ _ h => h.1) (fun _ _ _ _ h => h)
  have loc {m : M Ctl} (hl : op ∈ localReadOps) (h : RelS (fun s t => Sh T0 bp k d H N a s t ∧ OpLt s) (PostC T0 bp k) m m) : P m :=
    h.conseq (fun _ _ x => ⟨x.1, x.2.1 hl⟩) (fun _ _ _ _ x => x)
  have nc {m : M Ctl} {c : Nat} (hc : c ∉ coveredOps) (h : op = c) : P m := absurd (h ▸ hcov) hc
  exact dispatch_cases (P := P) F op
    (fun _ => weak (by unfold execConstant; shrun))
    (fun h => loc (by simp [h, localReadOps]) (sh_execGetLocal ha hH))
    (fun h => loc (by simp [h, localReadOps]) (sh_execSetLocal ha hH))
    (fun _ => weak (by unfold execBinaryOp; shrun))
    (fun _ => weak (by unfold execAndJump; shrun))
    (fun _ => weak (by unfold execOrJump; shrun))
    (fun _ => weak (by unfold execEqual; shrun))
    (fun _ => weak (by unfold execTrue; shrun))
    (fun _ => weak (by unfold execFalse; shrun))
    (nc (by decide))
    (nc (by decide))
    (nc (by decide))
    (fun _ => weak (by unfold execGetBuiltin; shrun))
    (fun _ => weak (by unfold execClosure; shrun))
    (fun _ => weak (by unfold execJump; shrun))
    (fun _ => weak (by unfold execJumpFalsy; shrun))
    (fun _ => weak (by unfold execGetGlobal; shrun))
    (fun _ => weak (by unfold execSetGlobal; shrun))
    (fun _ => weak (by unfold execArray; shrun))
    (fun h => (sh_execMap ha hH).conseq (fun _ _ x => ⟨x.1, x.2.2 h⟩) (fun _ _ _ _ x => x))
    (fun _ => weak (sh_execGetIndex ha hH))
    (fun _ => weak (by unfold execSetIndex; shrun))
    (fun _ => weak (by unfold execSliceIndex; shrun))
    (fun _ => weak (by unfold execGetFree; shrun))
    (fun _ => weak (by unfold execSetFree; shrun))
    (fun h => loc (by simp [h, localReadOps]) (sh_execGetLocalPtr ha hH))
    (fun _ => weak (by unfold execGetFreePtr; shrun))
    (fun _ => weak (by unfold execDefineLocal; shrun))
    (fun _ => weak (by unfold execNull; shrun))
    (fun _ => weak (by unfold execPop; shrun))
    (fun _ => weak (by unfold execIterInit; shrun))
    (fun _ => weak (by unfold execIterNext; shrun))
    (fun _ => weak (by unfold execLoadModule; shrun))
    (fun _ => weak (by unfold execStoreModule; shrun))
    (nc (by decide))
    (nc (by decide))
    (nc (by decide))
    (nc (by decide))
    (nc (by decide))
    (fun _ => weak (by unfold execUnary; shrun))
    (fun _ => weak (by unfold execNoOp; shrun))
    (weak (sh_execUnknown op))

/-- `vm.ip++ ; vm.curInsts[vm.ip]` -/
def fetchOp : M Nat := do
  bumpIp 1
  instAt (← getIp)

theorem step_eq (F : FloatOps) : step F = (fetchOp >>= fun op => noteTrace op >>= fun _ => dispatch F op) := by
  simp only [step, fetchOp, bind_assoc]

theorem sh_fetchOp : RelS (Sh T0 bp k d H N a) (PQ Eq (Sh T0 bp k d H N a)) fetchOp fetchOp := by
  unfold fetchOp
  refine RelS.bindV ((sh_bumpIp 1).rel trivial) ?_
  intro _ _ _
  refine RelS.bindV sh_getIp ?_
  intro x y h
  subst h
  exact sh_foot (foot_instAt _)

theorem noteTrace_inv {op : Nat} {s s' : State} {r : Unit} (e : exec (noteTrace op) s = (.ok r, s')) :
    ∃ tr st, s' = { s with trace := tr, steps := st } := by
  obtain ⟨tr, st, e'⟩ := exec_noteTrace_ok op s
  rw [e'] at e
  simp only [Prod.mk.injEq] at e
  exact ⟨tr, st, e.2.symm⟩

/-- what is asked of the operands of the instruction (`OpLt`, `OpEven`, `NoSpread`) can be asked before or after
    the trace is written -/
theorem Foot.after_noteTrace {α} {m : M α} (hm : Foot m) {op : Nat} {s s' : State} {r : Unit}
    (e : exec (noteTrace op) s = (.ok r, s')) {x : α} {s'' : State} (e1 : exec m s' = (.ok x, s'')) :
    ∃ s2, exec m s = (.ok x, s2) := by
  obtain ⟨tr, st, rfl⟩ := noteTrace_inv e
  have d := hm.dep { s with trace := tr, steps := st } s rfl
  rw [e1] at d
  rcases e2 : exec m s with ⟨r2, s2⟩
  rw [e2] at d
  simp only at d
  exact ⟨s2, by rw [← d.1]⟩

theorem OpLt_noteTrace (op : Nat) (s s' : State) (r : Unit) (h : OpLt s) (e : exec (noteTrace op) s = (.ok r, s')) :
    OpLt s' := by
  intro idx s'' e1
  obtain ⟨s2, e2⟩ := (foot_opnd1 1).after_noteTrace e e1
  obtain ⟨tr, st, rfl⟩ := noteTrace_inv e
  exact h idx s2 e2

end
end UgoVerif.Proofs.Shift

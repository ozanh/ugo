import UgoVerif.Proofs.ShiftCall
/-
  C14, the RETURN of the callee under the offset relation: the child's loop returns (frame 0 is the
  only frame), the parent goes back to the caller's frame; the value the child's `Run` reads at
  `stack[sp-1]` is the value the parent's caller finds in the callee's slot `stack[bp-1]`.
  At the RETURN of a nested call both sides go back one frame.
-/
namespace UgoVerif.Proofs.Shift
open UgoVerif UgoVerif.Go UgoVerif.VM

theorem RelS.bindL {α β γ} {A : State → State → Prop} {Q : γ → β → State → State → Prop} {m : M α} {f : α → M γ}
    {m₂ : M β} [hm : Pres Unchanged m] (hf : ∀ a, RelS A Q (f a) m₂) : RelS A Q (m >>= f) m₂ := by
  intro s t hA c s' b t' h1 h2
  rw [exec_bind] at h1
  have hro : (exec m s).2 = s := hm.h s
  rcases e1 : exec m s with ⟨r1, s1⟩
  rw [e1] at h1 hro
  cases r1 with
  | error e => simp at h1
  | ok a =>
    subst hro
    exact hf a _ t hA c s' b t' h1 h2

def StackAbove (lo : Int) (s s' : State) : Prop :=
  s' = { s with stack := s'.stack } ∧ s'.stack.size = s.stack.size ∧ ∀ i : Nat, (i : Int) < lo → s'.stack[i]! = s.stack[i]!

theorem clearDown_inv (hi lo : Int) (s s' : State) (r : Unit) (h : exec (clearDown hi lo) s = (.ok r, s')) :
    StackAbove lo s s' := by
  have hk : Keeps (StackAbove lo s) (clearDown hi lo) := by
    unfold clearDown
    refine Keeps.bind (Keeps.iff_hq.2 (Hq.forIn_upto (J := fun _ => StackAbove lo s) (I := fun _ => StackAbove lo s) _ _ _
      (fun k hk _ => ?_) fun _ _ h => h)) fun _ => Keeps.pure _
    refine (Keeps.iff_hq.1 (Keeps.bind (Keeps.ite (Keeps.panic _) (Keeps.modS fun u hu => ?_)) fun _ => Keeps.pure _)).post
      fun x _ h => by cases x <;> exact h
    obtain ⟨a1, a2, a3⟩ := hu
    refine ⟨by rw [a1], by simp [Array.set!_eq_setIfInBounds, a2], fun j hj => ?_⟩
    show (u.stack.set! (hi - (k : Int)).toNat V.nil)[j]! = s.stack[j]!
    rw [getElem!_set!, if_neg (fun c => by omega), a3 j hj]
  have := hk.elim s ⟨rfl, rfl, fun _ _ => rfl⟩
  rw [h] at this
  exact this

/-- child `s` and parent `t` between the write of the result (child slot `rc`, parent slot `rp`) and the end of RETURN -/
structure Rt (T0 : State) (bp k : Nat) (rc rp : Nat) (s t : State) : Prop where
  heap : s.heap = t.heap
  globals : s.globals = t.globals
  modules : s.modules = t.modules
  fiS : s.frameIndex = 1
  fiT : t.frameIndex = (k : Int) + 1
  errS : s.err = none
  errT : t.err = none
  res : s.stack[rc]! = t.stack[rp]!
  szT : t.stack.size = stackSize
  lowF : ∀ j : Nat, j < k → t.frames[j]! = T0.frames[j]!
  lowS : ∀ i : Nat, i + 1 < bp → t.stack[i]! = T0.stack[i]!
  curT : t.curFrame = k

variable {T0 : State} {bp k d H N : Nat} {a : Int}

theorem sh_rt_stackSet (i j : Int) (v : V) (hjb : (bp : Int) - 1 ≤ j) :
    RelS (Sh T0 bp k 0 H N a) (PQ (fun _ _ => True) (Rt T0 bp k i.toNat j.toNat)) (stackSet i v) (stackSet j v) := by
  intro s t h x s' y t' h1 h2
  obtain ⟨_, hi, rfl⟩ := stackSet_inv h1
  obtain ⟨_, hj, rfl⟩ := stackSet_inv h2
  refine ⟨trivial, ⟨h.heap, h.globals, h.modules, by have := h.fiS; show s.frameIndex = 1; omega, by have := h.fiT; show t.frameIndex = (k : Int) + 1; omega, h.errS, h.errT, ?_, ?_, h.lowF, ?_, by have := h.curT; show t.curFrame = k; omega⟩⟩
  rotate_right
  · intro i' hi'
    show (t.stack.set! j.toNat v)[i']! = T0.stack[i']!
    rw [getElem!_set!]
    have c : ¬ (j.toNat = i' ∧ j.toNat < t.stack.size) := fun c => by omega
    rw [if_neg c]
    exact h.lowS i' hi'
  · show (s.stack.set! i.toNat v)[i.toNat]! = (t.stack.set! j.toNat v)[j.toNat]!
    rw [getElem!_set!, getElem!_set!, h.shapeS.stack, h.shapeT.stack]
    have c1 : i.toNat = i.toNat ∧ i.toNat < stackSize := ⟨rfl, by omega⟩
    have c2 : j.toNat = j.toNat ∧ j.toNat < stackSize := ⟨rfl, by omega⟩
    rw [if_pos c1, if_pos c2]
  · show (t.stack.set! j.toNat v).size = stackSize
    simp [Array.set!_eq_setIfInBounds, h.shapeT.stack]

theorem rt_clearDown (rc rp : Nat) (h1 l1 h2 l2 : Int) (hc : (rc : Int) < l1) (hp : (rp : Int) < l2) (hl2 : (bp : Int) - 1 ≤ l2) :
    RelS (Rt T0 bp k rc rp) (PQ (fun _ _ => True) (Rt T0 bp k rc rp)) (clearDown h1 l1) (clearDown h2 l2) := by
  intro s t h x s' y t' e1 e2
  obtain ⟨a1, _, a3⟩ := clearDown_inv _ _ _ _ _ e1
  obtain ⟨b1, b2, b3⟩ := clearDown_inv _ _ _ _ _ e2
  refine ⟨trivial, ?_⟩
  rw [a1, b1]
  exact ⟨h.heap, h.globals, h.modules, h.fiS, h.fiT, h.errS, h.errT, by
    show s'.stack[rc]! = t'.stack[rp]!
    rw [a3 rc hc, b3 rp hp]; exact h.res, by show t'.stack.size = stackSize; rw [b2]; exact h.szT, h.lowF,
    fun i hi => by show t'.stack[i]! = T0.stack[i]!; rw [b3 i (by omega)]; exact h.lowS i hi, h.curT⟩

def RetQ (T0 : State) (bp k : Nat) (r r' : Ctl) (s' t' : State) : Prop :=
  r = .ret ∧ r' = .next ∧ s'.heap = t'.heap ∧ s'.globals = t'.globals ∧ s'.modules = t'.modules ∧
  s'.err = none ∧ t'.err = none ∧ s'.frameIndex = 1 ∧ t'.frameIndex = k ∧ t'.sp = bp ∧ 1 ≤ s'.sp ∧
  s'.stack[(s'.sp - 1).toNat]! = t'.stack[(t'.sp - 1).toNat]! ∧ t'.stack.size = stackSize ∧
  (∀ j : Nat, j < k → t'.frames[j]! = T0.frames[j]!) ∧ (∀ i : Nat, i + 1 < bp → t'.stack[i]! = T0.stack[i]!)

theorem rel_retClear (hk : 1 ≤ k) (hbp : 1 ≤ bp) (c hi hi' : Int) (hc : 1 ≤ c) :
    RelS (Rt T0 bp k (c - 1).toNat ((bp : Int) - 1).toNat) (RetQ T0 bp k) (retClear hi c) (retClear hi' bp) := by
  unfold retClear
  refine RelS.bindV (rt_clearDown _ _ _ _ _ _ (by omega) (by omega) (by omega)) ?_
  intro _ _ _
  intro s t h r s' r' t' h1 h2
  rw [exec_bind, exec_setSp] at h1 h2
  dsimp only at h1 h2
  rw [exec_retTail] at h1 h2
  have c1 : (s.frameIndex == 1) = true := by rw [h.fiS]; rfl
  have c2 : ¬ ((t.frameIndex == 1) = true) := by rw [h.fiT]; simp; omega
  rw [if_pos c1] at h1
  rw [if_neg c2] at h2
  cases h1
  -- the parent is back in the caller's frame: only the frame it left is touched
  split at h2
  · cases h2
  split at h2
  · cases h2
  cases h2
  refine ⟨rfl, rfl, h.heap, h.globals, h.modules, h.errS, h.errT, h.fiS, ?_, rfl, hc, h.res, h.szT, ?_, h.lowS⟩
  · show t.frameIndex - 1 = k; rw [h.fiT]; omega
  · intro j hj
    show (t.frames.modify t.curFrame clearF)[j]! = _
    rw [getElem!_modify_of_ne _ _ (by rw [h.curT]; omega)]
    exact h.lowF j hj

theorem sh_curFrame0 :
    RelS (Sh T0 bp k 0 H N a) (PQ (fun f g => FrameSh bp H f g ∧ f.bp = 0) (Sh T0 bp k 0 H N a)) curFrame curFrame :=
  (sh_curFrame_P (fun f => f.bp = 0)).conseq (fun _ _ h => ⟨h, h.bp0⟩) (fun _ _ _ _ h => h)

theorem sh_curFrame_pos :
    RelS (Sh T0 bp k (d + 1) H N a) (PQ (fun f g => FrameSh bp H f g ∧ 1 ≤ f.bp) (Sh T0 bp k (d + 1) H N a)) curFrame curFrame :=
  (sh_curFrame_P (fun f => 1 ≤ f.bp)).conseq (fun s t h => ⟨h, h.bpPos (d + 1) (by omega) (Nat.le_refl _)⟩) (fun _ _ _ _ h => h)

/-- RETURN of the invoked function itself (depth 0).  `bp ≥ 1`: the callee value lies below the frame; `k ≥ 1`: the
    parent has a caller frame. -/
theorem sh_execReturn (ha : a ≤ N) (hk : 1 ≤ k) (hbp : 1 ≤ bp) :
    RelS (Sh T0 bp k 0 H N a) (RetQ T0 bp k) execReturn execReturn := by
  unfold execReturn
  sh1
  refine RelS.bindV sh_curFrame0 ?_
  intro f g ⟨hfg, h0⟩
  rw [hfg.bpT, ← hfg.fn, ← hfg.discard, h0]
  have e1 : ((0 : Int) == 0) = true := rfl
  have e2 : ¬ (((0 : Int) + (bp : Int) == 0) = true) := by simp; omega
  rw [if_pos e1, if_neg e2]
  rename_i numRet
  cases f.fn with
  | none => exact RelS.errL_bind' _ _
  | some fa =>
    dsimp only
    refine RelS.bindL ?_
    intro cf
    sh1
    have rest := rel_retClear (T0 := T0) (k := k) hk hbp ((cf.1.numLocals : Int) + 1) (a - 1) (a + bp - 1) (by omega)
    have eq : (0 : Int) + (bp : Int) = (bp : Int) := by omega
    rw [eq]
    apply RelS.ite
    · sh1
      exact RelS.bindV (sh_rt_stackSet _ _ _ (by omega)) fun _ _ _ => rest
    · exact RelS.bindV (sh_rt_stackSet _ _ _ (by omega)) fun _ _ _ => rest

theorem Sh.popped {s t : State} (h : Sh T0 bp k (d + 1) H N a s t) : Sh T0 bp k d H N a (popped s) (popped t) := by
  have hcs := h.curS
  have hct := h.curT
  have hfs := h.fiS
  have hft := h.fiT
  have h' := h.modifyFrame s.curFrame t.curFrame (Nat.le_of_eq hcs) (by omega) clearF clearF H
    (fun _ _ x => ⟨rfl, rfl, x.bpT, trivial, x.discard, x.bpH⟩) (Nat.le_refl _) (fun _ => rfl)
    fun c => absurd c (by omega)
  rw [popped_eq (by omega) (by omega), popped_eq (by omega) (by omega),
    show s.curFrame - 1 = d by omega, show t.curFrame - 1 = k + d by omega]
  exact h'.toFrame (Nat.lt_succ_self d) (h'.ips d (Nat.lt_succ_self d))

theorem sh_retTail (ha : a ≤ N) (hH : H ≤ N) :
    RelS (Sh T0 bp k (d + 1) H N a) (PostC T0 bp k) retTail retTail := by
  intro s t h r s' r' t' e1 e2
  have hfs := h.fiS
  have hft := h.fiT
  have hk := h.kLt
  rw [exec_retTail] at e1 e2
  have c1 : ¬ ((s.frameIndex == 1) = true) := by simp; omega
  have c2 : ¬ ((t.frameIndex == 1) = true) := by simp; omega
  have c3 : ¬ (decide (s.frameIndex - 2 < 0) || decide (s.frameIndex - 2 ≥ (frameSize : Int))) = true := by
    simp only [frameSize] at hk ⊢; simp; omega
  have c4 : ¬ (decide (t.frameIndex - 2 < 0) || decide (t.frameIndex - 2 ≥ (frameSize : Int))) = true := by
    simp only [frameSize] at hk ⊢; simp; omega
  rw [if_neg c1, if_neg c3] at e1
  rw [if_neg c2, if_neg c4] at e2
  split at e1
  · cases e1
  split at e2
  · cases e2
  cases e1
  cases e2
  exact Or.inl ⟨rfl, rfl, d, H, N, a, h.popped, ha, hH⟩

theorem sh_execReturnUp (ha : a ≤ N) (hH : H ≤ N) :
    RelS (Sh T0 bp k (d + 1) H N a) (PostC T0 bp k) execReturn execReturn := by
  unfold execReturn
  sh1
  refine RelS.bindV sh_curFrame_pos ?_
  intro f g ⟨hfg, hpos⟩
  have hbpH := hfg.bpH
  rw [hfg.bpT, ← hfg.discard]
  have c1 : ¬ ((f.bp == 0) = true) := by simp; omega
  have c2 : ¬ ((f.bp + (bp : Int) == 0) = true) := by simp; omega
  rw [if_neg c1, if_neg c2]
  sh1
  have rest : RelS (Sh T0 bp k (d + 1) H N a) (PostC T0 bp k) (retClear (a - 1) f.bp) (retClear (a + bp - 1) (f.bp + bp)) := by
    unfold retClear
    sh1; sh1
    exact sh_retTail (by omega) (by omega)
  apply RelS.ite
  · sh1; sh1
    exact rest
  · sh1
    exact rest

/-- the epilogue of the child's `Run`: `resultValue` reads `stack[sp-1]` and DEREFERENCES an
    `*ObjectPtr`; the in-script caller finds the raw slot value -/
theorem resultValue_of_slot (s : State) (hsp : 1 ≤ s.sp ∧ s.sp ≤ (stackSize : Int)) :
    (∀ a, s.stack[(s.sp - 1).toNat]! ≠ .box a) → exec resultValue s = (.ok (s.stack[(s.sp - 1).toNat]!), s) := by
  intro hnb
  unfold resultValue
  have eg : exec getSp s = (.ok s.sp, s) := rfl
  simp only [exec_bind, eg]
  rw [exec_stackGet]
  have hb : ¬ ((decide (s.sp - 1 < 0) || decide (s.sp - 1 ≥ (stackSize : Int))) = true) := by simp; omega
  rw [if_neg hb]
  simp only
  generalize s.stack[(s.sp - 1).toNat]! = v at hnb
  cases v <;> first | rfl | exact absurd rfl (hnb _)

theorem resultValue_of_box (s : State) (hsp : 1 ≤ s.sp ∧ s.sp ≤ (stackSize : Int)) (a : Addr) (w : V)
    (hv : s.stack[(s.sp - 1).toNat]! = .box a) (hw : s.heap[a]? = some (.box w)) :
    exec resultValue s = (.ok w, s) := by
  unfold resultValue
  have eg : exec getSp s = (.ok s.sp, s) := rfl
  simp only [exec_bind, eg]
  rw [exec_stackGet]
  have hb : ¬ ((decide (s.sp - 1 < 0) || decide (s.sp - 1 ≥ (stackSize : Int))) = true) := by simp; omega
  rw [if_neg hb]
  simp only [hv, heapGet, exec_bind, exec_getS, hw, exec_pure]

end UgoVerif.Proofs.Shift

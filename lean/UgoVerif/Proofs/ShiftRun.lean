import UgoVerif.Proofs.ShiftRet
import UgoVerif.Proofs.ShiftOps
/-
  C14, `frame_shift`: one `step` for EVERY opcode under the offset relation, and its iteration over a run of
  the invoked function up to the instruction that ends it (`invoke_eq_call_partial`).
-/
namespace UgoVerif.Proofs.Shift
open UgoVerif UgoVerif.Go UgoVerif.VM

def PostG (T0 : State) (bp k : Nat) (r r' : Ctl) (s t : State) : Prop := PostC T0 bp k r r' s t ∨ RetQ T0 bp k r r' s t

theorem dispatch_unknown (F : FloatOps) (op : Nat) (h : 44 ≤ op) : dispatch F op = execUnknown op := by
  have hne : ∀ c, c < 44 → (op == c) = false := fun c hc => by rw [beq_eq_false_iff_ne]; omega
  simp (disch := decide) only [dispatch, hne, Bool.false_eq_true, if_false, Bool.or_self]

/-- opcodes.go has 44 opcodes: the 36 of `coveredOps` and these eight -/
theorem ops_split : ∀ op, op < 44 → op ∈ coveredOps ∨
    op ∈ [OpCall, OpCallName, OpReturn, OpSetupTry, OpSetupCatch, OpSetupFinally, OpThrow, OpFinalizer] := by decide

section
variable {T0 : State} {bp k d H N : Nat} {a : Int}

def callOps : List Nat := [OpCall, OpCallName]

def OpOk (k d op : Nat) (s : State) : Prop :=
  (op ∈ localReadOps → OpLt s) ∧ (op = OpMap → OpEven s) ∧ (op ∈ callOps → NoSpread s ∧ k + d + 2 < frameSize)

theorem sh_dispatch_all (F : FloatOps) (op : Nat) (ha : a ≤ N) (hH : H ≤ N) (hk : 1 ≤ k) (hbp : 1 ≤ bp) :
    RelS (fun s t => Sh T0 bp k d H N a s t ∧ OpOk k d op s) (PostG T0 bp k) (dispatch F op) (dispatch F op) := by
  have weak : ∀ {m : M Ctl}, RelS (Sh T0 bp k d H N a) (PostC T0 bp k) m m →
      RelS (fun s t => Sh T0 bp k d H N a s t ∧ OpOk k d op s) (PostG T0 bp k) m m :=
    fun h => h.conseq (fun _ _ h => h.1) (fun _ _ _ _ h => Or.inl h)
  by_cases hcov : op ∈ coveredOps
  · exact (sh_dispatch F op hcov ha hH).conseq (fun _ _ h => ⟨h.1, h.2.1, h.2.2.1⟩) (fun _ _ _ _ h => Or.inl h)
  · by_cases h44 : 44 ≤ op
    · rw [dispatch_unknown F op h44]
      exact weak (sh_execUnknown op)
    · have hcases := (ops_split op (by omega)).resolve_left hcov
      simp only [List.mem_cons, List.not_mem_nil, or_false] at hcases
      rcases hcases with h | h | h | h | h | h | h | h <;> subst h
      · intro s t hpre
        obtain ⟨hsh, _, _, hc⟩ := hpre
        obtain ⟨hns, hroom⟩ := hc (by simp [callOps])
        exact ((sh_execCall ha hH hroom).conseq (fun _ _ h => h) (fun _ _ _ _ h => Or.inl h)) s t ⟨hsh, hns⟩
      · intro s t hpre
        obtain ⟨hsh, _, _, hc⟩ := hpre
        obtain ⟨hns, hroom⟩ := hc (by simp [callOps])
        exact ((sh_execCallName ha hH hroom).conseq (fun _ _ h => h) (fun _ _ _ _ h => Or.inl h)) s t ⟨hsh, hns⟩
      · cases d with
        | zero => exact (sh_execReturn ha hk hbp).conseq (fun _ _ h => h.1) (fun _ _ _ _ h => Or.inr h)
        | succ d' => exact weak (sh_execReturnUp ha hH)
      · exact weak (sh_execSetupTry ha hH)
      · exact weak (sh_execSetupCatch ha hH)
      · exact weak (sh_execSetupFinally ha hH)
      · exact weak (sh_execThrow ha hH)
      · exact weak (sh_execFinalizer ha hH)

/-- what is asked of the instruction the child is about to execute: of its operands only (all 44 opcodes and unknown
    ones are covered) -/
def StepOk (s : State) : Prop :=
  ∀ op s1, exec fetchOp s = (.ok op, s1) →
    (op ∈ localReadOps → OpLt s1) ∧ (op = OpMap → OpEven s1) ∧ (op ∈ callOps → NoSpread s1)

/-- the resource hypothesis on the PARENT: when the instruction is a call, the parent has a free frame.
    Without it the parent's `xOpCallCompiled` answers StackOverflowError where the child, whose frame stack
    starts at the invoked function, still has room: a legitimate difference at the frame limit. -/
def CallRoom (s t : State) : Prop :=
  ∀ op s1, exec fetchOp s = (.ok op, s1) → op ∈ callOps → t.frameIndex + 1 < (frameSize : Int)

theorem OpOk_noteTrace (op : Nat) {A : State → State → Prop} :
    RelS (fun s t => A s t ∧ OpOk k d op s) (fun _ _ s _ => OpOk k d op s) (noteTrace op) (noteTrace op) :=
  fun s _ h u s' _ _ e _ => ⟨fun hl => OpLt_noteTrace op s s' u (h.2.1 hl) e,
    fun hm n _ e1 => let ⟨s2, e2⟩ := (foot_opnd2 1).after_noteTrace e e1; h.2.2.1 hm n s2 e2,
    fun hc => ⟨fun p _ e1 => let ⟨s2, e2⟩ := foot_callOperands.after_noteTrace e e1; (h.2.2.2 hc).1 p s2 e2, (h.2.2.2 hc).2⟩⟩

theorem frame_shift (F : FloatOps) (hk : 1 ≤ k) (hbp : 1 ≤ bp) :
    RelS (fun s t => ShB T0 bp k d s t ∧ StepOk s ∧ CallRoom s t) (PostG T0 bp k) (step F) (step F) := by
  intro s t ⟨⟨H, N, a, h, ha, hH⟩, hok, hcr⟩
  rw [step_eq]
  -- the fetch: `Sh` is kept, and `StepOk` / `CallRoom` speak of the state it leaves
  have hf : RelS (fun s' t' => s' = s ∧ t' = t) (fun op _ s1 _ => OpOk k d op s1) fetchOp fetchOp := by
    rintro _ _ ⟨rfl, rfl⟩ op s1 _ _ e1 _
    obtain ⟨hloc, hev, hns⟩ := hok op s1 e1
    refine ⟨hloc, hev, fun hc => ⟨hns hc, ?_⟩⟩
    have := hcr op s1 e1 hc
    have := h.fiT
    simp only [frameSize] at *
    omega
  refine RelS.bind (sh_fetchOp.and hf) ?_ s t ⟨h, rfl, rfl⟩
  rintro op _ s1 t1 ⟨⟨rfl, hs1⟩, hc⟩
  refine RelS.bind ((sh_noteTrace op).and (OpOk_noteTrace op)) ?_ s1 t1 ⟨hs1, hs1, hc⟩
  intro _ _
  exact (sh_dispatch_all F op ha hH hk hbp).conseq (fun _ _ h => ⟨h.1.2, h.2⟩) fun _ _ _ _ h => h

end

/-- `n` iterations of the loop body (no abort check): `none` = a Go panic / outside the model -/
def runSteps (F : FloatOps) : Nat → State → Option (Ctl × State)
  | 0, s => some (.next, s)
  | n+1, s =>
    match exec (step F) s with
    | (.ok .next, s') => runSteps F n s'
    | (.ok .ret, s') => some (.ret, s')
    | (.error _, _) => none

theorem runSteps_add (F : FloatOps) (i j : Nat) (s : State) : runSteps F (j + i) s =
    match runSteps F j s with
    | some (.next, sj) => runSteps F i sj
    | o => o := by
  fun_induction runSteps F j s with
  | case1 => rw [Nat.zero_add]
  | case2 _ _ _ e ih => rw [← ih, Nat.succ_add, runSteps, e]
  | case3 _ _ _ e => rw [Nat.succ_add, runSteps, e]
  | case4 _ _ _ _ e => rw [Nat.succ_add, runSteps, e]

theorem runSteps_prefix (F : FloatOps) (m : Nat) (s sm : State) (h : runSteps F m s = some (.next, sm)) (j : Nat) (hj : j ≤ m) :
    ∃ sj, runSteps F j s = some (.next, sj) := by
  have e : m = j + (m - j) := by omega
  rw [e, runSteps_add] at h
  rcases hr : runSteps F j s with _ | ⟨_ | _, sj⟩
  · rw [hr] at h; cases h
  · exact ⟨sj, rfl⟩
  · rw [hr] at h; cases h

theorem runSteps_alive {F : FloatOps} {m : Nat} {t tm : State} (h : runSteps F m t = some (.next, tm))
    (hne : runSteps F (m + 1) t ≠ none) : ∃ r' t', exec (step F) tm = (.ok r', t') := by
  rw [runSteps_add, h] at hne
  rcases e : exec (step F) tm with ⟨_ | r', t'⟩
  · exact absurd (by simp only [runSteps, e]) hne
  · exact ⟨r', t', rfl⟩

theorem keeps_runSteps {P : State → Prop} (F : FloatOps) (h : Keeps P (step F)) (n : Nat) (s : State) (r : Ctl) (s' : State)
    (hr : runSteps F n s = some (r, s')) (hP : P s) : P s' := by
  fun_induction runSteps F n s with
  | case1 => cases hr; exact hP
  | case2 _ s _ e ih => exact ih hr (by have := h.elim s hP; rwa [e] at this)
  | case3 _ s _ e => cases hr; have := h.elim s hP; rwa [e] at this
  | case4 => cases hr

/-- every instruction the two VMs meet during their next `n` lock-steps satisfies `StepOk` / `CallRoom` -/
def OkRun (F : FloatOps) : Nat → State → State → Prop
  | 0, _, _ => True
  | n+1, s, t => StepOk s ∧ CallRoom s t ∧
      ∀ s' t', exec (step F) s = (.ok .next, s') → exec (step F) t = (.ok .next, t') → OkRun F n s' t'

section
variable {T0 : State} {bp k : Nat}

theorem steps_shift (F : FloatOps) (hk : 1 ≤ k) (hbp : 1 ≤ bp) (m j : Nat) : ∀ s t, (∃ d, ShB T0 bp k d s t) → OkRun F (m + j) s t →
    ∀ s0, runSteps F m s = some (.next, s0) → ∀ r0 t0, runSteps F m t = some (r0, t0) →
      r0 = .next ∧ (∃ d, ShB T0 bp k d s0 t0) ∧ OkRun F j s0 t0 := by
  intro s t h hok s0 h1 r0 t0 h2
  fun_induction runSteps F m s generalizing t with
  | case1 =>
    cases h1; cases h2
    exact ⟨rfl, h, by simpa using hok⟩
  | case2 m s s1 e1 ih =>
    rw [Nat.succ_add] at hok
    obtain ⟨hso, hcr, hnext⟩ := hok
    obtain ⟨d, hd⟩ := h
    rw [runSteps] at h2
    rcases e2 : exec (step F) t with ⟨_ | c2, t1⟩ <;> rw [e2] at h2
    · cases h2
    rcases frame_shift F hk hbp s t ⟨hd, hso, hcr⟩ .next s1 c2 t1 e1 e2 with (⟨_, rfl, hsh⟩ | ⟨hr, _⟩ | ⟨hr, _⟩) | ⟨hr, _⟩
    · exact ih t1 hsh (hnext s1 t1 e1 e2) h1 h2
    all_goals cases hr
  | case3 => cases h1
  | case4 => cases h1

theorem runSteps_ret_split (F : FloatOps) (n : Nat) (s s' : State) (h : runSteps F n s = some (.ret, s')) :
    ∃ m s0, m < n ∧ runSteps F m s = some (.next, s0) ∧ exec (step F) s0 = (.ok .ret, s') := by
  fun_induction runSteps F n s with
  | case1 => cases h
  | case2 _ _ _ e ih =>
    obtain ⟨m, s0, hm, h1, h2⟩ := ih h
    exact ⟨m + 1, s0, by omega, by rw [runSteps, e]; exact h1, h2⟩
  | case3 _ s _ e => cases h; exact ⟨0, s, by omega, rfl, e⟩
  | case4 => cases h

/-- how the invoked function ends (the child's loop returned; `r'`, `t'`: the parent after the same instruction):
    it RETURNed (`RetQ`), an error `e` left its frame (`EscQ`), or both loops stopped with the same Go error -/
def EndQ (T0 : State) (bp k : Nat) (r' : Ctl) (s' t' : State) : Prop :=
  RetQ T0 bp k .ret r' s' t' ∨ (∃ e, s'.err = some (.rt e) ∧ EscQ T0 bp k e r' s' t') ∨
  (r' = .ret ∧ (∃ m, s'.err = some (.goerr m) ∧ t'.err = some (.goerr m)) ∧
    s'.heap = t'.heap ∧ s'.globals = t'.globals ∧ s'.modules = t'.modules)

theorem invoke_eq_call_partial (F : FloatOps) (hk : 1 ≤ k) (hbp : 1 ≤ bp) (n : Nat) (s t : State) (h : ∃ d, ShB T0 bp k d s t)
    (hok : OkRun F n s t) (s' : State) (hs : runSteps F n s = some (.ret, s')) :
    ∃ m s0, m < n ∧ runSteps F m s = some (.next, s0) ∧ exec (step F) s0 = (.ok .ret, s') ∧
      ∀ r0 t0, runSteps F m t = some (r0, t0) → r0 = .next ∧
        ∀ r' t', exec (step F) t0 = (.ok r', t') → EndQ T0 bp k r' s' t' := by
  obtain ⟨m, s0, hm, h1, h2⟩ := runSteps_ret_split F n s s' hs
  refine ⟨m, s0, hm, h1, h2, ?_⟩
  intro r0 t0 h3
  have e : n = m + (n - m) := by omega
  rw [e] at hok
  obtain ⟨hr0, ⟨d, hd⟩, hok'⟩ := steps_shift F hk hbp m (n - m) s t h hok s0 h1 r0 t0 h3
  refine ⟨hr0, ?_⟩
  intro r' t' h4
  have e' : n - m = (n - m - 1) + 1 := by omega
  rw [e'] at hok'
  obtain ⟨hso, hcr, _⟩ := hok'
  have hp := frame_shift F hk hbp s0 t0 ⟨hd, hso, hcr⟩ .ret s' r' t' h2 h4
  rcases hp with (⟨hr, _⟩ | ⟨_, hq⟩ | ⟨_, hq⟩) | hq
  · cases hr
  · exact Or.inr (Or.inl hq)
  · exact Or.inr (Or.inr hq)
  · exact Or.inl hq

end

end UgoVerif.Proofs.Shift

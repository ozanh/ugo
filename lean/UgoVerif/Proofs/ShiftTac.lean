import UgoVerif.Proofs.Shift
/-
  C14: what one instruction of the invoked function establishes (`PostC`, with the boundary `EscQ` where an
  error leaves the function), and the walk `shrun` over two copies of the body of an opcode.
-/
namespace UgoVerif.Proofs.Shift
open UgoVerif UgoVerif.Go UgoVerif.VM

/-- the search of `throw` for a handler in the frames below frame `j` (vm.go `throw`: the loop over
    `vm.frames[index]`, then `handleThrownError` in the frame found): `throwF` without its first test -/
def throwBelow (fuel : Nat) (j : Nat) (err : Addr) : M (Option Addr) := do
  let found? ← searchFrames j
  let index : Int ← (match found? with
    | some i => pure (i : Int)
    | none => pure (-1))
  if found?.isNone then
    return some err
  modS fun s => { s with frameIndex := index + 1, curFrame := index.toNat }
  let f ← curFrame
  match f.fn with
  | none => VM.panic "runtime error: invalid memory address or nil pointer dereference"
  | some _ => pure ()
  setIp f.ip
  throwF.handle fuel err

theorem throwF_succ (fuel : Nat) (err : Addr) : throwF (fuel + 1) err = (do
    let cf ← curFrame
    if hasHandler cf then throwF.handle fuel err
    else do
      let s ← getS
      throwBelow fuel (s.frameIndex - 1).toNat err) := by
  rw [throwF]; rfl

/-- what the parent does once the error `e` has left frame `k` of the invoked function -/
def escBelow (n k : Nat) (e : Addr) : M Ctl := do
  match (← throwBelow n k e) with
  | none => pure .next
  | some a => modS (fun s => { s with err := some (.rt a) }); pure .ret

/-- the boundary of the simulation: the error `e` was not taken by any handler of the invoked function's
    frame or of the frames above it.  The child's `throw` returned it (its `Run` returns it to Go); the
    parent's instruction ended as `escBelow` ends from a state `u` with the child's heap, globals and module
    cache, whose frames below `k` and stack below the callee's slot are those of `T0` (the parent at the entry of the
    function): the search goes on in the CALLER's frames, where the two sides legitimately differ. -/
def EscQ (T0 : State) (bp k : Nat) (e : Addr) (r' : Ctl) (s' t' : State) : Prop :=
  ∃ n u, u.heap = s'.heap ∧ u.globals = s'.globals ∧ u.modules = s'.modules ∧ u.err = none ∧
    (∀ j : Nat, j < k → u.frames[j]! = T0.frames[j]!) ∧ (∀ i : Nat, i + 1 < bp → u.stack[i]! = T0.stack[i]!) ∧
    exec (escBelow n k e) u = (.ok r', t')

/-- after one instruction (not the RETURN of the invoked function itself): both VMs continue in related
    states (possibly at another depth: a call, a return of a nested call, a throw caught in an outer frame
    of the invoked function), or the child's loop returns with `vm.err = e` and the parent goes on
    unwinding below frame `k` (`EscQ`), or both loops return with the same Go error (malformed bytecode:
    unknown opcode, wrong THROW operand) -/
def PostC (T0 : State) (bp k : Nat) (r r' : Ctl) (s t : State) : Prop :=
  (r = .next ∧ r' = .next ∧ ∃ d, ShB T0 bp k d s t) ∨ (r = .ret ∧ ∃ e, s.err = some (.rt e) ∧ EscQ T0 bp k e r' s t) ∨
  (r = .ret ∧ r' = .ret ∧ (∃ m, s.err = some (.goerr m) ∧ t.err = some (.goerr m)) ∧
    s.heap = t.heap ∧ s.globals = t.globals ∧ s.modules = t.modules)

theorem RelS.errL_bind' {α β γ} {A : State → State → Prop} {Q : γ → β → State → State → Prop} {m₂ : M β} (e : Exc)
    (f : α → M γ) : RelS A Q ((throw e : M α) >>= f) m₂ := by
  intro s t _ a s' b t' h1 _
  rw [exec_bind] at h1
  simp at h1

theorem RelS.errR_bind' {α β γ} {A : State → State → Prop} {Q : β → γ → State → State → Prop} {m₁ : M β} (e : Exc)
    (f : α → M γ) : RelS A Q m₁ ((throw e : M α) >>= f) := by
  intro s t _ a s' b t' _ h2
  rw [exec_bind] at h2
  simp at h2

section
variable {T0 : State} {bp k d H N : Nat} {a : Int}

instance sh_next : RelPrim (Sh T0 bp k d H N a) (pure Ctl.next) (pure Ctl.next) (a ≤ N ∧ H ≤ N) (PostC T0 bp k) :=
  ⟨fun h => RelS.pure (fun _ _ hs => Or.inl ⟨rfl, rfl, d, H, N, a, hs, h.1, h.2⟩)⟩

instance sh_pushV (v : V) : RelPrim (Sh T0 bp k d H N a) (pushV v) (pushV v) (a ≤ N)
    (PQ (fun _ _ => True) (Sh T0 bp k d H (max N (a.toNat + 1)) (a + 1))) where
  rel ha := by
    unfold pushV
    refine RelS.bindV (sh_getSp.rel trivial) ?_
    rintro _ _ ⟨rfl, rfl⟩
    refine RelS.bindV (sh_stackSet _ _ _ rfl (max N (a.toNat + 1)) (by intro h0; omega)) ?_
    intro _ _ _
    exact (sh_setSp _ _).rel (by omega)

/-- the local slot addressed by the operand of the current instruction lies below the stack pointer:
    `bp + operand < sp` (compiled code keeps the `NumLocals` slots of a frame below its operand stack) -/
def OpLt (s : State) : Prop :=
  ∀ idx s', exec (opnd1 1) s = (.ok idx, s') → (s.frames[s.curFrame]!).bp + (idx : Int) < s.sp

theorem sh_opnd1_lt :
    RelS (fun s t => Sh T0 bp k d H N a s t ∧ OpLt s)
      (fun (x y : Nat) s t => x = y ∧ Sh T0 bp k d H N a s t ∧ (s.frames[d]!).bp + (x : Int) < a) (opnd1 1) (opnd1 1) := by
  intro s t h x s' y t' h1 h2
  have := sh_foot (foot_opnd1 1) s t h.1 x s' y t' h1 h2
  refine ⟨this.1, this.2, ?_⟩
  have hl := (foot_opnd1 1).loc s
  rw [h1] at hl
  simp only at hl
  have hb := h.2 x s' h1
  rw [h.1.curS, h.1.spS] at hb
  rw [hl]
  exact hb

theorem sh_curFrame_P (P : Frame → Prop) :
    RelS (fun s t => Sh T0 bp k d H N a s t ∧ P (s.frames[d]!))
      (PQ (fun f g => FrameSh bp H f g ∧ P f) (Sh T0 bp k d H N a)) curFrame curFrame :=
  (RelS.read (fun _ => rfl) (fun _ => rfl) fun s t h => by
    rw [h.1.curS, h.1.curT]; exact ⟨h.1.frame, h.2⟩).conseq (fun _ _ h => h) fun _ _ _ _ h => ⟨h.1, h.2.1⟩

instance sh_getS : RelPrim (Sh T0 bp k d H N a) getS getS True (PQ (Sh T0 bp k d H N a) (Sh T0 bp k d H N a)) :=
  ⟨fun _ => RelS.read (fun _ => rfl) (fun _ => rfl) fun _ _ h => h⟩

instance sh_setModule (i : Nat) (v : V) :
    RelPrim (Sh T0 bp k d H N a) (modS fun s => { s with modules := s.modules.set! i v })
      (modS fun s => { s with modules := s.modules.set! i v }) True (PQ (fun _ _ => True) (Sh T0 bp k d H N a)) :=
  ⟨fun _ => RelS.modS fun _ _ h =>
    { h with modules := by simp [h.modules], shapeS := ⟨h.shapeS.stack, h.shapeS.frames⟩, shapeT := ⟨h.shapeT.stack, h.shapeT.frames⟩ }⟩

theorem exec_stackSlice' (lo hi : Int) (s : State) :
    exec (stackSlice lo hi) s =
      if lo < 0 || hi > (stackSize : Int) || lo > hi then
        (.error (.panic s!"runtime error: slice bounds out of range [{lo}:{hi}]"), s)
      else (.ok ((s.stack.toList.drop lo.toNat).take (hi - lo).toNat), s) := by
  unfold stackSlice
  split
  · rfl
  · simp only [exec_bind, exec_getS, exec_pure]

instance sh_stackSlice (lo hi lo' hi' : Int) : RelPrim (Sh T0 bp k d H N a) (stackSlice lo hi) (stackSlice lo' hi')
    (lo' = lo + bp ∧ hi' = hi + bp ∧ hi ≤ N) (PQ Eq (Sh T0 bp k d H N a)) where
  rel := by
    rintro ⟨h1, h2, hN⟩ s t h x s' y t' e1 e2
    rw [exec_stackSlice'] at e1 e2
    by_cases hb : (decide (lo < 0) || decide (hi > (stackSize : Int)) || decide (lo > hi)) = true
    · rw [if_pos hb] at e1; simp at e1
    · rw [if_neg hb] at e1
      by_cases hb' : (decide (lo' < 0) || decide (hi' > (stackSize : Int)) || decide (lo' > hi')) = true
      · rw [if_pos hb'] at e2; simp at e2
      · rw [if_neg hb'] at e2
        simp only [Prod.mk.injEq, Except.ok.injEq] at e1 e2
        obtain ⟨rfl, rfl⟩ := e1
        obtain ⟨rfl, rfl⟩ := e2
        simp only [Bool.or_eq_true, decide_eq_true_eq, not_or, Int.not_lt] at hb hb'
        refine ⟨?_, h⟩
        apply List.ext_getElem?
        intro i
        have e : (hi' - lo').toNat = (hi - lo).toNat := by omega
        rw [e]
        simp only [List.getElem?_take, List.getElem?_drop]
        by_cases hlt : i < (hi - lo).toNat
        · simp only [hlt, if_true]
          have hs := h.stack (lo.toNat + i) (by omega)
          have hsz1 := h.shapeS.stack
          have hsz2 := h.shapeT.stack
          have l1 : lo.toNat + i < s.stack.size := by rw [hsz1]; omega
          have l2 : lo'.toNat + i < t.stack.size := by rw [hsz2]; omega
          have e' : bp + (lo.toNat + i) = lo'.toNat + i := by omega
          rw [e', getElem!_pos s.stack _ l1, getElem!_pos t.stack _ l2] at hs
          simp only [Array.getElem?_toList, Array.getElem?_eq_getElem l1, Array.getElem?_eq_getElem l2, hs]
        · simp only [hlt, if_false]

theorem sh_stackSet_grow (i j : Int) (v : V) (hj : j = i + bp) (hi : i ≤ N) :
    RelS (Sh T0 bp k d H N a) (PQ (fun _ _ => True) (Sh T0 bp k d H (max N (i.toNat + 1)) a)) (stackSet i v) (stackSet j v) :=
  sh_stackSet i j v hj _ (by intro h0; omega)

theorem sh_stackSet_keep (i j : Int) (v : V) (hj : j = i + bp) :
    RelS (Sh T0 bp k d H N a) (PQ (fun _ _ => True) (Sh T0 bp k d H N a)) (stackSet i v) (stackSet j v) :=
  sh_stackSet i j v hj N fun _ => Or.inl (Nat.le_refl _)

/-- a write inside the related region keeps `N`: the bounds met by `omega` stay free of `max` unless the
    operand stack really grows (`sh_stackSet_grow`, tried next) -/
instance sh_stackSet_in (i j : Int) (v : V) : RelPrim (Sh T0 bp k d H N a) (stackSet i v) (stackSet j v) (j = i + bp ∧ i < N)
    (PQ (fun _ _ => True) (Sh T0 bp k d H N a)) :=
  ⟨fun h => sh_stackSet_keep i j v h.1⟩

/- `shrun` walks two copies of a `do` block in step.  A bind is split once; the rule of its first action is looked up
   in the table `RelPrim` (`sh_look`), and `omega` discharges the side condition handed back
   (`sp - 2 + bp = sp + bp - 2`, `sp - 2 < N`).  `sh_prim` is what the table cannot hold: a block with a heap
   footprint (`sh_foot`; its leaves are the instances of `Foot`), the two other rules of `stackSet` (which of the
   three applies depends on what `omega` proves), the two loops (their bodies are walked); Proofs/ShiftTry.lean adds
   `sh_setLast` (its side condition speaks of handlers).  The related results are then substituted (`Eq`), or, for
   the two frames read by `curFrame` and the two states read by `getS`, rewritten to the child's.  The ends of an
   opcode (`pure .next`, `failWith e`) are entries of the table too.  `dsimp only` stands before `split`: it reduces
   a `match` on a constructor, where `split` keeps the impossible branches and the rest of the opcode is then walked
   in each of them.  `VM.panic` / `VM.unsupported` are unfolded when met, so that `RelS.errL` sees `throw`. -/

syntax "sh_prim" : tactic
syntax "sh1" : tactic
syntax "shrun" : tactic
macro "sh_look" : tactic => `(tactic| exact RelPrim.rel (by first | exact trivial | omega))
macro_rules | `(tactic| sh_prim) => `(tactic| with_reducible first
  | (apply sh_foot; foot; done)
  | exact sh_stackSet_grow _ _ _ (by omega) (by omega)
  | exact sh_stackSet_keep _ _ _ (by omega)
  | (refine RelS.forIn_upto (VR := Eq) _ _ _ _ _ rfl ?_
     intro i__ hi__ b__ b'__ hb__
     subst hb__
     shrun)
  | (refine RelS.forIn_upto (VR := fun _ _ => True) _ _ _ _ _ trivial ?_
     intro i__ hi__ b__ b'__ hb__
     shrun))

macro_rules | `(tactic| sh1) => `(tactic| first
  | ((with_reducible apply RelS.bindV)
     · first | sh_look | sh_prim
     intro x__ y__ h__
     first
       | (obtain ⟨h1__, h2__⟩ := h__; subst h1__; subst h2__)
       | subst h__
       | (have hb__ := h__.bpH
          try simp only [← h__.fn, ← h__.free, h__.bpT, ← h__.discard])
       | (have hm__ := h__.modules
          have hg__ := h__.globals
          simp only [hm__, hg__]
          clear hm__ hg__ h__)
       | skip)
  | with_reducible exact RelS.errL_bind' _ _
  | with_reducible exact RelS.errR_bind' _ _
  | sh_look
  | with_reducible exact RelS.errL _
  | with_reducible exact RelS.errR _
  | with_reducible exact RelS.pure (fun _ _ h => ⟨rfl, Sh.mono h (by omega)⟩)
  | with_reducible exact RelS.pure (fun _ _ h => ⟨trivial, Sh.mono h (by omega)⟩)
  | ((with_reducible refine RelS.ite' ?_ ?_ ?_)
     · first | exact Iff.rfl | omega)
  | unfold VM.panic
  | unfold VM.unsupported
  | dsimp only
  | split
  | simp only [bind_assoc, pure_bind])

macro_rules | `(tactic| shrun) => `(tactic| repeat sh1)

end
end UgoVerif.Proofs.Shift

import UgoVerif.Proofs.ShiftTac
import UgoVerif.Proofs.FrameOps
/-
  C14, `frame_shift`: the error-throwing machinery (`searchFrames`, `throw` / `handleThrownError`,
  `failWith`) under the offset relation `Sh`.  A handler found in the invoked function's frame or in a
  frame above it is taken on both sides; when there is none the child's `throw` returns the error and
  the parent goes on searching the frames below frame `k` (`ThrowQ`, second case).
-/
namespace UgoVerif.Proofs.Shift
open UgoVerif UgoVerif.Go UgoVerif.VM

theorem HsSh.cases {bp H : Nat} {l l' : Option (List Handler)} (x : HsSh bp H l l') :
    (l = none ∧ l' = none) ∨ (l = some [] ∧ l' = some []) ∨
    ∃ a b r r', l = some (a :: r) ∧ l' = some (b :: r') ∧ HSh bp H a b ∧ HsSh bp H (some r) (some r') := by
  cases l <;> cases l' <;> simp only [HsSh] at x
  · exact Or.inl ⟨rfl, rfl⟩
  · cases x with
    | nil => exact Or.inr (Or.inl ⟨rfl, rfl⟩)
    | cons hab hr => exact Or.inr (Or.inr ⟨_, _, _, _, rfl, rfl, hab, hr⟩)

theorem HsSh.length {bp H : Nat} {l l' : Option (List Handler)} (x : HsSh bp H l l') :
    (match l with | some hs => hs.length | none => 0) = (match l' with | some hs => hs.length | none => 0) := by
  cases l <;> cases l' <;> simp only [HsSh] at x
  · rfl
  · exact x.length_eq

variable {T0 : State} {bp k d H N : Nat} {a : Int}

theorem FrameSh.lastHandler {f g : Frame} (x : FrameSh bp H f g) :
    (lastHandler f = none ∧ lastHandler g = none) ∨
    ∃ p, lastHandler f = some p ∧ lastHandler g = some { p with sp := p.sp + bp } ∧ p.sp ≤ (H : Int) := by
  rcases x.hs.cases with ⟨h1, h2⟩ | ⟨h1, h2⟩ | ⟨p, q, r, r', h1, h2, hpq, hr⟩
  · exact Or.inl ⟨by simp [VM.lastHandler, h1], by simp [VM.lastHandler, h2]⟩
  · exact Or.inl ⟨by simp [VM.lastHandler, h1], by simp [VM.lastHandler, h2]⟩
  · refine Or.inr ⟨p, by simp [VM.lastHandler, h1], ?_, hpq.spH⟩
    obtain ⟨qsp, qc, qf, qr, qe⟩ := q
    obtain ⟨e1, _, e3, e4, e5, e6⟩ := hpq
    simp only at e1 e3 e4 e5 e6
    subst e1 e3 e4 e5 e6
    simp [VM.lastHandler, h2]

theorem FrameSh.setLast {H' : Nat} {f g : Frame} (x : FrameSh bp H f g) (F G : Handler → Handler)
    (hFG : ∀ p q, HSh bp H p q → HSh bp H' (F p) (G q)) (hH : H ≤ H') :
    FrameSh bp H' (setLast f F) (setLast g G) := by
  rcases x.hs.cases with ⟨h1, h2⟩ | ⟨h1, h2⟩ | ⟨p, q, r, r', h1, h2, hpq, hr⟩
  · simp only [VM.setLast, h1, h2]; exact x.mono hH
  · simp only [VM.setLast, h1, h2]; exact x.mono hH
  · simp only [VM.setLast, h1, h2]
    exact ⟨x.fn, x.free, x.bpT, by
      show HsSh bp H' (some (F p :: r)) (some (G q :: r'))
      have hr' := hr.mono hH
      simp only [HsSh] at hr' ⊢
      exact .cons (hFG p q hpq) hr', x.discard, by have := x.bpH; show f.bp ≤ (H' : Int); omega⟩

theorem FrameSh.popHandler {f g : Frame} (x : FrameSh bp H f g) : FrameSh bp H (popHandler f) (popHandler g) := by
  rcases x.hs.cases with ⟨h1, h2⟩ | ⟨h1, h2⟩ | ⟨p, q, r, r', h1, h2, hpq, hr⟩
  · simp only [VM.popHandler, h1, h2]; exact x
  · simp only [VM.popHandler, h1, h2]; exact x
  · simp only [VM.popHandler, h1, h2]
    exact ⟨x.fn, x.free, x.bpT, hr, x.discard, x.bpH⟩

theorem FrameSh.push {H' : Nat} {f g : Frame} (x : FrameSh bp H f g) (p q : Handler) (hpq : HSh bp H' p q) (hH : H ≤ H') :
    FrameSh bp H' { f with handlers := some (p :: (f.handlers.getD [])) } { g with handlers := some (q :: (g.handlers.getD [])) } := by
  refine ⟨x.fn, x.free, x.bpT, ?_, x.discard, by have := x.bpH; show f.bp ≤ (H' : Int); omega⟩
  show HsSh bp H' (some (p :: (f.handlers.getD []))) (some (q :: (g.handlers.getD [])))
  have hm := x.hs.mono hH
  rcases hf : f.handlers with _ | l <;> rcases hg : g.handlers with _ | l' <;> rw [hf, hg] at hm <;> simp only [HsSh] at hm ⊢
  · exact .cons hpq .nil
  · exact .cons hpq hm

theorem FrameSh.hasHandler {f g : Frame} (x : FrameSh bp H f g) : hasHandler f = hasHandler g := x.hs.hasHandler

theorem FrameSh.nhl {f g : Frame} (x : FrameSh bp H f g) : nhl f = nhl g := by
  have hs := x.hs
  unfold VM.nhl
  cases hf : f.handlers <;> cases hg : g.handlers <;> rw [hf, hg] at hs <;> simp only [HsSh] at hs
  exact hs.length_eq

theorem Sh.framesSizeS {s t : State} (h : Sh T0 bp k d H N a s t) : d < s.frames.size := by
  rw [h.shapeS.frames]; have := h.kLt; omega

theorem Sh.framesSizeT {s t : State} (h : Sh T0 bp k d H N a s t) : k + d < t.frames.size := by
  rw [h.shapeT.frames]; exact h.kLt

theorem Sh.modifyFrame {s t : State} (h : Sh T0 bp k d H N a s t) (n m : Nat) (hn : n ≤ d) (hm : m = k + n)
    (F G : Frame → Frame) (H' : Nat)
    (hFG : ∀ f g, FrameSh bp H f g → FrameSh bp H' (F f) (G g)) (hH : H ≤ H') (hbp : ∀ f, (F f).bp = f.bp)
    (hip : n < d → ∀ f g, f.ip = g.ip → (F f).ip = (G g).ip) :
    Sh T0 bp k d H' N a { s with frames := s.frames.modify n F } { t with frames := t.frames.modify m G } := by
  subst hm
  have hsS := h.shapeS.frames
  have hsT := h.shapeT.frames
  have hk := h.kLt
  refine { h with shapeS := ⟨h.shapeS.stack, by simp [hsS]⟩, shapeT := ⟨h.shapeT.stack, by simp [hsT]⟩,
                  frames := ?_, ips := ?_, bp0 := ?_, bpPos := ?_, lowF := ?_ }
  rotate_right
  -- `dsimp only` exposes `(fr.modify _ _)[j]!`; a `show` with holes for the two functions is slow to elaborate
  · intro j hj
    dsimp only
    rw [getElem!_modify, if_neg (fun c => by omega)]
    exact h.lowF j hj
  · intro j hj
    dsimp only
    rw [getElem!_modify, getElem!_modify, hsS, hsT]
    by_cases hjn : n = j
    · subst hjn
      rw [if_pos ⟨rfl, by omega⟩, if_pos ⟨rfl, by omega⟩]
      exact hFG _ _ (h.frames n hj)
    · rw [if_neg (fun c => hjn c.1), if_neg (fun c => hjn (by omega))]
      exact (h.frames j hj).mono hH
  · intro j hj
    dsimp only
    rw [getElem!_modify, getElem!_modify, hsS, hsT]
    by_cases hjn : n = j
    · subst hjn
      rw [if_pos ⟨rfl, by omega⟩, if_pos ⟨rfl, by omega⟩]
      exact hip hj _ _ (h.ips n hj)
    · rw [if_neg (fun c => hjn c.1), if_neg (fun c => hjn (by omega))]
      exact h.ips j hj
  · dsimp only
    rw [getElem!_modify]
    split
    · rw [hbp]; exact h.bp0
    · exact h.bp0
  · intro j h1 hj
    dsimp only
    rw [getElem!_modify]
    split
    · rw [hbp]; exact h.bpPos j h1 hj
    · exact h.bpPos j h1 hj

theorem sh_setCurFrame (F G : Frame → Frame) (H' : Nat)
    (hFG : ∀ f g, FrameSh bp H f g → FrameSh bp H' (F f) (G g)) (hH : H ≤ H') (hbp : ∀ f, (F f).bp = f.bp) :
    RelS (Sh T0 bp k d H N a) (PQ (fun _ _ => True) (Sh T0 bp k d H' N a)) (setCurFrame F) (setCurFrame G) :=
  RelS.modS fun s t h =>
    h.modifyFrame _ _ (Nat.le_of_eq h.curS) (by rw [h.curS, h.curT]) F G H' hFG hH hbp fun c => absurd (h.curS ▸ c) (Nat.lt_irrefl _)

instance sh_clearDown (hi lo hi' lo' : Int) : RelPrim (Sh T0 bp k d H N a) (clearDown hi lo) (clearDown hi' lo')
    (hi' = hi + bp ∧ lo' = lo + bp ∧ hi ≤ N) (PQ (fun _ _ => True) (Sh T0 bp k d H N a)) where
  rel := by
    rintro ⟨rfl, rfl, hiN⟩
    unfold clearDown
    have e : (hi + (bp : Int) - (lo + (bp : Int)) + 1).toNat = (hi - lo + 1).toNat := by omega
    simp only [e]
    refine RelS.bindV (RelS.forIn_upto (VR := fun _ _ => True) _ _ _ _ _ trivial ?_) ?_
    · intro i hi' b b' _
      refine RelS.bindV (sh_stackSet_grow _ _ _ (by omega) (by omega)) ?_
      intro _ _ _
      exact RelS.pure (fun _ _ h => ⟨trivial, Sh.mono h (by omega)⟩)
    · intro _ _ _
      exact RelS.pure (fun _ _ h => ⟨trivial, h⟩)

theorem Sh.clearFrame {s t : State} (h : Sh T0 bp k d H N a s t) (n : Nat) (hn : n ≤ d) :
    Sh T0 bp k d H N a { s with frames := s.frames.modify n clrF } { t with frames := t.frames.modify (k + n) clrF } :=
  h.modifyFrame n _ hn rfl _ _ H (fun _ _ hf => { hf with fn := rfl, free := rfl }) (Nat.le_refl _) (fun _ => rfl) fun _ _ _ e => e

/-- Not a `RelS`: when the child finds no handler its search is over, while the parent's goes on below frame `k`,
    from the state `u` in which it has cleared the same frames as the child. -/
theorem sh_searchFrames (j : Nat) (hj : j ≤ d) (s t : State) (h : Sh T0 bp k d H N a s t)
    (r : Option Nat) (s' : State) (h1 : exec (searchFrames j) s = (.ok r, s')) :
      (∃ i t', r = some i ∧ i < j ∧ exec (searchFrames (k + j)) t = (.ok (some (k + i)), t') ∧ Sh T0 bp k d H N a s' t') ∨
      (r = none ∧ ∃ u, exec (searchFrames (k + j)) t = exec (searchFrames k) u ∧ Sh T0 bp k d H N a s' u) := by
  have hk := h.kLt
  rw [exec_searchFrames, if_neg (show ¬ j > frameSize by omega)] at h1
  obtain ⟨gr', hA, e⟩ := searched_rel (A := fun fr gr => Sh T0 bp k d H N a { s with frames := fr } { t with frames := gr }) k j
    (fun _ _ i hi hr => (hr.frames i (by omega)).hasHandler.symm) (fun _ _ i hi hr _ => hr.clearFrame i (by omega))
    j (Nat.le_refl _) s.frames t.frames h
  rw [exec_searchFrames, if_neg (show ¬ k + j > frameSize by omega), e]
  obtain ⟨h2, h3⟩ := Prod.mk.inj h1
  rw [← Except.ok.inj h2, ← h3]
  cases hr : (searched s.frames j).1 with
  | some i => exact .inl ⟨i, { t with frames := gr' }, rfl, (searched_some hr).1, rfl, hA⟩
  | none =>
    refine .inr ⟨rfl, { t with frames := gr' }, ?_, hA⟩
    rw [exec_searchFrames, if_neg (show ¬ k > frameSize by omega)]

/-- `PostC` for `throw e` itself, before `finishThrow` turns a returned error into `vm.err` (`sh_finishThrow`) -/
def ThrowQ (T0 : State) (bp k : Nat) (e : Addr) (r r' : Option Addr) (s t : State) : Prop :=
  (r = none ∧ r' = none ∧ ∃ d, ShB T0 bp k d s t) ∨
  (r = some e ∧ s.err = none ∧ ∃ n u, u.heap = s.heap ∧ u.globals = s.globals ∧ u.modules = s.modules ∧ u.err = none ∧
      (∀ j : Nat, j < k → u.frames[j]! = T0.frames[j]!) ∧ (∀ i : Nat, i + 1 < bp → u.stack[i]! = T0.stack[i]!) ∧
      exec (throwBelow n k e) u = (.ok r', t))

theorem Sh.toFrame {s t : State} (h : Sh T0 bp k d H N a s t) {i : Nat} (hi : i < d) {ip ip' : Int} (e : ip = ip') :
    Sh T0 bp k i H N a { toFrame s i with ip := ip } { toFrame t (k + i) with ip := ip' } :=
  have hk := h.kLt
  { h with ip := e, curS := rfl, curT := rfl, fiS := rfl, fiT := by show ((k + i : Nat) : Int) + 1 = _; omega,
           shapeS := ⟨h.shapeS.stack, h.shapeS.frames⟩, shapeT := ⟨h.shapeT.stack, h.shapeT.frames⟩,
           kLt := by omega, frames := fun j hj => h.frames j (by omega), ips := fun j hj => h.ips j (by omega),
           bpPos := fun j h1 hj => h.bpPos j h1 (by omega) }

syntax "sht" : tactic
macro_rules | `(tactic| sht) => `(tactic| repeat (first
  | ((with_reducible refine RelS.pure ?_); exact fun s t h => Or.inl ⟨rfl, rfl, _, _, _, _, h, by omega, by omega⟩)
  | sh1))

theorem sh_handle (e : Addr) (n n' : Nat)
    (ih : ∀ (n' d H N : Nat) (a : Int), a ≤ N → H ≤ N → RelS (Sh T0 bp k d H N a) (ThrowQ T0 bp k e) (throwF n e) (throwF n' e))
    (ha : a ≤ N) (hH : H ≤ N) :
    RelS (Sh T0 bp k d H N a) (ThrowQ T0 bp k e) (throwF.handle n e) (throwF.handle n' e) := by
  unfold throwF.handle
  refine RelS.bindV (sh_setCurFrame _ _ H (fun f g x => x.setLast _ _ (fun p q hpq => { hpq with err := rfl }) (Nat.le_refl _))
    (Nat.le_refl _) (fun f => setLast_bp f _)) ?_
  intro _ _ _
  refine RelS.bindV (sh_curFrame.rel trivial) ?_
  intro f g hfg
  rcases hfg.lastHandler with ⟨h1, h2⟩ | ⟨p, h1, h2, hsp⟩
  · rw [h1, h2]
    exact RelS.errL _
  · rw [h1, h2]
    dsimp only
    by_cases hc : p.catch_ > 0
    · rw [if_pos hc, if_pos hc]
      sht
    · rw [if_neg hc, if_neg hc]
      by_cases hf : p.finally_ > 0
      · rw [if_pos hf, if_pos hf]
        sht
      · rw [if_neg hf, if_neg hf]
        refine RelS.bindV (sh_setCurFrame _ _ H (fun f g x => x.popHandler) (Nat.le_refl _)
          popHandler_bp) ?_
        intro _ _ _
        exact ih n' d H N a ha hH

def throwResume (fuel : Nat) (i : Nat) (err : Addr) : M (Option Addr) := do
  modS fun s => { s with frameIndex := ((i : Nat) : Int) + 1, curFrame := ((i : Nat) : Int).toNat }
  let f ← curFrame
  match f.fn with
  | none => VM.panic "runtime error: invalid memory address or nil pointer dereference"
  | some _ => pure ()
  setIp f.ip
  throwF.handle fuel err

theorem exec_throwBelow (n j : Nat) (e : Addr) (s : State) : exec (throwBelow n j e) s =
    match exec (searchFrames j) s with
    | (.ok (some i), s1) => exec (throwResume n i e) s1
    | (.ok none, s1) => (.ok (some e), s1)
    | (.error x, s1) => (.error x, s1) := by
  unfold throwBelow throwResume
  rw [exec_bind]
  rcases exec (searchFrames j) s with ⟨r, s1⟩
  cases r with
  | error x => rfl
  | ok f =>
    cases f with
    | none => simp [exec_pure]
    | some i =>
      simp only [exec_bind, exec_pure, Option.isNone_some, Bool.false_eq_true, if_false]
      rfl

theorem exec_throwResume (n i : Nat) (e : Addr) (s : State) : exec (throwResume n i e) s =
    match (s.frames[i]!).fn with
    | none => (.error (.panic "runtime error: invalid memory address or nil pointer dereference"), toFrame s i)
    | some _ => exec (throwF.handle n e) { toFrame s i with ip := (s.frames[i]!).ip } := by
  unfold throwResume
  simp only [exec_bind, exec_modS, exec_curFrame, Int.toNat_natCast]
  cases (s.frames[i]!).fn <;> rfl

theorem sh_throwResume (e : Addr) (n n' i : Nat) (hi : i < d)
    (ih : ∀ (n' d H N : Nat) (a : Int), a ≤ N → H ≤ N → RelS (Sh T0 bp k d H N a) (ThrowQ T0 bp k e) (throwF n e) (throwF n' e))
    (ha : a ≤ N) (hH : H ≤ N) :
    RelS (Sh T0 bp k d H N a) (ThrowQ T0 bp k e) (throwResume n i e) (throwResume n' (k + i) e) := by
  intro s t h r s' r' t' h1 h2
  rw [exec_throwResume] at h1 h2
  rw [← (h.frames i (Nat.le_of_lt hi)).fn] at h2
  cases hf : (s.frames[i]!).fn with
  | none => rw [hf] at h1; cases h1
  | some fa =>
    rw [hf] at h1 h2
    exact sh_handle e n n' ih ha hH _ _ (h.toFrame hi (h.ips i hi)) r s' r' t' h1 h2

theorem sh_throwBelow (e : Addr) (n n' : Nat)
    (ih : ∀ (n' d H N : Nat) (a : Int), a ≤ N → H ≤ N → RelS (Sh T0 bp k d H N a) (ThrowQ T0 bp k e) (throwF n e) (throwF n' e))
    (ha : a ≤ N) (hH : H ≤ N) :
    RelS (Sh T0 bp k d H N a) (ThrowQ T0 bp k e) (throwBelow n d e) (throwBelow n' (k + d) e) := by
  intro s t h r s' r' t' h1 h2
  rw [exec_throwBelow] at h1 h2
  rcases e1 : exec (searchFrames d) s with ⟨r1, s1⟩
  rw [e1] at h1
  cases r1 with
  | error x => simp at h1
  | ok found =>
    rcases sh_searchFrames d (Nat.le_refl _) s t h found s1 e1 with ⟨i, t1, rfl, hi, e2, hs1⟩ | ⟨rfl, u, e2, hs1⟩
    · rw [e2] at h2
      simp only at h1 h2
      exact sh_throwResume e n n' i hi ih ha hH s1 t1 hs1 r s' r' t' h1 h2
    · simp only [Prod.mk.injEq, Except.ok.injEq] at h1
      obtain ⟨rfl, rfl⟩ := h1
      refine Or.inr ⟨rfl, hs1.errS, n', u, hs1.heap.symm, hs1.globals.symm, hs1.modules.symm, hs1.errT, hs1.lowF, hs1.lowS, ?_⟩
      rw [exec_throwBelow, ← e2]
      exact h2

/-- Any two fuels: the model's `throwFuel` counts all frames, so child and parent get different ones; running out
    of it is `unsupported`, which `RelS` does not compare. -/
theorem sh_throwF (e : Addr) : ∀ (n n' d H N : Nat) (a : Int), a ≤ N → H ≤ N →
    RelS (Sh T0 bp k d H N a) (ThrowQ T0 bp k e) (throwF n e) (throwF n' e) := by
  intro n
  induction n with
  | zero =>
    intro n' d H N a _ _
    rw [throwF]
    exact RelS.errL _
  | succ n ih =>
    intro n' d H N a ha hH
    cases n' with
    | zero =>
      have : throwF 0 e = VM.unsupported "model: throw fuel exhausted" := by rw [throwF]
      rw [this]
      exact RelS.errR _
    | succ n' =>
      rw [throwF_succ, throwF_succ]
      refine RelS.bindV (sh_curFrame.rel trivial) ?_
      intro f g hfg
      rw [← hfg.hasHandler]
      refine RelS.ite (sh_handle e n n' ih ha hH) ?_
      intro s t h r s' r' t' h1 h2
      simp only [exec_bind, exec_getS] at h1 h2
      rw [h.fiS] at h1; rw [h.fiT] at h2
      have e1 : ((d : Int) + 1 - 1).toNat = d := by omega
      have e2 : ((k : Int) + (d : Int) + 1 - 1).toNat = k + d := by omega
      rw [e1] at h1; rw [e2] at h2
      exact sh_throwBelow e n n' ih ha hH s t h r s' r' t' h1 h2

theorem sh_finishThrow (e : Addr) (r r' : Option Addr) :
    RelS (ThrowQ T0 bp k e r r') (PostC T0 bp k) (finishThrow r) (finishThrow r') := by
  intro s t h c s' c' t' h1 h2
  rcases h with ⟨rfl, rfl, hsh⟩ | ⟨rfl, herr, n, u, hu1, hu2, hu3, hu4, hu6, hu7, hu5⟩
  · simp only [finishThrow, exec_pure, Prod.mk.injEq, Except.ok.injEq] at h1 h2
    obtain ⟨rfl, rfl⟩ := h1
    obtain ⟨rfl, rfl⟩ := h2
    exact Or.inl ⟨rfl, rfl, hsh⟩
  · simp only [finishThrow, exec_bind, exec_modS, exec_pure, Prod.mk.injEq, Except.ok.injEq] at h1
    obtain ⟨rfl, rfl⟩ := h1
    refine Or.inr (Or.inl ⟨rfl, e, rfl, n, u, hu1, hu2, hu3, hu4, hu6, hu7, ?_⟩)
    unfold escBelow
    rw [exec_bind, hu5]
    exact h2

theorem sh_throwFuel {A : State → State → Prop} : RelS A (fun _ _ s t => A s t) throwFuel throwFuel := by
  intro s t h x s' y t' h1 h2
  rw [exec_throwFuel] at h1 h2
  cases h1
  cases h2
  exact h

theorem sh_throwNow (e : Addr) (ha : a ≤ N) (hH : H ≤ N) :
    RelS (Sh T0 bp k d H N a) (PostC T0 bp k) (throwNow e) (throwNow e) := by
  unfold throwNow
  refine RelS.bind sh_throwFuel ?_
  intro n n'
  refine RelS.bind (sh_throwF e n n' d H N a ha hH) ?_
  intro r r'
  exact sh_finishThrow e r r'

instance sh_failWith (e : OpErr) : RelPrim (Sh T0 bp k d H N a) (failWith e) (failWith e) (a ≤ N ∧ H ≤ N) (PostC T0 bp k) where
  rel h := by
    rw [failWith_eq]
    refine RelS.bindV (sh_foot (.of_heapOnly (CompSim.ho_rtErrOfOpErr e))) ?_
    intro ra _ hr
    subst hr
    exact sh_throwNow ra h.1 h.2

end UgoVerif.Proofs.Shift

import UgoVerif.Proofs.ShiftThrow
/-
  C14: the handler opcodes under `Sh`.  SETUPTRY and FINALIZER record the current `sp` in a handler, so the bound
  `H` of `Sh` becomes `max H sp` there.
-/
namespace UgoVerif.Proofs.Shift
open UgoVerif UgoVerif.Go UgoVerif.VM

section
variable {T0 : State} {bp k d H N : Nat} {a : Int}

theorem sh_setLast (F G : Handler → Handler) (H' : Nat) (hH : H ≤ H')
    (hFG : ∀ p q, HSh bp H p q → HSh bp H' (F p) (G q)) :
    RelS (Sh T0 bp k d H N a) (PQ (fun _ _ => True) (Sh T0 bp k d H' N a))
      (setCurFrame fun f => setLast f F) (setCurFrame fun f => setLast f G) :=
  sh_setCurFrame _ _ H' (fun _ _ x => x.setLast F G hFG hH) hH (fun f => setLast_bp f F)

instance sh_popHandler : RelPrim (Sh T0 bp k d H N a) (setCurFrame popHandler) (setCurFrame popHandler) True
    (PQ (fun _ _ => True) (Sh T0 bp k d H N a)) :=
  ⟨fun _ => sh_setCurFrame _ _ H (fun _ _ x => x.popHandler) (Nat.le_refl _) popHandler_bp⟩

macro_rules | `(tactic| sh_prim) => `(tactic|
  ((with_reducible refine sh_setLast _ _ _ (Nat.le_refl _) ?_)
   intro p__ q__ hpq__
   constructor <;> first
     | exact hpq__.sp | exact hpq__.spH | exact hpq__.catch_ | exact hpq__.finally_ | exact hpq__.returnTo | exact hpq__.err
     | rfl))

theorem sh_execSetupTry (ha : a ≤ N) (hH : H ≤ N) : RelS (Sh T0 bp k d H N a) (PostC T0 bp k) execSetupTry execSetupTry := by
  unfold execSetupTry
  sh1; sh1; sh1
  refine RelS.bindV (sh_setCurFrame _ _ (max H a.toNat) (fun f g x => x.push _ _
    ⟨rfl, by show a ≤ ((max H a.toNat : Nat) : Int); omega, rfl, rfl, rfl, rfl⟩ (by omega)) (by omega) (fun f => rfl)) ?_
  intro _ _ _
  shrun

theorem sh_execSetupCatch (ha : a ≤ N) (hH : H ≤ N) : RelS (Sh T0 bp k d H N a) (PostC T0 bp k) execSetupCatch execSetupCatch := by
  unfold execSetupCatch
  refine RelS.bindV (sh_curFrame.rel trivial) ?_
  intro f g hfg
  rw [← hfg.hasHandler]
  rcases hfg.lastHandler with ⟨h1, h2⟩ | ⟨p, h1, h2, hsp⟩
  · rw [h1, h2]
    shrun
  · rw [h1, h2]
    dsimp only
    shrun

theorem sh_execSetupFinally (ha : a ≤ N) (hH : H ≤ N) :
    RelS (Sh T0 bp k d H N a) (PostC T0 bp k) execSetupFinally execSetupFinally := by
  unfold execSetupFinally
  refine RelS.bindV (sh_curFrame.rel trivial) ?_
  intro f g hfg
  rw [← hfg.hasHandler]
  shrun

theorem sh_findFinally (upto : Int) : ∀ (fuel : Nat),
    RelS (Sh T0 bp k d H N a) (PQ Eq (Sh T0 bp k d H N a)) (findFinally fuel upto) (findFinally fuel upto) := by
  intro fuel
  induction fuel with
  | zero =>
    rw [findFinally]
    exact RelS.errL _
  | succ n ih =>
    rw [findFinally]
    refine RelS.bindV (sh_curFrame.rel trivial) ?_
    intro f g hfg
    rcases hfg.hs.cases with ⟨h1, h2⟩ | ⟨h1, h2⟩ | ⟨p, q, r, r', h1, h2, hpq, hr⟩
    · simp only [h1, h2]
      exact RelS.pure (fun _ _ h => ⟨rfl, h⟩)
    · simp only [h1, h2]
      split
      · exact RelS.pure (fun _ _ h => ⟨rfl, h⟩)
      · exact RelS.pure (fun _ _ h => ⟨rfl, h⟩)
    · simp only [h1, h2]
      have hl : r.length = r'.length := by
        have := hr.length
        simpa using this
      simp only [List.length_cons, hl, ← hpq.finally_]
      split
      · exact RelS.pure (fun _ _ h => ⟨rfl, h⟩)
      · split
        · refine RelS.bindV (sh_popHandler.rel trivial) ?_
          intro _ _ _
          exact ih
        · exact RelS.pure (fun _ _ h => ⟨rfl, h⟩)

theorem sh_finalizerRest (n : Nat) (upto : Int) (ha : a ≤ N) (hH : H ≤ N) :
    RelS (Sh T0 bp k d H N a) (PostC T0 bp k) (finalizerRest n upto) (finalizerRest n upto) := by
  unfold finalizerRest
  refine RelS.bindV (sh_findFinally _ _) ?_
  intro pos _ hp
  subst hp
  split
  · shrun
  · sh1; sh1
    refine RelS.bindV (sh_setLast _ _ (max H a.toNat) (by omega) (fun p q hpq =>
      ⟨rfl, by show a ≤ ((max H a.toNat : Nat) : Int); omega, hpq.catch_, hpq.finally_, rfl, rfl⟩)) ?_
    intro _ _ _
    shrun

theorem sh_execFinalizer (ha : a ≤ N) (hH : H ≤ N) : RelS (Sh T0 bp k d H N a) (PostC T0 bp k) execFinalizer execFinalizer := by
  rw [execFinalizer_eq]
  sh1
  refine RelS.bindV (sh_curFrame.rel trivial) ?_
  intro f g hfg
  rw [hfg.nhl]
  exact sh_finalizerRest _ _ ha hH

theorem sh_execThrow (ha : a ≤ N) (hH : H ≤ N) : RelS (Sh T0 bp k d H N a) (PostC T0 bp k) execThrow execThrow := by
  unfold execThrow
  sh1; sh1
  split
  · -- THROW 0: the end of a try statement / the re-throw after `finally`
    refine RelS.bindV (sh_curFrame.rel trivial) ?_
    intro f g hfg
    rcases hfg.lastHandler with ⟨h1, h2⟩ | ⟨p, h1, h2, hsp⟩
    · rw [h1, h2]
      shrun
    · rw [h1, h2]
      dsimp only
      split
      · sh1
        exact sh_throwNow _ ha hH
      · shrun
  · split
    · -- THROW 1: the `throw` statement
      sh1; sh1; sh1; sh1; sh1
      exact sh_throwNow _ (by omega) (by omega)
    · -- malformed operand: both loops return with the same Go error
      intro s t h r s' r' t' h1 h2
      simp only [exec_bind, exec_modS, exec_pure, Prod.mk.injEq, Except.ok.injEq] at h1 h2
      obtain ⟨rfl, rfl⟩ := h1
      obtain ⟨rfl, rfl⟩ := h2
      exact Or.inr (Or.inr ⟨rfl, rfl, ⟨_, rfl, rfl⟩, h.heap, h.globals, h.modules⟩)

end
end UgoVerif.Proofs.Shift

import UgoVerif.Proofs.CompileWalk
import UgoVerif.Proofs.CompileSat
/-
  C16, compile side: the source map the compiler model builds next to the instruction stream.

  `Chain a ks i`: the instructions of `a` from offset `i` to the end start exactly at the offsets
  `ks`.  The invariant of the compiler state is `Chain insts (keys sourceMap) 0`: `emit` records an
  entry for every instruction it appends, `changeOperand` rewrites the operands of an instruction
  whose start is a key.
  `CallsOK lab a m`: every CALL / CALLNAME instruction that has a successor has a successor whose
  recorded position carries the same label (`lab` = "line of", or any other labelling of
  positions) as the position recorded for the call itself.
-/
namespace UgoVerif.Compile
open UgoVerif UgoVerif.Go UgoVerif.Ast

def keys (m : List (Nat × Nat)) : List Nat := m.map (·.1)

def smGet : List (Nat × Nat) → Nat → Option Nat
  | [], _ => none
  | (k', v) :: r, k => if k' = k then some v else smGet r k

@[simp] theorem keys_nil : keys [] = [] := rfl
@[simp] theorem keys_cons (x : Nat × Nat) (m : List (Nat × Nat)) : keys (x :: m) = x.1 :: keys m := rfl
@[simp] theorem keys_append (m m' : List (Nat × Nat)) : keys (m ++ m') = keys m ++ keys m' := by simp [keys]

theorem setSourceMap_fresh : ∀ (m : List (Nat × Nat)) (k v : Nat), k ∉ keys m → setSourceMap m k v = m ++ [(k, v)]
  | [], _, _, _ => rfl
  | (k', v') :: r, k, v, h => by
    simp only [keys_cons, List.mem_cons, not_or] at h
    have hne : (k == k') = false := by simp; exact h.1
    simp [setSourceMap, hne, setSourceMap_fresh r k v h.2]

inductive Chain (a : Array UInt8) : List Nat → Nat → Prop
  | nil {i : Nat} (h : i = a.size) : Chain a [] i
  | cons {i : Nat} {ks : List Nat} (op : UInt8) (h1 : a[i]? = some op) (h2 : op.toNat < numOpcodes)
      (h3 : i + 1 + opWidth op.toNat ≤ a.size) (h4 : Chain a ks (i + 1 + opWidth op.toNat)) : Chain a (i :: ks) i

theorem Chain.le_size {a : Array UInt8} {ks : List Nat} {i : Nat} (h : Chain a ks i) : i ≤ a.size := by
  cases h with
  | nil h => omega
  | cons op h1 h2 h3 h4 => omega

theorem Chain.walk {a : Array UInt8} {ks : List Nat} {i : Nat} (h : Chain a ks i) : Walk a i a.size := by
  induction h with
  | nil h => subst h; exact .refl _
  | cons op h1 h2 h3 h4 ih => exact .step op h1 h2 h3 ih

theorem Chain.mem_iff {a : Array UInt8} {ks : List Nat} {i : Nat} (h : Chain a ks i) {k : Nat} :
    k ∈ ks ↔ Walk a i k ∧ k < a.size := by
  induction h with
  | nil h =>
    refine ⟨nofun, fun ⟨hw, hlt⟩ => ?_⟩
    have := hw.le
    omega
  | cons op h1 h2 h3 h4 ih =>
    rw [List.mem_cons, ih]
    constructor
    · rintro (rfl | ⟨hw, hlt⟩)
      · exact ⟨.refl _, by omega⟩
      · exact ⟨.step op h1 h2 h3 hw, hlt⟩
    · rintro ⟨hw, hlt⟩
      cases hw with
      | refl => exact .inl rfl
      | step op' h1' h2' h3' h4' =>
        obtain rfl : op' = op := Option.some.inj (h1'.symm.trans h1)
        exact .inr ⟨h4', hlt⟩

theorem Chain.walk_to {a : Array UInt8} {ks : List Nat} {i : Nat} (h : Chain a ks i) : ∀ k ∈ ks, Walk a i k :=
  fun _ hk => (h.mem_iff.mp hk).1

theorem Chain.lt {a : Array UInt8} {ks : List Nat} {i : Nat} (h : Chain a ks i) : ∀ k ∈ ks, k < a.size :=
  fun _ hk => (h.mem_iff.mp hk).2

theorem Chain.ge {a : Array UInt8} {ks : List Nat} {i : Nat} (h : Chain a ks i) : ∀ k ∈ ks, i ≤ k :=
  fun k hk => (h.walk_to k hk).le

theorem Chain.congr {a a' : Array UInt8} {ks : List Nat} {i : Nat} (h : Chain a ks i) (hs : a'.size = a.size)
    (hg : ∀ k ∈ ks, a'[k]? = a[k]?) : Chain a' ks i := by
  induction h with
  | nil h => exact .nil (by omega)
  | cons op h1 h2 h3 h4 ih =>
    refine .cons op (by rw [hg _ List.mem_cons_self]; exact h1) h2 (by omega) (ih ?_)
    intro k hk
    exact hg k (List.mem_cons_of_mem _ hk)

theorem Chain.append {a a' : Array UInt8} {ks ks' : List Nat} {i : Nat} (h : Chain a ks i) (hp : Pre a a')
    (h' : Chain a' ks' a.size) : Chain a' (ks ++ ks') i := by
  induction h with
  | nil h => exact h ▸ h'
  | cons op h1 h2 h3 h4 ih =>
    exact .cons op (by rw [hp.2 _ (getElem?_lt_of_some h1)]; exact h1) h2 (by have := hp.1; omega) ih

theorem Chain.append_inst {a : Array UInt8} {ks : List Nat} {i : Nat} (h : Chain a ks i) {op : Nat} {rest : List UInt8}
    (hop : op < numOpcodes) (hl : rest.length = opWidth op) :
    Chain (a ++ (UInt8.ofNat op :: rest).toArray) (ks ++ [a.size]) i :=
  have hsz := size_append_inst a hop hl
  h.append (Pre.append _ _) (.cons (UInt8.ofNat op) (by simp) (by rw [toNat_ofNat_op hop]; exact hop)
    (Nat.le_of_eq hsz.symm) (.nil hsz.symm))

/-- patching the instruction at a start of the chain (or in front of the chain) leaves the opcode
    byte of every start alone: a later start lies behind the whole instruction (`Walk.next`) -/
theorem Chain.get_patch {a : Array UInt8} {ks : List Nat} {i : Nat} (h : Chain a ks i) {p : Nat} {op : UInt8}
    {rest : List UInt8} (hop : a[p]? = some op) (hl : rest.length = opWidth op.toNat)
    (hp : p ∈ ks ∨ p + 1 + rest.length ≤ i) : ∀ k ∈ ks, (patch a p (op :: rest))[k]? = a[k]? := by
  intro k hk
  rcases hp with hp | hp
  · exact (h.walk_to k hk).patch_get (h.walk_to p hp) hop hl
  · have := h.ge k hk
    exact patch_get_ge _ _ _ _ (by simp only [List.length_cons]; omega)

theorem Chain.patch_inst {a : Array UInt8} {ks : List Nat} (h : Chain a ks 0) {p : Nat} {op : UInt8}
    {rest : List UInt8} (hop : a[p]? = some op) (hl : rest.length = opWidth op.toNat) (hp : p ∈ ks) :
    Chain (patch a p (op :: rest)) ks 0 :=
  h.congr (size_patch _ _ _) (h.get_patch hop hl (.inl hp))

def isCallAt (a : Array UInt8) (k : Nat) : Bool :=
  match a[k]? with
  | some b => b.toNat == OpCall || b.toNat == OpCallName
  | none => false

def isCallOp (op : Nat) : Bool := op == OpCall || op == OpCallName

variable (lab : Nat → Nat)

def CallsOK (a : Array UInt8) : List (Nat × Nat) → Prop
  | x :: y :: r => (isCallAt a x.1 = true → lab x.2 = lab y.2) ∧ CallsOK a (y :: r)
  | _ => True

def lastCall (a : Array UInt8) (m : List (Nat × Nat)) : Option Nat :=
  match m.getLast? with
  | some x => if isCallAt a x.1 then some x.2 else none
  | none => none

inductive Mode where
  | clean
  | pend (l : Nat)

/-- `clean`: the stream does not end in a call.  `pend l`: if it does, that call's position has
    label `l`. -/
def Tm : Mode → Array UInt8 → List (Nat × Nat) → Prop
  | .clean, a, m => CallsOK lab a m ∧ lastCall a m = none
  | .pend l, a, m => CallsOK lab a m ∧ ∀ v, lastCall a m = some v → lab v = l

theorem Tm.calls {lab : Nat → Nat} {X : Mode} {a : Array UInt8} {m : List (Nat × Nat)} (h : Tm lab X a m) : CallsOK lab a m := by
  cases X <;> exact h.1

theorem Tm.to_pend {lab : Nat → Nat} {a : Array UInt8} {m : List (Nat × Nat)} (h : Tm lab .clean a m) (l : Nat) : Tm lab (.pend l) a m :=
  ⟨h.1, fun v hv => by rw [h.2] at hv; cases hv⟩

theorem callsOK_congr {a a' : Array UInt8} : ∀ {m : List (Nat × Nat)}, (∀ k ∈ keys m, isCallAt a' k = isCallAt a k) →
    CallsOK lab a m → CallsOK lab a' m
  | [], _, _ => trivial
  | [_], _, _ => trivial
  | x :: y :: r, hk, h => by
    refine ⟨fun hc => h.1 ?_, callsOK_congr (fun k hk' => hk k (List.mem_cons_of_mem _ hk')) h.2⟩
    rw [← hk x.1 (by simp)]; exact hc

theorem lastCall_congr {a a' : Array UInt8} {m : List (Nat × Nat)} (hk : ∀ k ∈ keys m, isCallAt a' k = isCallAt a k) :
    lastCall a' m = lastCall a m := by
  unfold lastCall
  cases hl : m.getLast? with
  | none => rfl
  | some x =>
    have : x.1 ∈ keys m := by
      have := List.mem_of_getLast? hl
      exact List.mem_map_of_mem this
    simp only [hk _ this]

theorem Tm.congr {lab : Nat → Nat} {X : Mode} {a a' : Array UInt8} {m : List (Nat × Nat)}
    (hk : ∀ k ∈ keys m, isCallAt a' k = isCallAt a k) (h : Tm lab X a m) : Tm lab X a' m := by
  cases X with
  | clean => exact ⟨callsOK_congr lab hk h.1, by rw [lastCall_congr hk]; exact h.2⟩
  | pend l => exact ⟨callsOK_congr lab hk h.1, by rw [lastCall_congr hk]; exact h.2⟩

theorem callsOK_snoc {a : Array UInt8} (x : Nat × Nat) : ∀ {m : List (Nat × Nat)}, CallsOK lab a m →
    (∀ y, m.getLast? = some y → isCallAt a y.1 = true → lab y.2 = lab x.2) → CallsOK lab a (m ++ [x])
  | [], _, _ => trivial
  | [y], _, hl => ⟨fun hc => hl y rfl hc, trivial⟩
  | y :: z :: r, h, hl => by
    refine ⟨h.1, ?_⟩
    have := callsOK_snoc x (m := z :: r) h.2 (fun w hw => hl w (by simpa [List.getLast?_cons_cons] using hw))
    exact this

theorem isCallAt_append_lt {a : Array UInt8} {b : Array UInt8} {k : Nat} (h : k < a.size) :
    isCallAt (a ++ b) k = isCallAt a k := by
  simp [isCallAt, Array.getElem?_append, h]

theorem isCallAt_append_new {a : Array UInt8} {op : Nat} {rest : List UInt8} (hop : op < numOpcodes) :
    isCallAt (a ++ (UInt8.ofNat op :: rest).toArray) a.size = isCallOp op := by
  simp [isCallAt, toNat_ofNat_op hop, isCallOp]

theorem Tm.emit {lab : Nat → Nat} {a : Array UInt8} {m : List (Nat × Nat)} {op pos : Nat} {rest : List UInt8}
    (hop : op < numOpcodes) (hlt : ∀ k ∈ keys m, k < a.size) :
    (∀ l, Tm lab (.pend l) a m → lab pos = l → Tm lab (.pend l) (a ++ (UInt8.ofNat op :: rest).toArray) (m ++ [(a.size, pos)])) ∧
    (∀ l, Tm lab (.pend l) a m → lab pos = l → isCallOp op = false →
        Tm lab .clean (a ++ (UInt8.ofNat op :: rest).toArray) (m ++ [(a.size, pos)])) ∧
    (Tm lab .clean a m → isCallOp op = false →
        Tm lab .clean (a ++ (UInt8.ofNat op :: rest).toArray) (m ++ [(a.size, pos)])) := by
  have hcong : ∀ k ∈ keys m, isCallAt (a ++ (UInt8.ofNat op :: rest).toArray) k = isCallAt a k :=
    fun k hk => isCallAt_append_lt (hlt k hk)
  have hnew := isCallAt_append_new (a := a) (rest := rest) hop
  have hlast : lastCall (a ++ (UInt8.ofNat op :: rest).toArray) (m ++ [(a.size, pos)])
      = if isCallOp op then some pos else none := by
    simp [lastCall, hnew]
  have hcalls : ∀ l, Tm lab (.pend l) a m → lab pos = l →
      CallsOK lab (a ++ (UInt8.ofNat op :: rest).toArray) (m ++ [(a.size, pos)]) := by
    intro l h hl
    refine callsOK_snoc lab _ (callsOK_congr lab hcong h.1) ?_
    intro y hy hc
    have hy' : y.1 ∈ keys m := List.mem_map_of_mem (List.mem_of_getLast? hy)
    rw [hcong _ hy'] at hc
    have := h.2 y.2 (by simp [lastCall, hy, hc])
    simp [this, hl]
  refine ⟨?_, ?_, ?_⟩
  · intro l h hl
    refine ⟨hcalls l h hl, ?_⟩
    intro v hv
    rw [hlast] at hv
    split at hv
    · injection hv with hv; subst hv; exact hl
    · cases hv
  · intro l h hl hnc
    exact ⟨hcalls l h hl, by rw [hlast, hnc]; rfl⟩
  · intro h hnc
    exact ⟨hcalls (lab pos) (h.to_pend _) rfl, by rw [hlast, hnc]; rfl⟩

end UgoVerif.Compile

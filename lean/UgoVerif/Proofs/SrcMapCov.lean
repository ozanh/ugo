import UgoVerif.Proofs.SrcMapMain
/-
  C16, compile side, the statement for users: `FnCov lab f` in terms of instruction boundaries
  (`Bd`, Proofs/CompileWalk.lean) and lookups in the source map, derived from `FnSM`; and
  `labSs (fun _ => 0)` holds of every AST (the coverage part needs no hypothesis on the script).
-/
namespace UgoVerif.Compile
open UgoVerif UgoVerif.Go UgoVerif.Ast

theorem smGet_isSome_of_mem : ∀ (m : List (Nat × Nat)) (k : Nat), k ∈ keys m → ∃ v, smGet m k = some v
  | [], _, h => by simp at h
  | (k', v') :: r, k, h => by
    simp only [smGet]
    split
    · exact ⟨_, rfl⟩
    · rename_i hne
      simp only [keys_cons, List.mem_cons] at h
      rcases h with h | h
      · exact absurd h.symm hne
      · exact smGet_isSome_of_mem r k h

theorem Chain.head_eq {a : Array UInt8} {i k : Nat} {ks : List Nat} (h : Chain a (k :: ks) i) : i = k := by
  cases h; rfl

theorem opWidth_call {b : UInt8} (h : (b.toNat == OpCall || b.toNat == OpCallName) = true) : opWidth b.toNat = 2 := by
  simp only [Bool.or_eq_true, beq_iff_eq] at h
  rcases h with h | h <;> rw [h] <;> rfl

theorem calls_cov (lab : Nat → Nat) (a : Array UInt8) : ∀ (m : List (Nat × Nat)) (i : Nat), Chain a (keys m) i →
    CallsOK lab a m → lastCall a m = none → ∀ p, p ∈ keys m → isCallAt a p = true →
      (p + 3) ∈ keys m ∧ ∃ v v', smGet m p = some v ∧ smGet m (p + 3) = some v' ∧ lab v = lab v'
  | [], _, _, _, _, p, hp, _ => by simp at hp
  | [x], _, _, _, hlast, p, hp, hc => by
    simp only [keys_cons, keys_nil, List.mem_singleton] at hp
    subst hp
    simp [lastCall, hc] at hlast
  | x :: y :: r, i, hch, hcalls, hlast, p, hp, hc => by
    simp only [keys_cons] at hch
    cases hch with
    | cons op h1 h2 h3 h4 =>
      have hy : x.1 + 1 + opWidth op.toNat = y.1 := Chain.head_eq h4
      simp only [keys_cons, List.mem_cons] at hp
      rcases hp with hp | hp
      · -- the call is the first entry
        subst hp
        have hw : opWidth op.toNat = 2 := by
          apply opWidth_call
          simpa [isCallAt, h1] using hc
        have hy3 : y.1 = x.1 + 3 := by omega
        refine ⟨by simp [hy3], x.2, y.2, by simp [smGet], ?_, hcalls.1 hc⟩
        simp only [smGet]
        rw [if_neg (by omega), if_pos hy3]
      · have hlast' : lastCall a (y :: r) = none := by
          simpa [lastCall, List.getLast?_cons_cons] using hlast
        have hp' : p ∈ keys (y :: r) := by simpa using hp
        obtain ⟨hk, v, v', hv, hv', hlab⟩ := calls_cov lab a (y :: r) _ (by simpa using h4) hcalls.2 hlast' p hp' hc
        have hge := Chain.ge (by simpa using h4 : Chain a (keys (y :: r)) _) p hp'
        refine ⟨by simp only [keys_cons, List.mem_cons]; right; simpa using hk, v, v', ?_, ?_, hlab⟩
        · simp only [smGet]; rw [if_neg (by omega)]; exact hv
        · simp only [smGet]; rw [if_neg (by omega)]; exact hv'

/-- what the run-time lookup of positions needs of a compiled function -/
structure FnCov (lab : Nat → Nat) (f : CFn) : Prop where
  decodes : Walk f.insts 0 f.insts.size
  entry : ∀ p, Bd f.insts p → ∃ v, smGet f.sourceMap p = some v
  /-- the three bytes after a CALL / CALLNAME opcode at an instruction start `p` are followed by an
      instruction start `p + 3` (a call is never the last instruction), whose own entry carries the same
      label as the entry of the call -/
  call : ∀ p, Bd f.insts p → isCallAt f.insts p = true →
    Bd f.insts (p + 3) ∧ ∃ v v', smGet f.sourceMap p = some v ∧ smGet f.sourceMap (p + 3) = some v' ∧ lab v = lab v'

theorem FnSM.cov {lab : Nat → Nat} {f : CFn} (h : FnSM lab f) : FnCov lab f := by
  refine ⟨h.chain.walk, fun p hp => smGet_isSome_of_mem _ _ (h.chain.mem_iff.mpr hp), fun p hp hc => ?_⟩
  obtain ⟨hk3, hrest⟩ := calls_cov lab f.insts f.sourceMap 0 h.chain h.calls.1 h.calls.2 p (h.chain.mem_iff.mpr hp) hc
  exact ⟨h.chain.mem_iff.mp hk3, hrest⟩

/-- **sourcemap_covers** for the total compile model: in the bytecode `compileFile` returns for a
    script labelled one statement per label, the main function and every function constant satisfy
    `FnCov lab`. -/
theorem compileFile_cov (lab : Nat → Nat) (builtins : List (String × Nat)) (disabled : List String) (file : List Stmt)
    (hl : labSs lab file = true) (bc : Bytecode) (h : compileFile builtins disabled file = .ok bc) :
    FnCov lab bc.main ∧ ∀ g, Const.fn g ∈ bc.constants.toList → FnCov lab g := by
  obtain ⟨hI, hT⟩ := sinv_initState lab builtins disabled
  have hp := post_compileProg lab file hl _ hI hT
  obtain ⟨s', hrun⟩ := compileFile_run h
  obtain ⟨h1, h2⟩ := hp bc s' hrun
  exact ⟨h1.cov, fun g hg => (h2 g hg).cov⟩

abbrev lab0 : Nat → Nat := fun _ => 0

/-- every position check is `0 == 0`, so each of the labelling predicates holds by its own recursion -/
theorem lab0_all : (∀ l e, l = 0 → labE lab0 l e = true) ∧ (∀ ss, labSs lab0 ss = true) ∧ (∀ st, labS lab0 st = true) ∧
    (∀ l sp, l = 0 → labSpecs lab0 l sp = true) ∧ (∀ l vs, l = 0 → labVals lab0 l vs = true) ∧
    (∀ l es, l = 0 → labEs lab0 l es = true) ∧ (∀ l ms, l = 0 → labMs lab0 l ms = true) := by
  apply labE.mutual_induct lab0 <;> intros
  -- the constructors with optional components first: slice, if, for, try, a value of a value spec
  case case17 lo hi _ _ _ _ => cases lo <;> cases hi <;> simp_all [labE]
  case case25 init _ _ _ els _ _ _ _ => cases init <;> cases els <;> simp_all [labS]
  case case26 init c post _ _ _ _ _ _ => cases init <;> cases c <;> cases post <;> simp_all [labS]
  case case30 c f _ _ _ => rcases c with _ | ⟨_, _, _, _⟩ <;> rcases f with _ | ⟨_, _, _⟩ <;> simp_all [labS]
  case case44 v _ _ _ _ => cases v <;> simp_all [labVals]
  all_goals simp_all [labE, labEs, labMs, labVals, labSpecs, labSs, labS]

theorem labSs_lab0 (file : List Stmt) : labSs lab0 file = true := lab0_all.2.1 file

end UgoVerif.Compile

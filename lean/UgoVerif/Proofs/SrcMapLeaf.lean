import UgoVerif.Proofs.SrcMapTr
import UgoVerif.Proofs.CompileClosed
/-
  C16, compile side: `Tr` for the helper functions of the compiler model.
-/
namespace UgoVerif.Compile
open UgoVerif UgoVerif.Go UgoVerif.Ast

variable {lab : Nat → Nat}

section
variable {ps : List Nat} {X : Mode}

theorem tr_headTable : Tr lab ps X X R0 headTable := by
  unfold headTable
  refine Tr.get_bind fun s0 => ?_
  split
  · exact Tr.pure _
  · exact Tr.cpanic _

theorem tr_modTables (g : List Table → List Table) : Tr lab ps X X R0 (modTables g) :=
  Tr.modify fun _ => ⟨rfl, rfl, rfl, rfl⟩

/-- the symbol table is not the subject of the source map -/
theorem tr_tabFree : TabFree (fun {α} (m : CM α) => ∀ ps, Tr lab ps X X R0 m) where
  pure a _ := Tr.pure a
  bind hm hf _ := Tr.bind (hm _) fun a => hf a _
  cerr pos msg _ := Tr.cerr pos msg
  get _ h _ := Tr.get_bind fun s0 => h s0 _
  headTable _ := tr_headTable
  modTables g _ := tr_modTables g

end

section
variable {ps : List Nat} {l : Nat}

theorem tr_emitConstant {X Y : Mode} (pos : Pos) (v : CVal) (h : TrEmit lab X pos OpConstant Y) :
    Tr lab ps X Y R0 (emitConstant pos v) :=
  Tr.bind (tr_addConstant v) fun _ => tr_emit_ pos _ _ h

theorem tr_emitConstant_pc (pos : Pos) (v : CVal) (hl : lab pos = l) :
    Tr lab ps (.pend l) .clean R0 (emitConstant pos v) := tr_emitConstant pos v (.pc hl (by decide))

theorem tr_emitFnConstant_pend (pos : Pos) (fn : CFn) (n : Nat) (hf : FnSM lab fn) (hl : lab pos = l) :
    Tr lab ps (.pend l) (.pend l) R0 (emitFnConstant pos fn n) :=
  Tr.bind (tr_addFnConstant fn hf) fun _ => Tr.ite (tr_emit_ pos _ _ (.pend hl)) (tr_emit_ pos _ _ (.pend hl))

/-- `compileDefine`: when it succeeds it has emitted DEFINELOCAL, which is no call -/
theorem tr_compileDefine {X : Mode} (pos : Pos) (ident : String) (allow : Bool) (kw : Nat)
    (h : TrEmit lab X pos OpDefineLocal .clean) : Tr lab ps X .clean R0 (compileDefine pos ident allow kw) :=
  Tr.bind (tr_tabFree.defineLocal ident _) fun _ => Tr.ite (Tr.cerr _ _) <| Tr.ite (Tr.cerr _ _) <| Tr.ite (Tr.cerr _ _) <|
    Tr.get_bind fun _ => Tr.ite (Tr.cerr _ _) <| Tr.bind (tr_emit_ pos _ _ h) fun _ => tr_tabFree.updateSym _ _ _

theorem tr_compileDefine_cc (pos : Pos) (ident : String) (allow : Bool) (kw : Nat) :
    Tr lab ps .clean .clean R0 (compileDefine pos ident allow kw) := tr_compileDefine pos ident allow kw (.cc (by decide))

end

theorem tr_withLoop {ps : List Nat} {X Y : Mode} {body : CM Unit} (hb : ∀ ps', Tr lab ps' X Y R0 body) :
    Tr lab ps X Y (fun lp => lp.breaks ++ lp.continues) (withLoop body) := by
  unfold withLoop
  exact Tr.bind tr_pushLoop fun _ => Tr.bind (hb _) fun _ => tr_popLoop

theorem chain_empty : Chain #[] (keys []) 0 := .nil rfl

theorem tm_empty : Tm lab .clean #[] [] := ⟨trivial, rfl⟩

theorem post_finishFn (s : CState) (hI : SInv lab s) (hT : Tm lab .clean s.insts s.sourceMap) :
    Post finishFn s fun fn s' => SInv lab s' ∧ FnSM lab fn := by
  unfold finishFn
  apply Post.bind; apply Post.get
  show Post _ s _
  split
  · exact Post.throw
  · rename_i lastOp pend _
    unfold finishTail
    apply Post.bind
    have h1 : Tr lab [] .clean .clean R0
        (if lastOp != OpReturn || !pend.isEmpty then emit_ 0 OpReturn [0] else pure ()) := by
      split
      · exact tr_emit_ _ _ _ (.cc (by decide))
      · exact Tr.pure _
    refine (h1.elim s hI hT (fun _ h => by simp at h)).mono ?_
    intro _ s1 ⟨hI1, hT1, _, _⟩
    apply Post.bind; apply Post.get
    show Post _ s1 _
    apply Post.bind
    refine ((tr_headTable (lab := lab) (ps := []) (X := .clean)).elim s1 hI1 hT1 (fun _ h => by simp at h)).mono ?_
    intro t s2 ⟨hI2, _, _, _⟩
    apply Post.pure
    exact ⟨hI2, ⟨hI1.chain, hT1⟩⟩

theorem post_enterFn (variadic : Bool) (s : CState) :
    Post (enterFn variadic) s fun outer s1 => outer = s ∧ s1.insts = #[] ∧ s1.sourceMap = [] ∧ s1.loops = [] ∧
      s1.constants = s.constants := by
  intro _ _ hr
  rw [runCM_enterFn] at hr
  cases hr
  exact ⟨rfl, rfl, rfl, rfl, rfl⟩

theorem post_withFn (pos : Pos) (variadic : Bool) (params : List String) {body : CM Unit}
    (hb : ∀ ps', Tr lab ps' .clean .clean R0 body) (s : CState) (hI : SInv lab s) :
    Post (withFn pos variadic params body) s fun r s' =>
      SInv lab s' ∧ s'.insts = s.insts ∧ s'.sourceMap = s.sourceMap ∧ FnSM lab r.1 := by
  unfold withFn
  apply Post.bind
  refine (post_enterFn variadic s).mono ?_
  rintro outer s1 ⟨rfl, h1, h2, h3, h4⟩
  have hI1 : SInv lab s1 :=
    ⟨by rw [h1, h2]; exact chain_empty, by rw [h3]; exact fun _ h => by simp at h, by rw [h4]; exact hI.consts⟩
  have hT1 : Tm lab .clean s1.insts s1.sourceMap := by rw [h1, h2]; exact tm_empty
  apply Post.bind
  refine ((tr_tabFree (lab := lab) (X := .clean) |>.forkTable false []).elim _ hI1 hT1 (fun _ h => by simp at h)).mono ?_
  intro _ s2 ⟨hI2, hT2, _, _⟩
  apply Post.bind
  refine ((tr_tabFree (lab := lab) (X := .clean) |>.setParams pos params []).elim _ hI2 hT2 (fun _ h => by simp at h)).mono ?_
  intro _ s3 ⟨hI3, hT3, _, _⟩
  apply Post.bind
  refine ((hb []).elim _ hI3 hT3 (fun _ h => by simp at h)).mono ?_
  intro _ s4 ⟨hI4, hT4, _, _⟩
  apply Post.bind
  refine (post_finishFn s4 hI4 hT4).mono ?_
  intro fn s5 ⟨hI5, hfn⟩
  apply Post.bind
  unfold leaveFn
  apply Post.bind; apply Post.get
  show Post _ s5 _
  apply Post.bind
  intro ft s6 _
  apply Post.bind; apply Post.get
  show Post _ s6 _
  apply Post.bind; apply Post.set; apply Post.pure
  apply Post.pure
  exact ⟨⟨hI.chain, hI.loops, hI5.consts⟩, rfl, rfl, hfn⟩

end UgoVerif.Compile

import UgoVerif.Proofs.SrcMapLeaf
import UgoVerif.Proofs.CompileLogic
import UgoVerif.Spec.AstLab
/-
  C16, compile side: every function of the compiler's mutual block keeps the source-map invariant,
  for all ASTs that are labelled one statement per label (`labS`): the judgment `Tr` is a logic
  (`trLogic`) that satisfies the rules of Proofs/CompileLogic.lean.  Its modes are those of `Tm`:
  expression code runs from `pend l` to `pend l` (every position it records has label `l`), a
  statement from `clean` to `clean` (it never ends in a call); its sequences track the recorded
  positions, as `Tr` does.
-/
namespace UgoVerif.Compile
open UgoVerif UgoVerif.Go UgoVerif.Ast

def trLogic (lab : Nat → Nat) : Logic where
  Sat := Post
  M := Mode
  Inv X s := SInv lab s ∧ Tm lab X s.insts s.sourceMap
  Rel s s' := ∀ p ∈ keys s.sourceMap, p ∈ keys s'.sourceMap
  St X s0 ps _ _ s := (SInv lab s ∧ Tm lab X s.insts s.sourceMap) ∧ (∀ p ∈ keys s0.sourceMap, p ∈ keys s.sourceMap) ∧
    ∀ p ∈ ps, p ∈ keys s.sourceMap
  Sym _ _ := True
  ok := False
  lab := lab
  lb := True
  jf := False
  e := .pend
  s := .clean
  Emit := TrEmit lab

variable {lab : Nat → Nat}

theorem tr_iff {α} {X Y : Mode} {m : CM α} : (trLogic lab).Good X Y m ↔ ∀ ps, Tr lab ps X Y R0 m := by
  constructor
  · intro h ps
    apply Tr.intro'
    intro s hI hT _
    exact (h s ⟨hI, hT⟩).mono fun _ _ ⟨⟨h1, h2⟩, h3, _⟩ => ⟨h1, h2, h3, fun _ hp => by simp at hp⟩
  · intro h s ⟨hI, hT⟩
    exact ((h []).elim s hI hT (fun _ hp => by simp at hp)).mono fun _ _ ⟨h1, h2, h3, _⟩ => ⟨⟨h1, h2⟩, h3, trivial⟩

theorem Tr.st {α β} {X Y : Mode} {R : α → List Nat} {m : CM α} {f : α → CM β} {s0 s : CState} {ps ts ts' ins ins' : List Nat}
    {Q : β → CState → Prop} (hm : Tr lab ps X Y R m) (hst : (trLogic lab).St X s0 ps ts ins s)
    (h : ∀ a s', runCM m s = (.ok a, s') → (trLogic lab).St Y s0 (R a ++ ps) ts' ins' s' → Post (f a) s' Q) :
    Post (m >>= f) s Q := by
  obtain ⟨⟨hI, hT⟩, h0, hps⟩ := hst
  apply Post.bind
  intro a s1 hr
  obtain ⟨hI1, hT1, hk1, hR1⟩ := hm.elim s hI hT hps a s1 hr
  refine h a s1 hr ⟨⟨hI1, hT1⟩, fun p hp => hk1 p (h0 p hp), fun p hp => ?_⟩
  rcases List.mem_append.mp hp with hp | hp
  · exact hR1 p hp
  · exact hk1 p (hps p hp)

theorem st_emit {β} {X Y : Mode} {pos : Pos} {op : Nat} {args : List Int} {f : Nat → CM β} {s0 s : CState}
    {ps ts ts' ins ins' : List Nat} {Q : β → CState → Prop} (hst : (trLogic lab).St X s0 ps ts ins s) (hXY : TrEmit lab X pos op Y)
    (h : ∀ s', (trLogic lab).St Y s0 (s.insts.size :: ps) ts' ins' s' → Post (f s.insts.size) s' Q) :
    Post (emit pos op args >>= f) s Q :=
  Tr.st (tr_emit pos op args hXY) hst fun p s' hr hst' => by
    obtain rfl := (post_emit pos op args s p s' hr).1
    exact h s' hst'

theorem at_eq {pos : Pos} {l : Nat} (h : (trLogic lab).At pos l) : lab pos = l := beq_iff_eq.1 (h trivial)

theorem tr_rules (lab : Nat → Nat) : Rules (trLogic lab) where
  pre h := fun s ⟨hI, hT⟩ => h s ⟨hI, hT.to_pend _⟩
  post h := fun s hs => (h s hs).mono fun _ _ ⟨⟨h1, h2⟩, h3⟩ => ⟨⟨h1, h2.to_pend _⟩, h3⟩
  emitE hl := .pend (at_eq hl)
  emitES hl hnc := .pc (at_eq hl) hnc
  emitS hnc := .cc hnc
  satPure := Post.pure
  pureP hp := fun _ hs => Post.pure ⟨hs, fun _ h => h, hp⟩
  satBind hm hf := Post.bind (hm.mono fun a s1 ⟨h1, h2, h3⟩ =>
    (hf a s1 h1 h3).mono fun _ _ ⟨k1, k2, k3⟩ => ⟨k1, fun p hp => k2 p (h2 p hp), k3⟩)
  getP _ h := fun s hs => by
    intro b s2 hr
    rw [runCM_bind, runCM_get] at hr
    exact h s s hs b s2 hr
  cerrP := fun _ _ => Post.throw
  unsupportedP := fun _ _ => Post.throw
  panicP _ := fun _ _ => Post.throw
  init _ hs := ⟨hs, fun _ h => h, fun _ h => by simp at h⟩
  done h := ⟨h.1, h.2.1, trivial⟩
  stGood hm hst h := by
    obtain ⟨hs, h0, hps⟩ := hst
    exact Post.bind ((hm _ hs).mono fun a s1 ⟨h1, h2, h3⟩ =>
      h a s1 h3 ⟨h1, fun p hp => h2 p (h0 p hp), fun p hp => h2 p (hps p hp)⟩)
  stCurPos hst h := by
    intro b s2 hr
    simp only [curPos, bind_assoc, runCM_bind, runCM_get, pure_bind] at hr
    exact h hst b s2 hr
  stEmitTgt hst _ _ hXY h := st_emit (ts' := []) (ins' := []) hst hXY fun s' ⟨h1, h2, h3⟩ =>
    h s' ⟨h1, h2, fun p hp => h3 p (List.mem_cons_of_mem _ hp)⟩
  stEmit hst _ _ _ hXY h := st_emit hst hXY h
  stPatch hst hp _ _ h := Tr.st (R := R0) (tr_changeOperand _ _ hp) hst fun _ s' _ hst' => h s' hst'
  stWithLoop hb hst h := Tr.st (tr_withLoop (tr_iff.1 hb)) hst fun loop s' _ hst' => h loop s' hst'
  stModLoop hst hp hf h := Tr.st (R := R0) (tr_modLoop _ hp hf) hst fun _ s' _ hst' => h s' hst'
  headTableP := tr_iff.2 fun _ => tr_headTable
  emit_P pos _ args _ hXY := tr_iff.2 fun _ => tr_emit_ pos _ args hXY
  makeArrayP pos hXY := tr_iff.2 fun _ => tr_emit_ pos _ _ hXY
  emitConstantP pos v hXY := tr_iff.2 fun _ => tr_emitConstant pos v hXY
  defineLocalP name := tr_iff.2 (tr_tabFree.defineLocal name)
  modifyP _ hb h3 h4 _ := tr_iff.2 fun _ => Tr.modify fun s => ⟨hb.insts s, hb.sourceMap s, h3 s, h4 s⟩
  defineConstLitP name v := tr_iff.2 (tr_tabFree.defineConstLit name v)
  resolveS name _ hs := ((tr_iff.2 fun _ => tr_resolve name) _ hs).mono fun _ _ h => ⟨h.1, h.2.1, fun _ _ => trivial⟩
  emitSymS pos _ _ _ _ hs _ _ _ he := (tr_iff.2 fun _ => tr_emit_ pos _ _ he) _ hs
  symConstLit _ _ := .inl nofun
  compileDefineP pos ident allow kw _ hl := tr_iff.2 fun _ => tr_compileDefine pos ident allow kw (.pc (at_eq hl) (by decide))
  setParamsP pos ps := tr_iff.2 (tr_tabFree.setParams pos ps)
  declGlobalsP pos l := tr_iff.2 (tr_tabFree.declGlobals pos (fun k _ => tr_addConstant k) l)
  withBlockP h := tr_iff.2 (tr_tabFree.withBlock (tr_iff.1 h))
  funcLitP {l} pos variadic params body _ hl hb := by
    -- the function is compiled on a stream of its own; the enclosing stream only receives the
    -- loads of the captured variables and the constant
    intro s ⟨hI, hT⟩
    apply Post.bind
    refine (post_withFn pos variadic params (tr_iff.1 (hb nofun)) s hI).mono ?_
    rintro ⟨fn, ft⟩ s1 ⟨hI1, hi, hsm, hfn⟩
    have hrest : Tr lab [] (.pend l) (.pend l) R0 (do
        emitFreePtrs pos ft.frees
        if fn.numLocals > 256 then throw (.err pos "SymbolLimitError: number of local symbols exceeds the limit")
        else emitFnConstant pos fn ft.frees.length) :=
      Tr.bind (tr_tabFree.emitFreePtrs pos (fun _ _ _ _ => tr_emit_ pos _ _ (.pend (at_eq hl))) _ _) fun _ =>
        Tr.ite (Tr.throw _) (tr_emitFnConstant_pend pos fn _ hfn (at_eq hl))
    refine (hrest.elim s1 hI1 (by rw [hi, hsm]; exact hT) (fun _ h => by simp at h)).mono ?_
    intro _ s2 ⟨hI2, hT2, hk2, _⟩
    exact ⟨⟨hI2, hT2⟩, fun p hp => hk2 p (hsm ▸ hp), trivial⟩

abbrev TrS (lab : Nat → Nat) {α} (m : CM α) : Prop := ∀ ps, Tr lab ps .clean .clean R0 m

theorem tr_compileStmts (lab : Nat → Nat) (ss : List Stmt) (hl : labSs lab ss = true) : TrS lab (compileStmts ss) :=
  tr_iff.1 ((tr_rules lab).compileStmtsP ss ⟨nofun, fun _ => hl, nofun⟩)

theorem sinv_initState (lab : Nat → Nat) (builtins : List (String × Nat)) (disabled : List String) :
    SInv lab (initState builtins disabled) ∧ Tm lab .clean (initState builtins disabled).insts (initState builtins disabled).sourceMap :=
  ⟨⟨chain_empty, fun _ h => by simp [initState] at h, fun _ h => by simp [initState] at h⟩, tm_empty⟩

theorem post_compileProg (lab : Nat → Nat) (file : List Stmt) (hl : labSs lab file = true) (s : CState)
    (hI : SInv lab s) (hT : Tm lab .clean s.insts s.sourceMap) :
    Post (compileProg file) s fun bc _ => FnSM lab bc.main ∧ ∀ g, Const.fn g ∈ bc.constants.toList → FnSM lab g := by
  unfold compileProg
  apply Post.bind
  refine ((tr_compileStmts lab file hl []).elim s hI hT (fun _ h => by simp at h)).mono ?_
  intro _ s1 ⟨hI1, hT1, _, _⟩
  apply Post.bind
  refine (post_finishFn s1 hI1 hT1).mono ?_
  intro fn s2 ⟨hI2, hfn⟩
  split
  · exact Post.throw
  · apply Post.bind; apply Post.get
    show Post _ s2 _
    apply Post.pure
    exact ⟨hfn, hI2.consts⟩

end UgoVerif.Compile

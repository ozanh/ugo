import UgoVerif.Proofs.SrcMap
import UgoVerif.Proofs.CompileRun
/-
  C16, compile side: the judgment `Tr ps X Y R m` — the compiler action `m`, started in a state
  that satisfies the source-map invariant `SInv` and whose stream is in mode `X`, in which the
  offsets `ps` are recorded instruction starts, ends (when it ends normally) in a state that
  satisfies `SInv`, is in mode `Y`, still has every earlier recorded offset, and has the offsets
  `R result` recorded.
-/
namespace UgoVerif.Compile
open UgoVerif UgoVerif.Go UgoVerif.Ast

/-- what is proved of every finished function: its source map has exactly one entry per
    instruction, the stream does not end in a call, and every call's successor carries the call's
    label -/
structure FnSM (lab : Nat → Nat) (f : CFn) : Prop where
  chain : Chain f.insts (keys f.sourceMap) 0
  calls : Tm lab .clean f.insts f.sourceMap

structure SInv (lab : Nat → Nat) (s : CState) : Prop where
  chain : Chain s.insts (keys s.sourceMap) 0
  loops : ∀ l ∈ s.loops, ∀ p, (p ∈ l.breaks ∨ p ∈ l.continues) → p ∈ keys s.sourceMap
  consts : ∀ f, Const.fn f ∈ s.constants.toList → FnSM lab f

theorem Post.pure {α} {a : α} {s : CState} {Q : α → CState → Prop} (h : Q a s) : Post (Pure.pure a : CM α) s Q := by
  intro a' s' hr; rw [runCM_pure] at hr; cases hr; exact h

theorem Post.throw {α} {e : CErr} {s : CState} {Q : α → CState → Prop} : Post (throw e : CM α) s Q := by
  intro a' s' hr; rw [runCM_throw] at hr; cases hr

theorem Post.bind {α β} {m : CM α} {f : α → CM β} {s : CState} {Q : β → CState → Prop}
    (h : Post m s fun a s1 => Post (f a) s1 Q) : Post (m >>= f) s Q := by
  intro b s2 hr
  rw [runCM_bind] at hr
  cases hm : runCM m s with
  | mk r s1 =>
    rw [hm] at hr
    cases r with
    | ok a => exact h a s1 hm b s2 hr
    | error e => cases hr

theorem Post.mono {α} {m : CM α} {s : CState} {Q Q' : α → CState → Prop} (h : Post m s Q)
    (hq : ∀ a s', Q a s' → Q' a s') : Post m s Q' := fun a s' hr => hq a s' (h a s' hr)

theorem Post.get {s : CState} {Q : CState → CState → Prop} (h : Q s s) : Post (get : CM CState) s Q := by
  intro a s' hr; rw [runCM_get] at hr; cases hr; exact h
theorem Post.set {s t : CState} {Q : Unit → CState → Prop} (h : Q () t) : Post (set t : CM Unit) s Q := by
  intro a s' hr; rw [runCM_set] at hr; cases hr; exact h
theorem Post.modify {g : CState → CState} {s : CState} {Q : Unit → CState → Prop} (h : Q () (g s)) :
    Post (modify g : CM Unit) s Q := by
  intro a s' hr; rw [runCM_modify] at hr; cases hr; exact h

variable {lab : Nat → Nat}

def Tr {α} (lab : Nat → Nat) (ps : List Nat) (X Y : Mode) (R : α → List Nat) (m : CM α) : Prop :=
  ∀ s, SInv lab s → Tm lab X s.insts s.sourceMap → (∀ p ∈ ps, p ∈ keys s.sourceMap) →
    Post m s fun a s' => SInv lab s' ∧ Tm lab Y s'.insts s'.sourceMap ∧
      (∀ p ∈ keys s.sourceMap, p ∈ keys s'.sourceMap) ∧ (∀ p ∈ R a, p ∈ keys s'.sourceMap)

abbrev R0 {α} : α → List Nat := fun _ => []

namespace Tr

theorem pure {α} {ps : List Nat} {X : Mode} (a : α) : Tr lab ps X X R0 (Pure.pure a : CM α) :=
  fun _ hI hT _ => Post.pure ⟨hI, hT, fun _ h => h, fun _ h => by simp at h⟩

theorem throw {α} {ps : List Nat} {X Y : Mode} {R : α → List Nat} (e : CErr) : Tr lab ps X Y R (MonadExcept.throw e : CM α) :=
  fun _ _ _ _ => Post.throw

theorem cerr {α} {ps : List Nat} {X Y : Mode} {R : α → List Nat} (pos : Pos) (msg : String) :
    Tr lab ps X Y R (Compile.cerr pos msg : CM α) := Tr.throw _
theorem cpanic {α} {ps : List Nat} {X Y : Mode} {R : α → List Nat} (msg : String) :
    Tr lab ps X Y R (Compile.cpanic msg : CM α) := Tr.throw _
theorem bind {α β} {ps : List Nat} {X Y Z : Mode} {R : α → List Nat} {R' : β → List Nat} {m : CM α} {f : α → CM β}
    (hm : Tr lab ps X Y R m) (hf : ∀ a, Tr lab (R a ++ ps) Y Z R' (f a)) : Tr lab ps X Z R' (m >>= f) := by
  intro s hI hT hps
  apply Post.bind
  intro a s1 hr
  obtain ⟨hI1, hT1, hk1, hR1⟩ := hm s hI hT hps a s1 hr
  have hps1 : ∀ p ∈ R a ++ ps, p ∈ keys s1.sourceMap := by
    intro p hp
    rcases List.mem_append.mp hp with hp | hp
    · exact hR1 p hp
    · exact hk1 p (hps p hp)
  intro b s2 hr2
  obtain ⟨hI2, hT2, hk2, hR2⟩ := hf a s1 hI1 hT1 hps1 b s2 hr2
  exact ⟨hI2, hT2, fun p hp => hk2 p (hk1 p hp), hR2⟩

theorem get_bind {β} {ps : List Nat} {X Y : Mode} {R : β → List Nat} {f : CState → CM β}
    (h : ∀ s0, Tr lab ps X Y R (f s0)) : Tr lab ps X Y R (MonadState.get >>= f) := by
  intro s hI hT hps b s2 hr
  rw [runCM_bind, runCM_get] at hr
  exact h s s hI hT hps b s2 hr

theorem modify {ps : List Nat} {X : Mode} {g : CState → CState}
    (hg : ∀ s, (g s).insts = s.insts ∧ (g s).sourceMap = s.sourceMap ∧ (g s).loops = s.loops ∧ (g s).constants = s.constants) :
    Tr lab ps X X R0 (modify g : CM Unit) := by
  intro s hI hT hps
  apply Post.modify
  obtain ⟨h1, h2, h3, h4⟩ := hg s
  refine ⟨⟨by rw [h1, h2]; exact hI.chain, by rw [h2, h3]; exact hI.loops, by rw [h4]; exact hI.consts⟩,
    by rw [h1, h2]; exact hT, by rw [h2]; exact fun _ h => h, fun _ h => by simp at h⟩

theorem mono_ps {α} {ps ps' : List Nat} {X Y : Mode} {R : α → List Nat} {m : CM α}
    (h : Tr lab ps X Y R m) (hp : ∀ p ∈ ps, p ∈ ps') : Tr lab ps' X Y R m :=
  fun s hI hT hps => h s hI hT (fun p hp' => hps p (hp p hp'))

theorem mono_R {α} {ps : List Nat} {X Y : Mode} {R R' : α → List Nat} {m : CM α}
    (h : Tr lab ps X Y R m) (hr : ∀ a, ∀ p ∈ R' a, p ∈ R a) : Tr lab ps X Y R' m :=
  fun s hI hT hps => (h s hI hT hps).mono fun a _ ⟨h1, h2, h3, h4⟩ => ⟨h1, h2, h3, fun p hp => h4 p (hr a p hp)⟩

theorem drop_R {α} {ps : List Nat} {X Y : Mode} {R : α → List Nat} {m : CM α}
    (h : Tr lab ps X Y R m) : Tr lab ps X Y R0 m := h.mono_R fun _ _ hp => by simp at hp

theorem nil_ps {α} {ps : List Nat} {X Y : Mode} {R : α → List Nat} {m : CM α}
    (h : Tr lab [] X Y R m) : Tr lab ps X Y R m := h.mono_ps fun _ hp => by simp at hp

theorem ite {α} {ps : List Nat} {X Y : Mode} {R : α → List Nat} {c : Prop} [Decidable c] {a b : CM α}
    (ha : Tr lab ps X Y R a) (hb : Tr lab ps X Y R b) : Tr lab ps X Y R (if c then a else b) := by
  split <;> assumption

end Tr

theorem post_emit (pos : Pos) (op : Nat) (args : List Int) (s : CState) :
    Post (emit pos op args) s fun p s' => p = s.insts.size ∧ op < numOpcodes ∧ ∃ rest, rest.length = opWidth op ∧
      s' = { s with insts := s.insts ++ (UInt8.ofNat op :: rest).toArray,
                    sourceMap := setSourceMap s.sourceMap s.insts.size pos } :=
  .of_satE (SatE.emit (fun _ _ => trivial) fun hop rest _ hl => ⟨rfl, hop, rest, hl, rfl⟩)

def TrEmit (lab : Nat → Nat) (X : Mode) (pos : Pos) (op : Nat) (Y : Mode) : Prop :=
  ∀ (a : Array UInt8) (m : List (Nat × Nat)) (rest : List UInt8), op < numOpcodes → (∀ k ∈ keys m, k < a.size) →
    Tm lab X a m → Tm lab Y (a ++ (UInt8.ofNat op :: rest).toArray) (m ++ [(a.size, pos)])

theorem TrEmit.pend {pos : Pos} {op l : Nat} (hl : lab pos = l) : TrEmit lab (.pend l) pos op (.pend l) :=
  fun _ _ _ hop hlt hT => (Tm.emit hop hlt).1 l hT hl

theorem TrEmit.pc {pos : Pos} {op l : Nat} (hl : lab pos = l) (hnc : isCallOp op = false) :
    TrEmit lab (.pend l) pos op .clean :=
  fun _ _ _ hop hlt hT => (Tm.emit hop hlt).2.1 l hT hl hnc

theorem TrEmit.cc {pos : Pos} {op : Nat} (hnc : isCallOp op = false) : TrEmit lab .clean pos op .clean :=
  fun _ _ _ hop hlt hT => (Tm.emit hop hlt).2.2 hT hnc

theorem tr_emit {ps : List Nat} {X Y : Mode} (pos : Pos) (op : Nat) (args : List Int) (hXY : TrEmit lab X pos op Y) :
    Tr lab ps X Y (fun p => [p]) (emit pos op args) := by
  intro s hI hT hps
  refine (post_emit pos op args s).mono ?_
  rintro p s' ⟨rfl, hop, rest, hl, rfl⟩
  -- the old end of the stream is no key yet: `setSourceMap` appends the entry
  have hfresh : s.insts.size ∉ keys s.sourceMap := fun h => Nat.lt_irrefl _ (hI.chain.lt _ h)
  simp only [setSourceMap_fresh _ _ _ hfresh, keys_append]
  exact ⟨⟨by rw [keys_append]; exact hI.chain.append_inst hop hl,
      fun l hl' p hp => by rw [keys_append]; exact List.mem_append_left _ (hI.loops l hl' p hp), hI.consts⟩,
    hXY _ _ rest hop hI.chain.lt hT, fun p hp => List.mem_append_left _ hp,
    fun p hp => List.mem_append_right _ (by simpa using hp)⟩

theorem tr_emit_ {ps : List Nat} {X Y : Mode} (pos : Pos) (op : Nat) (args : List Int) (hXY : TrEmit lab X pos op Y) :
    Tr lab ps X Y R0 (emit_ pos op args) := by
  unfold emit_
  exact Tr.bind (tr_emit pos op args hXY) fun _ => Tr.pure ()

theorem tr_changeOperand {ps : List Nat} {X : Mode} (p : Nat) (args : List Int) (hp : p ∈ ps) :
    Tr lab ps X X R0 (changeOperand p args) := by
  intro s hI hT hps
  refine .of_satE (SatE.changeOperand (fun _ _ => trivial) fun opb rest hopb _ hl => ?_)
  have hpk := hps p hp
  have hget := hI.chain.get_patch hopb hl (.inl hpk)
  have hcall : ∀ k ∈ keys s.sourceMap, isCallAt (patch s.insts p (opb :: rest)) k = isCallAt s.insts k := by
    intro k hk; simp only [isCallAt, hget k hk]
  exact ⟨⟨hI.chain.patch_inst hopb hl hpk, hI.loops, hI.consts⟩, hT.congr hcall, fun _ h => h, fun _ h => by simp at h⟩

theorem tr_addConstant {ps : List Nat} {X : Mode} (k : CVal) : Tr lab ps X X R0 (addConstant k) := by
  intro s hI hT hps
  refine .of_satE (SatE.addConstant k (fun _ _ => ⟨hI, hT, fun _ h => h, fun _ h => by simp at h⟩) fun _ =>
    ⟨⟨hI.chain, hI.loops, ?_⟩, hT, fun _ h => h, fun _ h => by simp at h⟩)
  intro f hf
  simp at hf
  exact hI.consts f (by simpa using hf)

theorem tr_addFnConstant {ps : List Nat} {X : Mode} (f : CFn) (hf : FnSM lab f) : Tr lab ps X X R0 (addFnConstant f) := by
  intro s hI hT hps
  refine .of_satE (SatE.addFnConstant f (fun _ _ => ⟨hI, hT, fun _ h => h, fun _ h => by simp at h⟩) fun _ =>
    ⟨⟨hI.chain, hI.loops, ?_⟩, hT, fun _ h => h, fun _ h => by simp at h⟩)
  intro g hg
  simp at hg
  rcases hg with hg | hg
  · exact hI.consts g (by simpa using hg)
  · subst hg; exact hf

theorem tr_resolve {ps : List Nat} {X : Mode} (name : String) : Tr lab ps X X R0 (resolve name) := by
  intro s hI hT hps r s' hr
  rw [runCM_resolve] at hr
  cases hr
  exact ⟨⟨hI.chain, hI.loops, hI.consts⟩, hT, fun _ h => h, fun _ h => by simp at h⟩

theorem tr_pushLoop {ps : List Nat} {X : Mode} : Tr lab ps X X R0 pushLoop := by
  intro s hI hT hps
  unfold pushLoop
  apply Post.modify
  refine ⟨⟨hI.chain, ?_, hI.consts⟩, hT, fun _ h => h, fun _ h => by simp at h⟩
  intro l hl p hp
  rcases List.mem_cons.mp hl with rfl | hl
  · simp at hp
  · exact hI.loops l hl p hp

theorem tr_popLoop {ps : List Nat} {X : Mode} : Tr lab ps X X (fun l => l.breaks ++ l.continues) popLoop := by
  intro s hI hT hps l s' hr
  unfold popLoop at hr
  simp only [runCM_bind, runCM_get, runCM_set, runCM_pure] at hr
  cases hr
  refine ⟨⟨hI.chain, fun l hl => hI.loops l (List.mem_of_mem_drop hl), hI.consts⟩, hT, fun _ h => h, ?_⟩
  intro p hp
  cases hs : s.loops with
  | nil => simp [hs] at hp
  | cons l0 r =>
    simp only [hs, List.head?_cons, Option.getD_some, List.mem_append] at hp
    exact hI.loops l0 (by simp [hs]) p hp

theorem tr_modLoop {ps : List Nat} {X : Mode} {p : Nat} (f : Loop → Loop) (hp : p ∈ ps)
    (hf : ∀ l q, (q ∈ (f l).breaks → q ∈ l.breaks ∨ q = p) ∧ (q ∈ (f l).continues → q ∈ l.continues ∨ q = p)) :
    Tr lab ps X X R0 (modLoop f) := by
  intro s hI hT hps
  unfold modLoop
  apply Post.modify
  refine ⟨⟨hI.chain, ?_, hI.consts⟩, hT, fun _ h => h, fun _ h => by simp at h⟩
  intro l hl q hq
  show q ∈ keys s.sourceMap
  cases hs : s.loops with
  | nil => simp [hs] at hl
  | cons l0 r =>
    simp only [hs] at hl
    rcases List.mem_cons.mp hl with rfl | hl
    · have hold := hI.loops l0 (by simp [hs]) q
      rcases hq with hq | hq
      · exact ((hf l0 q).1 hq).elim (fun h => hold (.inl h)) fun h => h ▸ hps p hp
      · exact ((hf l0 q).2 hq).elim (fun h => hold (.inr h)) fun h => h ▸ hps p hp
    · exact hI.loops l (by simp [hs, hl]) q hq

theorem Tr.intro' {α} {ps : List Nat} {X Y : Mode} {R : α → List Nat} {m : CM α}
    (h : ∀ s, SInv lab s → Tm lab X s.insts s.sourceMap → (∀ p ∈ ps, p ∈ keys s.sourceMap) →
      Post m s fun a s' => SInv lab s' ∧ Tm lab Y s'.insts s'.sourceMap ∧
        (∀ p ∈ keys s.sourceMap, p ∈ keys s'.sourceMap) ∧ (∀ p ∈ R a, p ∈ keys s'.sourceMap)) : Tr lab ps X Y R m := h

theorem Tr.elim {α} {ps : List Nat} {X Y : Mode} {R : α → List Nat} {m : CM α} (h : Tr lab ps X Y R m) :
    ∀ s, SInv lab s → Tm lab X s.insts s.sourceMap → (∀ p ∈ ps, p ∈ keys s.sourceMap) →
      Post m s fun a s' => SInv lab s' ∧ Tm lab Y s'.insts s'.sourceMap ∧
        (∀ p ∈ keys s.sourceMap, p ∈ keys s'.sourceMap) ∧ (∀ p ∈ R a, p ∈ keys s'.sourceMap) := h

attribute [irreducible] Tr

end UgoVerif.Compile

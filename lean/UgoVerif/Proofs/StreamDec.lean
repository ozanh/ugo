import UgoVerif.Proofs.Bytecode
/-
  The stream walker without its fuel: `Dec tbl bs i is` says that `bs`, standing at offset `i`,
  decodes to the instructions `is`.  Proofs about a decoded stream go by induction on this
  judgement: one case per instruction, with the table entry and the length bound at hand and the
  operands a function of the bytes (`decodeArgs`); the fuel of `decodeAllAux` and the `Res` of
  `readOperands` are met only in `Dec.of_aux` / `Dec.aux`.
-/
namespace UgoVerif.Proofs.Bytecode
open UgoVerif.Go UgoVerif.Gen.Opcodes UgoVerif.Model.Bytecode

inductive Dec (tbl : WidthTable) : Bytes → Nat → List Instr → Prop
  | nil (i : Nat) : Dec tbl [] i []
  | cons {b : UInt8} {tail : Bytes} {i : Nat} {ws : List Nat} {is : List Instr}
      (hws : tbl b.toNat = some ws) (hs : Supported ws) (hsum : ws.sum ≤ tail.length)
      (h : Dec tbl (tail.drop ws.sum) (i + (ws.sum + 1)) is) :
      Dec tbl (b :: tail) i (⟨i, b.toNat, decodeArgs ws tail⟩ :: is)

theorem fuel_succ {n f : Nat} (h : n < f) : ∃ g, f = g + 1 := ⟨f - 1, by omega⟩

variable {tbl : WidthTable}

theorem Dec.of_aux (hsup : ∀ op ws, tbl op = some ws → Supported ws) :
    ∀ {f : Nat} {rest : Bytes} {i : Nat} {is : List Instr}, decodeAllAux tbl f rest i = some is → Dec tbl rest i is
  | 0, _, _, _, h => by simp [decodeAllAux] at h
  | _ + 1, [], i, _, h => by simp [decodeAllAux] at h; subst h; exact .nil i
  | f + 1, b :: tail, i, _, h => by
    obtain ⟨ws, is', hws, hsum, hrec, rfl⟩ := decodeAux_cons hsup h
    exact .cons hws (hsup _ _ hws) hsum (Dec.of_aux hsup hrec)

theorem Dec.aux {rest : Bytes} {i : Nat} {is : List Instr} (h : Dec tbl rest i is) :
    ∀ f, rest.length < f → decodeAllAux tbl f rest i = some is := by
  induction h with
  | nil i => intro f hf; obtain ⟨f, rfl⟩ := fuel_succ hf; rfl
  | cons hws hs hsum _ ih =>
    intro f hf
    obtain ⟨f, rfl⟩ := fuel_succ hf
    rw [decodeAllAux]
    simp only [hws, readOperands_eq hs, if_pos hsum,
      ih f (by simp only [List.length_drop, List.length_cons] at hf ⊢; omega)]

theorem dec_iff (hsup : ∀ op ws, tbl op = some ws → Supported ws) (bs : Bytes) (is : List Instr) :
    decodeAll tbl bs = some is ↔ Dec tbl bs 0 is :=
  ⟨Dec.of_aux hsup, fun h => h.aux _ (Nat.lt_succ_self _)⟩

theorem Dec.drop : ∀ {pre : List Instr} {bs : Bytes} {i : Nat} {suf : List Instr}, Dec tbl bs i (pre ++ suf) →
    ∃ k, k ≤ bs.length ∧ Dec tbl (bs.drop k) (i + k) suf
  | [], bs, _, _, h => ⟨0, Nat.zero_le _, h⟩
  | _ :: pre, _, i, suf, h => by
    cases h with
    | cons hws hs hsum h =>
      rename_i b tail ws
      obtain ⟨k, hk, hd⟩ := Dec.drop (pre := pre) h
      rw [List.length_drop] at hk
      refine ⟨ws.sum + 1 + k, by simp only [List.length_cons]; omega, ?_⟩
      rw [List.drop_drop] at hd
      rw [show i + (ws.sum + 1 + k) = i + (ws.sum + 1) + k by omega,
        show ws.sum + 1 + k = (ws.sum + k) + 1 by omega, List.drop_succ_cons]
      exact hd

theorem Dec.head_off {bs : Bytes} {i : Nat} {y : Instr} {ys : List Instr} (h : Dec tbl bs i (y :: ys)) : y.off = i := by
  cases h; rfl

theorem Dec.eq_nil {bs : Bytes} {i : Nat} (h : Dec tbl bs i []) : bs = [] := by cases h; rfl

theorem Dec.at {full : Bytes} {pre : List Instr} {x : Instr} {suf : List Instr}
    (h : Dec tbl full 0 (pre ++ x :: suf)) :
    ∃ ws b tail, tbl x.op = some ws ∧ full.drop x.off = b :: tail ∧ b.toNat = x.op ∧
      x.args = decodeArgs ws tail ∧ ws.sum ≤ tail.length ∧
      (suf = [] → x.off + ws.sum + 1 = full.length) ∧
      (∀ y suf', suf = y :: suf' → y.off = x.off + ws.sum + 1) := by
  obtain ⟨k, hk, hd⟩ := h.drop
  rw [Nat.zero_add] at hd
  generalize hbs : full.drop k = bs at hd
  have hlen := congrArg List.length hbs
  rw [List.length_drop] at hlen
  cases hd with
  | cons hws hs hsum h' =>
    rename_i b tail ws
    refine ⟨ws, b, tail, hws, hbs, rfl, rfl, hsum, ?_, ?_⟩
    · rintro rfl
      have := congrArg List.length h'.eq_nil
      simp only [List.length_drop, List.length_nil, List.length_cons] at this hlen
      show k + ws.sum + 1 = _
      omega
    · rintro y suf' rfl
      exact h'.head_off

end UgoVerif.Proofs.Bytecode

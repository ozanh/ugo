import UgoVerif.Model.Sym
/-
  The invariant of symbol tables ("a BUILTIN symbol lives only in a root scope, under its own
  name, with the index of `BuiltinsMap`, and never for a disabled name") is preserved by every
  operation, on chains and on the heap of tables.  Then the compiler as a trace of symbol-table
  calls and GETBUILTIN emissions (`CEvent`, `cstep`, `crun`), with `CInv` its invariant.
-/
namespace UgoVerif.Proofs.Sym
open UgoVerif.Go UgoVerif.Model.Sym

theorem bind_ok_inv {α β} {x : Res α} {g : α → Res β} {v : β} (h : x.bind g = .ok v) :
    ∃ a, x = .ok a ∧ g a = .ok v := by
  cases x with
  | ok a => exact ⟨a, rfl, h⟩
  | err e => cases h
  | panic m => cases h


theorem mapGet_mapDelete {β} (m : List (Name × β)) (k k' : Name) :
    mapGet (mapDelete m k) k' = if k = k' then none else mapGet m k' := by
  induction m with
  | nil => simp [mapDelete, mapGet]
  | cons p r ih =>
    obtain ⟨a, v⟩ := p
    unfold mapDelete at ih ⊢
    by_cases h : a = k
    · subst h
      by_cases h2 : a = k'
      · subst h2; simpa [List.filter, mapGet] using ih
      · simpa [List.filter, mapGet, h2] using ih
    · by_cases h2 : k = k'
      · subst h2
        simp only [List.filter, h, ne_eq, not_false_eq_true, decide_true, mapGet, ↓reduceIte]
        simpa using ih
      · simp only [List.filter, h, ne_eq, not_false_eq_true, decide_true, mapGet]
        rw [ih]; simp [h2]

theorem mapGet_mapSet {β} (m : List (Name × β)) (k k' : Name) (v : β) :
    mapGet (mapSet m k v) k' = if k = k' then some v else mapGet m k' := by
  unfold mapSet
  by_cases h : k = k'
  · simp [mapGet, h]
  · simp [mapGet, h, mapGet_mapDelete]

theorem mem_setAdd (s : List Name) (k x : Name) : x ∈ setAdd s k ↔ x ∈ s ∨ x = k := by
  unfold setAdd
  by_cases h : k ∈ s
  · simp only [h, ↓reduceIte]
    constructor
    · exact Or.inl
    · rintro (h1 | h1)
      · exact h1
      · subst h1; exact h
  · simp [h]

def disabledSet (t : Tab) : List Name := t.disabledBuiltins.getD []

def BuiltinOK (B : Builtins) (t : Tab) (k : Name) (s : Symbol) : Prop :=
  k ∉ disabledSet t ∧ s.name = k ∧ mapGet B k = some s.index.toNat ∧ 0 ≤ s.index

/-- scope invariant: a non-root scope stores no BUILTIN symbol; a root scope only legitimate ones -/
def TabOK (B : Builtins) (isRoot : Bool) (t : Tab) : Prop :=
  ∀ k s, mapGet t.store k = some s → s.scope = .builtin → isRoot = true ∧ BuiltinOK B t k s

def ChainOK (B : Builtins) : Chain → Prop
  | [] => True
  | [r] => TabOK B true r
  | st :: p :: ps => TabOK B false st ∧ ChainOK B (p :: ps)

theorem TabOK.weaken {B : Builtins} {t : Tab} (h : TabOK B false t) : TabOK B true t := by
  intro k s h1 h2
  exact absurd (h k s h1 h2).1 (by simp)

theorem TabOK.empty {B : Builtins} {r : Bool} {t : Tab} (hs : t.store = []) : TabOK B r t := by
  intro k s h1; rw [hs] at h1; simp [mapGet] at h1

theorem shadowBuiltin_store (B : Builtins) (t : Tab) (n : Name) :
    (shadowBuiltin B t n).store = t.store ∧
    (shadowBuiltin B t n).disabledBuiltins = t.disabledBuiltins := by
  unfold shadowBuiltin; split <;> simp

theorem ChainOK.head {B : Builtins} {st : Tab} {ps : Chain} (h : ChainOK B (st :: ps)) :
    TabOK B (ps.isEmpty) st := by
  cases ps with
  | nil => simpa [ChainOK] using h
  | cons p ps => simpa [ChainOK] using h.1

theorem ChainOK.tail {B : Builtins} {st : Tab} {ps : Chain} (h : ChainOK B (st :: ps)) :
    ChainOK B ps := by
  cases ps with
  | nil => simp [ChainOK]
  | cons p ps => exact h.2

theorem ChainOK.cons {B : Builtins} {st : Tab} {ps : Chain} (h1 : TabOK B (ps.isEmpty) st)
    (h2 : ChainOK B ps) : ChainOK B (st :: ps) := by
  cases ps with
  | nil => simpa [ChainOK] using h1
  | cons p ps => exact ⟨by simpa using h1, h2⟩

def rootTab : Chain → Option Tab
  | [] => none
  | [r] => some r
  | _ :: p :: ps => rootTab (p :: ps)

theorem root_eq (ch : Chain) : root ch = match rootTab ch with
    | none => nilDeref | some r => .ok r := by
  fun_induction root ch <;> simp [rootTab, *]

theorem rootTab_cons_ne_nil (st : Tab) {ps : Chain} (h : ps ≠ []) :
    rootTab (st :: ps) = rootTab ps := by
  cases ps with
  | nil => exact absurd rfl h
  | cons p ps => simp [rootTab]

/-- the disabled set that governs a chain -/
def rootDisabled (ch : Chain) : List Name :=
  match rootTab ch with
  | none => []
  | some r => disabledSet r

theorem rootDisabled_cons_of_ne_nil (t : Tab) {c : Chain} (h : c ≠ []) :
    rootDisabled (t :: c) = rootDisabled c := by
  simp [Sym.rootDisabled, rootTab_cons_ne_nil t h]


def TabRel (B : Builtins) (isRoot : Bool) (t t' : Tab) : Prop :=
  (∀ n, n ∈ disabledSet t → n ∈ disabledSet t') ∧ (TabOK B isRoot t → TabOK B isRoot t')

def ChainRel (B : Builtins) : Chain → Chain → Prop
  | [], [] => True
  | st :: ps, st' :: ps' => TabRel B ps.isEmpty st st' ∧ ChainRel B ps ps'
  | _, _ => False

theorem TabRel.refl (B : Builtins) (r : Bool) (t : Tab) : TabRel B r t t := ⟨fun _ h => h, id⟩

/-- the way a scope keeps its invariant without a new BUILTIN symbol -/
theorem TabRel.of_builtins {B : Builtins} {r : Bool} {t t' : Tab} (hd : ∀ n, n ∈ disabledSet t → n ∈ disabledSet t')
    (hs : ∀ k s, mapGet t'.store k = some s → s.scope = .builtin →
      mapGet t.store k = some s ∧ (k ∈ disabledSet t' → k ∈ disabledSet t)) : TabRel B r t t' := by
  refine ⟨hd, fun hok k s hk hsb => ?_⟩
  obtain ⟨hk', hne⟩ := hs k s hk hsb
  obtain ⟨h0, h1, h2⟩ := hok k s hk' hsb
  exact ⟨h0, fun hx => h1 (hne hx), h2⟩

theorem TabRel.of_same {B : Builtins} {r : Bool} {t t' : Tab} (hs : t'.store = t.store)
    (hd : t'.disabledBuiltins = t.disabledBuiltins) : TabRel B r t t' :=
  have hm : disabledSet t' = disabledSet t := congrArg (·.getD []) hd
  .of_builtins (fun _ h => hm ▸ h) fun _ _ hk _ => ⟨hs ▸ hk, fun h => hm ▸ h⟩

theorem TabRel.of_set {B : Builtins} {r : Bool} {t t' : Tab} {k : Name} {v : Symbol}
    (hs : t'.store = mapSet t.store k v) (hd : t'.disabledBuiltins = t.disabledBuiltins)
    (hv : v.scope ≠ .builtin) : TabRel B r t t' := by
  have hm : disabledSet t' = disabledSet t := congrArg (·.getD []) hd
  refine .of_builtins (fun _ h => hm ▸ h) fun k' s hk hsb => ⟨?_, fun h => hm ▸ h⟩
  rw [hs, mapGet_mapSet] at hk
  split at hk
  · cases hk; exact absurd hsb hv
  · exact hk

theorem TabRel.shadow_set {B : Builtins} {r : Bool} {t t' : Tab} {k : Name} {v : Symbol} (n : Name)
    (hs : t'.store = mapSet t.store k v) (hd : t'.disabledBuiltins = t.disabledBuiltins)
    (hv : v.scope ≠ .builtin) : TabRel B r t (shadowBuiltin B t' n) :=
  TabRel.of_set (by rw [(shadowBuiltin_store B t' n).1, hs]) (by rw [(shadowBuiltin_store B t' n).2, hd]) hv

theorem TabRel.trans {B : Builtins} {r : Bool} {a b c : Tab} (h1 : TabRel B r a b)
    (h2 : TabRel B r b c) : TabRel B r a c :=
  ⟨fun n h => h2.1 n (h1.1 n h), fun h => h2.2 (h1.2 h)⟩

theorem ChainRel.refl (B : Builtins) : ∀ ch : Chain, ChainRel B ch ch
  | [] => trivial
  | st :: ps => ⟨TabRel.refl B _ st, ChainRel.refl B ps⟩

/-! Facts about `ChainRel` go by its own induction principle: both chains empty, both non-empty, or of
    different lengths, where the relation is `False`. -/

theorem ChainRel.length {B : Builtins} : ∀ {ch ch' : Chain}, ChainRel B ch ch' → ch'.length = ch.length := by
  intro ch ch'
  fun_induction ChainRel B ch ch' with
  | case1 => exact fun _ => rfl
  | case2 _ _ _ _ ih => exact fun h => congrArg (· + 1) (ih h.2)
  | case3 => exact False.elim

theorem ChainRel.isEmpty {B : Builtins} {ch ch' : Chain} (h : ChainRel B ch ch') :
    ch'.isEmpty = ch.isEmpty := by
  have := h.length
  cases ch <;> cases ch' <;> simp_all

theorem ChainRel.trans {B : Builtins} : ∀ {a b c : Chain}, ChainRel B a b → ChainRel B b c → ChainRel B a c := by
  intro a b c
  fun_induction ChainRel B a b generalizing c with
  | case1 => exact fun _ h => h
  | case2 x xs y ys ih =>
    intro h1 h2
    cases c with
    | nil => exact h2.elim
    | cons z zs => exact ⟨TabRel.trans h1.1 (h1.2.isEmpty ▸ h2.1), ih h1.2 h2.2⟩
  | case3 => exact False.elim

theorem ChainRel.ok {B : Builtins} : ∀ {ch ch' : Chain}, ChainRel B ch ch' → ChainOK B ch → ChainOK B ch' := by
  intro ch ch'
  fun_induction ChainRel B ch ch' with
  | case1 => exact fun _ h => h
  | case2 _ _ _ _ ih => exact fun h hok => ChainOK.cons (h.2.isEmpty ▸ h.1.2 hok.head) (ih h.2 hok.tail)
  | case3 => exact False.elim

theorem ChainRel.rootDisabled {B : Builtins} : ∀ {ch ch' : Chain}, ChainRel B ch ch' →
    ∀ n, n ∈ rootDisabled ch → n ∈ rootDisabled ch' := by
  intro ch ch'
  fun_induction ChainRel B ch ch' with
  | case1 => exact fun _ _ h => h
  | case2 st ps st' ps' ih =>
    intro h n hn
    -- the governing root is the head exactly when the tail is empty, on both sides alike
    cases ps with
    | nil =>
      cases ps' with
      | nil => exact h.1.1 n hn
      | cons q qs => exact h.2.elim
    | cons p pps =>
      cases ps' with
      | nil => exact h.2.elim
      | cons q qs => exact ih h.2 n hn
  | case3 => exact False.elim

theorem ChainRel.mk {B : Builtins} {st st' : Tab} {ps ps' : Chain}
    (h1 : TabRel B ps.isEmpty st st') (h2 : ChainRel B ps ps') : ChainRel B (st :: ps) (st' :: ps') :=
  ⟨h1, h2⟩

theorem updateMaxDefs_rel (B : Builtins) : ∀ (ps : Chain) (st : Tab) (n : Int) (st' : Tab) (ps' : Chain),
    updateMaxDefs st ps n = .ok (st', ps') →
    st'.store = st.store ∧ st'.disabledBuiltins = st.disabledBuiltins ∧ ChainRel B ps ps' := by
  intro ps st n st' ps' h
  unfold updateMaxDefs at h
  dsimp only at h
  by_cases hb : st.block
  · rw [if_pos hb] at h
    match ps, h with
    | p :: pps, h =>
      obtain ⟨⟨p', pps'⟩, hr, h⟩ := bind_ok_inv h
      cases h
      obtain ⟨a, b, c⟩ := updateMaxDefs_rel B pps p n p' pps' hr
      exact ⟨by split <;> rfl, by split <;> rfl, ChainRel.mk (TabRel.of_same a b) c⟩
  · rw [if_neg hb] at h
    cases h
    exact ⟨by split <;> rfl, by split <;> rfl, ChainRel.refl B _⟩

/-- the statements `DefineLocal` and the loop of `SetParams` share -/
theorem newLocal_step (B : Builtins) {st st1 st2 : Tab} {ps ps2 : Chain} {n : Name} {sym : Symbol} {m : Int}
    (hu : updateMaxDefs st1 ps m = .ok (st2, ps2))
    (hs : st1.store = mapSet st.store n sym) (hd : st1.disabledBuiltins = st.disabledBuiltins)
    (hv : sym.scope ≠ .builtin) :
    ChainRel B (st :: ps) (shadowBuiltin B st2 n :: ps2) ∧ mapGet (shadowBuiltin B st2 n).store n = some sym := by
  obtain ⟨a, b, c⟩ := updateMaxDefs_rel B ps _ _ _ _ hu
  refine ⟨ChainRel.mk (TabRel.shadow_set n (a.trans hs) (b.trans hd) hv) c, ?_⟩
  rw [(shadowBuiltin_store B st2 n).1, a, hs, mapGet_mapSet, if_pos rfl]

theorem defineNewLocal_spec (B : Builtins) (st : Tab) (ps : Chain) (n : Name) (ch' : Chain) (s : Symbol) (e : Bool)
    (h : defineNewLocal B st ps n = .ok (ch', s, e)) :
    ChainRel B (st :: ps) ch' ∧ ∃ st2 ps2, ch' = st2 :: ps2 ∧ mapGet st2.store n = some s := by
  unfold defineNewLocal at h
  dsimp only at h
  obtain ⟨idx, _, h⟩ := bind_ok_inv h
  obtain ⟨⟨st2, ps2⟩, hu, h⟩ := bind_ok_inv h
  cases h
  obtain ⟨a, b⟩ := newLocal_step B hu rfl rfl (by simp)
  exact ⟨a, _, _, rfl, b⟩

theorem defineLocal_spec (B : Builtins) (ch : Chain) (n : Name) (ch' : Chain) (s : Symbol) (e : Bool)
    (h : defineLocal B ch n = .ok (ch', s, e)) :
    ChainRel B ch ch' ∧ ∃ st2 ps2, ch' = st2 :: ps2 ∧ mapGet st2.store n = some s := by
  cases ch with
  | nil => cases h
  | cons st ps =>
    unfold defineLocal at h
    dsimp only at h
    split at h
    · rename_i sym hg
      split at h
      · exact defineNewLocal_spec B st ps n ch' s e h
      · cases h
        exact ⟨ChainRel.refl B _, st, ps, rfl, hg⟩
    · exact defineNewLocal_spec B st ps n ch' s e h

theorem memDisabled_iff (t : Tab) (n : Name) : memDisabled t n = true ↔ n ∈ disabledSet t := by
  unfold memDisabled disabledSet
  cases t.disabledBuiltins <;> simp

theorem resolve_hit (B : Builtins) (st : Tab) (ps : Chain) (n : Name) (sym : Symbol)
    (h : mapGet st.store n = some sym) : resolve B (st :: ps) n = .ok (st :: ps, some sym) := by
  unfold resolve; simp [h]

theorem resolve_root_disabled (B : Builtins) (st : Tab) (n : Name) (h1 : mapGet st.store n = none)
    (h2 : n ∈ disabledSet st) : resolve B [st] n = .ok ([st], none) := by
  simp [resolve, h1, (memDisabled_iff st n).2 h2]

/-- what `Resolve` guarantees about a BUILTIN answer -/
def BuiltinAnswer (B : Builtins) (ch : Chain) (n : Name) (s : Symbol) : Prop :=
  n ∉ rootDisabled ch ∧ s.name = n ∧ mapGet B n = some s.index.toNat ∧ 0 ≤ s.index

theorem resolve_rel (B : Builtins) (n : Name) : ∀ (ch ch' : Chain) (r : Option Symbol),
    ChainOK B ch → resolve B ch n = .ok (ch', r) →
    ChainRel B ch ch' ∧ (∀ s, r = some s → s.scope = .builtin → BuiltinAnswer B ch n s) := by
  intro ch
  fun_induction resolve B ch n <;> intro ch' r hok h <;> cases h
  -- found in this scope: a BUILTIN symbol there means the scope is a root
  case case2 sym hg =>
    refine ⟨ChainRel.refl B _, fun s hs hb => ?_⟩
    cases hs
    obtain ⟨hr, hbo⟩ := hok.head _ sym hg hb
    cases List.isEmpty_iff.1 hr
    exact hbo
  -- the parent's answer: none; a symbol that becomes a free variable of this scope; any other symbol
  case case5 hr ih => exact ⟨ChainRel.mk (TabRel.refl B _ _) (ih _ _ hok.tail hr).1, nofun⟩
  case case6 hr _ _ _ hdf ih =>
    simp only [defineFree, Prod.mk.injEq] at hdf
    obtain ⟨rfl, rfl⟩ := hdf
    exact ⟨ChainRel.mk (TabRel.shadow_set _ rfl rfl (by simp)) (ih _ _ hok.tail hr).1, fun s hs hsb => by cases hs; cases hsb⟩
  case case7 hr _ ih => exact ⟨ChainRel.mk (TabRel.refl B _ _) (ih _ _ hok.tail hr).1, (ih _ _ hok.tail hr).2⟩
  -- the root, name not disabled: the symbol `Resolve` caches is a legitimate one
  case case8 st name _ hd idx hb sym =>
    have hnd : name ∉ disabledSet st := fun hn => by simp [(memDisabled_iff st name).2 hn] at hd
    have hans : BuiltinOK B st name sym := ⟨hnd, rfl, by simpa [sym] using hb, by simp [sym]⟩
    refine ⟨⟨⟨fun _ h => h, fun hst k s hk hsb => ?_⟩, trivial⟩, fun s hs _ => by cases hs; exact hans⟩
    rw [mapGet_mapSet] at hk
    split at hk
    · rename_i hkn
      cases hk
      cases hkn
      exact ⟨rfl, hans⟩
    · exact hst k s hk hsb
  all_goals exact ⟨ChainRel.refl B _, nofun⟩

theorem defineConstLit_rel (B : Builtins) (ch : Chain) (n : Name) (ch' : Chain) (s : Symbol) (e : Bool)
    (h : defineConstLit B ch n = .ok (ch', s, e)) : ChainRel B ch ch' := by
  cases ch with
  | nil => cases h
  | cons st ps =>
    rw [defineConstLit] at h
    split at h
    · cases h; exact ChainRel.refl B _
    · cases h
      exact ChainRel.mk (TabRel.shadow_set n rfl rfl (by simp)) (ChainRel.refl B _)

theorem defineGlobal_rel (B : Builtins) (q : String) (ch : Chain) (n : Name) (ch' : Chain) (r : GlobalRes)
    (h : defineGlobal B q ch n = .ok (ch', r)) : ChainRel B ch ch' := by
  revert h
  fun_cases defineGlobal B q ch n <;> intro h <;> cases h
  -- a new global symbol in the root scope; every other path leaves the tables alone
  case case5 => exact ChainRel.mk (TabRel.shadow_set n rfl rfl (by simp)) trivial
  all_goals exact ChainRel.refl B _

theorem setParamsLoop_rel (B : Builtins) (q : Name → String) : ∀ (params : List Name) (k : Nat) (st : Tab) (ps : Chain)
    (st' : Tab) (ps' : Chain) (e : Option String),
    setParamsLoop B q params k st ps = .ok (st', ps', e) → ChainRel B (st :: ps) (st' :: ps') := by
  intro params
  induction params with
  | nil =>
    intro k st ps st' ps' e h
    cases h
    exact ChainRel.refl B _
  | cons param rest ih =>
    intro k st ps st' ps' e h
    unfold setParamsLoop at h
    split at h
    · cases h
      exact ChainRel.mk (TabRel.of_same rfl rfl) (ChainRel.refl B _)
    · dsimp only at h
      obtain ⟨idx, _, h⟩ := bind_ok_inv h
      obtain ⟨⟨st2, ps2⟩, hu, h⟩ := bind_ok_inv h
      exact ChainRel.trans (newLocal_step B hu rfl rfl (by simp)).1 (ih _ _ _ _ _ _ h)

theorem setParams_rel (B : Builtins) (q : Name → String) (ch : Chain) (ns : List Name) (ch' : Chain)
    (e : Option String) (h : setParams B q ch ns = .ok (ch', e)) : ChainRel B ch ch' := by
  revert h
  fun_cases setParams B q ch ns <;> intro h
  case case5 =>
    obtain ⟨⟨st2, ps2, e2⟩, hl, h⟩ := bind_ok_inv h
    cases h
    have hloop := setParamsLoop_rel B q _ _ _ _ _ _ _ hl
    exact ChainRel.trans (ChainRel.mk (TabRel.of_same rfl rfl) (ChainRel.refl B _)) hloop
  -- the early returns leave the receiver alone; a nil receiver panics
  all_goals cases h
  all_goals exact ChainRel.refl B _

theorem enableParams_rel (B : Builtins) (ch : Chain) (v : Bool) (ch' : Chain)
    (h : enableParams ch v = .ok ch') : ChainRel B ch ch' := by
  cases ch with
  | nil => cases h
  | cons st ps =>
    cases h
    exact ChainRel.mk (TabRel.of_same rfl rfl) (ChainRel.refl B _)

theorem TabRel.disable {B : Builtins} {r t : Tab} {n : Name}
    (hd : t.disabledBuiltins = some (setAdd (r.disabledBuiltins.getD []) n))
    (hs : ∀ k s, mapGet t.store k = some s → s.scope = .builtin → mapGet r.store k = some s ∧ k ≠ n) :
    TabRel B true r t ∧ n ∈ disabledSet t := by
  have hmem : ∀ x, x ∈ disabledSet t ↔ x ∈ disabledSet r ∨ x = n := fun x => by
    show x ∈ t.disabledBuiltins.getD [] ↔ _
    rw [hd]; exact mem_setAdd _ n x
  exact ⟨.of_builtins (fun x hx => (hmem x).2 (.inl hx)) fun k s hk hsb =>
    ⟨(hs k s hk hsb).1, fun hx => ((hmem k).1 hx).elim id fun h => absurd h (hs k s hk hsb).2⟩, (hmem n).2 (.inr rfl)⟩

theorem disableOne_rel (B : Builtins) (r : Tab) (n : Name) :
    TabRel B true r (disableOne r n) ∧ n ∈ disabledSet (disableOne r n) := by
  unfold disableOne
  dsimp only
  split
  · rename_i s hg
    split
    · refine TabRel.disable rfl fun k s' hk _ => ?_
      rw [mapGet_mapDelete] at hk
      split at hk
      · cases hk
      · rename_i hne
        exact ⟨hk, fun h => hne h.symm⟩
    · rename_i hsb
      refine TabRel.disable rfl fun k s' hk hb => ⟨hk, fun h => ?_⟩
      subst h
      rw [hg] at hk
      cases hk
      exact hsb hb
  · rename_i hg
    refine TabRel.disable rfl fun k s' hk hb => ⟨hk, fun h => ?_⟩
    subst h
    rw [hg] at hk
    cases hk

theorem initDisabled_mem (r : Tab) (x : Name) : x ∈ disabledSet (initDisabled r) ↔ x ∈ disabledSet r := by
  unfold initDisabled disabledSet
  split <;> simp_all

theorem initDisabled_store (r : Tab) : (initDisabled r).store = r.store := by
  unfold initDisabled; split <;> rfl

theorem initDisabled_rel (B : Builtins) (r : Tab) : TabRel B true r (initDisabled r) :=
  .of_builtins (fun n => (initDisabled_mem r n).2) fun k _ hk _ =>
    ⟨initDisabled_store r ▸ hk, (initDisabled_mem r k).1⟩

theorem foldl_disableOne_rel (B : Builtins) : ∀ (ns : List Name) (r : Tab),
    TabRel B true r (ns.foldl disableOne r) ∧ ∀ n ∈ ns, n ∈ disabledSet (ns.foldl disableOne r)
  | [], r => ⟨TabRel.refl B _ _, by simp⟩
  | n :: ns, r => by
    obtain ⟨a, b⟩ := disableOne_rel B r n
    obtain ⟨a', b'⟩ := foldl_disableOne_rel B ns (disableOne r n)
    refine ⟨TabRel.trans a a', fun x hx => ?_⟩
    rcases List.mem_cons.1 hx with rfl | hx
    · exact a'.1 _ b
    · exact b' x hx

theorem modifyRoot_rel (B : Builtins) (f : Tab → Tab) (hf : ∀ r, TabRel B true r (f r)) (ch : Chain) :
    ∀ ch', modifyRoot f ch = .ok ch' →
      ChainRel B ch ch' ∧ ∃ r, rootTab ch = some r ∧ rootTab ch' = some (f r) := by
  fun_induction modifyRoot f ch <;> intro ch' h
  · cases h
  · cases h; exact ⟨⟨hf _, trivial⟩, _, rfl, rfl⟩
  next st p ps ih =>
    obtain ⟨r', hm, h⟩ := bind_ok_inv h
    cases h
    obtain ⟨a, r, hr, hr'⟩ := ih r' hm
    have hne : r' ≠ [] := fun he => by subst he; exact a.elim
    exact ⟨ChainRel.mk (TabRel.refl B _ _) a, r, hr, (rootTab_cons_ne_nil st hne).trans hr'⟩

theorem disableBuiltin_rel (B : Builtins) (ch : Chain) (ns : List Name) (ch' : Chain)
    (h : disableBuiltin ch ns = .ok ch') :
    ChainRel B ch ch' ∧ (ch ≠ [] → ∀ n ∈ ns, n ∈ rootDisabled ch') := by
  unfold disableBuiltin at h
  split at h
  · rename_i hl
    cases h
    cases List.eq_nil_of_length_eq_zero hl
    exact ⟨ChainRel.refl B _, fun _ _ hn => nomatch hn⟩
  · obtain ⟨a, r, _, hr'⟩ := modifyRoot_rel B (fun r => ns.foldl disableOne (initDisabled r))
      (fun r => TabRel.trans (initDisabled_rel B r) (foldl_disableOne_rel B ns _).1) ch ch' h
    refine ⟨a, fun _ n hn => ?_⟩
    simp only [Sym.rootDisabled, hr']
    exact (foldl_disableOne_rel B ns _).2 n hn


def HeapOK (B : Builtins) : Heap → Prop
  | [] => True
  | e :: older => (∀ p, e.parent = some p → p < older.length) ∧ TabOK B e.parent.isNone e.tab ∧ HeapOK B older

abbrev tabs (l : List (Nat × Tab)) : Chain := l.map (·.2)

theorem chainOf_eq_nil_iff (H : Heap) (id : Nat) : chainOf H id = [] ↔ H.length ≤ id := by
  fun_induction chainOf H id
  · simp
  · simp [*]
  next ih => simp only [List.length_cons, ih]; omega

theorem tabs_chainOf_isEmpty {H : Heap} {id : Nat} (h : id < H.length) : (tabs (chainOf H id)).isEmpty = false := by
  cases hc : chainOf H id with
  | nil => exact absurd ((chainOf_eq_nil_iff H id).1 hc) (by omega)
  | cons a b => rfl

theorem chainOf_ok (B : Builtins) (H : Heap) (id : Nat) : HeapOK B H → ChainOK B (tabs (chainOf H id)) := by
  fun_induction chainOf H id <;> intro h
  · trivial
  next e older ih =>
    cases hp : e.parent with
    | none =>
      have := h.2.1
      simp only [hp, Option.isNone_none] at this
      simpa [ChainOK] using this
    | some p =>
      refine ChainOK.cons ?_ (ih p h.2.2)
      rw [tabs_chainOf_isEmpty (h.1 p hp)]
      simpa [hp] using h.2.1
  next ih => exact ih h.2.2

theorem writeChain_length (H : Heap) (id : Nat) (ts : List Tab) : (writeChain H id ts).length = H.length := by
  fun_induction writeChain H id ts
  · rfl
  · rfl
  next e _ _ _ ih => cases hp : e.parent <;> simp [ih]
  next ih => simp [ih]

def HeapLe : Heap → Heap → Prop
  | [], [] => True
  | e :: H, e' :: H' => e'.parent = e.parent ∧ (∀ n, n ∈ disabledSet e.tab → n ∈ disabledSet e'.tab) ∧ HeapLe H H'
  | _, _ => False

theorem HeapLe.refl : ∀ H : Heap, HeapLe H H
  | [] => trivial
  | _ :: H => ⟨rfl, fun _ h => h, HeapLe.refl H⟩

theorem HeapLe.length : ∀ {H H' : Heap}, HeapLe H H' → H'.length = H.length := by
  intro H H'
  fun_induction HeapLe H H' with
  | case1 => exact fun _ => rfl
  | case2 _ _ _ _ ih => exact fun h => congrArg (· + 1) (ih h.2.2)
  | case3 => exact False.elim

theorem HeapOK.cons_congr {B : Builtins} {e e' : Entry} {H H' : Heap} (h : HeapOK B (e :: H))
    (hp : e'.parent = e.parent) (ht : TabOK B e.parent.isNone e.tab → TabOK B e.parent.isNone e'.tab)
    (hl : H'.length = H.length) (hH : HeapOK B H') : HeapOK B (e' :: H') :=
  ⟨fun p hq => hl ▸ h.1 p (hp ▸ hq), hp ▸ ht h.2.1, hH⟩

theorem writeChain_ok (B : Builtins) : ∀ (H : Heap) (id : Nat) (ts : List Tab), HeapOK B H →
    ChainRel B (tabs (chainOf H id)) ts → HeapOK B (writeChain H id ts) ∧ HeapLe H (writeChain H id ts)
  | [], _, _, _, _ => ⟨trivial, trivial⟩
  | ⟨et, ep⟩ :: older, id, ts, h, hrel => by
    unfold writeChain
    unfold chainOf at hrel
    by_cases hid : older.length = id
    · simp only [hid, ↓reduceIte, List.map_cons] at hrel ⊢
      cases ts with
      | nil => exact hrel.elim
      | cons t ts' =>
        cases ep with
        | none => exact ⟨h.cons_congr rfl hrel.1.2 rfl h.2.2, rfl, hrel.1.1, HeapLe.refl _⟩
        | some p =>
          obtain ⟨ih1, ih2⟩ := writeChain_ok B older p ts' h.2.2 hrel.2
          refine ⟨h.cons_congr rfl ?_ (writeChain_length _ _ _) ih1, rfl, hrel.1.1, ih2⟩
          have := hrel.1.2
          rwa [tabs_chainOf_isEmpty (h.1 p rfl)] at this
    · simp only [hid, ↓reduceIte] at hrel ⊢
      obtain ⟨ih1, ih2⟩ := writeChain_ok B older id ts h.2.2 hrel
      exact ⟨h.cons_congr rfl (fun h => h) (writeChain_length _ _ _) ih1, rfl, fun _ h => h, ih2⟩

/-- `p < H.length` fails for a dangling parent: the entry is then its own root -/
theorem rootDisabled_chainOf_cons (e : Entry) (H : Heap) (id : Nat) :
    rootDisabled (tabs (chainOf (e :: H) id)) =
      if H.length = id then
        match e.parent with
        | some p => if p < H.length then rootDisabled (tabs (chainOf H p)) else disabledSet e.tab
        | none => disabledSet e.tab
      else rootDisabled (tabs (chainOf H id)) := by
  rw [chainOf]
  split
  · cases e.parent with
    | none => rfl
    | some p =>
      dsimp only
      split
      · rename_i hp
        exact rootDisabled_cons_of_ne_nil _ (List.isEmpty_eq_false_iff.1 (tabs_chainOf_isEmpty hp))
      · rename_i hp
        rw [(chainOf_eq_nil_iff H p).2 (by omega)]; rfl
  · rfl

theorem HeapLe.rootDisabled : ∀ {H H' : Heap}, HeapLe H H' → ∀ (id : Nat) (n : Name),
    n ∈ rootDisabled (tabs (chainOf H id)) → n ∈ rootDisabled (tabs (chainOf H' id)) := by
  intro H H'
  fun_induction HeapLe H H' with
  | case1 => exact fun _ _ _ h => h
  | case2 e H e' H' ih =>
    intro h id n
    rw [rootDisabled_chainOf_cons, rootDisabled_chainOf_cons, h.2.2.length, h.1]
    split
    · cases e.parent with
      | none => exact h.2.1 n
      | some p =>
        dsimp only
        split
        · exact ih h.2.2 p n
        · exact h.2.1 n
    · exact ih h.2.2 id n
  | case3 => exact False.elim


def addDisabled (r : Tab) (n : Name) : Tab :=
  { r with disabledBuiltins := some (setAdd (r.disabledBuiltins.getD []) n) }

/-- what every step of the evaluator's `resetCompiler` (optimizer.go) does to the table, whose
    store is empty -/
def Adds (ns : List Name) (t t' : Tab) : Prop :=
  t'.store = t.store ∧ ∀ x, x ∈ disabledSet t' ↔ x ∈ disabledSet t ∨ x ∈ ns

theorem Adds.refl (t : Tab) : Adds [] t t := ⟨rfl, fun x => by simp⟩

theorem Adds.trans {a b : List Name} {t u v : Tab} (h1 : Adds a t u) (h2 : Adds b u v) : Adds (a ++ b) t v :=
  ⟨h2.1.trans h1.1, fun x => by rw [h2.2, h1.2, List.mem_append, or_assoc]⟩

theorem Adds.init (t : Tab) : Adds [] t (initDisabled t) :=
  ⟨initDisabled_store t, fun x => by rw [initDisabled_mem]; simp⟩

theorem Adds.foldl : ∀ (l : List Name) (r : Tab), Adds l r (l.foldl addDisabled r)
  | [], r => Adds.refl r
  | a :: l, r =>
    have h1 : Adds [a] r (addDisabled r a) :=
      ⟨rfl, fun x => by simp only [addDisabled, disabledSet, Option.getD_some, mem_setAdd, List.mem_singleton]⟩
    h1.trans (Adds.foldl l (addDisabled r a))

theorem hasAny_false (src : Chain) : hasAnyShadowedBuiltins src = false → shadowedAlong src = [] := by
  fun_induction hasAnyShadowedBuiltins src <;> intro h
  · rfl
  · cases h
  next st ps hl ih =>
    have : st.shadowedBuiltins = [] := List.eq_nil_of_length_eq_zero (by omega)
    simp [shadowedAlong, this, ih h]

theorem disabledBuiltinsMap_getD (src : Chain) (m : Option (List Name))
    (h : disabledBuiltinsMap src = .ok m) : m.getD [] = rootDisabled src := by
  cases src with
  | nil => simp only [disabledBuiltinsMap, Res.ok.injEq] at h; subst h; rfl
  | cons st ps =>
    simp only [disabledBuiltinsMap] at h
    rw [root_eq] at h
    cases hr : rootTab (st :: ps) with
    | none => simp [hr, nilDeref, bind, Res.bind] at h
    | some r =>
      simp only [hr, bind, Res.bind, pure, Res.ok.injEq] at h
      subst h
      simp [Sym.rootDisabled, hr, disabledSet]

/-- with nothing cached there is nothing for `DisableBuiltin` to evict -/
theorem foldl_disableOne_empty : ∀ (ns : List Name) (r : Tab), r.store = [] →
    ns.foldl disableOne r = ns.foldl addDisabled r
  | [], _, _ => rfl
  | n :: ns, r, h => by
    have : disableOne r n = addDisabled r n := by simp [disableOne, addDisabled, h, mapGet]
    rw [List.foldl_cons, List.foldl_cons, this]
    exact foldl_disableOne_empty ns _ h

theorem optimCopy_single (t : Tab) (src c2 : Chain) (h : optimCopyBuiltinStates [t] src = .ok c2) :
    ∃ t2, c2 = [t2] ∧ Adds (rootDisabled src ++ shadowedAlong src) t t2 := by
  unfold optimCopyBuiltinStates at h
  obtain ⟨m, hm, h⟩ := bind_ok_inv h
  have hg := disabledBuiltinsMap_getD src m hm
  dsimp only at h
  split at h
  · rename_i hc
    cases h
    simp only [Bool.and_eq_true, decide_eq_true_eq, Bool.not_eq_eq_eq_not, Bool.not_true] at hc
    rw [← hg, List.eq_nil_of_length_eq_zero hc.1, hasAny_false src hc.2]
    exact ⟨t, rfl, Adds.refl t⟩
  · cases h
    -- the loop body `add` of `optimCopyBuiltinStates` is `addDisabled`
    exact ⟨_, rfl, hg ▸ ((Adds.init t).trans (Adds.foldl _ _)).trans (Adds.foldl _ _)⟩

theorem disableBuiltin'_single (t : Tab) (names : List Name) (c : Chain) (hs : t.store = [])
    (h : optimCopyBuiltinStatesFromScope.disableBuiltin' [t] names = .ok c) :
    ∃ t2, c = [t2] ∧ Adds names t t2 := by
  unfold optimCopyBuiltinStatesFromScope.disableBuiltin' at h
  simp only [root, bind, Res.bind] at h
  split at h
  · rename_i hl
    cases h
    cases List.eq_nil_of_length_eq_zero hl
    exact ⟨t, rfl, Adds.refl t⟩
  · cases h
    refine ⟨_, rfl, ?_⟩
    show Adds names t (names.foldl disableOne (initDisabled t))
    rw [foldl_disableOne_empty names _ ((initDisabled_store t).trans hs)]
    exact (Adds.init t).trans (Adds.foldl _ _)

theorem fromScope_single : ∀ (scopes : List (List Name)) (t : Tab) (c : Chain), t.store = [] →
    optimCopyBuiltinStatesFromScope [t] scopes = .ok c → ∃ t2, c = [t2] ∧ Adds scopes.flatten t t2
  | [], t, c, _, h => by simp [optimCopyBuiltinStatesFromScope, root, nilDeref, bind, Res.bind] at h
  | [s], t, c, hs, h => by
    unfold optimCopyBuiltinStatesFromScope at h
    simpa using disableBuiltin'_single t s c hs h
  | s :: s' :: rest, t, c, hs, h => by
    unfold optimCopyBuiltinStatesFromScope at h
    obtain ⟨d1, hd, h⟩ := bind_ok_inv h
    obtain ⟨t1, rfl, a1⟩ := disableBuiltin'_single t s d1 hs hd
    obtain ⟨t2, rfl, a2⟩ := fromScope_single (s' :: rest) t1 c (a1.1.trans hs) h
    exact ⟨t2, rfl, a1.trans a2⟩

theorem evalResetTab_adds (ev : Option Tab) (comp : Chain) (scopes : List (List Name)) (t : Tab)
    (h : evalResetTab ev comp scopes = .ok t) :
    t.store = [] ∧ ∀ n, n ∈ disabledSet t ↔ n ∈ rootDisabled comp ∨ n ∈ shadowedAlong comp ∨ ∃ sc, sc ∈ scopes ∧ n ∈ sc := by
  unfold evalResetTab at h
  simp only [enableParams, bind, Res.bind] at h
  have h0 : (evalStartTab ev).store = [] ∧ disabledSet (evalStartTab ev) = [] := by
    unfold evalStartTab; cases ev with
    | none => exact ⟨rfl, rfl⟩
    | some t => exact ⟨rfl, by simp only [disabledSet, resetTab]; cases t.disabledBuiltins <;> rfl⟩
  generalize evalStartTab ev = t0 at h h0
  obtain ⟨c2, h2, h⟩ := bind_ok_inv h
  obtain ⟨t2, rfl, a2⟩ := optimCopy_single _ comp c2 h2
  obtain ⟨c3, h3, h⟩ := bind_ok_inv h
  obtain ⟨t3, rfl, a3⟩ := fromScope_single scopes t2 c3 (a2.1.trans h0.1) h3
  cases h
  refine ⟨a3.1.trans (a2.1.trans h0.1), fun n => ?_⟩
  rw [a3.2, a2.2]
  show (n ∈ disabledSet t0 ∨ _) ∨ _ ↔ _
  simp [h0.2, or_assoc]

theorem setEntry_length (H : Heap) (id : Nat) (e : Entry) : (setEntry H id e).length = H.length := by
  fun_induction setEntry H id e <;> simp [*]

theorem setEntry_ok (B : Builtins) (H : Heap) (id : Nat) (e : Entry) : HeapOK B H → TabOK B true e.tab →
    e.parent = none → HeapOK B (setEntry H id e) := by
  fun_induction setEntry H id e <;> intro h ht hp
  · trivial
  · exact ⟨fun p hq => (nomatch hp.symm.trans hq), hp ▸ ht, h.2.2⟩
  next ih => exact h.cons_congr rfl (fun h => h) (setEntry_length _ _ _) (ih h.2.2 ht hp)

def Mono (H H' : Heap) : Prop :=
  H.length ≤ H'.length ∧ ∀ id, id < H.length → ∀ n,
    n ∈ rootDisabled (tabs (chainOf H id)) → n ∈ rootDisabled (tabs (chainOf H' id))

theorem Mono.refl (H : Heap) : Mono H H := ⟨Nat.le_refl _, fun _ _ _ h => h⟩

theorem Mono.trans {A B' C : Heap} (h1 : Mono A B') (h2 : Mono B' C) : Mono A C :=
  ⟨Nat.le_trans h1.1 h2.1, fun id hid n hn => h2.2 id (Nat.lt_of_lt_of_le hid h1.1) n (h1.2 id hid n hn)⟩

theorem Mono.of_le {H H' : Heap} (h : HeapLe H H') : Mono H H' :=
  ⟨by rw [h.length]; exact Nat.le_refl _, fun id _ n hn => h.rootDisabled id n hn⟩

theorem chainOf_cons_old (e : Entry) (H : Heap) (id : Nat) (h : id < H.length) :
    chainOf (e :: H) id = chainOf H id := by
  have : ¬ H.length = id := by omega
  rw [chainOf]; simp [this]

theorem Mono.alloc (H : Heap) (t : Tab) (p : Option Nat) : Mono H (alloc H t p).1 :=
  ⟨by simp [Model.Sym.alloc], fun id hid n hn => by
    simp only [Model.Sym.alloc]; rw [chainOf_cons_old _ _ _ hid]; exact hn⟩

theorem mem_foldl_setAdd (l : List Name) : ∀ (acc : List Name) (x : Name),
    x ∈ l.foldl setAdd acc ↔ x ∈ acc ∨ x ∈ l := by
  induction l with
  | nil => intro acc x; simp
  | cons a l ih =>
    intro acc x
    rw [List.foldl_cons, ih, mem_setAdd, List.mem_cons, or_assoc]

theorem newModuleTab_spec (ch : Chain) (t : Tab) (h : newModuleTab ch = .ok t) :
    t.store = [] ∧ ∀ n, n ∈ disabledSet t ↔ n ∈ rootDisabled ch := by
  unfold newModuleTab at h
  obtain ⟨m, h1, h2⟩ := bind_ok_inv h
  simp only [pure, Res.ok.injEq] at h2
  subst h2
  refine ⟨rfl, ?_⟩
  intro n
  rw [← disabledBuiltinsMap_getD ch m h1]
  cases m with
  | none => simp [disabledSet, copyMapStringSet]
  | some l => simp [disabledSet, copyMapStringSet, mem_foldl_setAdd]

theorem onChain_spec {α} (B : Builtins) (H : Heap) (h : Handle) (f : Chain → Res (Chain × α)) (k : α → Out)
    (hf : ∀ ch ch' a, ChainOK B ch → f ch = .ok (ch', a) → ChainRel B ch ch') (hH : HeapOK B H) :
    HeapOK B (onChain H h f k).1 ∧ HeapLe H (onChain H h f k).1 := by
  unfold onChain
  cases hr : f (tabsOf H h) with
  | ok v =>
    obtain ⟨ch', a⟩ := v
    cases h with
    | none => exact ⟨hH, HeapLe.refl _⟩
    | some id => exact writeChain_ok B H id ch' hH (hf _ _ _ (chainOf_ok B H id hH) hr)
  | err e => exact ⟨hH, HeapLe.refl _⟩
  | panic m => exact ⟨hH, HeapLe.refl _⟩

theorem tabsOf_ne_nil_lt {H : Heap} {h : Handle} {st : Tab} {r : Chain} (hh : tabsOf H h = st :: r) :
    ∃ id, h = some id ∧ id < H.length := by
  cases h with
  | none => simp [tabsOf] at hh
  | some id =>
    refine ⟨id, rfl, ?_⟩
    by_cases hlt : id < H.length
    · exact hlt
    · have : chainOf H id = [] := (chainOf_eq_nil_iff H id).2 (by omega)
      simp [tabsOf, this] at hh

def Covered (D : List Name) (H : Heap) (id : Nat) : Prop :=
  ∀ d, d ∈ D → d ∈ rootDisabled (tabs (chainOf H id))

def InFam (fam : List Nat) : Handle → Prop
  | none => False
  | some id => id ∈ fam

/-- the calls a compilation makes: only on its own tables; tables are created by `Fork`, by
    `compileModule` (from the compiler's table) and by the evaluator's `resetCompiler` -/
def LegalOp (fam : List Nat) : Op → Prop
  | .newTable => False
  | .fork h _ | .parent h _ | .defineLocal h _ | .defineGlobal h _ | .defineConstLit h _
  | .setParams h _ | .enableParams h _ | .resolve h _ | .disable h _ | .disabled h
  | .nextIndex h | .state h | .newModuleTable h => InFam fam h
  | .evalReset ev comp _ => ev = none ∧ InFam fam comp

def NoReset : Op → Prop
  | .evalReset (some _) _ _ => False
  | _ => True

def ReadOnly : Op → Prop
  | .parent _ _ | .disabled _ | .nextIndex _ | .state _ => True
  | _ => False

theorem step_readOnly (B : Builtins) (H : Heap) (op : Op) (h : ReadOnly op) : (step B H op).1 = H := by
  cases op with
  | parent _ _ | disabled _ | nextIndex _ | state _ => simp only [step]; split <;> rfl
  | _ => exact h.elim

theorem rootDisabled_alloc_root (H : Heap) (t : Tab) :
    rootDisabled (tabs (chainOf (alloc H t none).1 H.length)) = disabledSet t := by
  simp only [alloc]; rw [rootDisabled_chainOf_cons, if_pos rfl]

theorem fork_rootDisabled (B : Builtins) (H : Heap) (id : Nat) (block : Bool) (hid : id < H.length) :
    rootDisabled (tabs (chainOf (step B H (.fork (some id) block)).1 H.length)) =
    rootDisabled (tabs (chainOf H id)) := by
  have hne := tabs_chainOf_isEmpty hid
  simp only [step, tabsOf]
  split
  · rename_i hc
    exact absurd (hne.symm.trans (congrArg List.isEmpty hc)) Bool.false_ne_true
  · simp only [alloc]; rw [rootDisabled_chainOf_cons, if_pos rfl]
    exact if_pos hid

/-- `NoReset`: the evaluator resetting an existing table is the one call after which an old handle
    may be governed by a smaller set.  Last clause: a table that a legal call of a compilation
    allocates is covered like the tables of the compilation's family -/
abbrev StepOK (B : Builtins) (H : Heap) (op : Op) (X : Heap) : Prop :=
  HeapOK B X ∧ (NoReset op → Mono H X) ∧
  ∀ (D : List Name) (fam : List Nat), (∀ id, id ∈ fam → id < H.length ∧ Covered D H id) → LegalOp fam op →
    X.length = H.length + 1 → Covered D X H.length

/-- a call that leaves the number of tables alone allocates nothing -/
theorem StepOK.keep {B : Builtins} {H X : Heap} {op : Op} (h1 : HeapOK B X) (h2 : Mono H X) (h3 : X.length = H.length) :
    StepOK B H op X :=
  ⟨h1, fun _ => h2, fun _ _ _ _ hl => absurd (h3.symm.trans hl) (Nat.succ_ne_self _).symm⟩

theorem step_spec (B : Builtins) (H : Heap) (op : Op) (hH : HeapOK B H) : StepOK B H op (step B H op).1 := by
  have same : ReadOnly op → StepOK B H op (step B H op).1 := fun h => by
    rw [step_readOnly B H op h]; exact .keep hH (Mono.refl H) rfl
  have chain : ∀ {X : Heap}, HeapOK B X ∧ HeapLe H X → StepOK B H op X :=
    fun h => .keep h.1 (Mono.of_le h.2) h.2.length
  -- a new root table with an empty store, governed by its own set
  have root : ∀ (t : Tab), t.store = [] →
      (∀ (D : List Name) (fam : List Nat), (∀ id, id ∈ fam → id < H.length ∧ Covered D H id) → LegalOp fam op →
        ∀ d, d ∈ D → d ∈ disabledSet t) → StepOK B H op (alloc H t none).1 :=
    fun t ht hc => ⟨⟨(fun _ hp => nomatch hp), TabOK.empty ht, hH⟩, fun _ => Mono.alloc H t none,
      fun D fam hf hl _ d hd => by rw [rootDisabled_alloc_root]; exact hc D fam hf hl d hd⟩
  cases op with
  | parent _ _ | disabled _ | nextIndex _ | state _ => exact same trivial
  | newTable => exact root newTab rfl fun _ _ _ hl => hl.elim
  | fork h block =>
    cases hh : tabsOf H h with
    | nil => simp only [step, hh]; exact .keep hH (Mono.refl H) rfl
    | cons st r =>
      obtain ⟨id, rfl, hlt⟩ := tabsOf_ne_nil_lt hh
      refine ⟨?_, ?_, fun D fam hf hl _ d hd => ?_⟩
      · simp only [step, hh]
        exact ⟨fun p hp => Option.some.inj hp ▸ hlt, TabOK.empty rfl, hH⟩
      · simp only [step, hh]
        exact fun _ => Mono.alloc H _ _
      · rw [fork_rootDisabled B H id block hlt]
        exact (hf id hl).2 d hd
  | defineLocal h n =>
    refine chain (onChain_spec B H h _ _ (fun ch ch' a _ hf => ?_) hH)
    obtain ⟨⟨c, s, e⟩, h1, h2⟩ := bind_ok_inv hf
    cases h2
    exact (defineLocal_spec B ch n _ _ _ h1).1
  | defineConstLit h n =>
    refine chain (onChain_spec B H h _ _ (fun ch ch' a _ hf => ?_) hH)
    obtain ⟨⟨c, s, e⟩, h1, h2⟩ := bind_ok_inv hf
    cases h2
    exact defineConstLit_rel B ch n _ _ _ h1
  | defineGlobal h n =>
    exact chain (onChain_spec B H h _ _ (fun ch ch' a _ hf => defineGlobal_rel B _ ch n ch' a hf) hH)
  | setParams h ns =>
    exact chain (onChain_spec B H h _ _ (fun ch ch' a _ hf => setParams_rel B _ ch ns ch' a hf) hH)
  | enableParams h v =>
    refine chain (onChain_spec B H h _ _ (fun ch ch' a _ hf => ?_) hH)
    obtain ⟨c, h1, h2⟩ := bind_ok_inv hf
    cases h2
    exact enableParams_rel B ch v _ h1
  | resolve h n =>
    exact chain (onChain_spec B H h _ _ (fun ch ch' a hok hf => (resolve_rel B n ch ch' a hok hf).1) hH)
  | disable h ns =>
    refine chain (onChain_spec B H h _ _ (fun ch ch' a _ hf => ?_) hH)
    obtain ⟨c, h1, h2⟩ := bind_ok_inv hf
    cases h2
    exact (disableBuiltin_rel B ch ns _ h1).1
  | newModuleTable c =>
    simp only [step]
    cases hm : newModuleTab (tabsOf H c) with
    | ok t =>
      refine root t (newModuleTab_spec _ t hm).1 fun D fam hf hl d hd => ?_
      cases c with
      | none => exact hl.elim
      | some id => exact ((newModuleTab_spec _ t hm).2 d).2 ((hf id hl).2 d hd)
    | err e => exact .keep hH (Mono.refl H) rfl
    | panic m => exact .keep hH (Mono.refl H) rfl
  | evalReset ev comp scopes =>
    cases ev with
    | none =>
      simp only [step]
      cases hm : evalResetTab none (tabsOf H comp) scopes with
      | ok t =>
        refine root t (evalResetTab_adds _ _ _ _ hm).1 fun D fam hf hl d hd => ?_
        cases comp with
        | none => exact hl.2.elim
        | some id => exact ((evalResetTab_adds _ _ _ t hm).2 d).2 (.inl ((hf id hl.2).2 d hd))
      | err e => exact .keep hH (Mono.refl H) rfl
      | panic m => exact .keep hH (Mono.refl H) rfl
    | some id =>
      refine ⟨?_, fun hnr => hnr.elim, fun _ _ _ hl => nomatch hl.1⟩
      simp only [step]
      cases hh : tabsOf H (some id) with
      | nil => exact hH
      | cons st r =>
        simp only
        have h1 : HeapOK B (setEntry H id { tab := resetTab st, parent := none }) :=
          setEntry_ok B H id _ hH (TabOK.empty rfl) rfl
        cases hm : evalResetTab (some st) (tabsOf (setEntry H id { tab := resetTab st, parent := none }) comp) scopes with
        | ok t => exact setEntry_ok B _ id _ h1 (TabOK.empty (evalResetTab_adds _ _ _ _ hm).1) rfl
        | err e => exact h1
        | panic m => exact h1

theorem run_ok (B : Builtins) : ∀ (ops : List Op) (H : Heap), HeapOK B H → HeapOK B (run B H ops)
  | [], _, h => h
  | op :: ops, H, h => run_ok B ops _ (step_spec B H op h).1


theorem run_mono (B : Builtins) : ∀ (ops : List Op) (H : Heap), HeapOK B H → (∀ op, op ∈ ops → NoReset op) →
    Mono H (run B H ops)
  | [], H, _, _ => Mono.refl H
  | op :: ops, H, h, hn =>
    Mono.trans ((step_spec B H op h).2.1 (hn op List.mem_cons_self))
      (run_mono B ops _ (step_spec B H op h).1 fun o ho => hn o (List.mem_cons_of_mem _ ho))

theorem run_append (B : Builtins) : ∀ (a b : List Op) (H : Heap), run B H (a ++ b) = run B (run B H a) b
  | [], _, _ => rfl
  | x :: a, b, H => by simp [run, run_append B a b]

/-- `compileIdent` (compiler_nodes.go): what is emitted for an identifier -/
inductive IdentCode where
  | getGlobal (i : Int) | getLocal (i : Int) | getBuiltin (i : Int) | getFree (i : Int)
  | constLit | unresolved | goPanic
  deriving Repr, DecidableEq

def compileIdent (B : Builtins) (H : Heap) (h : Handle) (name : Name) : Heap × IdentCode :=
  -- symbol, ok := c.symbolTable.Resolve(node.Name)
  match resolve B (tabsOf H h) name with
  | .ok (ch', none) => (writeBack H h ch', .unresolved)   -- compile error (or the iota constant)
  | .ok (ch', some symbol) =>
    (writeBack H h ch',
      match symbol.scope with                              -- switch symbol.Scope
      | .global => .getGlobal symbol.index
      | .local => .getLocal symbol.index
      | .builtin => .getBuiltin symbol.index               -- c.emit(node, OpGetBuiltin, symbol.Index)
      | .free => .getFree symbol.index
      | .constLit => .constLit)
  | _ => (H, .goPanic)

inductive CEvent where
  /-- a call on a symbol table -/
  | api (op : Op)
  /-- `compileIdent` on the compiler's current table -/
  | ident (h : Handle) (name : Name)
  /-- `compileAssignStmt` with several left-hand sides: `GETBUILTIN BuiltinMakeArray` -/
  | destructure
  deriving Repr

structure CState where
  heap : Heap
  /-- tables that belong to this compilation (main table, scopes, module tables, evaluator tables) -/
  fam : List Nat
  /-- operands of the GETBUILTIN instructions emitted so far -/
  out : List Int

def cstep (B : Builtins) (mk : Nat) (s : CState) : CEvent → CState
  | .api op =>
    let H' := (step B s.heap op).1
    { heap := H', fam := if H'.length = s.heap.length + 1 then s.heap.length :: s.fam else s.fam, out := s.out }
  | .ident h name =>
    let (H', code) := compileIdent B s.heap h name
    { heap := H', fam := s.fam,
      out := match code with
        | .getBuiltin i => s.out ++ [i]
        | _ => s.out }
  | .destructure => { s with out := s.out ++ [(mk : Int)] }

def crun (B : Builtins) (mk : Nat) : CState → List CEvent → CState
  | s, [] => s
  | s, e :: es => crun B mk (cstep B mk s e) es

def LegalEvent (s : CState) : CEvent → Prop
  | .api op => LegalOp s.fam op
  | .ident h _ => InFam s.fam h
  | .destructure => True

def AllLegal (B : Builtins) (mk : Nat) : CState → List CEvent → Prop
  | _, [] => True
  | s, e :: es => LegalEvent s e ∧ AllLegal B mk (cstep B mk s e) es

def BInj (B : Builtins) : Prop := ∀ a b i, mapGet B a = some i → mapGet B b = some i → a = b

def GoodOperand (B : Builtins) (mk : Nat) (D : List Name) (i : Int) : Prop :=
  i = (mk : Int) ∨ ∀ d, d ∈ D → mapGet B d ≠ some i.toNat

structure CInv (B : Builtins) (mk : Nat) (D : List Name) (s : CState) : Prop where
  heap : HeapOK B s.heap
  fam : ∀ id, id ∈ s.fam → id < s.heap.length ∧ Covered D s.heap id
  out : ∀ i, i ∈ s.out → GoodOperand B mk D i

theorem LegalOp.noReset {fam : List Nat} {op : Op} (h : LegalOp fam op) : NoReset op := by
  cases op <;> try trivial
  rename_i ev comp sc
  cases ev with
  | none => trivial
  | some e => exact absurd h.1 (by simp)

theorem fam_mono {D : List Name} {fam : List Nat} {H H' : Heap} (hm : Mono H H')
    (h : ∀ id, id ∈ fam → id < H.length ∧ Covered D H id) : ∀ id, id ∈ fam → id < H'.length ∧ Covered D H' id :=
  fun id hid => ⟨Nat.lt_of_lt_of_le (h id hid).1 hm.1, fun d hd => hm.2 id (h id hid).1 d ((h id hid).2 d hd)⟩

theorem compileIdent_heap (B : Builtins) (H : Heap) (h : Handle) (name : Name) :
    (compileIdent B H h name).1 = (step B H (.resolve h name)).1 := by
  simp only [compileIdent, step, onChain]
  cases resolve B (tabsOf H h) name with
  | ok v => obtain ⟨ch', _ | s⟩ := v <;> rfl
  | err e => rfl
  | panic m => rfl

theorem compileIdent_getBuiltin (B : Builtins) (H : Heap) (id : Nat) (name : Name) (i : Int) (hH : HeapOK B H)
    (h : (compileIdent B H (some id) name).2 = .getBuiltin i) :
    ∃ s, s.index = i ∧ BuiltinAnswer B (tabs (chainOf H id)) name s := by
  unfold compileIdent at h
  split at h
  · cases h
  · rename_i ch' symbol hr
    dsimp only at h
    split at h <;> cases h
    rename_i hsc
    exact ⟨symbol, rfl, (resolve_rel B name _ ch' _ (chainOf_ok B H id hH) hr).2 symbol rfl hsc⟩
  · cases h

theorem cstep_inv (B : Builtins) (mk : Nat) (D : List Name) (hinj : BInj B) (s : CState) (e : CEvent)
    (hs : CInv B mk D s) (hl : LegalEvent s e) : CInv B mk D (cstep B mk s e) := by
  have emit : ∀ j, GoodOperand B mk D j → ∀ i, i ∈ s.out ++ [j] → GoodOperand B mk D i := fun j hj i hi => by
    rcases List.mem_append.1 hi with hi | hi
    · exact hs.out i hi
    · cases List.mem_singleton.1 hi
      exact hj
  cases e with
  | destructure => exact ⟨hs.heap, hs.fam, emit _ (Or.inl rfl)⟩
  | ident h name =>
    cases h with
    | none => exact hl.elim
    | some id =>
      have hsp := step_spec B s.heap (.resolve (some id) name) hs.heap
      rw [← compileIdent_heap] at hsp
      refine ⟨hsp.1, fam_mono (hsp.2.1 trivial) hs.fam, ?_⟩
      show ∀ i, i ∈ (match (compileIdent B s.heap (some id) name).2 with
        | .getBuiltin i => s.out ++ [i] | _ => s.out) → _
      split
      · rename_i j hc
        obtain ⟨sym, rfl, h1, _, h3, _⟩ := compileIdent_getBuiltin B _ id name j hs.heap hc
        exact emit _ (Or.inr fun d hd hmd => h1 (hinj d name _ hmd h3 ▸ (hs.fam id hl).2 d hd))
      · exact hs.out
  | api op =>
    have hsp := step_spec B s.heap op hs.heap
    have hold := fam_mono (D := D) (hsp.2.1 (LegalOp.noReset hl)) hs.fam
    refine ⟨hsp.1, ?_, hs.out⟩
    simp only [cstep]
    split
    · rename_i hlen
      intro j hj
      rcases List.mem_cons.1 hj with hj | hj
      · subst hj
        exact ⟨by omega, hsp.2.2 D s.fam hs.fam hl hlen⟩
      · exact hold j hj
    · exact hold

end UgoVerif.Proofs.Sym

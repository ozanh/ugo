import UgoVerif.Proofs.StreamDec
import UgoVerif.Model.V1
/-
  The version-1 converter (`Model/V1`, encoder/v1.go `convCompFuncV1ToV2`) over the judgement `Dec` of StreamDec: on a
  decodable stream each of its three loops (`hasJumpLoop`, `pass1`, `pass2`) has a closed form, by induction on the
  judgement; on arbitrary bytes the first pass rejects the stream or the stream is decodable (`pass1_err_or_dec`), so
  what is proved of its table (`NewPos`) holds whenever it returns one.  What is needed of the opcode tables of the two
  formats is checked by `decide` on the generated tables.
-/
namespace UgoVerif.Proofs.V1
open UgoVerif.Go UgoVerif.Gen.Opcodes UgoVerif.Model.Bytecode UgoVerif.Model.V1 UgoVerif.Proofs.Bytecode

theorem v1_table_supported : ∀ ws ∈ V1.opcodeOperandsTable, Supported ws := by decide

theorem v1_supported {op : Nat} {ws : List Nat} (h : V1.opcodeOperands op = some ws) : Supported ws :=
  v1_table_supported ws (List.mem_of_getElem? h)

theorem opWidth_of_v1 {op : Nat} {ws : List Nat} (h : V1.opcodeOperands op = some ws) :
    opWidthTable[op]? = some ws.sum := by
  unfold V1.opcodeOperands at h
  simp [opWidthTable, h]

theorem v1_of_opWidth {op w : Nat} (h : opWidthTable[op]? = some w) :
    ∃ ws, V1.opcodeOperands op = some ws ∧ ws.sum = w := by
  unfold opWidthTable at h
  simp only [List.getElem?_map] at h
  cases hv : V1.opcodeOperandsTable[op]? with
  | none => simp [hv] at h
  | some ws => simp [hv] at h; exact ⟨ws, hv, h⟩

/-- opcodes the converter does not re-encode have the same operand layout in both formats -/
theorem nonjump_same_table : ∀ op, op < V1.opcodeOperandsTable.length → isJumpClass op = false →
    V1.opcodeOperandsTable[op]? = opcodeOperandsTable[op]? := by decide

theorem nonjump_same {op : Nat} {ws : List Nat} (hj : isJumpClass op = false)
    (h : V1.opcodeOperands op = some ws) : opcodeOperands op = some ws := by
  have hlt : op < V1.opcodeOperandsTable.length := by
    unfold V1.opcodeOperands at h
    exact (List.getElem?_eq_some_iff.mp h).1
  have := nonjump_same_table op hlt hj
  unfold opcodeOperands; unfold V1.opcodeOperands at h
  rw [← this]; exact h

/-- the two shapes of re-encoded instructions: one 2→4 byte operand, or (SETUPTRY) two -/
theorem jump_shape {op : Nat} (h : isJumpClass op = true) :
    (V1.opcodeOperands op = some [2] ∧ opcodeOperands op = some [4] ∧
      makeInstructionLayout op = some [(0, 24), (0, 16), (0, 8), (0, 0)] ∧ op < 256)
    ∨ (V1.opcodeOperands op = some [2, 2] ∧ opcodeOperands op = some [4, 4] ∧
      makeInstructionLayout op = some [(0, 24), (0, 16), (0, 8), (0, 0), (1, 24), (1, 16), (1, 8), (1, 0)] ∧ op < 256) := by
  simp [isJumpClass, convJumpClass] at h
  rcases h with rfl | rfl | rfl | rfl | rfl
  · left; decide
  · left; decide
  · left; decide
  · left; decide
  · right; decide

theorem makeInstruction_1 {op a : Nat} (h2 : opcodeOperands op = some [4])
    (hl : makeInstructionLayout op = some [(0, 24), (0, 16), (0, 8), (0, 0)]) (ha : a ≤ 2147483647) :
    makeInstruction op [a] = .ok (UInt8.ofNat op :: beBytes 4 a) := by
  have : ¬ (2147483647 < a) := by omega
  simp [makeInstruction, h2, hl, makeInstructionMax, beBytes, this]

theorem makeInstruction_2 {op a b : Nat} (h2 : opcodeOperands op = some [4, 4])
    (hl : makeInstructionLayout op = some [(0, 24), (0, 16), (0, 8), (0, 0), (1, 24), (1, 16), (1, 8), (1, 0)])
    (ha : a ≤ 2147483647) (hb : b ≤ 2147483647) :
    makeInstruction op [a, b] = .ok (UInt8.ofNat op :: (beBytes 4 a ++ beBytes 4 b)) := by
  have : ¬ (2147483647 < a) := by omega
  have : ¬ (2147483647 < b) := by omega
  simp [makeInstruction, makeInstructionMax, beBytes, *]

/-- on a re-encoded opcode MakeInstruction never panics, whatever the operand values -/
theorem makeInstruction_no_panic_1 {op a : Nat} (h2 : opcodeOperands op = some [4])
    (hl : makeInstructionLayout op = some [(0, 24), (0, 16), (0, 8), (0, 0)]) :
    (makeInstruction op [a]).isPanic = false := by
  simp [makeInstruction, h2, hl, makeInstructionMax]
  split <;> simp [Res.isPanic]

theorem relocArg_le (φ : Nat → Nat) (hφ : ∀ p, p < 65536 → φ p ≤ 2147483647) (op v : Nat) (hv : v < 65536) :
    (if op ≠ convKeepZeroOp ∨ v ≠ 0 then φ v else v) ≤ 2147483647 := by
  split
  · exact hφ v hv
  · omega


abbrev Dec1 := Dec V1.opcodeOperands
abbrev Dec2 := Dec opcodeOperands

theorem Dec1.of_aux {f : Nat} {rest : Bytes} {i : Nat} {is : List Instr}
    (h : decodeAllAux V1.opcodeOperands f rest i = some is) : Dec1 rest i is :=
  Dec.of_aux (fun _ _ => v1_supported) h

theorem v2_of_v1 {op : Nat} {ws1 : List Nat} (h : V1.opcodeOperands op = some ws1) :
    ∃ ws2, opcodeOperands op = some ws2 ∧ ws1.sum ≤ ws2.sum ∧ ws2.sum ≤ 2 * ws1.sum + 1 ∧
      (isJumpClass op = false → ws2 = ws1) := by
  cases hj : isJumpClass op with
  | false => exact ⟨ws1, nonjump_same hj h, Nat.le_refl _, by omega, fun _ => rfl⟩
  | true =>
    rcases jump_shape hj with ⟨h1, h2, _⟩ | ⟨h1, h2, _⟩ <;>
      (rw [h] at h1; cases h1; exact ⟨_, h2, by decide, by decide, fun h => by cases h⟩)

theorem pass2_of_dec (φ : Nat → Nat) (sm : SrcMap) (hφ : ∀ p, p < 65536 → φ p ≤ 2147483647)
    {rest : Bytes} {i : Nat} {is : List Instr} (h : Dec1 rest i is) :
    ∀ (n f2 : Nat), rest.length < f2 →
      ∃ out m, pass2 φ sm f2 rest i n = .ok (out, m) ∧ Dec2 out n (relocInstrs φ is n) ∧
        m = convSm sm is (relocInstrs φ is n) ∧ out.length = v2len is := by
  induction h with
  | nil i =>
    intro n f2 hf
    obtain ⟨f2, rfl⟩ := fuel_succ hf
    exact ⟨[], [], rfl, .nil n, rfl, rfl⟩
  | @cons b tail i ws1 is' hws hs hsum _ ih =>
    intro n f2 hf
    obtain ⟨f2, rfl⟩ := fuel_succ hf
    have hw := opWidth_of_v1 hws
    have hro : readOperands ws1 tail = .ok (decodeArgs ws1 tail, tail.drop ws1.sum) := by rw [readOperands_eq hs, if_pos hsum]
    simp at hf
    -- What this instruction is converted to: `b :: enc` with `enc` as wide as the current table says, and
    -- `enc` reads back as the operands of the relocated instruction.  Three shapes: one 2-byte operand
    -- widened, two (SETUPTRY), or the operand bytes copied.
    obtain ⟨ws2, enc, h2, hel, hemit, hread⟩ : ∃ ws2 enc, opcodeOperands b.toNat = some ws2 ∧ enc.length = ws2.sum ∧
        (∀ out m, pass2 φ sm f2 (tail.drop ws1.sum) (i + (ws1.sum + 1)) (n + (ws2.sum + 1)) = .ok (out, m) →
          pass2 φ sm (f2 + 1) (b :: tail) i n =
            .ok (b :: (enc ++ out), (match sm.lookup i with | some p => [(n, p)] | none => []) ++ m)) ∧
        (∀ X, decodeArgs ws2 (enc ++ X) =
          if isJumpClass b.toNat then relocArgs φ b.toNat (decodeArgs ws1 tail) else decodeArgs ws1 tail) := by
      have h16 : ∀ bs : Bytes, bs.length ≤ 2 → beVal bs < 65536 := fun bs hl =>
        Nat.lt_of_lt_of_le (beVal_lt bs) (Nat.pow_le_pow_right (by decide) hl)
      by_cases hj : isJumpClass b.toNat = true
      · rcases jump_shape hj with ⟨h1, h2, hl, hop⟩ | ⟨h1, h2, hl, hop⟩
        · rw [hws] at h1; cases h1
          have hle := relocArg_le φ hφ b.toNat (beVal (tail.take 2)) (h16 _ (List.length_take_le _ _))
          refine ⟨_, beBytes 4 (if b.toNat ≠ convKeepZeroOp ∨ beVal (tail.take 2) ≠ 0 then φ (beVal (tail.take 2))
            else beVal (tail.take 2)), h2, by simp [beBytes_length], ?_, ?_⟩
          · intro out m hp
            simp at hp
            rw [pass2]
            simp only [hw, hj, hws, hro, decodeArgs, relocArgs, List.map, if_true]
            rw [makeInstruction_1 h2 hl hle]
            simp [beBytes_length, hp]
            cases sm.lookup i <;> rfl
          · intro X
            rw [decodeArgs_cons_beBytes (by omega)]
            simp [hj, relocArgs, decodeArgs]
        · rw [hws] at h1; cases h1
          have hle1 := relocArg_le φ hφ b.toNat (beVal (tail.take 2)) (h16 _ (List.length_take_le _ _))
          have hle2 := relocArg_le φ hφ b.toNat (beVal ((tail.drop 2).take 2)) (h16 _ (List.length_take_le _ _))
          refine ⟨_, beBytes 4 (if b.toNat ≠ convKeepZeroOp ∨ beVal (tail.take 2) ≠ 0 then φ (beVal (tail.take 2))
              else beVal (tail.take 2)) ++
            beBytes 4 (if b.toNat ≠ convKeepZeroOp ∨ beVal ((tail.drop 2).take 2) ≠ 0 then φ (beVal ((tail.drop 2).take 2))
              else beVal ((tail.drop 2).take 2)), h2, by simp [beBytes_length], ?_, ?_⟩
          · intro out m hp
            simp at hp
            rw [pass2]
            simp only [hw, hj, hws, hro, decodeArgs, relocArgs, List.map, if_true]
            rw [makeInstruction_2 h2 hl hle1 hle2]
            simp [beBytes_length, hp]
            cases sm.lookup i <;> rfl
          · intro X
            rw [List.append_assoc, decodeArgs_cons_beBytes (by omega), decodeArgs_cons_beBytes (by omega)]
            simp [hj, relocArgs, decodeArgs]
      · have hj' : isJumpClass b.toNat = false := by simpa using hj
        refine ⟨ws1, tail.take ws1.sum, nonjump_same hj' hws, by simp [Nat.min_eq_left hsum], ?_, ?_⟩
        · intro out m hp
          rw [pass2]
          have : ¬ tail.length < ws1.sum := by omega
          simp [hw, hj', this, hp, Nat.min_eq_left hsum]
          cases sm.lookup i <;> rfl
        · intro X
          rw [decodeArgs_take_append _ _ _ hsum, hj']
          rfl
    obtain ⟨out, m, hp, hd, hm, hol⟩ := ih (n + (ws2.sum + 1)) f2 (by simp; omega)
    have hdrop : (enc ++ out).drop ws2.sum = out := List.drop_left' hel
    refine ⟨b :: (enc ++ out), _, hemit out m hp, ?_, ?_, by simp [v2len, h2, hel, hol]; omega⟩
    · simp only [relocInstrs, h2, Option.getD_some, ← hread out]
      exact .cons h2 (v2_supported h2) (by simp [hel]) (by rw [hdrop]; exact hd)
    · simp [hm, relocInstrs, convSm, h2]
      cases sm.lookup i <;> rfl

/-- the entries of `newPos` for one instruction at offset `i` with `w` operand bytes -/
def seg (i w shift : Nat) : List Nat := (List.range (1 + w)).map (fun k => i + k + shift)

theorem seg_length (i w shift : Nat) : (seg i w shift).length = w + 1 := by simp [seg, Nat.add_comm]

theorem mem_seg {i w shift x : Nat} : x ∈ seg i w shift ↔ ∃ k, k ≤ w ∧ x = i + k + shift := by
  simp only [seg, List.mem_map, List.mem_range]
  exact ⟨fun ⟨k, hk, e⟩ => ⟨k, by omega, e.symm⟩, fun ⟨k, hk, e⟩ => ⟨k, by omega, e.symm⟩⟩

theorem pairwise_seg (i w shift : Nat) : (seg i w shift).Pairwise (· < ·) := by
  rw [seg, List.pairwise_map]
  exact List.Pairwise.imp (fun hab => by omega) List.pairwise_lt_range

theorem getElem?_seg_append (i w shift : Nat) (np : List Nat) (j : Nat) :
    (seg i w shift ++ np)[j]? = if j ≤ w then some (i + j + shift) else np[j - (w + 1)]? := by
  split
  · rw [List.getElem?_append_left (by rw [seg_length]; omega), seg, List.getElem?_map,
      List.getElem?_range (by omega)]
    rfl
  · rw [List.getElem?_append_right (by rw [seg_length]; omega), seg_length]

/-- One step of the first pass, the same for re-encoded and copied instructions: the shift grows by
    the difference of the two tables' widths, which is 0 where the tables agree. -/
theorem pass1_cons {f : Nat} {b : UInt8} {tail : Bytes} {i : Nat} {ws1 ws2 : List Nat}
    (h1 : V1.opcodeOperands b.toNat = some ws1) (h2 : opcodeOperands b.toNat = some ws2)
    (hsame : isJumpClass b.toNat = false → ws2 = ws1) (hsum : ws1.sum ≤ tail.length) (shift : Nat) :
    pass1 (f + 1) (b :: tail) i shift =
      match pass1 f (tail.drop ws1.sum) (i + (ws1.sum + 1)) (shift + ws2.sum - ws1.sum) with
      | .ok (np, sh) => .ok (seg i ws1.sum shift ++ np, sh)
      | .err e => .err e
      | .panic m => .panic m := by
  rw [pass1]
  simp only [opWidth_of_v1 h1, Nat.not_lt.mpr hsum, if_false]
  cases hj : isJumpClass b.toNat with
  | false => rw [hsame hj, Nat.add_sub_cancel]; rfl
  | true => simp only [h2, if_true]; rfl

theorem pass1_cons_cases (f : Nat) (b : UInt8) (tail : Bytes) (i shift : Nat) :
    (∃ e, pass1 (f + 1) (b :: tail) i shift = .err e) ∨
    ∃ ws1 ws2 : List Nat, V1.opcodeOperands b.toNat = some ws1 ∧ ws1.sum ≤ tail.length ∧ ws1.sum ≤ ws2.sum ∧
      ws2.sum ≤ 2 * ws1.sum + 1 ∧
      pass1 (f + 1) (b :: tail) i shift =
        match pass1 f (tail.drop ws1.sum) (i + (ws1.sum + 1)) (shift + ws2.sum - ws1.sum) with
        | .ok (np, sh) => .ok (seg i ws1.sum shift ++ np, sh)
        | .err e => .err e
        | .panic m => .panic m := by
  cases hw : opWidthTable[b.toNat]? with
  | none => exact .inl ⟨goErr "unknown opcode", by rw [pass1]; simp only [hw]⟩
  | some w =>
    obtain ⟨ws1, h1, rfl⟩ := v1_of_opWidth hw
    by_cases hl : tail.length < ws1.sum
    · exact .inl ⟨goErr "truncated instruction", by rw [pass1]; simp only [hw, hl, if_true]⟩
    · obtain ⟨ws2, h2, hle, hub, hsame⟩ := v2_of_v1 h1
      exact .inr ⟨ws1, ws2, h1, by omega, hle, hub, pass1_cons h1 h2 hsame (by omega) shift⟩

/-- what the table `np` of the first pass (one entry per offset `i … i + n`) and its final shift `sh` satisfy
    when the pass starts at offset `i` with `shift` -/
structure NewPos (np : List Nat) (sh i n shift : Nat) : Prop where
  length : np.length = n + 1
  shift_le : shift ≤ sh
  strict : np.Pairwise (· < ·)
  range : ∀ x ∈ np, i + shift ≤ x ∧ x ≤ i + n + sh
  small : shift ≤ i → sh ≤ i + n ∧ ∀ j x, np[j]? = some x → x ≤ 2 * (i + j)

theorem NewPos.nil (i shift : Nat) : NewPos [i + shift] shift i 0 shift := by
  refine ⟨rfl, Nat.le_refl _, by simp, by simp, fun hs => ⟨hs, fun j x hx => ?_⟩⟩
  cases j with
  | zero => simp at hx; omega
  | succ j => simp at hx

/-- the entries of one instruction with `w` operand bytes in front of the table of the rest, whose shift
    has grown by at most the instruction's version-1 size -/
theorem NewPos.cons {np : List Nat} {sh i n w shift shift' : Nat} (h : NewPos np sh (i + (w + 1)) n shift')
    (hge : shift ≤ shift') (hle : shift' ≤ shift + w + 1) :
    NewPos (seg i w shift ++ np) sh i (n + (w + 1)) shift := by
  obtain ⟨h1, hsh, h3, h4, h5⟩ := h
  refine ⟨by rw [List.length_append, seg_length, h1]; omega, by omega, ?_, fun x hx => ?_, fun hs => ?_⟩
  · refine List.pairwise_append.mpr ⟨pairwise_seg _ _ _, h3, fun a ha c hc => ?_⟩
    obtain ⟨k, hk, rfl⟩ := mem_seg.mp ha
    have := (h4 c hc).1
    omega
  · rcases List.mem_append.mp hx with hx | hx
    · obtain ⟨k, hk, rfl⟩ := mem_seg.mp hx
      omega
    · have := h4 x hx
      omega
  · obtain ⟨h6, h7⟩ := h5 (by omega)
    refine ⟨by omega, fun j x hx => ?_⟩
    rw [getElem?_seg_append] at hx
    split at hx
    · cases hx
      omega
    · have := h7 _ _ hx
      omega

/-- on a decodable stream the first pass succeeds, and any offset map that agrees with its table
    sends every old instruction offset to the offset the second pass emits it at -/
theorem pass1_of_dec {rest : Bytes} {i : Nat} {is : List Instr} (h : Dec1 rest i is) :
    ∀ (shift f2 : Nat), rest.length < f2 →
    ∃ np sh, pass1 f2 rest i shift = .ok (np, sh) ∧
      (∀ φ : Nat → Nat, (∀ j x, np[j]? = some x → φ (i + j) = x) →
        relocInstrs φ is (i + shift) = is.map (relocInstr φ)) ∧
      np[rest.length]? = some (i + shift + v2len is) ∧ NewPos np sh i rest.length shift := by
  induction h with
  | nil i =>
    intro shift f2 hf
    obtain ⟨f2, rfl⟩ := fuel_succ hf
    exact ⟨[i + shift], shift, rfl, fun φ _ => rfl, rfl, .nil i shift⟩
  | @cons b tail i ws1 is hws hs hsum _ ih =>
    intro shift f2 hf
    obtain ⟨f2, rfl⟩ := fuel_succ hf
    obtain ⟨ws2, h2, hle, hub, hsame⟩ := v2_of_v1 hws
    simp only [List.length_cons] at hf
    obtain ⟨np', sh, hp, hag, hlast, hnp⟩ := ih (shift + ws2.sum - ws1.sum) f2 (by rw [List.length_drop]; omega)
    refine ⟨seg i ws1.sum shift ++ np', sh, by rw [pass1_cons hws h2 hsame hsum, hp], fun φ hφ => ?_, ?_, ?_⟩
    · have h0 : φ i = i + shift := hφ 0 (i + 0 + shift) (by rw [getElem?_seg_append, if_pos (Nat.zero_le _)])
      have htl := hag φ fun j x hx => by
        rw [← hφ (j + (ws1.sum + 1)) x (by
          rw [getElem?_seg_append, if_neg (by omega), Nat.add_sub_cancel]; exact hx)]
        congr 1; omega
      simp only [relocInstrs, List.map, relocInstr, h2, Option.getD_some, h0]
      congr 1
      rw [← htl]; congr 1; omega
    · rw [getElem?_seg_append, if_neg (by rw [List.length_cons]; omega),
        show (b :: tail).length - (ws1.sum + 1) = (tail.drop ws1.sum).length by
          rw [List.length_drop, List.length_cons]; omega, hlast]
      simp only [v2len, h2, Option.getD_some]
      congr 1; omega
    · have := hnp.cons (shift := shift) (by omega) (by omega)
      rwa [List.length_drop, show tail.length - ws1.sum + (ws1.sum + 1) = (b :: tail).length by
        rw [List.length_cons]; omega] at this

theorem pass1_err_or_dec : ∀ (f : Nat) (rest : Bytes) (i shift : Nat), rest.length < f →
    (∃ e, pass1 f rest i shift = .err e) ∨ ∃ is, Dec1 rest i is
  | 0, _, _, _, h => by omega
  | _ + 1, [], i, _, _ => .inr ⟨[], .nil i⟩
  | f + 1, b :: tail, i, shift, hf => by
    rcases pass1_cons_cases f b tail i shift with ⟨e, he⟩ | ⟨ws1, ws2, hws, hl, _, _, he⟩
    · exact .inl ⟨e, he⟩
    · rcases pass1_err_or_dec f (tail.drop ws1.sum) (i + (ws1.sum + 1)) (shift + ws2.sum - ws1.sum)
          (by simp only [List.length_drop, List.length_cons] at hf ⊢; omega) with ⟨e, hr⟩ | ⟨is', hrec⟩
      · exact .inl ⟨e, by rw [he, hr]⟩
      · exact .inr ⟨_, .cons hws (v1_supported hws) hl hrec⟩

/-- a table the first pass returned, on any bytes: the stream was decodable -/
theorem pass1_inv {ins : Bytes} {np : List Nat} {sh : Nat} (hp : pass1 (ins.length + 1) ins 0 0 = .ok (np, sh)) :
    NewPos np sh 0 ins.length 0 := by
  rcases pass1_err_or_dec _ ins 0 0 (Nat.lt_succ_self _) with ⟨e, he⟩ | ⟨is, his⟩
  · rw [he] at hp; cases hp
  · obtain ⟨np', sh', hp', _, _, h⟩ := pass1_of_dec his 0 _ (Nat.lt_succ_self _)
    rw [hp] at hp'
    cases hp'
    exact h

theorem hasJump_no_panic : ∀ (f : Nat) (rest : Bytes), rest.length < f → (hasJumpLoop f rest).isPanic = false := by
  intro f
  induction f with
  | zero => intro rest h; omega
  | succ f ih =>
    intro rest hf
    cases rest with
    | nil => simp [hasJumpLoop, Res.isPanic]
    | cons b tail =>
      simp at hf
      rw [hasJumpLoop]
      split
      · simp [Res.isPanic]
      · split
        · simp [Res.isPanic]
        · exact ih _ (by simp; omega)

theorem hasJump_cons {f : Nat} {b : UInt8} {tail : Bytes} {ws1 : List Nat} (h1 : V1.opcodeOperands b.toNat = some ws1) :
    hasJumpLoop (f + 1) (b :: tail) =
      if isJumpClass b.toNat then .ok true else hasJumpLoop f (tail.drop ws1.sum) := by
  rw [hasJumpLoop, opWidth_of_v1 h1]

theorem hasJump_of_dec {rest : Bytes} {i : Nat} {is : List Instr} (h : Dec1 rest i is) :
    ∀ f, rest.length < f → hasJumpLoop f rest = .ok (is.any fun x => isJumpClass x.op) := by
  induction h with
  | nil i => intro f hf; obtain ⟨f, rfl⟩ := fuel_succ hf; rfl
  | cons hws _ hsum _ ih =>
    intro f hf
    obtain ⟨f, rfl⟩ := fuel_succ hf
    rw [hasJump_cons hws, List.any_cons]
    split
    · next hj => rw [hj]; rfl
    · next hj =>
      rw [ih f (by simp only [List.length_drop, List.length_cons] at hf ⊢; omega), Bool.eq_false_iff.mpr hj]
      rfl

theorem nojump_of_dec {rest : Bytes} {i : Nat} {is : List Instr} (h : Dec1 rest i is) :
    (∀ x ∈ is, isJumpClass x.op = false) → ∀ (shift f2 : Nat), rest.length < f2 →
    Dec2 rest i is ∧ ∃ np, pass1 f2 rest i shift = .ok (np, shift) ∧ ∀ j x, np[j]? = some x → x = i + j + shift := by
  induction h with
  | nil i =>
    intro _ shift f2 hf
    obtain ⟨f2, rfl⟩ := fuel_succ hf
    refine ⟨.nil i, [i + shift], rfl, fun j x hx => ?_⟩
    cases j with
    | zero => simp at hx; omega
    | succ j => simp at hx
  | @cons b tail i ws1 is hws hs hsum _ ih =>
    intro hno shift f2 hf
    obtain ⟨f2, rfl⟩ := fuel_succ hf
    have hj : isJumpClass b.toNat = false := hno _ List.mem_cons_self
    have h2 := nonjump_same hj hws
    simp only [List.length_cons] at hf
    obtain ⟨hd, np', hp, hnp⟩ := ih (fun x hx => hno x (List.mem_cons_of_mem _ hx)) shift f2 (by rw [List.length_drop]; omega)
    refine ⟨.cons h2 hs hsum hd, seg i ws1.sum shift ++ np', by
      rw [pass1_cons hws h2 (fun _ => rfl) hsum, Nat.add_sub_cancel, hp], fun j x hx => ?_⟩
    rw [getElem?_seg_append] at hx
    split at hx
    · cases hx
      rfl
    · have := hnp _ _ hx
      omega

end UgoVerif.Proofs.V1

import UgoVerif.Proofs.VMCallSiteOps
import UgoVerif.Proofs.VMLiveRun
/-
  The call-site invariant through CALL / CALLNAME and through whole runs.  The fact "the opcode byte at `vm.ip`
  of the current function is CALL / CALLNAME, and `G` holds there" (`CsInv G (some p)`) is established at the
  dispatch, where the byte has just been read (`step_inv`), and carried to the frame push, which stores `p + 2` in
  the caller's frame (`tr_callTail`).
-/
namespace UgoVerif.VM
open UgoVerif UgoVerif.Go

section
variable {G : Code → Nat → Prop}
local notation "PA" => CsInv G none

theorem CsTr.data_bind {α β} {o : Option Int} {m : M α} {f : α → M β} [Pres Ext m]
    (hf : ∀ a, CsTr (CsInv G o) PA (f a)) : CsTr (CsInv G o) PA (m >>= f) :=
  CsTr.bind_keeps CsInv.keeps_data (fun _ h => h.weaken) hf

/-- a branch that does not push (builtin call, tail call, error): the call-site part is dropped -/
theorem CsTr.drop {α} {o : Option Int} {m : M α} (h : Keeps PA m) : CsTr (CsInv G o) PA m :=
  CsTr.of_keeps h fun _ h => h.weaken

/-- `xOpCallCompiled`, every path: argument binding errors and the stack-overflow error return
    before any frame is touched, a self tail call reuses the current frame, the push stores
    `p0 + 2` in the caller's frame whose function has a CALL / CALLNAME opcode byte at `p0` -/
theorem cstr_callCompiled (p0 : Int) (fa : Addr) (na fl : Int) :
    CsTr (CsInv G (some p0)) PA (callCompiled fa na fl) := by
  rw [callCompiled_eq]
  refine CsTr.data_bind fun x => ?_
  unfold callRest
  repeat refine CsTr.data_bind fun _ => ?_
  split
  · exact CsTr.drop (Keeps.pure _)
  · refine CsTr.data_bind fun _ => CsTr.data_bind fun cf => CsTr.getIp_bind (fun _ h => h.1 _ rfl) ?_
    unfold callBody
    refine CsTr.ite ?_ (tr_callTail ..)
    repeat refine CsTr.data_bind fun _ => ?_
    exact CsTr.ite (CsTr.drop CsInv.keeps_frame) (tr_callTail ..)

theorem cstr_callAny (p0 : Int) (c : V) (na fl : Int) : CsTr (CsInv G (some p0)) PA (callAny c na fl) := by
  unfold callAny
  split
  · exact cstr_callCompiled ..
  · exact CsTr.drop CsInv.keeps_frame

theorem CsTr.call_bind (p0 : Int) (c : V) (na fl : Int) :
    CsTr (CsInv G (some p0)) PA (callAny c na fl >>= fun r => match r with
      | .ok () => pure Ctl.next
      | .error e => failWith e) :=
  CsTr.bind_then (cstr_callAny ..) fun r => by
    rcases r with e | ⟨⟨⟩⟩
    · exact ck_failWith e
    · exact Keeps.pure _

theorem cstr_execCall (p0 : Int) : CsTr (CsInv G (some p0)) PA execCall := by
  unfold execCall
  repeat refine CsTr.data_bind fun _ => ?_
  exact CsTr.call_bind ..

theorem cstr_execCallName (p0 : Int) : CsTr (CsInv G (some p0)) PA execCallName := by
  unfold execCallName
  repeat refine CsTr.data_bind fun _ => ?_
  -- what follows the test for a host object is a join point
  walk_jp (CsTr (CsInv G (some p0)) PA) by
    (refine CsTr.data_bind fun _ => ?_
     split
     · exact CsTr.drop (ck_failWith _)
     · repeat refine CsTr.data_bind fun _ => ?_
       exact CsTr.call_bind ..)
  split
  · exact CsTr.data_bind fun _ => by keeps_hyp
  · keeps_hyp

theorem ck_dispatch_other (F : FloatOps) (op : Nat) (h1 : op ≠ OpCall) (h2 : op ≠ OpCallName) :
    Keeps PA (dispatch F op) := by
  -- an opcode that neither calls, returns nor unwinds: the frame walk (`FrameRel (Carries PA)`)
  apply dispatch_cases (P := Keeps PA) <;> intros <;> first
    | exact CsInv.keeps_frame
    | (with_reducible simp only [keeps_rule]; done)
    | exact absurd ‹_› h1
    | exact absurd ‹_› h2

/-- `dispatch`: at a CALL / CALLNAME the call-site part of the invariant is needed in addition -/
theorem cstr_dispatch (F : FloatOps) (op : Nat) (p0 : Int) :
    CsTr (CsInv G (if op = OpCall ∨ op = OpCallName then some p0 else none)) PA (dispatch F op) := by
  split
  · rename_i h
    rcases h with rfl | rfl
    · exact cstr_execCall p0
    · exact cstr_execCallName p0
  · rename_i h
    exact CsTr.drop (ck_dispatch_other F op (fun e => h (.inl e)) fun e => h (.inr e))

theorem cs_instAt_ok {i : Int} {op : Nat} {s s' : State} (h : exec (instAt i) s = (.ok op, s')) :
    s' = s ∧ ∃ fa c fr, (s.frames[s.curFrame]!).fn = some fa ∧ s.heap[fa]? = some (Cell.fn c fr) ∧ 0 ≤ i ∧
      i < ((s.codes[c]!).insts.size : Int) ∧ ((s.codes[c]!).insts[i.toNat]!).toNat = op := by
  rw [instAt, exec_bind, show exec curCode s = _ from Proofs.Fetch.exec_curCode s] at h
  cases hfn : (s.frames[s.curFrame]!).fn with
  | none => simp only [hfn] at h; cases h
  | some fa =>
    cases hc : s.heap[fa]? with
    | none => simp only [hfn, hc] at h; cases h
    | some x =>
      simp only [hfn, hc] at h
      cases x <;> try cases h
      rename_i c fr
      simp only at h
      split at h <;> cases h
      rename_i hb
      simp only [Bool.or_eq_true, decide_eq_true_eq, not_or, Int.not_lt, ge_iff_le, Int.not_le] at hb
      exact ⟨rfl, fa, c, fr, rfl, hc, hb.1, hb.2, rfl⟩

/-- from an instruction boundary where the invariant holds and `G` is known for the instruction about to be
    dispatched, the invariant holds in the state `step` leaves: at the next boundary, at a `return` of the loop,
    at a Go panic site, and when the run leaves the model -/
theorem step_inv (F : FloatOps) :
    CsTr (fun s => CsInv G none s ∧ (s.err = none → DispG G s)) PA (step F) := by
  apply CsTr.intro'; intro s ⟨hA, hD⟩
  -- `vm.ip++`, then the opcode byte is read there
  have hA1 : CsInv G none { s with ip := s.ip + 1 } := .of_csf fun he => (hA.2 he).1
  unfold step
  rw [exec_bind, show exec (bumpIp 1) s = (.ok (), { s with ip := s.ip + 1 }) from rfl]
  simp only
  rw [exec_bind, show exec getIp { s with ip := s.ip + 1 } = (.ok (s.ip + 1), { s with ip := s.ip + 1 }) from rfl]
  simp only
  rw [exec_bind]
  have k1 := (CsInv.keeps_data (m := instAt (s.ip + 1))).elim _ hA1
  rcases hx : exec (instAt (s.ip + 1)) { s with ip := s.ip + 1 } with ⟨r, s2⟩
  rw [hx] at k1
  cases r with
  | error x => exact k1
  | ok op =>
    obtain ⟨rfl, fa, c, fr, hfn, hheap, h0, hlt, hop⟩ := cs_instAt_ok hx
    refine (CsTr.data_bind fun _ => cstr_dispatch F op (s.ip + 1)).elim _ ?_
    split
    · rename_i hcall
      exact ⟨fun _ hp => by cases hp; rfl, fun he => ⟨(hA.2 he).1, fun _ hp => by
        cases hp; exact ⟨fa, c, fr, hfn, hheap, h0, hlt, hop ▸ hcall, hD he fa c fr hfn hheap⟩⟩⟩
    · exact hA1

theorem CsInv.of_callSites {s : State} (h : CallSites G s) : CsInv G none s :=
  .of_csf fun _ => (callSites_iff G s).mp h

theorem CsInv.callSites {o : Option Int} {s : State} (h : CsInv G o s) (he : s.err = none) : CallSites G s :=
  (callSites_iff G s).mpr (h.2 he).1

/-- however `step` ends (`.next`, `.ret`, a Go panic, leaving the model): if `vm.err` is not set in the state it
    leaves, the call-site invariant holds there -/
theorem step_callSites_any (F : FloatOps) {s : State} (hcs : CallSites G s) (hd : DispG G s)
    (he : (exec (step F) s).2.err = none) : CallSites G (exec (step F) s).2 :=
  ((step_inv (G := G) F).elim s ⟨CsInv.of_callSites hcs, fun _ => hd⟩).callSites he

/-- `handlePanic` (run on the partial state a Go panic leaves) keeps the invariant: it throws a
    script error from that state, or sets `vm.err` -/
theorem handlePanic_inv (m : String) : Keeps PA (handlePanic m) := by
  unfold handlePanic; ckeeps (CsInv G none)

/-- an instruction panics (Go run-time panic at any panic site of any
    opcode), `handlePanic` turns the panic into a thrown script error which a handler takes
    (`vm.err` stays unset): the loop is re-entered at a state with the call-site invariant. -/
theorem handlePanic_callSites (F : FloatOps) {s : State} (hcs : CallSites G s) (hd : DispG G s)
    (msg : String) (s1 : State) (hstep : exec (step F) s = (.error (.panic msg), s1))
    (he : (exec (handlePanic msg) s1).2.err = none) : CallSites G (exec (handlePanic msg) s1).2 := by
  have h1 := (step_inv (G := G) F).elim s ⟨CsInv.of_callSites hcs, fun _ => hd⟩
  rw [hstep] at h1
  exact ((handlePanic_inv (G := G) msg).elim s1 h1).callSites he

theorem callSites_init {s : State} (h0 : s.curFrame = 0) (h1 : s.frameIndex = 1)
    (hsz : s.frames.size = frameSize) : CallSites G s :=
  { link := by rw [h0, h1]; rfl
    size := hsz
    lt := by rw [h0]; decide
    inv := fun i hi => by rw [h0] at hi; exact absurd hi (Nat.not_lt_zero i) }

end

@[reducible] def FramesSz (n : Nat) (s : State) : Prop := s.frames.size = n

section
variable {n : Nat}
theorem FramesSz.keeps_data {α} {m : M α} [Pres Ext m] : Keeps (FramesSz n) m :=
  Keeps.of_ext fun s s' hs e => by show s'.frames.size = n; rw [e.2.2.1]; exact hs
attribute [keeps_rule] FramesSz.keeps_data

end

theorem prologueB_ok {s s' : State} (h : exec prologueB s = (.ok (), s')) :
    ∃ c fr, s.heap[s.mainFn]? = some (Cell.fn c fr) ∧ s' = entered s c fr := by
  rw [exec_prologueB] at h
  split at h <;> cases h
  exact ⟨_, _, ‹_›, rfl⟩

theorem prologue_ok {X : State → Prop} {g : V} {args : List V} (hA : Keeps X (prologueA g)) (hL : Keeps X (initLocals args))
    {s s' : State} (hs : X s) (h : exec (prologue g args) s = (.ok (), s')) :
    ∃ s2, X s2 ∧ exec prologueB s2 = (.ok (), s') := by
  rw [prologue_eq, exec_bind] at h
  have k1 := hA.elim s hs
  rcases h1 : exec (prologueA g) s with ⟨r1, s1⟩
  rw [h1] at h k1
  cases r1 with
  | error x => cases h
  | ok u1 =>
    simp only at h k1
    rw [exec_bind] at h
    have k2 := hL.elim s1 k1
    rcases h2 : exec (initLocals args) s1 with ⟨r2, s2⟩
    rw [h2] at h k2
    cases r2 with
    | error x => cases h
    | ok u2 => exact ⟨s2, k2, h⟩

section
variable {G : Code → Nat → Prop}

theorem callSites_prologue (g : V) (args : List V) {s s' : State} (hsz : s.frames.size = frameSize)
    (h : exec (prologue g args) s = (.ok (), s')) : CallSites G s' := by
  obtain ⟨s2, k, h2⟩ := prologue_ok (X := FramesSz frameSize) (by unfold prologueA; ckeeps (FramesSz frameSize))
    FramesSz.keeps_data hsz h
  obtain ⟨c, fr, _, rfl⟩ := prologueB_ok h2
  exact callSites_init rfl rfl (by simpa using k)

/-- the states at which `loop` fetches an instruction: the state after the prologue; the state
    after an instruction that completed with `continue`; the state after a recovered Go panic
    (`run()` is called again) -/
inductive Boundary (F : FloatOps) (s0 : State) : State → Prop where
  | init : Boundary F s0 s0
  | step {s s' : State} : Boundary F s0 s → exec (step F) s = (.ok .next, s') → Boundary F s0 s'
  | recover {s s1 s' : State} {msg : String} : Boundary F s0 s → exec (step F) s = (.error (.panic msg), s1) →
      exec (handlePanic msg) s1 = (.ok (), s') → s'.err = none → Boundary F s0 s'

theorem boundary_keeps (F : FloatOps) {s0 : State} {B : State → Prop} (h0 : B s0)
    (hstep : ∀ s, Boundary F s0 s → B s → B (exec (step F) s).2) (hrec : ∀ msg, Keeps B (handlePanic msg)) :
    ∀ s, Boundary F s0 s → B s := by
  intro s hb
  induction hb with
  | init => exact h0
  | step hb h ih =>
    have h1 := hstep _ hb ih
    rw [h] at h1; exact h1
  | @recover _ _ _ msg hb h hp _ ih =>
    have h1 := hstep _ hb ih
    rw [h] at h1
    have h2 := (hrec msg).elim _ h1
    rw [hp] at h2; exact h2

theorem reach_inv (F : FloatOps) {s0 : State} (h0 : CsInv G none s0)
    (hD : ∀ s, Boundary F s0 s → s.err = none → DispG G s) : ∀ s, Boundary F s0 s → CsInv G none s :=
  boundary_keeps F h0 (fun s hb h => (step_inv (G := G) F).elim s ⟨h, hD s hb⟩) (handlePanic_inv (G := G))

/-- `CallSites` is satisfiable: a new VM after `frameIndex = 1` -/
example (codes : Array Code) (heap : Array Cell) (consts : Array V) (mainFn : Addr) (nm : Nat) :
    CallSites (fun _ _ => True) { newState codes heap consts mainFn nm with frameIndex := 1 } :=
  callSites_init rfl rfl (by simp [newState, emptyFrames])

/-- a `return` that pops a frame: the new current frame is suspended at a CALL / CALLNAME of its
    own function, `vm.ip` is that frame's saved `ip` (the last operand byte of the call) -/
theorem execReturn_resumes {s s' : State} (hcs : CallSites G s)
    (h : exec execReturn s = (.ok .next, s')) (he : s'.err = none) :
    s'.ip = (s'.frames[s'.curFrame]!).ip ∧ CallAt G s' (s'.frames[s'.curFrame]!) (s'.ip - 2) := by
  rw [execReturn_eq, exec_bind] at h
  have k := (CsInv.keeps_data (m := retHead)).elim s (CsInv.of_callSites hcs)
  rcases hx : exec retHead s with ⟨r, s1⟩
  rw [hx] at h k
  cases r with
  | error x => cases h
  | ok u =>
    -- of the ways the tail can end only the pop to a parent that has a function is `.next`
    simp only at h k
    rw [exec_retTail] at h
    split at h; · cases h
    split at h; · cases h
    rename_i h2
    split at h <;> cases h
    obtain ⟨hl, _, _, hinv⟩ := (k.2 he).1
    have := toNat_lt_of_inFrames h2
    refine ⟨rfl, ?_⟩
    show CallAtF G s1.heap s1.codes ((s1.frames.modify s1.curFrame clearF)[(s1.frameIndex - 2).toNat]!).fn
      (((s1.frames.modify s1.curFrame clearF)[(s1.frameIndex - 2).toNat]!).ip - 2)
    rw [getElem!_modify_of_ne _ _ (by omega)]
    exact hinv _ (by omega)

end

/-- the index `searchFrames` returns is the first one below `n`, going down, whose frame has a handler; all
    frames passed had none (`exec_searchFrames`, Proofs/FrameOps.lean, also says which frames are cleared) -/
theorem searchFrames_result (n : Nat) (s : State) (hn : n ≤ frameSize) :
    (∀ i, (exec (searchFrames n) s).1 = .ok (some i) ↔
      (i < n ∧ hasHandler (s.frames[i]!) = true ∧ ∀ j, i < j → j < n → hasHandler (s.frames[j]!) = false)) ∧
    ((exec (searchFrames n) s).1 = .ok none ↔ ∀ j, j < n → hasHandler (s.frames[j]!) = false) := by
  rw [exec_searchFrames, if_neg (Nat.not_lt.mpr hn)]
  simp only [Except.ok.injEq, searched_eq_some, searched_eq_none, implies_true, and_self]

end UgoVerif.VM

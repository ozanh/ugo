import UgoVerif.Proofs.ExecAtStartsData
/-
  Call-site invariant of the frame stack: every frame below the current one is suspended at
  a CALL / CALLNAME instruction of its own function (`frame.ip - 2` is the offset of that
  opcode byte), so that `OpReturn` and `throw` resume a caller right behind a call
  instruction.

  The invariant `CsInv G o` is closed under `Ext` (`Proofs/ExecAtStartsData.lean`), so every data
  primitive keeps it; frame push, frame pop and `throw` are proved on the state.
-/
namespace UgoVerif.VM
open UgoVerif UgoVerif.Go

/-- frame `f` belongs to a heap function cell whose code has a CALL / CALLNAME opcode byte at `p`,
    and `G code p` holds (G = whatever was known at every dispatch, e.g. "p is an instruction start") -/
def CallAt (G : Code → Nat → Prop) (s : State) (f : Frame) (p : Int) : Prop :=
  ∃ fa c fr, f.fn = some fa ∧ s.heap[fa]? = some (Cell.fn c fr) ∧ 0 ≤ p ∧
    p < ((s.codes[c]!).insts.size : Int) ∧
    (((s.codes[c]!).insts[p.toNat]!).toNat = OpCall ∨ ((s.codes[c]!).insts[p.toNat]!).toNat = OpCallName) ∧
    G (s.codes[c]!) p.toNat

def CallInv (G : Code → Nat → Prop) (s : State) : Prop :=
  ∀ i : Nat, i < s.curFrame → CallAt G s (s.frames[i]!) ((s.frames[i]!).ip - 2)

structure CallSites (G : Code → Nat → Prop) (s : State) : Prop where
  link : (s.curFrame : Int) + 1 = s.frameIndex
  size : s.frames.size = frameSize
  lt : s.curFrame < frameSize
  inv : CallInv G s

/-- what is known when the instruction at `s.ip + 1` of the current function is dispatched -/
def DispG (G : Code → Nat → Prop) (s : State) : Prop :=
  ∀ fa c fr, (s.frames[s.curFrame]!).fn = some fa → s.heap[fa]? = some (Cell.fn c fr) →
    G (s.codes[c]!) (s.ip + 1).toNat

@[reducible] def CallAtF (G : Code → Nat → Prop) (heap : Array Cell) (codes : Array Code)
    (fn : Option Addr) (p : Int) : Prop :=
  ∃ fa c fr, fn = some fa ∧ heap[fa]? = some (Cell.fn c fr) ∧ 0 ≤ p ∧
    p < ((codes[c]!).insts.size : Int) ∧
    (((codes[c]!).insts[p.toNat]!).toNat = OpCall ∨ ((codes[c]!).insts[p.toNat]!).toNat = OpCallName) ∧
    G (codes[c]!) p.toNat

theorem callAt_iff (G : Code → Nat → Prop) (s : State) (f : Frame) (p : Int) :
    CallAt G s f p ↔ CallAtF G s.heap s.codes f.fn p := Iff.rfl

@[reducible] def CSF (G : Code → Nat → Prop) (frames : Array Frame) (cur : Nat) (fi : Int)
    (heap : Array Cell) (codes : Array Code) : Prop :=
  (cur : Int) + 1 = fi ∧ frames.size = frameSize ∧ cur < frameSize ∧
    ∀ i : Nat, i < cur → CallAtF G heap codes (frames[i]!).fn ((frames[i]!).ip - 2)

theorem callSites_iff (G : Code → Nat → Prop) (s : State) :
    CallSites G s ↔ CSF G s.frames s.curFrame s.frameIndex s.heap s.codes :=
  ⟨fun h => ⟨h.link, h.size, h.lt, h.inv⟩, fun h => ⟨h.1, h.2.1, h.2.2.1, h.2.2.2⟩⟩

/-- the invariant carried through one instruction, on every path (normal end, Go panic, leaving
    the model).  `o = none`: the call-site invariant holds unless `vm.err` is set.
    `o = some p` (between the dispatch of a CALL / CALLNAME at `p` and the frame push): in
    addition `vm.ip = p` and the current function has a CALL / CALLNAME opcode byte at `p`. -/
@[reducible] def CsInv (G : Code → Nat → Prop) (o : Option Int) (s : State) : Prop :=
  (∀ p, o = some p → s.ip = p) ∧
  (s.err = none → CSF G s.frames s.curFrame s.frameIndex s.heap s.codes ∧
    ∀ p, o = some p → CallAtF G s.heap s.codes (s.frames[s.curFrame]!).fn p)

theorem callAtF_mono {G : Code → Nat → Prop} {heap heap' : Array Cell} {codes : Array Code}
    {fn : Option Addr} {p : Int}
    (hh : ∀ (a c : Nat) (f : Option (List Addr)), heap[a]? = some (Cell.fn c f) → heap'[a]? = some (Cell.fn c f))
    (h : CallAtF G heap codes fn p) : CallAtF G heap' codes fn p := by
  obtain ⟨fa, c, fr, h1, h2, h3⟩ := h
  exact ⟨fa, c, fr, h1, hh _ _ _ h2, h3⟩

theorem CsInv.of_frame {G : Code → Nat → Prop} {o : Option Int} {s s' : State} (h : CsInv G o s)
    (hip : s'.ip = s.ip) (herr : s'.err = s.err) (hfr : s'.frames = s.frames)
    (hc : s'.curFrame = s.curFrame) (hfi : s'.frameIndex = s.frameIndex) (hcodes : s'.codes = s.codes)
    (hheap : ∀ (a c : Nat) (f : Option (List Addr)), s.heap[a]? = some (Cell.fn c f) → s'.heap[a]? = some (Cell.fn c f)) :
    CsInv G o s' := by
  refine ⟨by rw [hip]; exact h.1, fun he => ?_⟩
  rw [herr] at he
  obtain ⟨hcs, hca⟩ := h.2 he
  rw [hfr, hc, hfi, hcodes]
  exact ⟨⟨hcs.1, hcs.2.1, hcs.2.2.1, fun i hi => callAtF_mono hheap (hcs.2.2.2 i hi)⟩,
    fun p hp => callAtF_mono hheap (hca p hp)⟩

theorem CsInv.of_csf {G : Code → Nat → Prop} {s : State}
    (h : s.err = none → CSF G s.frames s.curFrame s.frameIndex s.heap s.codes) : CsInv G none s :=
  ⟨fun _ hp => (nomatch hp), fun he => ⟨h he, fun _ hp => (nomatch hp)⟩⟩

theorem CsInv.weaken {G : Code → Nat → Prop} {o : Option Int} {s : State} (h : CsInv G o s) : CsInv G none s :=
  .of_csf fun he => (h.2 he).1

theorem CsInv.of_err {G : Code → Nat → Prop} {s : State} (h : s.err ≠ none) : CsInv G none s :=
  .of_csf fun he => absurd he h

theorem CsInv.congr_none {G : Code → Nat → Prop} {s s' : State} (h : CsInv G none s)
    (herr : s'.err = s.err) (hfr : s'.frames = s.frames)
    (hc : s'.curFrame = s.curFrame) (hfi : s'.frameIndex = s.frameIndex) (hcodes : s'.codes = s.codes)
    (hheap : s'.heap = s.heap) : CsInv G none s' := by
  refine .of_csf fun he => ?_
  rw [herr] at he
  rw [hfr, hc, hfi, hcodes, hheap]
  exact (h.2 he).1

section
variable {G : Code → Nat → Prop} {o : Option Int}
local notation "P" => CsInv G o
local notation "PA" => CsInv G none

theorem CsInv.of_ext {s s' : State} (h : CsInv G o s) (e : Ext s s') : CsInv G o s' :=
  h.of_frame e.1 e.2.1 e.2.2.1 e.2.2.2.1 e.2.2.2.2.1 e.2.2.2.2.2.1 e.2.2.2.2.2.2.1

theorem CsInv.keeps_data {α} {m : M α} [Pres Ext m] : Keeps P m :=
  Keeps.of_ext fun _ _ => CsInv.of_ext
attribute [keeps_rule] CsInv.keeps_data

/-- allocation of any cell, a function cell included (CLOSURE) -/
@[keeps_rule] theorem ck_alloc (c : Cell) : Keeps P (alloc c) := by
  apply Keeps.intro'; intro s h
  show CsInv G o { s with heap := s.heap.push c }
  refine CsInv.of_frame h rfl rfl rfl rfl rfl rfl ?_
  intro a' c' f' hs
  exact (Cfi.push_fn_iff s.heap c a' c' f').mpr (.inl hs)

@[keeps_rule] theorem ck_setIp (v : Int) : Keeps PA (setIp v) := by
  apply Keeps.intro'; intro s h
  show CsInv G none { s with ip := v }
  exact .of_csf fun he => (h.2 he).1

/-- the invariant speaks of the frames below the current one: it survives going down to a frame `i`
    (RETURN, `throw`) together with any change of the frames from `i` on -/
theorem csf_down {frames frames' : Array Frame} {cur i : Nat} {fi fi' : Int} {heap : Array Cell} {codes : Array Code}
    (h : CSF G frames cur fi heap codes) (hi : i ≤ cur) (hfi : (i : Int) + 1 = fi') (hsz : frames'.size = frames.size)
    (hfr : ∀ j, j < i → frames'[j]! = frames[j]!) : CSF G frames' i fi' heap codes :=
  ⟨hfi, hsz.trans h.2.1, Nat.lt_of_le_of_lt hi h.2.2.1, fun j hj => by rw [hfr j hj]; exact h.2.2.2 j (by omega)⟩

theorem csf_modify_cur {frames : Array Frame} {cur : Nat} {fi : Int} {heap : Array Cell} {codes : Array Code}
    (h : CSF G frames cur fi heap codes) (g : Frame → Frame) : CSF G (frames.modify cur g) cur fi heap codes :=
  csf_down h (Nat.le_refl _) h.1 (by simp) fun _ hj => getElem!_modify_of_ne _ _ (Nat.ne_of_gt hj)

@[keeps_rule] theorem ck_setCurFrame (g : Frame → Frame) : Keeps PA (setCurFrame g) := by
  apply Keeps.intro'; intro s h
  rw [exec_setCurFrame]
  exact .of_csf fun he => csf_modify_cur (h.2 he).1 g

/-- `CsInv G none` goes along with every write that leaves the frames below the current one alone: the
    opcode functions that neither call, return nor unwind keep it by the walk of Proofs/Frame.lean -/
instance : FrameRel (Carries PA) where
  refl _ h := h
  trans h1 h2 h := h2 (h1 h)
  stack s i v h := h.of_ext (DataRel.stack s i v)
  trace s tr n h := h.of_ext (DataRel.trace s tr n)
  heap s hp hs h := h.of_ext (DataRel.heap s hp hs)
  sp s v h := h.of_ext (SpRel.sp s v)
  ip s v := (ck_setIp v).elim s
  frame s g := (ck_setCurFrame g).elim s
  alloc s c := (ck_alloc c).elim s
  err _ _ _ := CsInv.of_err (fun hc => by cases hc)

@[keeps_rule] theorem CsInv.keeps_frame {α} {m : M α} [h : Pres (Carries PA) m] : Keeps PA m := Keeps.iff_pres.mpr h

@[keeps_rule] theorem ck_clearCurrentFrame : Keeps PA (clearCurrentFrame) := by unfold clearCurrentFrame; exact CsInv.keeps_frame

/-- from `X` to `Y` on every path -/
def CsTr {α} (X Y : State → Prop) (m : M α) : Prop := ∀ s, X s → Y (exec m s).2

theorem CsTr.iff_hq {α} {X Y : State → Prop} {m : M α} : CsTr X Y m ↔ Hq X (fun _ => Y) (fun _ => Y) m := by
  refine forall_congr' fun s => imp_congr_right fun _ => ?_
  show Y (exec m s).2 ↔ match exec m s with | (.ok _, s') => Y s' | (.error _, s') => Y s'
  rcases exec m s with ⟨r, s'⟩
  cases r <;> exact Iff.rfl

theorem CsTr.of_keeps {α} {X Y : State → Prop} {m : M α} (h : Keeps Y m) (w : ∀ s, X s → Y s) : CsTr X Y m :=
  iff_hq.2 ((Keeps.iff_hq.1 h).pre w)

theorem CsTr.bind_keeps {α β} {X Y : State → Prop} {m : M α} {f : α → M β} (hm : Keeps X m)
    (w : ∀ s, X s → Y s) (hf : ∀ a, CsTr X Y (f a)) : CsTr X Y (m >>= f) :=
  iff_hq.2 (((Keeps.iff_hq.1 hm).conseq (fun _ h => h) (fun _ _ h => h) fun _ => w).bind fun a => iff_hq.1 (hf a))

theorem CsTr.bind_then {α β} {X Y : State → Prop} {m : M α} {f : α → M β} (hm : CsTr X Y m)
    (hf : ∀ a, Keeps Y (f a)) : CsTr X Y (m >>= f) :=
  iff_hq.2 ((iff_hq.1 hm).bind fun a => Keeps.iff_hq.1 (hf a))

theorem CsTr.ite {α} {X Y : State → Prop} {c : Prop} [Decidable c] {a b : M α} (ha : CsTr X Y a) (hb : CsTr X Y b) :
    CsTr X Y (if c then a else b) := by split <;> assumption

theorem CsTr.getIp_bind {β} {X Y : State → Prop} {p0 : Int} {f : Int → M β} (hip : ∀ s, X s → s.ip = p0)
    (hf : CsTr X Y (f p0)) : CsTr X Y (getIp >>= f) :=
  iff_hq.2 (Hq.getIp_bind_of hip (iff_hq.1 hf))

theorem tr_callTail (fa : Addr) (free : Option (List Addr)) (bp p0 nl : Int) :
    CsTr (CsInv G (some p0)) PA (callTail fa free bp p0 nl) := by
  intro s h
  rw [exec_callTail]
  by_cases h1 : s.frameIndex + 1 > (frameSize : Int) - 1
  · rw [if_pos h1]; exact h.weaken
  · rw [if_neg h1]
    by_cases h2 : (decide (s.frameIndex < 0) || decide (s.frameIndex ≥ (frameSize : Int))) = true
    · rw [if_pos h2]; exact h.weaken
    · rw [if_neg h2]
      refine .of_csf fun he => ?_
      have he' : s.err = none := he
      obtain ⟨⟨hl, hsz, hlt, hinv⟩, hca⟩ := h.2 he'
      have hca := hca p0 rfl
      simp only [Bool.or_eq_true, decide_eq_true_eq, not_or, Int.not_lt, ge_iff_le, Int.not_le] at h2
      have hk : s.frameIndex.toNat = s.curFrame + 1 := by omega
      refine ⟨?_, ?_, ?_, ?_⟩
      · show ((s.frameIndex.toNat : Nat) : Int) + 1 = s.frameIndex + 1
        omega
      · show ((s.frames.modify s.curFrame _).modify s.frameIndex.toNat (enterF fa free bp)).size = frameSize
        simpa using hsz
      · show s.frameIndex.toNat < frameSize
        simp only [frameSize] at h1 ⊢; omega
      · intro i hi
        have hi' : i < s.curFrame + 1 := by rw [← hk]; exact hi
        show CallAtF G s.heap s.codes
          (((s.frames.modify s.curFrame fun f => { f with ip := p0 + 2 }).modify s.frameIndex.toNat (enterF fa free bp))[i]!).fn
          ((((s.frames.modify s.curFrame fun f => { f with ip := p0 + 2 }).modify s.frameIndex.toNat (enterF fa free bp))[i]!).ip - 2)
        by_cases hic : i = s.curFrame
        · subst hic
          rw [dm_c _ _ _ _ _ (by rw [hsz]; exact hlt) (by omega)]
          show CallAtF G s.heap s.codes (s.frames[s.curFrame]!).fn (p0 + 2 - 2)
          have : p0 + 2 - 2 = p0 := by omega
          rw [this]; exact hca
        · rw [dm_other _ _ _ _ _ _ (by omega) (by omega)]
          exact hinv i (by omega)

theorem CsTr.elim {α} {X Y : State → Prop} {m : M α} (h : CsTr X Y m) (s : State) (hs : X s) : Y (exec m s).2 := h s hs
theorem CsTr.intro' {α} {X Y : State → Prop} {m : M α} (h : ∀ s, X s → Y (exec m s).2) : CsTr X Y m := h
attribute [irreducible] CsTr

@[keeps_rule] theorem ck_retTail : Keeps PA retTail := by
  apply Keeps.intro'; intro s h
  rw [exec_retTail]
  split
  · exact h
  split
  · exact .of_csf fun he => csf_modify_cur (h.2 he).1 clearF
  · rename_i h2
    have hpop : CsInv G none (popped s) := .of_csf fun he => by
      have hl := (h.2 he).1.1
      have := toNat_lt_of_inFrames h2
      exact csf_down (h.2 he).1 (i := (s.frameIndex - 2).toNat) (by omega) (by show _ = s.frameIndex - 1; omega) Array.size_modify
        fun j hj => getElem!_modify_of_ne _ _ (by omega)
    split <;> exact hpop

@[keeps_rule] theorem ck_execReturn : Keeps PA execReturn := by
  rw [execReturn_eq]
  exact Keeps.bind CsInv.keeps_data (fun _ => ck_retTail)

/-- `throw` up to the choice of the handling frame: unless no frame has a handler (the error is
    returned to be stored in `vm.err`) the invariant holds again — the handling frame is current,
    the frames below it are untouched -/
theorem throwPre_inv (err : Addr) :
    Hq PA (fun r s => match r with | none => PA s | some r' => r' = none → PA s) (fun _ => PA) (throwPre err) := by
  refine Hq.of_cases (throwPre_to err) fun s h r t ht => ?_
  have key : ∀ i, (searched s.frames (s.frameIndex - 1).toNat).1 = some i → s.err = none →
      CSF G (searched s.frames (s.frameIndex - 1).toNat).2 i ((i : Int) + 1) s.heap s.codes := fun i hi he => by
    have hl := (h.2 he).1.1
    have := (searched_some hi).1
    exact csf_down (h.2 he).1 (by omega) rfl (searched_size _ _) fun j hj =>
      searched_get_of_lt (by rw [hi]; exact Nat.lt_succ_of_lt hj)
  cases ht with
  | here => exact h
  | range => exact h
  | unhandled => exact nofun
  | nilFn m _ _ i hi => exact .of_csf (key i hi)
  | found _ _ i hi => exact .of_csf (key i hi)

/-- `throw`: unless the error comes back unhandled (to be stored in `vm.err`) the invariant is kept -/
theorem throwF_inv (fuel : Nat) (err : Addr) : Hq PA (fun r s => r = none → PA s) (fun _ => PA) (throwF fuel err) :=
  Hq.throwF (X := fun _ => PA) (fun _ => throwPre_inv err)
    (fun _ => (Keeps.iff_hq.1 (CsInv.keeps_frame (m := handlePre err))).post fun r s h => by
      cases r with
      | none => exact h
      | some r' => exact fun _ => h)
    (fun _ _ h => h) fuel

/-- a continuation of `throw` that stores the unhandled error in `vm.err` -/
theorem ck_throwF_bind {β} (fuel : Nat) (err : Addr) (f : Option Addr → M β) (h0 : Keeps PA (f none))
    (h1 : ∀ a s, PA (exec (f (some a)) s).2) : Keeps PA (throwF fuel err >>= f) :=
  Keeps.iff_hq.2 (Hq.bind (throwF_inv fuel err) fun r => by
    cases r with
    | none => exact (Keeps.iff_hq.1 h0).pre fun _ h => h rfl
    | some a => exact CsTr.iff_hq.1 (CsTr.intro' fun s _ => h1 a s))

@[keeps_rule] theorem ck_failWith (e : OpErr) : Keeps PA (failWith e) := by
  rw [failWith_eq]
  unfold throwNow
  exact Keeps.bind CsInv.keeps_data fun ra => Keeps.bind CsInv.keeps_data fun n =>
    ck_throwF_bind n ra _ (Keeps.pure _) fun a s => CsInv.of_err nofun

theorem ck_setErr (f : State → State) (hf : ∀ s, (f s).err ≠ none) : Keeps PA (modS f) :=
  Keeps.modS (fun s _ => CsInv.of_err (hf s))
macro_rules | `(tactic| ck_leaf) => `(tactic| apply ck_setErr; exact fun _ => Option.some_ne_none _)

/-- `throw` followed by "store the unhandled error in `vm.err`" -/
macro_rules | `(tactic| ck_bind) => `(tactic|
  (apply ck_throwF_bind
   case h1 => intro a s; simp only [exec_bind, exec_modS, exec_pure]; exact CsInv.of_err (fun hc => by cases hc)))

instance (e : OpErr) : Pres (Carries PA) (failWith e) := Keeps.iff_pres.mp (ck_failWith e)

instance (i : Nat) (v : V) : Pres (Carries PA) (modS fun s => { s with modules := s.modules.set! i v }) :=
  ⟨fun _ h => h.congr_none rfl rfl rfl rfl rfl rfl⟩
@[keeps_rule] theorem ck_execThrow : Keeps PA (execThrow) := by unfold execThrow; ckeeps (CsInv G none)

end
end UgoVerif.VM

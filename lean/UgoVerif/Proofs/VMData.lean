import UgoVerif.Proofs.Frame
/-
  The heap primitives of the VM model (`heapGet … copyV`, the object-layer operations `vString …
  vIndexSet`) read the heap and write the heap, nothing else.  `HeapOnly m` says it once, as a fact about
  two runs: from states with the same heap `m` gives the same result and the same new heap, and leaves
  every other field alone.  Each calculus whose state relation makes the heaps of the two sides equal
  turns it into its own rule by one lemma (`Live.of_heapOnly`, `Foot.of_heapOnly`, `Reloc.rel_of_data`).

  What such a primitive does to function cells is a frame condition: `Pres HeapMoves m` (Proofs/Frame.lean).
-/
namespace UgoVerif.CompSim
open UgoVerif UgoVerif.Go UgoVerif.VM UgoVerif.Proofs.ModCache

structure HeapOnly {α} (m : M α) : Prop where
  h : ∀ s t : State, t.heap = s.heap → exec m t = ((exec m s).1, { t with heap := (exec m s).2.heap })

theorem ho_pure {α} (a : α) : HeapOnly (pure a : M α) := ⟨fun s t h => by simp only [exec_pure]; rw [← h]⟩
theorem ho_throw {α} (e : Exc) : HeapOnly (throw e : M α) := ⟨fun s t h => by
  show ((.error e, t) : Except Exc α × State) = (.error e, { t with heap := s.heap }); rw [← h]⟩
theorem ho_panic {α} (msg : String) : HeapOnly (VM.panic msg : M α) := ho_throw _
theorem ho_unsupported {α} (msg : String) : HeapOnly (VM.unsupported msg : M α) := ho_throw _

theorem ho_bind {α β} {m : M α} {f : α → M β} (hm : HeapOnly m) (hf : ∀ a, HeapOnly (f a)) : HeapOnly (m >>= f) := by
  constructor
  intro s t h
  rw [exec_bind, exec_bind, hm.h s t h]
  cases hr : exec m s with
  | mk r s1 =>
    cases r with
    | ok a =>
      simp only
      rw [(hf a).h s1 { t with heap := s1.heap } rfl]
    | error e => rfl

theorem ho_ite {α} (c : Prop) [Decidable c] {a b : M α} (ha : HeapOnly a) (hb : HeapOnly b) : HeapOnly (if c then a else b) := by
  split <;> assumption

theorem ho_getS_bind {α} {f : State → M α} (h1 : ∀ s t : State, t.heap = s.heap → f t = f s) (h2 : ∀ s, HeapOnly (f s)) :
    HeapOnly (getS >>= f) := by
  constructor
  intro s t h
  rw [exec_getS_bind, exec_getS_bind, h1 s t h]
  exact (h2 s).h s t h

theorem ho_heapGet (a : Addr) : HeapOnly (heapGet a) := by
  unfold heapGet
  refine ho_getS_bind (fun s t h => by rw [h]) fun s => ?_
  split
  · exact ho_pure _
  · exact ho_unsupported _

theorem ho_heapSet (a : Addr) (c : Cell) : HeapOnly (heapSet a c) :=
  ⟨fun s t h => by show ((.ok (), { t with heap := t.heap.set! a c }) : Except Exc Unit × State) = _; rw [h]; rfl⟩

theorem ho_alloc (c : Cell) : HeapOnly (alloc c) :=
  ⟨fun s t h => by
    show ((.ok t.heap.size, { t with heap := t.heap.push c }) : Except Exc Addr × State) = _; rw [h]; rfl⟩

theorem ho_copyV (v : V) : HeapOnly (copyV v) :=
  ⟨fun s t h => by
    unfold copyV
    rw [exec_getS_bind, exec_getS_bind, h]
    split
    · rfl
    · exact (ho_unsupported _).h s t h⟩

attribute [heap_only] ho_heapGet ho_heapSet ho_alloc ho_copyV

syntax "ho_prim" : tactic
macro_rules | `(tactic| ho_prim) => `(tactic| exact ho_pure _)
macro_rules | `(tactic| ho_prim) => `(tactic| exact ho_panic _)
macro_rules | `(tactic| ho_prim) => `(tactic| exact ho_unsupported _)
macro_rules | `(tactic| ho_prim) => `(tactic| exact ho_throw _)
macro_rules | `(tactic| ho_prim) => `(tactic| simp only [heap_only])

macro "ho_step" : tactic => `(tactic| first
  | with_reducible ho_prim
  | (apply ho_bind)
  | (intro _)
  | (apply ho_ite)
  | (split)
  | (dsimp only))

macro "honly" : tactic => `(tactic| repeat' ho_step)

@[heap_only] theorem ho_heapUpd (a : Addr) (c : Cell) : HeapOnly (heapUpd a c) := by unfold heapUpd; honly
@[heap_only] theorem ho_boxSet (a : Addr) (v : V) : HeapOnly (boxSet a v) := by unfold boxSet; honly
@[heap_only] theorem ho_arrElems (a : Addr) (off len : Nat) : HeapOnly (arrElems a off len) := by unfold arrElems; honly
@[heap_only] theorem ho_mapEntries (a : Addr) : HeapOnly (mapEntries a) := by unfold mapEntries; honly
@[heap_only] theorem ho_vString (v : V) : HeapOnly (vString v) := by unfold vString; honly
@[heap_only] theorem ho_isFalsy (v : V) : HeapOnly (isFalsy v) := by unfold isFalsy; honly
@[heap_only] theorem ho_newArray (xs : List V) : HeapOnly (newArray xs) := by unfold newArray; honly
@[heap_only] theorem ho_mkErr (n m : String) (c : Option Addr) : HeapOnly (mkErr n m c) := by unfold mkErr; honly
theorem ho_vEqual (F : FloatOps) (l r : V) : HeapOnly (vEqual F l r) := by
  unfold vEqual
  apply ho_getS_bind
  · intro s t h
    simp only [h]
  · intro s
    honly
theorem ho_vBinaryOp (F : FloatOps) (tok : Tok) (l r : V) : HeapOnly (vBinaryOp F tok l r) := by unfold vBinaryOp; honly
theorem ho_vUnary (F : FloatOps) (tok : Tok) (r : V) : HeapOnly (vUnary F tok r) := by unfold vUnary; honly
theorem ho_rtErrOfOpErr (e : OpErr) : HeapOnly (rtErrOfOpErr e) := by unfold rtErrOfOpErr; honly
@[heap_only] theorem ho_vIndexGet (t i : V) : HeapOnly (vIndexGet t i) := by unfold vIndexGet; honly
@[heap_only] theorem ho_vIndexSet (t i v : V) : HeapOnly (vIndexSet t i v) := by unfold vIndexSet; honly
@[heap_only] theorem ho_callBuiltin (i : Nat) (args : List V) : HeapOnly (callBuiltin i args) := by unfold callBuiltin; honly
attribute [heap_only] ho_vEqual ho_vBinaryOp ho_vUnary ho_rtErrOfOpErr

end UgoVerif.CompSim

namespace UgoVerif.VM
open UgoVerif UgoVerif.Go

def HeapMoves (s t : State) : Prop := HeapStep s.heap t.heap

instance : SpRel HeapMoves where
  refl s := HeapStep.refl s.heap
  trans := HeapStep.trans
  stack s _ _ := HeapStep.refl s.heap
  trace s _ _ := HeapStep.refl s.heap
  heap _ _ h := h
  sp s _ := HeapStep.refl s.heap

end UgoVerif.VM

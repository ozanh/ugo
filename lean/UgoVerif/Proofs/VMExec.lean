import UgoVerif.Proofs.Fetch
/-
  What the VM model's operations compute, as rewriting rules for `exec m s` (run a model computation
  on a state; defined in Proofs/Frame): the primitive accessors, the stack loops, and `execThrow` with
  operand 0, on which Props/C03 rests.
-/
namespace UgoVerif.Proofs.VMExec
open UgoVerif UgoVerif.Go UgoVerif.VM UgoVerif.Proofs.ModCache

theorem exec_ite {α} (c : Prop) [Decidable c] (a b : M α) (s : State) :
    exec (if c then a else b) s = if c then exec a s else exec b s := by split <;> rfl

theorem exec_modS (f : State → State) (s : State) : exec (modS f) s = (.ok (), f s) := rfl
theorem exec_curFrame (s : State) : exec curFrame s = (.ok (s.frames[s.curFrame]!), s) := rfl
theorem exec_setCurFrame (f : Frame → Frame) (s : State) :
    exec (setCurFrame f) s = (.ok (), { s with frames := s.frames.modify s.curFrame f }) := rfl
theorem exec_getSp (s : State) : exec getSp s = (.ok s.sp, s) := rfl
theorem exec_setSp (v : Int) (s : State) : exec (setSp v) s = (.ok (), { s with sp := v }) := rfl
theorem exec_getIp (s : State) : exec getIp s = (.ok s.ip, s) := rfl
theorem exec_setIp (v : Int) (s : State) : exec (setIp v) s = (.ok (), { s with ip := v }) := rfl
theorem exec_bumpIp (n : Int) (s : State) : exec (bumpIp n) s = (.ok (), { s with ip := s.ip + n }) := rfl

export UgoVerif.Proofs.Fetch (exec_getS exec_stackSet exec_stackGet exec_pushV)

theorem exec_heapSet (a : Addr) (c : Cell) (s : State) :
    exec (heapSet a c) s = (.ok (), { s with heap := s.heap.set! a c }) := rfl

/-- handler stack of the current frame (innermost first) -/
def handlersOf (s : State) : Option (List Handler) := (s.frames[s.curFrame]!).handlers

theorem hasHandler_cons (f : Frame) (h : Handler) (r : List Handler) (hh : f.handlers = some (h :: r)) :
    hasHandler f = true := by simp only [hasHandler, hh]

theorem lastHandler_cons (f : Frame) (h : Handler) (r : List Handler) (hh : f.handlers = some (h :: r)) :
    lastHandler f = some h := by simp only [lastHandler, hh]

theorem setLast_cons (f : Frame) (g : Handler → Handler) (h : Handler) (r : List Handler)
    (hh : f.handlers = some (h :: r)) : setLast f g = { f with handlers := some (g h :: r) } := by
  simp only [setLast, hh]

theorem popHandler_cons (f : Frame) (h : Handler) (r : List Handler)
    (hh : f.handlers = some (h :: r)) : popHandler f = { f with handlers := some r } := by
  simp only [popHandler, hh]

theorem frames_modify_modify (fs : Array Frame) (i : Nat) (g1 g2 : Frame → Frame) :
    (fs.modify i g1).modify i g2 = fs.modify i fun f => g2 (g1 f) := by
  ext j h1 h2
  · simp
  · simp only [Array.getElem_modify]; split <;> rfl

theorem exec_forIn_list_stackSet (v : V) (l : List Nat) (s : State)
    (f : Nat → Int) (hb : ∀ k ∈ l, 0 ≤ f k ∧ f k < (stackSize : Int)) :
    exec (forIn l () (fun k _ => do stackSet (f k) v; pure (ForInStep.yield ()))) s =
      (.ok (), { s with stack := l.foldl (fun st k => st.set! (f k).toNat v) s.stack }) := by
  induction l generalizing s with
  | nil => simp [exec_pure]
  | cons k r ih =>
    simp only [List.forIn_cons, exec_bind]
    rw [exec_stackSet _ _ _ (hb k (by simp))]
    simp only [exec_pure]
    rw [ih _ (fun k hk => hb k (by simp [hk]))]
    simp

theorem foldl_set_get? (st : Array V) (v : V) (g : Nat → Nat) (l : List Nat) (j : Nat) :
    (l.foldl (fun st k => st.set! (g k) v) st)[j]? =
      if (∃ k ∈ l, g k = j) ∧ j < st.size then some v else st[j]? := by
  induction l generalizing st with
  | nil => simp
  | cons k r ih =>
    simp only [List.foldl_cons]
    rw [ih]
    by_cases hk : g k = j
    · subst hk
      by_cases hs : g k < st.size <;> simp [Array.set!_eq_setIfInBounds, hs]
    · by_cases hr : ∃ k' ∈ r, g k' = j <;> simp [Array.set!_eq_setIfInBounds, hr, hk]

theorem foldl_set_size (st : Array V) (v : V) (g : Nat → Nat) (l : List Nat) :
    (l.foldl (fun st k => st.set! (g k) v) st).size = st.size := by
  induction l generalizing st with
  | nil => rfl
  | cons k r ih => rw [List.foldl_cons, ih]; simp [Array.set!_eq_setIfInBounds]

theorem exec_range_stackSet (v : V) (n : Nat) (s : State) (f : Nat → Int)
    (hb : ∀ k, k < n → 0 ≤ f k ∧ f k < (stackSize : Int)) :
    exec (forIn [:n] PUnit.unit (fun k _ => do stackSet (f k) v; pure (ForInStep.yield PUnit.unit))) s =
      (.ok PUnit.unit, { s with stack := (List.range' 0 n).foldl (fun st k => st.set! (f k).toNat v) s.stack }) := by
  simp only [Std.Legacy.Range.forIn_eq_forIn_range', Std.Legacy.Range.size]
  have := exec_forIn_list_stackSet v (List.range' 0 n) s f (by
    intro k hk; simp [List.mem_range'] at hk; exact hb k (by omega))
  simpa using this

theorem exec_alloc (c : Cell) (s : State) : exec (alloc c) s = (.ok s.heap.size, { s with heap := s.heap.push c }) := rfl

theorem exec_newArray (xs : List V) (s : State) :
    exec (newArray xs) s = (.ok (.arr s.heap.size 0 xs.length), { s with heap := s.heap.push (.arr xs.toArray) }) := by
  unfold newArray
  simp only [exec_bind, exec_alloc, exec_pure]

theorem exec_stackSlice (lo hi : Int) (s : State) (h : 0 ≤ lo ∧ lo ≤ hi ∧ hi ≤ (stackSize : Int)) :
    exec (stackSlice lo hi) s = (.ok ((s.stack.toList.drop lo.toNat).take (hi - lo).toNat), s) := by
  unfold stackSlice
  have : ¬ ((decide (lo < 0) || decide (hi > (stackSize : Int)) || decide (lo > hi)) = true) := by
    simp; omega
  simp only [this, Bool.false_eq_true, ↓reduceIte, exec_bind, exec_getS, exec_pure]

def cleared (st : Array V) (hi lo : Int) : Array V :=
  (List.range' 0 (hi - lo + 1).toNat).foldl (fun st (k : Nat) => st.set! (hi - (k : Int)).toNat .nil) st

theorem cleared_of_lt (st : Array V) {hi lo : Int} (h : hi < lo) : cleared st hi lo = st := by
  unfold cleared
  rw [show (hi - lo + 1).toNat = 0 by omega]
  rfl

theorem exec_clearDown (hi lo : Int) (s : State) (h : lo ≤ hi → 0 ≤ lo ∧ hi < (stackSize : Int)) :
    exec (clearDown hi lo) s = (.ok (), { s with stack := cleared s.stack hi lo }) := by
  unfold clearDown
  rw [exec_bind, exec_range_stackSet .nil _ s (fun k => hi - (k : Int)) fun k hk => by omega]
  rfl

theorem exec_cutBack {α} (s : State) (lim : Int) (k : M α) (h : lim ≤ s.sp → 0 ≤ lim ∧ s.sp < (stackSize : Int)) :
    exec (do
      let sp ← getSp
      if sp ≥ lim then clearDown sp lim
      setSp lim
      k) s = exec k { s with stack := cleared s.stack s.sp lim, sp := lim } := by
  simp only [exec_bind, exec_getSp]
  by_cases hs : s.sp ≥ lim
  · simp only [hs, if_true, exec_bind, exec_clearDown _ _ _ h, exec_setSp]
  · simp only [hs, if_false, cleared_of_lt _ (Int.not_le.mp hs)]
    rfl

/-- THROW 0 (end of a try statement or of its finally block) on a frame with a handler: the innermost
    handler `h` is removed; its pending error is thrown again, else its pending jump is resumed with
    the operand stack cut back to `h.sp`, else execution goes on. -/
theorem exec_throw_zero (s : State) (h : Handler) (r : List Handler) (hh : handlersOf s = some (h :: r))
    (hop : exec (opnd1 1) s = (.ok 0, s)) :
    exec execThrow s =
      match h.err with
      | some e =>
        (match exec (do let fuel ← throwFuel; throwF fuel e)
            ({ s with ip := s.ip + 1, frames := s.frames.modify s.curFrame popHandler } : State) with
         | (.ok none, s') => (.ok .next, s')
         | (.ok (some a), s') => (.ok .ret, { s' with err := some (.rt a) })
         | (.error x, s') => (.error x, s'))
      | none =>
        if h.returnTo > 0 then
          exec (do
            let sp ← getSp
            if sp ≥ h.sp then clearDown sp h.sp
            setSp h.sp
            setIp (h.returnTo - 1)
            return .next)
            { s with ip := s.ip + 1, frames := s.frames.modify s.curFrame popHandler }
        else (.ok .next, { s with ip := s.ip + 1, frames := s.frames.modify s.curFrame popHandler }) := by
  have hl : lastHandler (s.frames[s.curFrame]!) = some h := lastHandler_cons _ h r hh
  unfold execThrow
  simp only [exec_bind, hop, exec_bumpIp, exec_curFrame, beq_self_eq_true, if_true, hl]
  cases h.err with
  | none => simp only [exec_ite, exec_bind, exec_setCurFrame, exec_pure]
  | some e =>
    simp only [exec_bind, exec_setCurFrame]
    rcases exec throwFuel _ with ⟨(x | fuel), s1⟩
    · rfl
    · dsimp only
      rcases exec (throwF fuel e) s1 with ⟨(x | (_ | a)), s2⟩ <;> rfl
end UgoVerif.Proofs.VMExec

import UgoVerif.Proofs.C07Calc
/-
  `bytecode_immutable`, model half: no action of the VM model assigns the fields that make up
  the shared Bytecode (`codes`, `consts`, `mainFn`, `numModules`), no instruction assigns
  `globals`, and no function cell of the heap is ever overwritten: all overwrites of existing
  cells go through `heapUpd` (same-kind update of an array / map / iterator cell) and `boxSet`
  (write through an `*ObjectPtr`); `alloc` and `Copy()` only append.

  `Fixes` allows every write the model has (`StoreRel`), so the walk of Proofs/Frame.lean gives
  `Pres Fixes` of every primitive, every opcode function, `step`, `loopF` and `handlePanic`; a
  predicate that `Fixes` preserves (`Inert`) is kept by each of them.
-/
namespace UgoVerif.VM
open UgoVerif UgoVerif.Go

@[reducible] def HasBC (codes : Array Code) (consts : Array V) (mainFn : Addr) (nm : Nat) (s : State) : Prop :=
  s.codes = codes ∧ s.consts = consts ∧ s.mainFn = mainFn ∧ s.numModules = nm

/-- the globals field of the state is `G` (the globals OBJECT may be mutated in the heap) -/
@[reducible] def GlobIs (G : V) (s : State) : Prop := s.globals = G

@[reducible] def FnStable (h0 : Array Cell) (s : State) : Prop :=
  ∀ (a : Nat) (c : Nat) (f : Option (List Addr)), h0[a]? = some (Cell.fn c f) → s.heap[a]? = some (Cell.fn c f)

def Fixes (s s' : State) : Prop :=
  HasBC s.codes s.consts s.mainFn s.numModules s' ∧ GlobIs s.globals s' ∧ FnStable s.heap s'

theorem Fixes.refl (s : State) : Fixes s s := ⟨⟨rfl, rfl, rfl, rfl⟩, rfl, fun _ _ _ h => h⟩

def Inert (P : State → Prop) : Prop := ∀ s s', Fixes s s' → P s → P s'

theorem HasBC.inert {codes consts mainFn nm} : Inert (HasBC codes consts mainFn nm) :=
  fun _ _ h hs => ⟨h.1.1.trans hs.1, h.1.2.1.trans hs.2.1, h.1.2.2.1.trans hs.2.2.1, h.1.2.2.2.trans hs.2.2.2⟩
theorem GlobIs.inert {G} : Inert (GlobIs G) := fun _ _ h hs => h.2.1.trans hs
theorem FnStable.inert {h0} : Inert (FnStable h0) := fun _ _ h hs a c f e => h.2.2 a c f (hs a c f e)

instance : StoreRel Fixes where
  refl := Fixes.refl
  trans h1 h2 := ⟨⟨h2.1.1.trans h1.1.1, h2.1.2.1.trans h1.1.2.1, h2.1.2.2.1.trans h1.1.2.2.1, h2.1.2.2.2.trans h1.1.2.2.2⟩,
    h2.2.1.trans h1.2.1, fun a c f e => h2.2.2 a c f (h1.2.2 a c f e)⟩
  of_ctl _ _ h := ⟨⟨h.1, h.2.1, h.2.2.1, h.2.2.2.1⟩, h.2.2.2.2.1, h.2.2.2.2.2.2⟩
  modules s _ _ := Fixes.refl s

theorem Inert.keeps {α} {P : State → Prop} (hP : Inert P) {m : M α} [hm : Pres Fixes m] : Keeps P m :=
  hm.inv fun s s' h r => hP s s' r h

/- `Run`: the prologue assigns `globals` (`hg`); everything else is as above. -/
section
variable {P : State → Prop} (hP : Inert P) (hg : ∀ s g, P s → P { s with globals := g })
include hP hg

theorem Inert.keeps_prologue (g : V) (args : List V) : Keeps P (prologue g args) := by
  -- `Carries P` allows what `CtlRel` asks for, and the two other writes of the prologue
  haveI : CtlRel (Carries P) := ⟨fun s t h => hP s t (CtlRel.of_ctl s t h)⟩
  exact Keeps.iff_pres.mpr
    (pres_prologue hg (fun s => hP s _ (by exact ⟨⟨rfl, rfl, rfl, rfl⟩, rfl, fun _ _ _ h => h⟩)) g args)

omit hg in
theorem Inert.finish (s : State) (h : P s) : P (runFrom.finish s).2 := by
  have hm : Keeps P resultValue := hP.keeps
  fun_cases runFrom.finish s
  any_goals exact h
  all_goals exact hm.of_run h ‹_›

omit hg in
theorem Inert.go (F : FloatOps) (reruns fuel : Nat) (s : State) : P s → P (runFrom.go F reruns fuel s).2 := by
  have hloop fuel : Keeps P (loopF F fuel) := hP.keeps
  have hpanic m : Keeps P (handlePanic m) := hP.keeps
  have hclear : Keeps P clearCurrentFrame := hP.keeps
  fun_induction runFrom.go F reruns fuel s <;> intro h
  · exact h
  -- every other path runs the loop first; then `clearCurrentFrame` or `handlePanic`; then it ends, finishes or goes on
  all_goals have h1 := (hloop _).of_run h ‹_›
  · exact h1
  · exact hP.finish _ (hclear.of_run h1 ‹_›)
  · exact h1
  · exact (hpanic _).of_run h1 ‹_›
  · exact (hpanic _).of_run h1 ‹_›
  next ih => exact ih ((hpanic _).of_run h1 ‹_›)
  · exact hP.finish _ ((hpanic _).of_run h1 ‹_›)
  · exact h1

theorem Inert.runFrom (F : FloatOps) (fuel : Nat) (g : V) (args : List V) (s : State) (h : P s) :
    P (runFrom F fuel g args s).2 := by
  have hpro := hP.keeps_prologue hg g args
  fun_cases VM.runFrom F fuel g args s
  · exact hpro.of_run h ‹_›
  · exact hpro.of_run h ‹_›
  · exact hP.go F fuel fuel _ (hpro.of_run h ‹_›)
end

section
variable {codes : Array Code} {consts : Array V} {mainFn : Addr} {nm : Nat}

theorem keeps_step (F : FloatOps) : Keeps (HasBC codes consts mainFn nm) (step F) :=
  HasBC.inert.keeps
theorem keeps_handlePanic (m : String) : Keeps (HasBC codes consts mainFn nm) (handlePanic m) :=
  HasBC.inert.keeps
theorem keeps_prologue (g : V) (args : List V) : Keeps (HasBC codes consts mainFn nm) (prologue g args) :=
  HasBC.inert.keeps_prologue (fun _ _ h => h) g args

theorem runFrom_keeps (F : FloatOps) (fuel : Nat) (g : V) (args : List V) (s : State)
    (h : HasBC codes consts mainFn nm s) : HasBC codes consts mainFn nm (runFrom F fuel g args s).2 :=
  HasBC.inert.runFrom (fun _ _ h => h) F fuel g args s h
end

end UgoVerif.VM

import UgoVerif.Proofs.FrameOps
/-
  The invariants of C06.  A Go panic can be raised in the middle of an instruction, and recovery starts from
  the state it leaves: `VInv` holds there too, `VInvB` between instructions only.  Both read the control part
  `cp` of the state, so an action that leaves it alone (`Same`, a `DataRel`) keeps them.
-/
namespace UgoVerif.Proofs.VM
open UgoVerif UgoVerif.Go UgoVerif.VM

/-- (I1) a frame that has an error handler has a function: `throw` dereferences it in the frame it lands in;
    (I2) every handler's saved `sp` is ≥ 0: `handleThrownError` clears the stack down to it -/
def FrameOK (f : Frame) : Prop :=
  (hasHandler f = true → f.fn ≠ none) ∧ (∀ hs, f.handlers = some hs → ∀ h ∈ hs, 0 ≤ h.sp)

/-- the invariant as a predicate of the fields it reads -/
def CInv (frames : Array Frame) (cur : Nat) (ssz : Nat) : Prop :=
  frames.size = frameSize ∧ ssz = stackSize ∧ cur < frameSize ∧ ∀ i (h : i < frames.size), FrameOK frames[i]

/-- What the recovery path (`handlePanic`, `throw`, `handleThrownError`) depends on.  Holds at every instruction
    boundary and in the partial state at every panic site. -/
def VInv (s : State) : Prop := CInv s.frames s.curFrame s.stack.size

def curFn (s : State) : Option Addr := (s.frames[s.curFrame]!).fn

/-- At instruction boundaries (top of the `loop` body) also: the stack pointer is not negative, the current
    frame has a function (`vm.curInsts` is its code). -/
def VInvB (s : State) : Prop := VInv s ∧ 0 ≤ s.sp ∧ curFn s ≠ none

/-- With the recovery switch at `np`, what is known of the state, in three stages.  `StepExc`: wherever the loop is
    not at a boundary — at a panic site, after it returned.  `Mid`: inside an instruction no error is set and the running
    frame has its function.  `StepPre`: at an instruction boundary the stack pointer is not negative. -/
def StepExc (np : Bool) (s : State) : Prop := VInv s ∧ s.noPanic = np
def Mid (np : Bool) (s : State) : Prop := StepExc np s ∧ s.err = none ∧ curFn s ≠ none
def StepPre (np : Bool) (s : State) : Prop := Mid np s ∧ 0 ≤ s.sp

theorem stepPre_iff {np : Bool} {s : State} : StepPre np s ↔ VInvB s ∧ s.err = none ∧ s.noPanic = np :=
  ⟨fun h => ⟨⟨h.1.1.1, h.2, h.1.2.2⟩, h.1.2.1, h.1.1.2⟩, fun h => ⟨⟨⟨h.1.1, h.2.2⟩, h.2.1, h.1.2.2⟩, h.1.2.1⟩⟩

/-- the control part of the state: everything `VInv`, `VInvB` and the recovery guards read -/
structure CP where
  frames : Array Frame
  sp : Int
  curFrame : Nat
  frameIndex : Int
  ssize : Nat
  err : Option VmErr
  noPanic : Bool
  mainFn : Addr
  codes : Array Code
  abort : Bool
  ip : Int

def cp (s : State) : CP :=
  { frames := s.frames, sp := s.sp, curFrame := s.curFrame, frameIndex := s.frameIndex, ssize := s.stack.size,
    err := s.err, noPanic := s.noPanic, mainFn := s.mainFn, codes := s.codes, abort := s.abort, ip := s.ip }

def Same (s t : State) : Prop := cp t = cp s

theorem Same.rfl' (s : State) : Same s s := by simp [Same]

theorem same_iff (s t : State) : Same s t ↔
  t.frames = s.frames ∧ t.sp = s.sp ∧ t.curFrame = s.curFrame ∧ t.frameIndex = s.frameIndex ∧
    t.stack.size = s.stack.size ∧ t.err = s.err ∧ t.noPanic = s.noPanic ∧ t.mainFn = s.mainFn ∧ t.codes = s.codes ∧
    t.abort = s.abort ∧ t.ip = s.ip := by simp [Same, cp]

theorem Same.trans {a b c : State} (h1 : Same a b) (h2 : Same b c) : Same a c := by
  simp_all [Same]

theorem VInv.of_same {s t : State} (h : VInv s) (hs : Same s t) : VInv t := by
  simp_all [VInv, same_iff]

theorem VInvB.of_same {s t : State} (h : VInvB s) (hs : Same s t) : VInvB t := by
  simp_all [VInvB, VInv, same_iff, curFn]

theorem VInvB.vinv {s : State} (h : VInvB s) : VInv s := h.1

theorem frameOK_default : FrameOK (default : Frame) := by
  constructor
  · intro h; simp [hasHandler, default] at h
    revert h; simp [instInhabitedFrame.default]
  · intro hs h; simp [default, instInhabitedFrame.default] at h

theorem CInv.get! {fr : Array Frame} {c n : Nat} (h : CInv fr c n) (i : Nat) : FrameOK fr[i]! := by
  by_cases hi : i < fr.size
  · rw [getElem!_pos fr i hi]; exact h.2.2.2 i hi
  · rw [getElem!_neg fr i hi]; exact frameOK_default

theorem CInv.modify {fr : Array Frame} {c n : Nat} (h : CInv fr c n) (i : Nat) (g : Frame → Frame)
    (hg : FrameOK (g fr[i]!)) : CInv (fr.modify i g) c n := by
  refine ⟨by simpa using h.1, h.2.1, h.2.2.1, ?_⟩
  intro j hj
  rw [Array.getElem_modify]
  have hj' : j < fr.size := by simpa using hj
  split
  · rename_i hij; subst hij
    rw [getElem!_pos fr i hj'] at hg; exact hg
  · exact h.2.2.2 j hj'

theorem CInv.cur {fr : Array Frame} {c n : Nat} (h : CInv fr c n) (c' : Nat) (hc : c' < frameSize) : CInv fr c' n :=
  ⟨h.1, h.2.1, hc, h.2.2.2⟩

theorem CInv.lt_size {fr : Array Frame} {c n : Nat} (h : CInv fr c n) : c < fr.size := by
  rw [h.1]; exact h.2.2.1

theorem hasHandler_iff (f : Frame) : hasHandler f = true ↔ ∃ h r, f.handlers = some (h :: r) := by
  unfold hasHandler
  split <;> simp_all

theorem frameOK_popHandler {f : Frame} (h : FrameOK f) : FrameOK (popHandler f) :=
  ⟨fun hh => popHandler_fn f ▸ h.1 (eq_true_of_ne_false fun e => by rw [hasHandler_popHandler e] at hh; cases hh),
    popHandler_all h.2⟩

theorem frameOK_setLast {f : Frame} (h : FrameOK f) (g : Handler → Handler) (hg : ∀ x, 0 ≤ x.sp → 0 ≤ (g x).sp) :
    FrameOK (setLast f g) :=
  ⟨fun hh => setLast_fn f g ▸ h.1 (UgoVerif.VM.hasHandler_setLast f g ▸ hh), setLast_all hg h.2⟩

theorem hasHandler_setLast (f : Frame) (g : Handler → Handler) : hasHandler (setLast f g) = hasHandler f :=
  UgoVerif.VM.hasHandler_setLast f g

theorem lastHandler_some {f : Frame} (h : hasHandler f = true) : ∃ x, lastHandler f = some x := by
  obtain ⟨h0, r, heq⟩ := (hasHandler_iff f).mp h
  exact ⟨h0, by simp [lastHandler, heq]⟩

theorem lastHandler_sp {f : Frame} (h : FrameOK f) {x : Handler} (hx : lastHandler f = some x) : 0 ≤ x.sp :=
  let ⟨_, hs, e, m⟩ := lastHandler_mem hx
  h.2 hs e x m

theorem hasHandler_of_last {f : Frame} {x : Handler} (hx : lastHandler f = some x) : hasHandler f = true :=
  (lastHandler_mem hx).1

theorem get!_modify_ne (fr : Array Frame) (c i : Nat) (g : Frame → Frame) (h : c ≠ i) :
    (fr.modify c g)[i]! = fr[i]! := getElem!_modify_of_ne fr g h

theorem lastHandler_setLast (f : Frame) (g : Handler → Handler) :
    lastHandler (setLast f g) = (lastHandler f).map g := by
  rcases f with ⟨fn, free, ip, bp, (_ | (_ | ⟨h, r⟩)), d⟩ <;> simp [setLast, lastHandler]

theorem frameOK_noHandlers {f : Frame} (h : f.handlers = none) : FrameOK f := by
  constructor
  · intro hh; simp [hasHandler, h] at hh
  · intro hs hhs; simp [h] at hhs

theorem frameOK_of_not_hasHandler {f : Frame} (hf : FrameOK f) (g : Frame) (hh : g.handlers = f.handlers)
    (hn : hasHandler f = false) : FrameOK g := by
  constructor
  · intro h; simp [hasHandler, hh] at h; simp [hasHandler] at hn; simp_all
  · intro hs hhs; rw [hh] at hhs; exact hf.2 hs hhs

theorem frameOK_congr {f g : Frame} (hf : FrameOK f) (h1 : g.fn = f.fn) (h2 : g.handlers = f.handlers) : FrameOK g := by
  constructor
  · intro h; rw [h1]; apply hf.1; simpa [hasHandler, h2] using h
  · intro hs hhs; rw [h2] at hhs; exact hf.2 hs hhs

/-- handlers + 1 of all frames: the measure of `throw`, which `throwFuel` exceeds -/
def totalH (fr : Array Frame) : Nat := needUpTo fr fr.size

theorem totalH_lt_fuelOf (fr : Array Frame) : totalH fr < fuelOf fr := by
  rw [fuelOf_eq]; exact Nat.lt_add_of_pos_left (by decide)

theorem totalH_searched (fr : Array Frame) (n : Nat) : totalH (searched fr n).2 = totalH fr := by
  unfold totalH
  rw [searched_size, needUpTo_searched]

def Keeps {α} (m : M α) : Prop := ∀ s, Same s (m.run.run s).2

instance : DataRel Same where
  refl := Same.rfl'
  trans := Same.trans
  stack _ _ _ := by simp [Same, cp]
  heap _ _ _ := rfl
  trace _ _ _ := rfl

/-- `Same` does not read the heap: any cell may be written -/
instance (c : Cell) : Pres Same (alloc c) := ⟨fun _ => rfl⟩

theorem Keeps.of_pres {α} {m : M α} [h : Pres Same m] : Keeps m := h.h

theorem keeps_stackGet (i : Int) : Keeps (stackGet i) := .of_pres
theorem keeps_stackSet (i : Int) (v : V) : Keeps (stackSet i v) := .of_pres
theorem keeps_alloc (c : Cell) : Keeps (alloc c) := .of_pres
theorem keeps_clearDown (hi lo : Int) : Keeps (clearDown hi lo) := .of_pres

end UgoVerif.Proofs.VM

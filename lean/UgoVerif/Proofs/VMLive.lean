import UgoVerif.Proofs.VMImmut
import UgoVerif.Proofs.VMData
import UgoVerif.Proofs.FrameOps
/-
  `liveEq`: two VM states that differ in dead data only.  `Clear`/`SetBytecode` followed by the prologue of
  `Run` reaches a state that is `liveEq` to the prologue on a new VM, whatever the VM did before: the two differ
  in dead frame data and the recorded trace only (`LiveS`), which is the invariant of the steps that follow
  (C07Step).  The walk of `initLocals` is stated for any relation with `PreRel`, so the relocation proof
  (RelocMain) runs it too; the last part of the prologue stands in closed form (`exec_prologueB`, `entered`).
-/
namespace UgoVerif.VM
open UgoVerif UgoVerif.Go

/-- `HeapOnly` is stated with `Proofs.ModCache.exec`; the two-run calculi speak of `VM.exec`, which has the
    same body, so the statement carries over by unfolding but not by `rw` -/
theorem _root_.UgoVerif.CompSim.HeapOnly.run {α} {m : M α} (h : CompSim.HeapOnly m) {s t : State} (e : t.heap = s.heap) :
    exec m t = ((exec m s).1, { t with heap := (exec m s).2.heap }) := h.h s t e

theorem _root_.UgoVerif.CompSim.HeapOnly.loc {α} {m : M α} (h : CompSim.HeapOnly m) (s : State) :
    (exec m s).2 = { s with heap := (exec m s).2.heap } :=
  congrArg Prod.snd (h.run (s := s) rfl)

/-- the fields of a frame that are read before they are written when the frame is
    (re)entered: everything except the saved `ip` -/
structure FrameLive (f g : Frame) : Prop where
  fn : f.fn = g.fn
  free : f.free = g.free
  bp : f.bp = g.bp
  handlers : f.handlers = g.handlers
  discard : f.discard = g.discard

/-- Two VM states that differ only in dead data: stack slots at or above `sp`, frames
    at or above `frameIndex`, the saved `ip` of the current frame (written by the next call
    before any return reads it) and the recorded trace. -/
structure liveEq (s t : State) : Prop where
  heap : s.heap = t.heap
  codes : s.codes = t.codes
  consts : s.consts = t.consts
  mainFn : s.mainFn = t.mainFn
  numModules : s.numModules = t.numModules
  globals : s.globals = t.globals
  modules : s.modules = t.modules
  noPanic : s.noPanic = t.noPanic
  err : s.err = t.err
  abort : s.abort = t.abort
  ip : s.ip = t.ip
  sp : s.sp = t.sp
  frameIndex : s.frameIndex = t.frameIndex
  curFrame : s.curFrame = t.curFrame
  steps : s.steps = t.steps
  traceOn : s.traceOn = t.traceOn
  stackSize : s.stack.size = t.stack.size
  framesSize : s.frames.size = t.frames.size
  stack : ∀ i : Nat, (i : Int) < s.sp → s.stack[i]! = t.stack[i]!
  cur : FrameLive (s.frames[s.curFrame]!) (t.frames[t.curFrame]!)
  below : ∀ i : Nat, (i : Int) + 2 ≤ s.frameIndex → s.frames[i]! = t.frames[i]!
  link : (s.curFrame : Int) + 1 = s.frameIndex

/-- the fixed-size Go arrays `stack [2048]Object`, `frames [1024]frame` -/
structure Shape (s : State) : Prop where
  stack : s.stack.size = stackSize
  frames : s.frames.size = frameSize

def Rel2 {α} (A B : State → State → Prop) (VR : α → α → Prop) (m₁ m₂ : M α) : Prop :=
  ∀ s t, A s t →
    match exec m₁ s, exec m₂ t with
    | (.ok a, s'), (.ok b, t') => VR a b ∧ B s' t'
    | (.error e, _), (.error e', _) => e = e'
    | _, _ => False

namespace Rel2
variable {A B C : State → State → Prop}

theorem pure {α} {VR : α → α → Prop} {a b : α} (h : VR a b) : Rel2 A A VR (Pure.pure a) (Pure.pure b) := by
  intro s t hA; exact ⟨h, hA⟩

theorem panic {α} {VR : α → α → Prop} (m : String) : Rel2 A B VR (VM.panic m) (VM.panic m) := by
  intro s t _; rfl

theorem unsupported {α} {VR : α → α → Prop} (m : String) : Rel2 A B VR (VM.unsupported m) (VM.unsupported m) := by
  intro s t _; rfl

theorem bind {α β} {VR : α → α → Prop} {VR' : β → β → Prop} {m₁ m₂ : M α} {f₁ f₂ : α → M β}
    (hm : Rel2 A B VR m₁ m₂) (hf : ∀ a b, VR a b → Rel2 B C VR' (f₁ a) (f₂ b)) :
    Rel2 A C VR' (m₁ >>= f₁) (m₂ >>= f₂) := by
  intro s t hA
  have h := hm s t hA
  rw [exec_bind, exec_bind]
  rcases h1 : exec m₁ s with ⟨r1, s1⟩
  rcases h2 : exec m₂ t with ⟨r2, t1⟩
  rw [h1, h2] at h
  cases r1 <;> cases r2 <;> simp only at h ⊢
  · exact h
  · exact hf _ _ h.1 _ _ h.2

theorem modS {f₁ f₂ : State → State} (h : ∀ s t, A s t → B (f₁ s) (f₂ t)) :
    Rel2 A B Eq (VM.modS f₁) (VM.modS f₂) := by
  intro s t hA; exact ⟨rfl, h s t hA⟩

theorem ite {α} {VR : α → α → Prop} {c : Prop} [Decidable c] {a₁ a₂ b₁ b₂ : M α}
    (ha : Rel2 A B VR a₁ a₂) (hb : Rel2 A B VR b₁ b₂) :
    Rel2 A B VR (if c then a₁ else b₁) (if c then a₂ else b₂) := by
  split <;> assumption

theorem bindEq {α β} {VR' : β → β → Prop} {m : M α} {f : α → M β}
    (hm : Rel2 A B Eq m m) (hf : ∀ a, Rel2 B C VR' (f a) (f a)) : Rel2 A C VR' (m >>= f) (m >>= f) :=
  Rel2.bind hm (fun a b hab => by subst hab; exact hf a)

theorem forIn_list {α β} (l : List α) (init : β) (f : α → β → M (ForInStep β))
    (hf : ∀ a b, Rel2 A A Eq (f a b) (f a b)) : Rel2 A A Eq (forIn l init f) (forIn l init f) :=
  forIn_list_closed (T := fun m => Rel2 A A Eq m m) (fun _ => Rel2.pure rfl) Rel2.bindEq l init f hf

theorem forIn_range {β} (r : Std.Legacy.Range) (init : β) (f : Nat → β → M (ForInStep β))
    (hf : ∀ a b, Rel2 A A Eq (f a b) (f a b)) : Rel2 A A Eq (forIn r init f) (forIn r init f) := by
  rw [Std.Legacy.Range.forIn_eq_forIn_range']
  exact forIn_list _ _ _ hf

end Rel2

/-- A used VM after `Clear`/`SetBytecode` (`s`) and a new VM (`t`) while the prologue of
    `Run` executes: everything the prologue reads agrees, the stacks agree on the slots `W`
    (those already initialised).  `sp`, `ip`, the frames and the remaining slots are
    unrelated: that is the residue of the earlier runs. -/
structure PreEq (fc : Option (Nat × Option (List Addr))) (W : Nat → Prop) (s t : State) : Prop where
  heap : s.heap = t.heap
  codes : s.codes = t.codes
  consts : s.consts = t.consts
  mainFn : s.mainFn = t.mainFn
  numModules : s.numModules = t.numModules
  modules : s.modules = t.modules
  noPanic : s.noPanic = t.noPanic
  steps : s.steps = t.steps
  traceOn : s.traceOn = t.traceOn
  globals : s.globals = t.globals
  err : s.err = t.err
  abort : s.abort = t.abort
  shapeS : Shape s
  shapeT : Shape t
  stack : ∀ i, W i → s.stack[i]! = t.stack[i]!
  /-- once read, the function cell of `Main` stays where it is (allocation only appends) -/
  fnc : ∀ c fr, fc = some (c, fr) → s.heap[s.mainFn]? = some (.fn c fr)

theorem getElem!_set! (a : Array V) (i j : Nat) (v : V) :
    (a.set! i v)[j]! = if i = j ∧ i < a.size then v else a[j]! := by
  simp only [Array.set!_eq_setIfInBounds, getElem!_def, Array.getElem?_setIfInBounds]
  by_cases h : i = j
  · subst h
    by_cases h2 : i < a.size
    · simp [h2]
    · simp [h2]
  · simp [h]

theorem exec_stackSet (i : Int) (v : V) (s : State) :
    exec (stackSet i v) s =
      if i < 0 || i ≥ (stackSize : Int) then
        (.error (.panic s!"runtime error: index out of range [{i}] with length {stackSize}"), s)
      else (.ok (), { s with stack := s.stack.set! i.toNat v }) := by
  unfold stackSet
  split <;> rfl

/-- what the walk of `initLocals` (`rel_initLocals`) asks of a relation between two VMs -/
class PreRel (A : State → State → Prop) : Prop where
  heap : ∀ {s t}, A s t → t.heap = s.heap
  heapStep : ∀ {s t} {h' : Array Cell}, A s t → HeapStep s.heap h' → A { s with heap := h' } { t with heap := h' }
  stackSet : ∀ {s t} (i : Nat) (v : V), A s t →
    A { s with stack := s.stack.set! i v } { t with stack := t.stack.set! i v }

instance (W : Nat → Prop) : PreRel (PreEq none W) where
  heap h := h.heap.symm
  heapStep h _ := { h with
    heap := rfl
    shapeS := ⟨h.shapeS.stack, h.shapeS.frames⟩
    shapeT := ⟨h.shapeT.stack, h.shapeT.frames⟩
    fnc := fun _ _ e => by cases e }
  stackSet {s t} i v h := { h with
    shapeS := ⟨by simp [Array.set!_eq_setIfInBounds, h.shapeS.stack], h.shapeS.frames⟩
    shapeT := ⟨by simp [Array.set!_eq_setIfInBounds, h.shapeT.stack], h.shapeT.frames⟩
    stack := fun j hj => by
      show (s.stack.set! i v)[j]! = (t.stack.set! i v)[j]!
      rw [getElem!_set!, getElem!_set!, h.shapeS.stack, h.shapeT.stack, h.stack j hj] }

section
variable {A : State → State → Prop} [PreRel A]

theorem rel_stackSet (i : Int) (v : V) : Rel2 A A Eq (stackSet i v) (stackSet i v) :=
  Rel2.ite (Rel2.panic _) (Rel2.modS fun _ _ h => PreRel.stackSet _ v h)

theorem Rel2.of_data {α} {m : M α} (hm : CompSim.HeapOnly m) [hp : Pres HeapMoves m] : Rel2 A A Eq m m := by
  intro s t h
  rw [hm.run (PreRel.heap h)]
  have hl := hm.loc s
  have hs : HeapStep s.heap (exec m s).2.heap := hp.h s
  generalize exec m s = x at hl hs ⊢
  obtain ⟨r, s1⟩ := x
  cases r with
  | error e => rfl
  | ok a =>
    simp only at hl hs
    refine ⟨rfl, ?_⟩
    rw [hl]
    exact PreRel.heapStep h hs

end

theorem exec_fnCell (a : Addr) (s : State) :
    exec (fnCell a) s = match s.heap[a]? with
      | some (.fn c fr) => (.ok (s.codes[c]!, fr), s)
      | some _ => (.error (.unsupported "model: not a function cell"), s)
      | none => (.error (.unsupported "model: dangling address"), s) := by
  simp only [fnCell, heapGet, exec_bind, exec_getS]
  cases hc : s.heap[a]? with
  | none => simp [exec_unsupported]
  | some c => cases c <;> simp [exec_pure, exec_unsupported, exec_map, exec_getS]

theorem rel_fnCell (fc) (W : Nat → Prop) (a : Addr) : Rel2 (PreEq fc W) (PreEq fc W) Eq (fnCell a) (fnCell a) := by
  intro s t h
  rw [exec_fnCell, exec_fnCell, h.heap, h.codes]
  cases hc : t.heap[a]? with
  | none => simp
  | some c => cases c <;> simp [h]

def SameEnd {α} (B : State → State → Prop) (x y : Except Exc α × State) : Prop :=
  match x, y with
  | (.ok a, s'), (.ok b, t') => a = b ∧ B s' t'
  | (.error e, _), (.error e', _) => e = e'
  | _, _ => False

theorem Rel2.sameEnd {α} {A B : State → State → Prop} {m : M α} (h : Rel2 A B Eq m m) {s t : State} (hA : A s t) :
    SameEnd B (exec m s) (exec m t) := h s t hA

attribute [irreducible] Rel2


section
variable {A : State → State → Prop} [PreRel A]

/-- `initLocals` reads `mainFn` and, through `fnCell`, the heap and three numbers of `Main`'s code; it writes stack
    slots and allocates.  The two VMs may hold different code for `Main` as long as those numbers agree. -/
theorem rel_initLocals (args : List V) {s t : State} (h : A s t) (hm : t.mainFn = s.mainFn)
    (hc : ∀ c : Nat, (t.codes[c]!).numParams = (s.codes[c]!).numParams ∧
      (t.codes[c]!).numLocals = (s.codes[c]!).numLocals ∧ (t.codes[c]!).variadic = (s.codes[c]!).variadic) :
    SameEnd A (exec (initLocals args) s) (exec (initLocals args) t) := by
  unfold initLocals
  simp only [exec_bind, exec_getS, exec_fnCell, hm, PreRel.heap h]
  cases s.heap[s.mainFn]? with
  | none => rfl
  | some x =>
    cases x <;> try rfl
    next c fr =>
    simp only [(hc c).1, (hc c).2.1, (hc c).2.2]
    generalize (s.codes[c]!).numParams = np
    generalize (s.codes[c]!).numLocals = nl
    generalize (s.codes[c]!).variadic = va
    refine Rel2.sameEnd ?_ h
    -- nothing runs behind the panic of the slice-bounds check
    simp only [panic_bind]
    unfold setLocal copyLocals fillUndefined
    -- what is left assigns stack slots and allocates: bind by bind, `if` by `if`, down to those leaves
    repeat (first
      | with_reducible exact Rel2.pure rfl
      | with_reducible apply Rel2.panic
      | with_reducible exact rel_stackSet _ _
      | with_reducible apply Rel2.bindEq
      | with_reducible apply Rel2.ite
      | with_reducible apply Rel2.forIn_range
      | with_reducible apply Rel2.forIn_list
      | intro _
      | split
      | ((with_reducible refine Rel2.of_data ?_); focus (simp only [heap_only]; done)))

end

theorem SameEnd.mono {α} {B B' : State → State → Prop} {x y : Except Exc α × State}
    (h : SameEnd B x y) (hB : ∀ s t, B s t → B' s t) : SameEnd B' x y := by
  rcases x with ⟨r1, s1⟩
  rcases y with ⟨r2, t1⟩
  cases r1 <;> cases r2 <;> simp only [SameEnd] at h ⊢
  · exact h
  · exact ⟨h.1, hB _ _ h.2⟩

theorem SameEnd.bind {α β} {B C : State → State → Prop} {m : M α} {f : α → M β} {s t : State}
    (h : SameEnd B (exec m s) (exec m t))
    (hf : ∀ a s' t', exec m s = (.ok a, s') → exec m t = (.ok a, t') → B s' t' →
      SameEnd C (exec (f a) s') (exec (f a) t')) :
    SameEnd C (exec (m >>= f) s) (exec (m >>= f) t) := by
  rw [exec_bind, exec_bind]
  rcases h1 : exec m s with ⟨r1, s1⟩
  rcases h2 : exec m t with ⟨r2, t1⟩
  rw [h1, h2] at h
  cases r1 <;> cases r2 <;> simp only [SameEnd] at h ⊢
  · exact h
  · obtain ⟨hab, hB⟩ := h
    subst hab
    exact hf _ _ _ h1 h2 hB

/-- what `Clear` / `SetBytecode` establish between a used VM and a new one: everything
    except the residue (stack, sp, ip, frames, frameIndex, curFrame, err, abort, globals) -/
structure ResetEq (s t : State) : Prop where
  heap : s.heap = t.heap
  codes : s.codes = t.codes
  consts : s.consts = t.consts
  mainFn : s.mainFn = t.mainFn
  numModules : s.numModules = t.numModules
  modules : s.modules = t.modules
  noPanic : s.noPanic = t.noPanic
  steps : s.steps = t.steps
  traceOn : s.traceOn = t.traceOn
  shapeS : Shape s
  shapeT : Shape t

/-- first part of the prologue: `vm.err = nil; vm.abort.Store(0); vm.initGlobals(globals)` -/
def prologueA (globals : V) : M Unit := do
  modS fun s => { s with err := none, abort := false }
  let g ← (match globals with
    | .nil => do let a ← alloc (.map []); pure (V.map a)
    | g => pure g)
  modS fun s => { s with globals := g }

/-- last part: `initCurrentFrame(); frameIndex = 1; ip = -1; sp = NumLocals`; grow the module cache -/
def prologueB : M Unit := do
  initCurrentFrame
  let s ← getS
  let (code, _) ← fnCell s.mainFn
  modS fun s => { s with frameIndex := 1, ip := -1, sp := code.numLocals }
  modS fun s =>
    let diff := s.numModules - s.modules.size
    { s with modules := s.modules ++ Array.replicate diff .nil }

theorem prologue_eq (g : V) (args : List V) :
    prologue g args = (prologueA g >>= fun _ => initLocals args >>= fun _ => prologueB) := by
  simp only [prologue, prologueA, prologueB, bind_assoc]
  rfl

abbrev entered (s : State) (c : Nat) (fr : Option (List Addr)) : State :=
  { s with curFrame := 0,
           frames := s.frames.modify 0 fun f =>
             { f with fn := some s.mainFn, free := fr, handlers := none, bp := 0, discard := false },
           frameIndex := 1, ip := -1, sp := (s.codes[c]!).numLocals,
           modules := s.modules ++ Array.replicate (s.numModules - s.modules.size) .nil }

theorem entered_frames (s : State) (c : Nat) (fr : Option (List Addr)) (i : Nat) :
    (entered s c fr).frames[i]! = if 0 = i ∧ i < s.frames.size then
      { (s.frames[i]!) with fn := some s.mainFn, free := fr, handlers := none, bp := 0, discard := false }
    else s.frames[i]! := getElem!_modify _ _ _ _

theorem exec_prologueB (s : State) :
    exec prologueB s = match s.heap[s.mainFn]? with
      | some (.fn c fr) => (.ok (), entered s c fr)
      | some _ => (.error (.unsupported "model: not a function cell"), s)
      | none => (.error (.unsupported "model: dangling address"), s) := by
  simp only [prologueB, initCurrentFrame, exec_bind, exec_getS, exec_fnCell]
  cases hc : s.heap[s.mainFn]? with
  | none => rfl
  | some x => cases x <;> simp only [exec_modS, hc] <;> rfl

theorem exec_prologueB_fn (s : State) (c : Nat) (fr : Option (List Addr)) (h : s.heap[s.mainFn]? = some (.fn c fr)) :
    exec prologueB s = (.ok (), entered s c fr) := by
  rw [exec_prologueB, h]

theorem relA (g : V) (W : Nat → Prop) (s t : State) (h : ResetEq s t)
    (hst : ∀ i, W i → s.stack[i]! = t.stack[i]!) :
    SameEnd (PreEq none W) (exec (prologueA g) s) (exec (prologueA g) t) := by
  have hS := h.shapeS
  have hT := h.shapeT
  cases g <;>
    simp only [prologueA, exec_bind, exec_modS, exec_pure, alloc, exec_getS, exec_set, SameEnd, true_and] <;>
    exact { heap := by simp [h.heap], codes := h.codes, consts := h.consts, mainFn := h.mainFn,
            numModules := h.numModules, modules := h.modules, noPanic := h.noPanic, steps := h.steps,
            traceOn := h.traceOn, globals := by simp [h.heap], err := rfl, abort := rfl,
            shapeS := ⟨hS.stack, hS.frames⟩, shapeT := ⟨hT.stack, hT.frames⟩,
            stack := hst, fnc := fun _ _ e => by cases e }

def liveEqW (W : Nat → Prop) (s t : State) : Prop :=
  liveEq s t ∧ (∀ i, W i → s.stack[i]! = t.stack[i]!) ∧ (s.frames.size = frameSize ∧ s.curFrame < frameSize)

structure FR (s : State) (fr : Array Frame) : Prop where
  size : fr.size = s.frames.size
  cur : FrameLive (s.frames[s.curFrame]!) (fr[s.curFrame]!)
  below : ∀ i : Nat, (i : Int) + 2 ≤ s.frameIndex → s.frames[i]! = fr[i]!
  link : (s.curFrame : Int) + 1 = s.frameIndex
  shape : s.frames.size = frameSize
  curLt : s.curFrame < frameSize

def wf (s : State) (fr : Array Frame) (tr : Array (Int × Int × Int × Nat × Nat)) : State :=
  { s with frames := fr, trace := tr }

/-- `t` is `s` with other dead frame data and another recorded trace -/
def LiveS (s t : State) : Prop := ∃ fr tr, t = wf s fr tr ∧ FR s fr

theorem LiveS.toLive {s t : State} (h : LiveS s t) : liveEq s t := by
  obtain ⟨fr, tr, rfl, hfr⟩ := h
  exact { heap := rfl, codes := rfl, consts := rfl, mainFn := rfl, numModules := rfl, globals := rfl, modules := rfl,
          noPanic := rfl, err := rfl, abort := rfl, ip := rfl, sp := rfl, frameIndex := rfl, curFrame := rfl,
          steps := rfl, traceOn := rfl, stackSize := rfl, framesSize := hfr.size.symm, stack := fun _ _ => rfl,
          cur := hfr.cur, below := hfr.below, link := hfr.link }

theorem LiveS.toW {s t : State} (h : LiveS s t) : liveEqW (fun _ => True) s t := by
  refine ⟨h.toLive, ?_, ?_⟩ <;> obtain ⟨fr, tr, rfl, hfr⟩ := h
  · exact fun _ _ => rfl
  · exact ⟨hfr.shape, hfr.curLt⟩

theorem array_ext_get! (a b : Array V) (hs : a.size = b.size) (h : ∀ i : Nat, a[i]! = b[i]!) : a = b := by
  apply Array.ext hs
  intro i h1 h2
  have := h i
  simp only [getElem!_def, Array.getElem?_eq_getElem h1, Array.getElem?_eq_getElem h2] at this
  exact this

theorem relB (s t : State) (h : PreEq none (fun _ => True) s t) :
    SameEnd LiveS (exec prologueB s) (exec prologueB t) := by
  have hS := h.shapeS
  have hT := h.shapeT
  have hfs : 0 < s.frames.size := by rw [hS.frames]; decide
  have hft : 0 < t.frames.size := by rw [hT.frames]; decide
  -- `Main` not a function: both sides stop with the same model error
  rw [exec_prologueB, exec_prologueB, ← h.mainFn, ← h.heap]
  split <;> try exact rfl
  next c fr _ =>
  refine ⟨rfl, (entered t c fr).frames, t.trace, ?_, ?_⟩
  · have hst : s.stack = t.stack :=
      array_ext_get! _ _ (by rw [hS.stack, hT.stack]) fun i => h.stack i trivial
    obtain ⟨h1, h2, h3, h4, h5, h6, h7, h8, h9, h10, h11, h12, -, -, -, -⟩ := h
    cases s; cases t
    simp only at h1 h2 h3 h4 h5 h6 h7 h8 h9 h10 h11 h12 hst
    subst h1 h2 h3 h4 h5 h6 h7 h8 h9 h10 h11 h12 hst
    rfl
  · refine ⟨by simp [hS.frames, hT.frames], ?_, fun i hi => by simp at hi; omega, by simp, by simp [hS.frames],
      (by decide : (0 : Nat) < frameSize)⟩
    show FrameLive ((s.frames.modify 0 _)[0]!) ((t.frames.modify 0 _)[0]!)
    rw [getElem!_modify, getElem!_modify, if_pos ⟨rfl, hfs⟩, if_pos ⟨rfl, hft⟩]
    exact ⟨by simp [h.mainFn], rfl, rfl, rfl, rfl⟩

/-- The core of `Props.C07.prologue_live`.  Whatever residue `s` carries, if `s` and `t` agree on what
    `Clear`/`SetBytecode` (re)initialise and on every stack slot, the prologue of `Run` ends the same way
    on both and leaves states that differ in dead frame data only.  Equal stacks may be assumed: `Clear`
    and `SetBytecode` nil the whole stack, so a reset VM has the stack of a new one
    (`Props.C07.stack_clear_fresh`, `stack_setBytecode_fresh`, both by `rfl`). -/
theorem prologue_reset (g : V) (args : List V) (s t : State) (h : ResetEq s t)
    (hst : ∀ i : Nat, s.stack[i]! = t.stack[i]!) :
    SameEnd LiveS (exec (prologue g args) s) (exec (prologue g args) t) := by
  rw [prologue_eq]
  refine SameEnd.bind (relA g (fun _ => True) s t h fun i _ => hst i) fun _ s1 t1 _ _ h1 => ?_
  exact SameEnd.bind (rel_initLocals args h1 h1.mainFn.symm fun c => by rw [h1.codes]; exact ⟨rfl, rfl, rfl⟩)
    fun _ s2 t2 _ _ h2 => relB s2 t2 h2

end UgoVerif.VM

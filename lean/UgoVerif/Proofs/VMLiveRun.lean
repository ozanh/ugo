import UgoVerif.Proofs.VMLive
import UgoVerif.Proofs.FrameOps
import UgoVerif.Proofs.RunEq
/-
  Lifting of a step simulation to whole runs (`RunRel.run`): if a pair of relations (`Bd` between
  two instructions, `Any` wherever a run can stop) is preserved by one instruction and by
  `handlePanic`, then `runFromG.go` — the loop, the `recover` wrapper with its reruns, the deferred
  `clearCurrentFrame`, the epilogue — returns the same outcome on both sides, for every fuel.
  C07 is the instance with one step function and one relation `R ⊆ liveEq` (`LiveRel`), C11 the
  instance `RB`/`RM` (RelocRun).
-/
namespace UgoVerif.VM
open UgoVerif UgoVerif.Go

def Both {α} (R : State → State → Prop) (x y : Except Exc α × State) : Prop :=
  x.1 = y.1 ∧ R x.2 y.2

structure LiveRel (F : FloatOps) (R : State → State → Prop) : Prop where
  toLive : ∀ {s t}, R s t → liveEq s t
  step : ∀ s t, R s t → Both R (exec (step F) s) (exec (step F) t)
  panic : ∀ m s t, R s t → Both R (exec (handlePanic m) s) (exec (handlePanic m) t)
  /-- `vm.err = ErrVMAborted` -/
  abort : ∀ s t, R s t → R { s with err := some .aborted } { t with err := some .aborted }
  /-- the deferred `clearCurrentFrame` -/
  ccf : ∀ s t, R s t → R (exec clearCurrentFrame s).2 (exec clearCurrentFrame t).2

theorem exec_stackGet (i : Int) (s : State) :
    exec (stackGet i) s =
      if (decide (i < 0) || decide (i ≥ (stackSize : Int))) = true then
        (.error (.panic s!"runtime error: index out of range [{i}] with length {stackSize}"), s)
      else (.ok (s.stack[i.toNat]!), s) := by
  unfold stackGet
  simp only [exec_bind, exec_getS]
  split <;> rfl

theorem exec_heapGet (a : Addr) (s : State) :
    exec (heapGet a) s = match s.heap[a]? with
      | some c => (.ok c, s)
      | none => (.error (.unsupported "model: dangling address"), s) := Proofs.Fetch.exec_heapGet a s

/-- what `resultValue` returns: `vm.stack[vm.sp-1]`, dereferenced when it is an `*ObjectPtr`; a function of `sp`,
    that slot and the heap -/
def resultOf (s : State) : Except Exc V :=
  if (decide (s.sp - 1 < 0) || decide (s.sp - 1 ≥ (stackSize : Int))) = true then
    .error (.panic s!"runtime error: index out of range [{s.sp - 1}] with length {stackSize}")
  else
    match s.stack[(s.sp - 1).toNat]! with
    | .box a =>
      match s.heap[a]? with
      | some (.box v) => .ok v
      | some _ => .error (.unsupported "model: bad box")
      | none => .error (.unsupported "model: dangling address")
    | v => .ok v

theorem exec_resultValue (s : State) : exec resultValue s = (resultOf s, s) := by
  have e : exec getSp s = (.ok s.sp, s) := rfl
  simp only [resultValue, exec_bind, e, exec_stackGet, resultOf]
  by_cases hb : (decide (s.sp - 1 < 0) || decide (s.sp - 1 ≥ (stackSize : Int))) = true
  · rw [if_pos hb, if_pos hb]
  · rw [if_neg hb, if_neg hb]
    dsimp only
    generalize s.stack[(s.sp - 1).toNat]! = v
    cases v <;> try rfl
    rename_i a
    simp only [exec_bind, exec_heapGet]
    cases s.heap[a]? with
    | none => rfl
    | some c => cases c <;> rfl

theorem finish_congr {s t : State} (herr : s.err = t.err) (hsp : s.sp = t.sp)
    (hstack : ∀ i : Nat, (i : Int) < s.sp → s.stack[i]! = t.stack[i]!) (hheap : s.heap = t.heap) :
    (runFrom.finish s).1 = (runFrom.finish t).1 := by
  have hr : resultOf s = resultOf t := by
    unfold resultOf
    rw [← hsp, ← hheap]
    split
    · rfl
    · rename_i hb
      simp only [Bool.or_eq_true, decide_eq_true_eq, not_or, Int.not_lt] at hb
      rw [← hstack _ (by omega)]
  have es : resultValue.run.run s = (resultOf s, s) := exec_resultValue s
  have et : resultValue.run.run t = (resultOf t, t) := exec_resultValue t
  unfold runFrom.finish
  rw [es, et, ← herr, ← hsp, hr]
  cases s.err with
  | some e => rfl
  | none =>
    simp only
    split
    · cases resultOf t with
      | ok v => rfl
      | error e => cases e <;> rfl
    · rfl

structure RunRel (stp₁ stp₂ : M Ctl) (Bd Any : State → State → Prop) : Prop where
  toAny : ∀ {s t}, Bd s t → Any s t
  /-- the fields `go` branches on, and the outcome of the epilogue -/
  abortEq : ∀ {s t}, Bd s t → s.abort = t.abort
  reads : ∀ {s t}, Any s t → s.noPanic = t.noPanic ∧ s.err = t.err ∧ s.steps = t.steps ∧
    (runFrom.finish s).1 = (runFrom.finish t).1
  step : ∀ s t, Bd s t → Both Any (exec stp₁ s) (exec stp₂ t) ∧
    ((exec stp₁ s).1 = .ok .next → Bd (exec stp₁ s).2 (exec stp₂ t).2)
  panic : ∀ m s t, Any s t → Both Any (exec (handlePanic m) s) (exec (handlePanic m) t) ∧
    ((exec (handlePanic m) s).1 = .ok () → (exec (handlePanic m) s).2.err = none →
      Bd (exec (handlePanic m) s).2 (exec (handlePanic m) t).2)
  abort : ∀ s t, Bd s t → Any { s with err := some .aborted } { t with err := some .aborted }
  ccf : ∀ s t, Any s t → Any (exec clearCurrentFrame s).2 (exec clearCurrentFrame t).2

section
variable {stp₁ stp₂ : M Ctl} {Bd Any : State → State → Prop}

theorem RunRel.loop (hR : RunRel stp₁ stp₂ Bd Any) (fuel : Nat) :
    ∀ s t, Bd s t → Both Any (exec (loopG stp₁ fuel) s) (exec (loopG stp₂ fuel) t) := by
  induction fuel with
  | zero => intro s t h; exact ⟨rfl, hR.toAny h⟩
  | succ n ih =>
    intro s t h
    unfold loopG
    simp only [exec_bind, exec_getS, ← hR.abortEq h]
    split
    · exact ⟨rfl, hR.abort s t h⟩
    · obtain ⟨⟨hr, hA⟩, hB⟩ := hR.step s t h
      rcases h1 : exec stp₁ s with ⟨r1, s1⟩
      rcases h2 : exec stp₂ t with ⟨r2, t1⟩
      rw [h1, h2] at hr hA hB
      simp only at hr hA hB
      subst hr
      simp only [exec_bind, h1, h2]
      cases r1 with
      | error e => exact ⟨rfl, hA⟩
      | ok c =>
        cases c with
        | ret => exact ⟨rfl, hA⟩
        | next => exact ih s1 t1 (hB rfl)

theorem RunRel.go (hR : RunRel stp₁ stp₂ Bd Any) (reruns : Nat) : ∀ (fuel : Nat) (s t : State), Bd s t →
    (runFromG.go stp₁ reruns fuel s).1 = (runFromG.go stp₂ reruns fuel t).1 := by
  induction reruns with
  | zero => intro fuel s t _; rfl
  | succ n ih =>
    intro fuel s t h
    rw [goG_succ, goG_succ]
    obtain ⟨hr, hA⟩ := hR.loop fuel s t h
    unfold exec at hr hA
    generalize (loopG stp₁ fuel).run.run s = x at hr hA ⊢
    generalize (loopG stp₂ fuel).run.run t = y at hr hA ⊢
    obtain ⟨r, s1⟩ := x
    obtain ⟨r', t1⟩ := y
    subst hr
    replace hA : Any s1 t1 := hA
    rcases r with (m | m) | (_ | _)
    · -- a Go panic: recovered when `noPanic`
      simp only [afterLoop, ← (hR.reads hA).1]
      split
      · obtain ⟨⟨hr5, hA5⟩, hB5⟩ := hR.panic m s1 t1 hA
        unfold exec at hr5 hA5 hB5
        generalize (handlePanic m).run.run s1 = x5 at hr5 hA5 hB5 ⊢
        generalize (handlePanic m).run.run t1 = y5 at hr5 hA5 hB5 ⊢
        obtain ⟨r5, s5⟩ := x5
        obtain ⟨r6, t5⟩ := y5
        subst hr5
        replace hA5 : Any s5 t5 := hA5
        rcases r5 with e | u
        · cases e <;> rfl
        · simp only [← (hR.reads hA5).2.1, ← (hR.reads hA5).2.2.1]
          split
          · rename_i hen
            exact ih _ _ _ (hB5 rfl (by simpa using hen))
          · exact (hR.reads hA5).2.2.2
      · rfl
    · rfl
    · rfl
    · exact (hR.reads (hR.ccf _ _ hA)).2.2.2

theorem RunRel.run (hR : RunRel stp₁ stp₂ Bd Any) (fuel : Nat) (g : V) (args : List V) (s t : State)
    (hpro : SameEnd Bd (exec (prologue g args) s) (exec (prologue g args) t)) :
    (runFromG stp₁ fuel g args s).1 = (runFromG stp₂ fuel g args t).1 := by
  unfold runFromG
  unfold exec at hpro
  generalize (prologue g args).run.run s = x at hpro ⊢
  generalize (prologue g args).run.run t = y at hpro ⊢
  obtain ⟨r1, s1⟩ := x
  obtain ⟨r2, t1⟩ := y
  cases r1 <;> cases r2 <;> simp only [SameEnd] at hpro
  · subst hpro
    cases ‹Exc› <;> rfl
  · exact hR.go fuel fuel s1 t1 hpro.2

end

theorem LiveRel.runRel {F : FloatOps} {R : State → State → Prop} (hR : LiveRel F R) : RunRel (VM.step F) (VM.step F) R R where
  toAny h := h
  abortEq h := (hR.toLive h).abort
  reads h := let l := hR.toLive h; ⟨l.noPanic, l.err, l.steps, finish_congr l.err l.sp l.stack l.heap⟩
  step s t h := ⟨hR.step s t h, fun _ => (hR.step s t h).2⟩
  panic m s t h := ⟨hR.panic m s t h, fun _ _ => (hR.panic m s t h).2⟩
  abort := hR.abort
  ccf := hR.ccf

theorem FrameLive.modify {a b : Array Frame} (hsz : a.size = b.size) {i : Nat} (h : FrameLive a[i]! b[i]!)
    (c : Nat) {g : Frame → Frame} (hg : ∀ x y, FrameLive x y → FrameLive (g x) (g y)) :
    FrameLive (a.modify c g)[i]! (b.modify c g)[i]! := by
  rw [getElem!_modify, getElem!_modify, hsz]
  split
  · exact hg _ _ h
  · exact h

theorem liveEq_ccf (s t : State) (h : liveEq s t) :
    liveEq (exec clearCurrentFrame s).2 (exec clearCurrentFrame t).2 := by
  rw [exec_clearCurrentFrame, exec_clearCurrentFrame]
  have hc := h.cur
  rw [← h.curFrame] at hc
  refine { h with framesSize := by simp [h.framesSize], cur := ?_, below := ?_ }
  · show FrameLive ((s.frames.modify s.curFrame _)[s.curFrame]!) ((t.frames.modify t.curFrame _)[t.curFrame]!)
    rw [← h.curFrame]
    exact hc.modify h.framesSize _ fun _ _ e => ⟨rfl, rfl, e.bp, rfl, e.discard⟩
  · intro i hi
    show (s.frames.modify s.curFrame _)[i]! = (t.frames.modify t.curFrame _)[i]!
    rw [← h.curFrame]
    exact getElem!_modify_congr h.framesSize (h.below i hi) _ _

theorem liveEq_abort (s t : State) (h : liveEq s t) :
    liveEq { s with err := some .aborted } { t with err := some .aborted } :=
  { h with err := rfl }

theorem liveRel_liveEq {F : FloatOps}
    (hstep : ∀ s t, liveEq s t → Both liveEq (exec (step F) s) (exec (step F) t))
    (hpanic : ∀ m s t, liveEq s t → Both liveEq (exec (handlePanic m) s) (exec (handlePanic m) t)) :
    LiveRel F liveEq :=
  { toLive := fun h => h, step := hstep, panic := hpanic, abort := liveEq_abort, ccf := liveEq_ccf }

end UgoVerif.VM

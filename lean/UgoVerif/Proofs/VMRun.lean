import UgoVerif.Proofs.VMStep
import UgoVerif.Proofs.RunEq
import UgoVerif.Proofs.EvalLocals
/-
  `Run` around the loop, for C06.  The prologue runs outside `recover`, so it must raise no Go panic at all:
  `MainWF` is what that takes.  `recover` calls `handlePanic` from the panic site, where `StepExc` holds; a rerun
  starts at a boundary again; every other end goes through the epilogue.
-/
namespace UgoVerif.Proofs.VM
open UgoVerif UgoVerif.Go
open UgoVerif.VM hiding exec exec_bind exec_getS
open UgoVerif.Proofs.ModCache (exec exec_bind)
open UgoVerif.Proofs.VMExec (exec_getS exec_getSp)

def LoopOk (np : Bool) (r : Option Unit) (s : State) : Prop :=
  StepExc np s ∧ (r = some () → s.err = none → 1 ≤ s.sp)

theorem loopF_spec (np : Bool) (F : FloatOps) :
    ∀ fuel, Hq (StepPre np) (LoopOk np) (fun _ => StepExc np) (loopF F fuel)
  | 0 => Hq.pure fun _ h => ⟨h.1.1, nofun⟩
  | fuel + 1 => by
    rw [loopF]
    refine Hq.getS_bind fun s0 => Hq.ite (fun _ => ?_) fun _ => ?_
    · exact Hq.bind (R := fun _ => LoopOk np (some ()))
        (Hq.modS fun _ h => ⟨h.1.1.1, fun _ he => nomatch he⟩) fun _ => Hq.pure fun _ h => h
    · refine Hq.bind ((step_ok np F).pre fun _ h => h.1) fun r => ?_
      cases r with
      | ret => exact Hq.pure fun _ h => ⟨h.1, fun _ => h.2⟩
      | next => exact loopF_spec np F fuel

/-- well-formedness of the main function, as the compiler guarantees it (`NumLocals ≤ 256`,
    `NumParams ≤ NumLocals`): `initLocals` slices `vm.stack[:NumLocals]` and indexes
    `locals[NumParams-1]` outside `recover` -/
def MainWF (s : State) : Prop :=
  ∀ c free, s.heap[s.mainFn]? = some (.fn c free) →
    (s.codes[c]!).numLocals ≤ stackSize ∧ (s.codes[c]!).numParams ≤ (s.codes[c]!).numLocals

/-- the main function is still well-formed after `initGlobals` allocated the globals map -/
theorem mainWF_push {s : State} (h : MainWF s) (x : Cell) (hx : ∀ c f, x ≠ .fn c f) :
    ∀ c free, (s.heap.push x)[s.mainFn]? = some (.fn c free) →
      (s.codes[c]!).numLocals ≤ stackSize ∧ (s.codes[c]!).numParams ≤ (s.codes[c]!).numLocals := by
  intro c free hc
  rw [Array.getElem?_push] at hc
  split at hc
  · simp at hc; exact absurd hc (hx c free)
  · exact h c free hc

theorem initLocals_quiet (args : List V) (s0 : State) (hsz : s0.stack.size = stackSize) (hwf : MainWF s0) :
    Hq (fun s => s = s0) (fun _ s => cp s = cp s0) (fun e s => cp s = cp s0 ∧ ∀ msg, e ≠ .panic msg) (initLocals args) := by
  intro s hs
  subst hs
  cases hfn : s.heap[s.mainFn]? with
  | none => simp only [initLocals, fnCell, heapGet, exec_bind, exec_getS, hfn]; exact ⟨rfl, fun _ => nofun⟩
  | some c =>
    cases c
    case fn c free =>
      obtain ⟨st', e, hsz', -, -⟩ :=
        InvokeBind.initLocals_slots args s c free hfn (hwf c free hfn).2 (hwf c free hfn).1 hsz
      rw [e]
      show cp _ = cp s
      simp only [cp, hsz', hsz]
    all_goals (simp only [initLocals, fnCell, heapGet, exec_bind, exec_getS, hfn]; exact ⟨rfl, fun _ => nofun⟩)

def PrologueExc (np : Bool) (e : Exc) (s : State) : Prop := StepExc np s ∧ ∀ m, e ≠ .panic m

theorem fnCell_keeps (a : Addr) (X : State → Prop) :
    Hq X (fun _ => X) (fun e s => X s ∧ ∀ msg, e ≠ .panic msg) (fnCell a) := by
  intro s hs
  simp only [fnCell, heapGet, exec_bind, exec_getS]
  cases s.heap[a]? with
  | none => exact ⟨hs, fun _ => nofun⟩
  | some c => cases c <;> first | exact hs | exact ⟨hs, fun _ => nofun⟩

/-- the prologue up to `initLocals`, which needs `MainWF` (`ProA`), and after it (`ProC`, read off the control part) -/
def ProC (np : Bool) (s : State) : Prop := StepExc np s ∧ s.err = none
def ProA (np : Bool) (s : State) : Prop := ProC np s ∧ MainWF s

theorem ProC.of_same {np : Bool} {s t : State} (hs : ProC np s) (h : Same s t) : ProC np t := by
  have e := (same_iff _ _).mp h
  exact ⟨⟨hs.1.1.of_same h, e.2.2.2.2.2.2.1.trans hs.1.2⟩, e.2.2.2.2.2.1.trans hs.2⟩

theorem initCurrentFrame_spec (np : Bool) : Hq (ProC np) (fun _ => Mid np) (PrologueExc np) initCurrentFrame := by
  unfold initCurrentFrame
  refine Hq.getS_bind fun s1 => Hq.bind (((fnCell_keeps _ _).pre fun _ h => h.1).conseq (fun _ h => h)
    (fun _ _ h => h) fun _ _ h => ⟨h.1.1, h.2⟩) fun r => ?_
  refine Hq.modS fun s h => ?_
  have h0 : (0 : Nat) < frameSize := by decide
  refine ⟨⟨(h.1.1.modify 0 _ (frameOK_noHandlers rfl)).cur 0 h0, h.1.2⟩, h.2, ?_⟩
  show ((s.frames.modify 0 _)[0]!).fn ≠ none
  rw [getElem!_modify_self _ _ _ (by rw [h.1.1.1]; exact h0)]
  nofun

theorem prologue_spec (np : Bool) (g : V) (args : List V) :
    Hq (fun s => StepExc np s ∧ MainWF s) (fun _ => StepPre np) (PrologueExc np) (prologue g args) := by
  unfold prologue
  refine Hq.bind (R := fun _ => ProA np) (Hq.modS fun s h => ⟨⟨h.1, rfl⟩, h.2⟩) fun _ => ?_
  refine Hq.bind (R := fun _ => ProA np) ?_ fun g' => ?_
  · split
    · exact Hq.bind (R := fun _ => ProA np)
        (fun s h => ⟨h.1, mainWF_push h.2 _ (fun _ _ => nofun)⟩) fun _ => Hq.pure fun _ h => h
    · exact Hq.pure fun _ h => h
  refine Hq.bind (R := fun _ => ProA np) (Hq.modS fun _ h => h) fun _ => ?_
  refine Hq.bind (R := fun _ => ProC np) ?_ fun _ => ?_
  · exact Hq.assume fun s0 h0 => (initLocals_quiet args s0 h0.1.1.1.2.1 h0.2).conseq (fun _ h => h)
      (fun _ _ h => h0.1.of_same h) fun _ _ h => ⟨(h0.1.of_same h.1).1, h.2⟩
  refine Hq.bind (initCurrentFrame_spec np) fun _ => ?_
  refine Hq.getS_bind fun s2 => Hq.bind (((fnCell_keeps _ _).pre fun _ h => h.1).conseq (fun _ h => h)
    (fun _ _ h => h) fun _ _ h => ⟨h.1.1, h.2⟩) fun r => ?_
  exact Hq.bind (R := fun _ => StepPre np) (Hq.modS fun _ h => ⟨h, Int.natCast_nonneg _⟩) fun _ => Hq.modS fun _ h => h

theorem handlePanic_run {np : Bool} (msg : String) (s : State) (hv : StepExc np s) :
    ∃ s', (handlePanic msg).run.run s = (.ok (), s') ∧ StepExc np s' ∧ (s'.err = none → StepPre np s' ∧ ∃ ra, Delivered ra s') := by
  have := (handlePanic_spec msg).run s hv
  rcases hr : (handlePanic msg).run.run s with ⟨(e | a), s'⟩
  · exact (this.2 e s' hr).elim
  · exact ⟨s', rfl, this.1 a s' hr⟩

theorem resultValue_spec (s0 : State) (h : 1 ≤ s0.sp ∧ s0.sp < 2048) :
    Hq (fun s => s = s0) (fun _ s => s = s0) (fun e s => s = s0 ∧ ∀ msg, e ≠ .panic msg) resultValue := by
  intro s hs
  subst hs
  simp only [resultValue, exec_bind, exec_getSp]
  rcases exec_stackGet_cases (s.sp - 1) s with ⟨hn, _⟩ | ⟨_, e⟩
  · exact absurd (by omega) hn
  · rw [e]
    dsimp only
    generalize s.stack[(s.sp - 1).toNat]! = v
    cases v
    case box a =>
      simp only [heapGet, exec_bind, exec_getS]
      cases s.heap[a]? with
      | none => exact ⟨rfl, fun _ => nofun⟩
      | some c => cases c <;> first | exact rfl | exact ⟨rfl, fun _ => nofun⟩
    all_goals exact rfl

/-- what `Run` leaves: the invariant and the recovery switch; with the switch on, no escaped Go panic -/
def RunOk (np : Bool) (o : Outcome × State) : Prop :=
  StepExc np o.2 ∧ (np = true → ∀ m, o.1 ≠ .goPanic m)

theorem finish_ok {np : Bool} (s : State) (hv : StepExc np s) (h : s.err = none → 1 ≤ s.sp) : RunOk np (runFrom.finish s) := by
  unfold runFrom.finish
  split
  · exact ⟨hv, fun _ _ => nofun⟩
  · rename_i he
    split
    · rename_i hsp
      have := (resultValue_spec s ⟨h he, by simpa [stackSize] using hsp⟩).run s rfl
      split <;> rename_i heq
      · rw [this.1 _ _ heq]; exact ⟨hv, fun _ _ => nofun⟩
      · exact absurd rfl ((this.2 _ _ heq).2 _)
      · rw [(this.2 _ _ heq).1]; exact ⟨hv, fun _ _ => nofun⟩
    · exact ⟨hv, fun _ _ => nofun⟩

theorem afterLoop_ok (np : Bool) (again : Nat → State → Outcome × State)
    (hagain : ∀ fuel s, StepPre np s → RunOk np (again fuel s)) (fuel : Nat) (r : Except Exc (Option Unit)) (s : State)
    (hok : ∀ a, r = .ok a → LoopOk np a s) (herr : ∀ e, r = .error e → StepExc np s) :
    RunOk np (afterLoop again fuel r s) := by
  unfold afterLoop
  rcases r with (m | m) | (_ | u)
  · have hx := herr _ rfl
    dsimp only
    split
    · obtain ⟨s'', hp, hx'', hd⟩ := handlePanic_run m s hx
      rw [hp]
      dsimp only
      split
      · rename_i he
        exact hagain _ s'' (hd (by simpa using he)).1
      · rename_i he
        exact finish_ok s'' hx'' fun h0 => by simp [h0] at he
    · rename_i hnp
      exact ⟨hx, fun hnpt => absurd (hx.2.trans hnpt) hnp⟩
  · exact ⟨herr _ rfl, fun _ _ => nofun⟩
  · exact ⟨(hok _ rfl).1, fun _ _ => nofun⟩
  · have hx := hok _ rfl
    exact finish_ok _ ⟨hx.1.1.modify _ _ (frameOK_noHandlers rfl), hx.1.2⟩ (hx.2 rfl)

theorem go_ok (np : Bool) (F : FloatOps) : ∀ (reruns fuel : Nat) (s : State), StepPre np s →
    RunOk np (runFrom.go F reruns fuel s)
  | 0, _, _, h => ⟨h.1.1, fun _ _ => nofun⟩
  | reruns + 1, fuel, s, h => by
    have hl := (loopF_spec np F fuel).run s h
    rw [go_succ]
    exact afterLoop_ok np _ (go_ok np F reruns) fuel _ _ (fun a e => hl.1 a _ (Prod.ext e rfl))
      (fun x e => hl.2 x _ (Prod.ext e rfl))

theorem runFrom_ok (np : Bool) (F : FloatOps) (fuel : Nat) (g : V) (args : List V) (s : State)
    (hv : StepExc np s) (hwf : MainWF s) : RunOk np (runFrom F fuel g args s) := by
  have hp := (prologue_spec np g args).run s ⟨hv, hwf⟩
  unfold runFrom
  rcases hr : (prologue g args).run.run s with ⟨(e | u), s'⟩
  · have := hp.2 e s' hr
    cases e with
    | panic m => exact absurd rfl (this.2 m)
    | unsupported m => exact ⟨this.1, fun _ m' => by simp⟩
  · exact go_ok np F fuel fuel s' (hp.1 u s' hr)

end UgoVerif.Proofs.VM

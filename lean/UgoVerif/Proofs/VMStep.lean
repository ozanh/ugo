import UgoVerif.Proofs.VMThrow
/-
  Every opcode preserves the invariants of C06.  From an instruction-boundary state (`VInvB`) each
  `exec<Op>` ends either normally in a boundary state again, or with an exception (Go panic / outside the
  model) in a state that still satisfies `VInv` — the partial state Go leaves at the panic site, which is
  what the recovery path starts from.

  An opcode body is walked in the judgement `Hq` under the context `Cx np v`: everything the
  invariant reads is as at the boundary (`Mid np`), and the stack pointer is `v`.  Data actions
  keep the control part (`Pres SameI`) and so the context; `setSp w` moves it to `Cx np w`.  A
  completed `vm.stack[i]` access hands `0 ≤ i ∧ i < 2048` to the rest of the body as a
  hypothesis: that is where `0 ≤ sp` after an instruction comes from (`Hs.next` asks for
  `0 ≤ v`, and `omega` finds it among those hypotheses).  The rules are the entries of one
  table, `Hs.Rule`, which the walk reads by the term in front of it.
-/
set_option linter.unusedVariables false
namespace UgoVerif.Proofs.VM
open UgoVerif UgoVerif.Go
open UgoVerif.VM hiding exec exec_bind
open UgoVerif.Proofs.ModCache (exec exec_bind)

/-- after an instruction that completed: `continue` is at a boundary again; a `return` from `loop` without error
    leaves the result below a positive stack pointer -/
def StepOk (np : Bool) : Ctl → State → Prop
  | .next => StepPre np
  | .ret => fun s => StepExc np s ∧ (s.err = none → 1 ≤ s.sp)

/-- the control part without `ip` -/
def cpi (s : State) : CP := { cp s with ip := 0 }
def SameI (s t : State) : Prop := cpi t = cpi s

instance : DataRel SameI where
  refl _ := rfl
  trans h1 h2 := Eq.trans h2 h1
  stack _ _ _ := by simp [SameI, cpi, cp]
  heap _ _ _ := rfl
  trace _ _ _ := rfl
instance (c : Cell) : Pres SameI (alloc c) := ⟨fun _ => rfl⟩
instance (v : Int) : Pres SameI (setIp v) := ⟨fun _ => rfl⟩
instance (n : Int) : Pres SameI (bumpIp n) := ⟨fun _ => rfl⟩

def Cx (np : Bool) (v : Int) (s : State) : Prop := Mid np s ∧ s.sp = v

theorem Cx.of_sameI {np : Bool} {v : Int} {s t : State} (h : Cx np v s) (e : SameI s t) : Cx np v t := by
  simp only [SameI, cpi, cp, CP.mk.injEq] at e
  obtain ⟨e1, e2, e3, -, e5, e6, e7, -⟩ := e
  simp only [Cx, Mid, StepExc, VInv, curFn] at *
  rw [e1, e2, e3, e5, e6, e7]
  exact h

theorem Mid.of_same {np : Bool} {s t : State} (h : Mid np s) (e : Same s t) : Mid np t :=
  (Cx.of_sameI ⟨h, rfl⟩ (by unfold SameI cpi; rw [show cp t = cp s from e])).1

theorem Cx.setSp {np : Bool} {v w : Int} {s : State} (h : Cx np v s) : Cx np w { s with sp := w } := ⟨h.1, rfl⟩

theorem Cx.exc {np : Bool} {v : Int} {s : State} (h : Cx np v s) : StepExc np s := h.1.1

abbrev Hs (np : Bool) (v : Int) {α} (Q : α → State → Prop) (m : M α) : Prop :=
  Hq (Cx np v) Q (fun _ s => StepExc np s) m

namespace Hs
variable {np : Bool} {v : Int} {α β : Type} {Q : α → State → Prop}

/-- The table of rules, keyed on the term: for `m >>= f` by its first action `m`, with `f` and `Q` free; at the end of a
    body by the last action and `Q`.  `C` is the side condition on the arguments of `m` and on `v`; `K` is what is left to
    prove of `f`, under the stack pointer `m` leaves and with what a completed `m` proves as a hypothesis (`True` at the
    end of a body).  Keyed on `m` alone, `K` would be a function of `f` and come back with `f x` a beta-redex, which
    hides the `match` on `x` from `split`; here `f` is a variable of the entry, and `f x` is reduced when it is found. -/
class Rule (np : Bool) (v : Int) {α : Type} (Q : α → State → Prop) (t : M α) (C K : outParam Prop) : Prop where
  rule : C → K → Hs np v Q t

/-- an action that keeps the control part (up to `ip`): the entry of every action that has no entry of its own -/
instance (priority := low) data_bind {m : M β} {f : β → M α} [hm : Pres SameI m] :
    Rule np v Q (m >>= f) True (∀ b, Hs np v Q (f b)) :=
  ⟨fun _ hf => Hq.data_bind hm.h (fun _ _ h e => h.of_sameI e) (fun _ _ h => h.exc) hf⟩

/-- at the end of a compound action or of a loop body, where the postcondition is the context -/
instance (priority := low) data {m : M α} [hm : Pres SameI m] : Rule np v (fun _ => Cx np v) m True True :=
  ⟨fun _ _ => Hq.frame (R := SameI) hm.h (fun a _ s' h e => h.of_sameI e) (fun _ _ _ h e => (h.of_sameI e).exc)⟩

instance getSp_bind {f : Int → M α} : Rule np v Q (getSp >>= f) True (Hs np v Q (f v)) :=
  ⟨fun _ hf => Hq.getSp_bind_of (fun _ h => h.2) hf⟩

instance setSp_bind (w : Int) {f : Unit → M α} : Rule np v Q (setSp w >>= f) True (Hs np w Q (f ())) :=
  ⟨fun _ hf => Hq.modS_bind (fun _ h => h.setSp) hf⟩

instance modS_bind (g : State → State) {f : Unit → M α} :
    Rule np v Q (modS g >>= f) (∀ s, SameI s (g s)) (Hs np v Q (f ())) :=
  ⟨fun hg hf => Hq.modS_bind (fun s h => h.of_sameI (hg s)) hf⟩

theorem mid_bind {m : M β} {f : β → M α} (hm : Hs np v (fun _ => Cx np v) m) (hf : ∀ b, Hs np v Q (f b)) :
    Hs np v Q (m >>= f) := Hq.bind hm hf

instance stackGet_bind (i : Int) {f : V → M α} :
    Rule np v Q (stackGet i >>= f) True (0 ≤ i ∧ i < 2048 → ∀ x, Hs np v Q (f x)) := by
  refine ⟨fun _ hf s hs => ?_⟩
  rw [exec_bind]
  rcases exec_stackGet_cases i s with ⟨_, msg, e⟩ | ⟨h, e⟩ <;> rw [e]
  · exact hs.exc
  · exact hf h _ s hs

instance stackSet_bind (i : Int) (x : V) {f : Unit → M α} :
    Rule np v Q (stackSet i x >>= f) True (0 ≤ i ∧ i < 2048 → Hs np v Q (f ())) := by
  refine ⟨fun _ hf s hs => ?_⟩
  rw [exec_bind]
  rcases exec_stackSet_cases i x s with ⟨_, msg, e⟩ | ⟨h, e⟩ <;> rw [e]
  · exact hs.exc
  · exact hf h _ (hs.of_sameI (DataRel.stack s _ _))

instance pushV_bind (x : V) {f : Unit → M α} :
    Rule np v Q (pushV x >>= f) True (0 ≤ v ∧ v < 2048 → Hs np (v + 1) Q (f ())) := by
  refine ⟨fun _ hf => ?_⟩
  unfold pushV
  simp only [bind_assoc]
  exact getSp_bind.rule trivial ((stackSet_bind _ _).rule trivial fun h => (setSp_bind _).rule trivial (hf h))

instance next : Rule np v (StepOk np) (pure Ctl.next) (0 ≤ v) True := ⟨fun h _ => Hq.pure fun _ hs => ⟨hs.1, hs.2 ▸ h⟩⟩

instance panic (msg : String) : Rule np v Q (VM.panic msg : M α) True True := ⟨fun _ _ => Hq.panic _ fun _ h => h.exc⟩
instance unsupported (msg : String) : Rule np v Q (VM.unsupported msg : M α) True True :=
  ⟨fun _ _ => Hq.unsupported _ fun _ h => h.exc⟩

theorem setErr (e : VmErr) : Hq (StepExc np) (StepOk np) (fun _ s => StepExc np s)
    (modS (fun s => { s with err := some e }) >>= fun _ => pure Ctl.ret) :=
  Hq.bind (R := fun _ => StepOk np .ret) (Hq.modS fun _ h => ⟨h, fun he => nomatch he⟩) fun _ => Hq.pure fun _ h => h

instance (priority := high) errRet (e : VmErr) :
    Rule np v (StepOk np) (modS (fun s => { s with err := some e }) >>= fun _ => pure Ctl.ret) True True :=
  ⟨fun _ _ => (setErr e).pre fun _ h => h.exc⟩

/-- `vm.throw(err)` from any point of an instruction, and the end of the instruction: a handler took the error and the
    VM is at a boundary again, or none did and `vm.err` is set.  Outside `handlePanic` nothing is known of `sp` and
    `frameIndex`, so the clearing of the stack may panic. -/
theorem throwNow_mid (err : Addr) : Hq (Mid np) (StepOk np) (fun _ s => StepExc np s) (throwNow err) := by
  unfold throwNow
  refine (VM.throw_bind False err (fun r => ?_) fun _ _ h => h.1).pre fun _ h => ⟨h.1, h.2.1, False.elim⟩
  cases r with
  | none => exact Hq.pure fun _ h => ⟨⟨h.1, h.2.1, (h.2.2.1 rfl).2.1⟩, (h.2.2.1 rfl).1⟩
  | some a => exact (setErr _).pre fun _ h => h.1

theorem failWith_mid (e : OpErr) : Hq (Mid np) (StepOk np) (fun _ s => StepExc np s) (VM.failWith e) := by
  rw [failWith_eq]
  exact Hq.data_bind (R := Same) (Pres.h (m := rtErrOfOpErr e)) (fun _ _ h e' => h.of_same e') (fun _ _ h => h.1) throwNow_mid

instance failWith (e : OpErr) : Rule np v (StepOk np) (VM.failWith e) True True :=
  ⟨fun _ _ => (failWith_mid e).pre fun _ h => h.1⟩

end Hs

def FrameUpd (g : Frame → Frame) : Prop := ∀ fr, FrameOK fr → fr.fn ≠ none → FrameOK (g fr) ∧ (g fr).fn ≠ none

theorem FrameUpd.of_eq {g : Frame → Frame} (hfn : ∀ f, (g f).fn = f.fn) (hh : ∀ f, (g f).handlers = f.handlers) : FrameUpd g :=
  fun f hf hn => ⟨frameOK_congr hf (hfn f) (hh f), hfn f ▸ hn⟩

theorem curFn_setCur {s0 t : State} (hv : VInv s0) (g : Frame → Frame)
    (hfr : t.frames = s0.frames.modify s0.curFrame g) (hcur : t.curFrame = s0.curFrame)
    (hfn : (g s0.frames[s0.curFrame]!).fn ≠ none) : curFn t ≠ none := by
  simp only [curFn]; rw [hfr, hcur, getElem!_modify_self _ _ _ hv.lt_size]; exact hfn

theorem Cx.setCurFrame {np : Bool} {v : Int} {s : State} (h : Cx np v s) {g : Frame → Frame} (hg : FrameUpd g) :
    Cx np v { s with frames := s.frames.modify s.curFrame g } := by
  obtain ⟨⟨⟨h1, h2⟩, h3, h4⟩, h5⟩ := h
  have := hg _ (h1.get! s.curFrame) h4
  exact ⟨⟨⟨h1.modify _ _ this.1, h2⟩, h3, curFn_setCur h1 g rfl rfl this.2⟩, h5⟩

namespace Hs
variable {np : Bool} {v : Int} {α β : Type} {Q : α → State → Prop}

theorem setCurFrame_bind (g : Frame → Frame) {f : Unit → M α}
    (hg : FrameUpd g) (hf : Hs np v Q (f ())) : Hs np v Q (setCurFrame g >>= f) :=
  Hq.modS_bind (fun _ h => h.setCurFrame hg) hf

/- The updates of the current frame that the opcodes make.  A handler's `sp` is not negative (`FrameOK`): an update
   that writes one owes that as its side condition. -/

instance popHandler_bind {f : Unit → M α} : Rule np v Q (setCurFrame popHandler >>= f) True (Hs np v Q (f ())) :=
  ⟨fun _ => setCurFrame_bind _ fun _ hf hfn => ⟨frameOK_popHandler hf, by rw [popHandler_fn]; exact hfn⟩⟩

instance setLast_bind (g : Handler → Handler) {f : Unit → M α} :
    Rule np v Q (setCurFrame (fun fr => setLast fr g) >>= f) (∀ x, 0 ≤ x.sp → 0 ≤ (g x).sp) (Hs np v Q (f ())) :=
  ⟨fun hg => setCurFrame_bind _ fun _ hf hfn => ⟨frameOK_setLast hf g hg, by rw [setLast_fn]; exact hfn⟩⟩

instance pushHandler_bind (h : Handler) {f : Unit → M α} :
    Rule np v Q (setCurFrame (fun fr => { fr with handlers := some (h :: fr.handlers.getD []) }) >>= f) (0 ≤ h.sp)
      (Hs np v Q (f ())) :=
  ⟨fun hsp => setCurFrame_bind _ fun _ hf hfn => ⟨⟨fun _ => hfn, pushHandler_all hsp hf.2⟩, hfn⟩⟩

instance setDiscard_bind (b : Bool) {f : Unit → M α} :
    Rule np v Q (setCurFrame (fun fr => { fr with discard := b }) >>= f) True (Hs np v Q (f ())) :=
  ⟨fun _ => setCurFrame_bind _ (.of_eq (fun _ => rfl) fun _ => rfl)⟩

instance dropHandlers_bind {f : Unit → M α} :
    Rule np v Q (setCurFrame (fun fr => { fr with handlers := none }) >>= f) True (Hs np v Q (f ())) :=
  ⟨fun _ => setCurFrame_bind _ fun _ _ hfn => ⟨frameOK_noHandlers rfl, hfn⟩⟩

theorem forIn_range_bind (r : Std.Legacy.Range) (init : β)
    (body : Nat → β → M (ForInStep β)) {f : β → M α}
    (hb : ∀ a b, Hs np v (fun _ => Cx np v) (body a b)) (hf : ∀ b, Hs np v Q (f b)) :
    Hs np v Q (forIn r init body >>= f) :=
  Hq.bind (Hq.forIn_range (J := fun _ => Cx np v) (I := fun _ => Cx np v) r init body (fun a b =>
    (hb a b).post fun r s h => by cases r <;> exact h) fun _ _ h => h) hf

end Hs

/-- The side condition of an entry: an inequality between stack pointers, which `omega` reads off the bounds that the
    stack accesses left; a handler's new `sp` is not negative by a hypothesis in sight; a written-out `modS` leaves the
    control part alone by `rfl`. -/
syntax "hs_side" : tactic
macro_rules | `(tactic| hs_side) => `(tactic| first
  | exact trivial
  | omega
  | (intros; first | assumption | with_unfolding_all rfl)
  | (refine ⟨?_, ?_⟩ <;> hs_side))

/-- One step by the entry of the term in the table `Hs.Rule`: its side condition goes to `hs_side`; what it asks of the
    continuation is a statement about all results of the first action, under what the completed action proves: those
    are introduced. -/
macro "hs_rule" : tactic => `(tactic| (refine Hs.Rule.rule (by hs_side) ?_; first | exact trivial | intros))

/-- Walks a `do` block under `Cx np v`, by `hs_rule` where the term has an entry.  A bind whose first action has none is a
    `for` loop over stack accesses and data actions, which keeps the context, or a compound action (a `match` that
    yields a value), walked on its own with the context as its postcondition.  `if` and `match` are split; a join point
    or local function of the block is proved once, for every `sp = v__ ≥ 0`, with postcondition `$Q v__`, and used at its
    call sites (a `let` of a value keeps its equation, for `omega`); at the end of a compound action the postcondition is
    the context. -/
syntax "hs_walk " term:max : tactic
set_option hygiene false in
macro_rules | `(tactic| hs_walk $Q) => `(tactic|
  repeat (first
    | with_reducible hs_rule
    | (with_reducible apply Hq.ite <;> intro _)
    | walk_jp (fun m__ => ∀ v__ : Int, 0 ≤ v__ → Hs np v__ ($Q v__) m__) by (intro v__ hv__; hs_walk $Q)
    | (with_reducible refine Hs.forIn_range_bind _ _ _ (fun _ _ => ?_) fun _ => ?_;
       · hs_walk (fun v__ => fun _ => Cx np v__))
    | with_reducible refine Hs.mid_bind ?_ fun _ => ?_
    | split
    | (apply_assumption <;> omega)
    | dsimp only))

set_option hygiene false in
macro "hs_op" : tactic => `(tactic| hs_walk (fun _ => StepOk np))

section
variable {np : Bool} {v : Int}
/-- the accumulator of GETINDEX's loop when the loop has ended: a result of `failWith`, or none yet -/
def GiI (np : Bool) (v : Int) (b : Option Ctl × V × V) (s : State) : Prop :=
  match b.1 with
  | none => Cx np v s
  | some r => StepOk np r s

theorem execGetIndex_ok (hv : 0 ≤ v) : Hs np v (StepOk np) execGetIndex := by
  unfold execGetIndex
  refine Hs.data_bind.rule trivial fun n => Hs.getSp_bind.rule trivial ?_
  refine (Hs.stackGet_bind _).rule trivial fun htp target => ?_
  refine Hq.bind (R := GiI np v) ?_ fun b => ?_
  · refine Hq.forIn_range (J := fun b s => b.1 = none ∧ Cx np v s) _ _ _ (fun k b => ?_) (fun b s h => ?_) |>.pre fun _ h => ⟨rfl, h⟩
    · refine Hq.pre (X := Cx np v) ?_ fun _ h => h.2
      dsimp only
      refine (Hs.stackGet_bind _).rule trivial fun _ index => ?_
      refine (Hs.stackSet_bind _ _).rule trivial fun _ => ?_
      refine Hs.data_bind.rule trivial fun r => ?_
      split
      · refine Hs.mid_bind (by hs_walk (fun v__ => fun _ => Cx np v__)) fun e' => ?_
        exact Hq.bind ((Hs.failWith _).rule trivial trivial) fun r => Hq.pure fun _ h => h
      · exact Hq.pure fun _ h => ⟨rfl, h⟩
    · show GiI np v b s
      unfold GiI; rw [h.1]; exact h.2
  · rcases b with ⟨(_ | r), t, value⟩
    · show Hs np v (StepOk np) _
      hs_op
    · exact Hq.pure fun _ h => h

/-- `errHandlers.findFinally` only pops handlers of the current frame -/
instance findFinally_ok : ∀ (fuel : Nat) (upto : Int), Hs.Rule np v (fun _ => Cx np v) (findFinally fuel upto) True True
  | 0, _ => ⟨fun _ _ => by rw [findFinally]; exact (Hs.unsupported _).rule trivial trivial⟩
  | fuel + 1, upto => ⟨fun _ _ => by
    have ih := findFinally_ok fuel
    rw [findFinally]
    hs_walk (fun v__ => fun _ => Cx np v__)⟩

instance retTail_ok : Hs.Rule np v (StepOk np) retTail (1 ≤ v) True := by
  refine ⟨fun hv _ s ⟨⟨⟨hv0, hnp⟩, herr, hfn⟩, hsp⟩ => ?_⟩
  rw [show exec retTail s = _ from exec_retTail s]
  by_cases h1 : (s.frameIndex == 1) = true
  · rw [if_pos h1]; exact ⟨⟨hv0, hnp⟩, fun _ => hsp ▸ hv⟩
  rw [if_neg h1]
  have hv1 : CInv (s.frames.modify s.curFrame clearF) s.curFrame s.stack.size :=
    hv0.modify _ _ (frameOK_noHandlers rfl)
  by_cases h2 : (decide (s.frameIndex - 2 < 0) || decide (s.frameIndex - 2 ≥ (frameSize : Int))) = true
  · rw [if_pos h2]; exact ⟨hv1, hnp⟩
  rw [if_neg h2]
  have hlt := (toNat_lt_of_inFrames h2).2
  have hv2 : VInv (popped s) := hv1.cur _ hlt
  cases hf : ((s.frames.modify s.curFrame clearF)[(s.frameIndex - 2).toNat]!).fn with
  | none => exact ⟨hv2, hnp⟩
  | some a =>
    refine ⟨⟨⟨hv2, hnp⟩, herr, ?_⟩, by show 0 ≤ s.sp; omega⟩
    show ((s.frames.modify s.curFrame clearF)[(s.frameIndex - 2).toNat]!).fn ≠ none
    rw [hf]; nofun

/-- what a call leaves: the callee entered, or a builtin's result pushed (`.ok`: at a boundary again); an error
    returned before any frame is touched -/
def CallQ (np : Bool) : Except OpErr Unit → State → Prop
  | .ok _ => StepPre np
  | .error _ => Mid np

instance Hs.callOk : Hs.Rule np v (CallQ np) (pure (Except.ok ())) (0 ≤ v) True :=
  ⟨fun h _ => Hq.pure fun _ hs => ⟨hs.1, hs.2 ▸ h⟩⟩
instance Hs.callErr (e : OpErr) : Hs.Rule np v (CallQ np) (pure (Except.error e)) True True :=
  ⟨fun _ _ => Hq.pure fun _ hs => hs.1⟩

instance callPush_ok (fa : Addr) (free : Option (List Addr)) (bp ip nl : Int) :
    Hs.Rule np v (CallQ np) (callTail fa free bp ip nl) (0 ≤ bp + nl) True := by
  refine ⟨fun h _ s ⟨⟨⟨hv0, hnp⟩, herr, hfn⟩, hsp⟩ => ?_⟩
  rw [show exec (callTail fa free bp ip nl) s = _ from exec_callTail fa free bp ip nl s]
  by_cases h1 : s.frameIndex + 1 > (frameSize : Int) - 1
  · rw [if_pos h1]; exact ⟨⟨hv0, hnp⟩, herr, hfn⟩
  rw [if_neg h1]
  by_cases h2 : (decide (s.frameIndex < 0) || decide (s.frameIndex ≥ (frameSize : Int))) = true
  · rw [if_pos h2]; exact ⟨hv0, hnp⟩
  rw [if_neg h2]
  have hk := (toNat_lt_of_inFrames h2).2
  have hv1 := hv0.modify s.curFrame (fun f => { f with ip := ip + 2 }) (frameOK_congr (hv0.get! _) rfl rfl)
  have hv2 := (hv1.modify s.frameIndex.toNat (enterF fa free bp) (frameOK_noHandlers rfl)).cur _ hk
  refine ⟨⟨⟨hv2, hnp⟩, herr, ?_⟩, h⟩
  show (((s.frames.modify s.curFrame _).modify s.frameIndex.toNat (enterF fa free bp))[s.frameIndex.toNat]!).fn ≠ none
  rw [getElem!_modify_self _ _ _ (by rw [hv1.1]; exact hk)]
  nofun

/-- `popArgs n` only lowers `sp` (and clears slots); every completed iteration proves `0 ≤ sp` -/
instance Hs.popArgs_bind {α} {Q : α → State → Prop} (n : Nat) {k : Unit → M α} :
    Hs.Rule np v Q (popArgs n >>= k) (0 ≤ v) (∀ w, 0 ≤ w → Hs np w Q (k ())) := by
  refine ⟨fun hv hk => ?_⟩
  refine Hq.bind (R := fun _ => StepPre np) ?_ fun _ s hs => hk s.sp hs.2 s ⟨hs.1, rfl⟩
  unfold popArgs
  refine Hq.pre (X := StepPre np) ?_ fun s hs => ⟨hs.1, hs.2 ▸ hv⟩
  refine Hq.bind (Hq.forIn_upto (J := fun _ => StepPre np) (I := fun _ => StepPre np)
    n _ _ (fun _ _ _ s hs => ?_) fun _ _ h => h) fun _ => Hq.pure fun _ h => h
  refine Hs.getSp_bind.rule trivial ((Hs.setSp_bind _).rule trivial ((Hs.stackSet_bind _ _).rule trivial fun h => ?_)) s ⟨hs.1, rfl⟩
  exact Hq.pure fun _ hs => ⟨hs.1, hs.2 ▸ h.1⟩

theorem callObject_ok (callee : V) (n fl : Int) (hv : 0 ≤ v) : Hs np v (CallQ np) (callObject callee n fl) := by
  unfold callObject
  hs_walk (fun _ => CallQ np)

theorem callCompiled_ok (fa : Addr) (n fl : Int) (hn : 0 ≤ n) (hv : 0 ≤ v - n - 1) :
    Hs np v (CallQ np) (callCompiled fa n fl) := by
  unfold callCompiled
  hs_walk (fun _ => CallQ np)

theorem callAny_ok (callee : V) (n fl : Int) (hn : 0 ≤ n) (hv : 0 ≤ v - n - 1) : Hs np v (CallQ np) (callAny callee n fl) := by
  unfold callAny
  split
  · exact callCompiled_ok _ n fl hn hv
  · exact callObject_ok _ n fl (by omega)

def callEnd : Except OpErr Unit → M Ctl
  | .ok () => pure Ctl.next
  | .error e => VM.failWith e

/-- The call proper.  The opcodes have `callEnd` written out as a `match` of their own, which the unifier does not see
    through when it looks the entry up: that the continuation is `callEnd` is a side condition, by `rfl`. -/
instance Hs.call_bind (callee : V) (n fl : Int) {k : Except OpErr Unit → M Ctl} :
    Hs.Rule np v (StepOk np) (callAny callee n fl >>= k) (k = callEnd ∧ 0 ≤ n ∧ 0 ≤ v - n - 1) True := by
  refine ⟨fun ⟨hk, hn, hv⟩ _ => hk ▸ Hq.bind (callAny_ok callee n fl hn hv) fun r => ?_⟩
  cases r with
  | ok u => exact Hq.pure fun _ h => h
  | error e => exact Hs.failWith_mid e

theorem Hs.curFrame_bind {α} {Q : α → State → Prop} {k : Frame → M α} (hk : ∀ fr, FrameOK fr → Hs np v Q (k fr)) :
    Hs np v Q (curFrame >>= k) :=
  Hq.curFrame_bind fun fr => Hq.assume fun s hs => (hk fr (hs.2 ▸ hs.1.1.1.1.get! s.curFrame)).pre fun _ e => e ▸ hs.1

/-- `throw` and the end of the instruction, written out in the opcode: as for `Hs.call_bind` -/
instance Hs.throw_bind (err : Addr) {k : Option Addr → M Ctl} :
    Hs.Rule np v (StepOk np) (throwFuel >>= fun n => throwF n err >>= k) (k = finishThrow) True :=
  ⟨fun hk _ => hk ▸ (Hs.throwNow_mid err).pre fun _ h => h.1⟩

theorem execThrow_ok (hv : 0 ≤ v) : Hs np v (StepOk np) execThrow := by
  unfold execThrow
  refine Hs.data_bind.rule trivial fun o => Hs.data_bind.rule trivial fun _ => Hq.ite (fun _ => ?_) fun _ => ?_
  · refine Hs.curFrame_bind fun fr hfr => ?_
    split
    · rename_i h hl
      have hsp := lastHandler_sp hfr hl
      hs_op
    · hs_op
  · hs_op

/-- every opcode function, from `0 ≤ sp`: the rows are walks but GETINDEX (a loop that ends early) and THROW (what the
    invariant says of the handlers is read) -/
instance dispatch_ok (F : FloatOps) (op : Nat) : Hs.Rule np v (StepOk np) (dispatch F op) (0 ≤ v) True := ⟨fun hv _ =>
  dispatch_cases (P := Hs np v (StepOk np)) F op
    (fun _ => by unfold execConstant; hs_op)
    (fun _ => by unfold execGetLocal; hs_op)
    (fun _ => by unfold execSetLocal; hs_op)
    (fun _ => by unfold execBinaryOp; hs_op)
    (fun _ => by unfold execAndJump; hs_op)
    (fun _ => by unfold execOrJump; hs_op)
    (fun _ => by unfold execEqual; hs_op)
    (fun _ => by unfold execTrue; hs_op)
    (fun _ => by unfold execFalse; hs_op)
    (fun _ => by unfold execCall; hs_op)
    (fun _ => by unfold execCallName; hs_op)
    (fun _ => by unfold execReturn; hs_op)
    (fun _ => by unfold execGetBuiltin; hs_op)
    (fun _ => by unfold execClosure; hs_op)
    (fun _ => by unfold execJump; hs_op)
    (fun _ => by unfold execJumpFalsy; hs_op)
    (fun _ => by unfold execGetGlobal; hs_op)
    (fun _ => by unfold execSetGlobal; hs_op)
    (fun _ => by unfold execArray; hs_op)
    (fun _ => by unfold execMap; hs_op)
    (fun _ => execGetIndex_ok hv)
    (fun _ => by unfold execSetIndex; hs_op)
    (fun _ => by unfold execSliceIndex; hs_op)
    (fun _ => by unfold execGetFree; hs_op)
    (fun _ => by unfold execSetFree; hs_op)
    (fun _ => by unfold execGetLocalPtr; hs_op)
    (fun _ => by unfold execGetFreePtr; hs_op)
    (fun _ => by unfold execDefineLocal; hs_op)
    (fun _ => by unfold execNull; hs_op)
    (fun _ => by unfold execPop; hs_op)
    (fun _ => by unfold execIterInit; hs_op)
    (fun _ => by unfold execIterNext; hs_op)
    (fun _ => by unfold execLoadModule; hs_op)
    (fun _ => by unfold execStoreModule; hs_op)
    (fun _ => by unfold execSetupTry; hs_op)
    (fun _ => by unfold execSetupCatch; hs_op)
    (fun _ => by unfold execSetupFinally; hs_op)
    (fun _ => execThrow_ok hv)
    (fun _ => by unfold execFinalizer; hs_op)
    (fun _ => by unfold execUnary; hs_op)
    (fun _ => by unfold execNoOp; hs_op)
    ((Hs.errRet _).rule trivial trivial)⟩

end

/-- One instruction preserves the invariants, for arbitrary bytecode and an arbitrary
    boundary state: it completes in a boundary state, or raises (panic / outside the model)
    leaving a state that satisfies the recovery-path invariant. -/
theorem step_ok (np : Bool) (F : FloatOps) : Hq (StepPre np) (StepOk np) (fun _ => StepExc np) (step F) := fun s hs => by
  -- a boundary state is in the context of the walks, at its own stack pointer
  have hv : 0 ≤ s.sp := hs.2
  have : Hs np s.sp (StepOk np) (step F) := by unfold step; hs_op
  exact this s ⟨hs.1, rfl⟩

end UgoVerif.Proofs.VM

import UgoVerif.Proofs.VMInv
import UgoVerif.Proofs.FrameOps
/-
  The error path of C06 (vm.go `throw`, `handleThrownError`, `handlePanic`).  `throw` keeps `VInv`, and under the
  guard that `handlePanic` checks before it throws (`sp < stackSize`, `frameIndex ≤ frameSize`) it raises no Go
  panic.  The fuel of the model's `throwF` is never exhausted: a round that does not end pops a handler, and
  `throwFuel` exceeds the number of handlers (`totalH`).
-/
namespace UgoVerif.Proofs.VM
open UgoVerif UgoVerif.Go
open UgoVerif.VM hiding exec exec_bind exec_getS
open UgoVerif.Proofs.ModCache (exec exec_bind)
open UgoVerif.Proofs.Fetch (exec_getS)

theorem exec_stackGet_cases (i : Int) (s : State) :
    (¬ (0 ≤ i ∧ i < 2048) ∧ ∃ msg, exec (stackGet i) s = (.error (.panic msg), s)) ∨
    (0 ≤ i ∧ i < 2048) ∧ exec (stackGet i) s = (.ok (s.stack[i.toNat]!), s) := by
  unfold stackGet
  simp only [exec_bind, exec_getS]
  split
  · rename_i h
    exact .inl ⟨by simp [stackSize] at h; omega, _, rfl⟩
  · rename_i h
    exact .inr ⟨by simp [stackSize] at h; omega, rfl⟩

theorem exec_stackSet_cases (i : Int) (x : V) (s : State) :
    (¬ (0 ≤ i ∧ i < 2048) ∧ ∃ msg, exec (stackSet i x) s = (.error (.panic msg), s)) ∨
    (0 ≤ i ∧ i < 2048) ∧ exec (stackSet i x) s = (.ok (), { s with stack := s.stack.set! i.toNat x }) := by
  unfold stackSet
  split
  · rename_i h
    exact .inl ⟨by simp [stackSize] at h; omega, _, rfl⟩
  · rename_i h
    exact .inr ⟨by simp [stackSize] at h; omega, rfl⟩

theorem stackSet_same (i : Int) (x : V) (c0 : CP) :
    Hq (fun s => cp s = c0) (fun _ s => cp s = c0)
      (fun e s => cp s = c0 ∧ ¬ (0 ≤ i ∧ i < 2048) ∧ ∃ m, e = .panic m) (stackSet i x) := by
  intro s hs
  rcases exec_stackSet_cases i x s with ⟨hn, m, e⟩ | ⟨_, e⟩ <;> rw [e]
  · exact ⟨hs, hn, m, rfl⟩
  · exact Eq.trans (DataRel.stack (R := Same) s _ _) hs

theorem clearDown_spec (hi lo : Int) (c0 : CP) (G : Prop) (hG : G → 0 ≤ lo ∧ hi < 2048) :
    Hq (fun s => cp s = c0) (fun _ s => cp s = c0) (fun e s => cp s = c0 ∧ ¬G ∧ ∃ m, e = .panic m) (clearDown hi lo) := by
  unfold clearDown
  refine Hq.bind (Hq.forIn_upto (J := fun _ s => cp s = c0) (I := fun _ s => cp s = c0) _ _ _ (fun k hk _ => ?_)
    fun _ _ h => h) fun _ => Hq.pure fun _ h => h
  refine Hq.bind ((stackSet_same _ _ c0).conseq (fun _ h => h) (fun _ _ h => h) fun _ _ h => ⟨h.1, fun g => h.2.1 ?_, h.2.2⟩)
    fun _ => Hq.pure fun _ h => h
  have := hG g
  omega

theorem searched_inv {s : State} (n : Nat) (hv : VInv s) : CInv (searched s.frames n).2 s.curFrame s.stack.size :=
  searched_ind (A := fun fr => CInv fr s.curFrame s.stack.size) n
    (fun _ j _ h hf => h.modify j _ (frameOK_of_not_hasHandler (h.get! j) _ rfl hf)) n (Nat.le_refl n) s.frames hv

/-- the thrown error is pending in the innermost handler of the current frame and the VM
    continues at that handler's catch (or finally) block with the handler's stack pointer -/
def Delivered (err : Addr) (s : State) : Prop :=
  ∃ h, lastHandler (s.frames[s.curFrame]!) = some h ∧ h.err = some err ∧ s.sp = h.sp ∧ AtBlock h s.ip

section
variable (np : Bool) (e0 : Option VmErr)

/-- `G`: the guard of `handlePanic` holds (`sp < stackSize`, `frameIndex ≤ frameSize`); the fuel covers all handlers
    of all frames.  `throw` writes neither the recovery switch nor `vm.err`: they are `np` and `e0` before and after. -/
def ThrowPre (G : Prop) (fuel : Nat) (s : State) : Prop :=
  StepExc np s ∧ s.err = e0 ∧ (G → s.sp < 2048 ∧ s.frameIndex ≤ 1024) ∧ totalH s.frames < fuel

def ThrowOk (err : Addr) (r : Option Addr) (s : State) : Prop :=
  StepExc np s ∧ s.err = e0 ∧ (r = none → 0 ≤ s.sp ∧ curFn s ≠ none ∧ Delivered err s) ∧ (∀ e, r = some e → e = err)

def ThrowExc (G : Prop) (e : Exc) (s : State) : Prop :=
  StepExc np s ∧ s.err = e0 ∧ (match e with | .panic _ => ¬G | .unsupported _ => False)
end

def setErrF (err : Addr) (f : Frame) : Frame :=
  setLast f fun h => { h with err := some err }

theorem handle_facts {fr : Array Frame} {c n : Nat} {err : Addr} {h : Handler} (hv : CInv fr c n)
    (hx : lastHandler (fr.modify c (setErrF err))[c]! = some h) :
    0 ≤ h.sp ∧ h.err = some err ∧ CInv (fr.modify c (setErrF err)) c n ∧ ((fr.modify c (setErrF err))[c]!).fn ≠ none ∧
      hasHandler ((fr.modify c (setErrF err))[c]!) = true := by
  have hc := hv.lt_size
  have hok : FrameOK (setErrF err fr[c]!) := frameOK_setLast (hv.get! c) _ (fun x hx => hx)
  have hv' : CInv (fr.modify c (setErrF err)) c n := hv.modify c _ hok
  rw [getElem!_modify_self _ _ _ hc] at hx ⊢
  have hh : hasHandler (setErrF err fr[c]!) = true := hasHandler_of_last hx
  refine ⟨lastHandler_sp hok hx, ?_, hv', hok.1 hh, hh⟩
  simp only [setErrF, lastHandler_setLast] at hx
  cases hl : lastHandler fr[c]! with
  | none => simp [hl] at hx
  | some h0 => simp [hl] at hx; subst hx; rfl

theorem handle_some {fr : Array Frame} {c n : Nat} {err : Addr} (hv : CInv fr c n) (hh : hasHandler fr[c]! = true) :
    lastHandler (fr.modify c (setErrF err))[c]! ≠ none := by
  rw [getElem!_modify_self _ _ _ hv.lt_size]
  obtain ⟨x, hx⟩ := lastHandler_some hh
  simp [setErrF, lastHandler_setLast, hx]

theorem landAt_spec (G : Prop) (ip hsp : Int) (c0 : CP) (hG : G → 0 ≤ hsp ∧ c0.sp < 2048) :
    Hq (fun s => cp s = c0) (fun r s => r = some none ∧ cp s = { c0 with sp := hsp, ip := ip })
      (fun e s => cp s = { c0 with ip := ip } ∧ ¬G ∧ ∃ m, e = .panic m) (landAt ip hsp) := by
  unfold landAt
  refine Hq.modS_bind (Y := fun s => cp s = { c0 with ip := ip }) (fun s h => by rw [← h]; rfl) ?_
  refine Hq.getSp_bind_of (v := c0.sp) (fun s h => by rw [← (show (cp s).sp = s.sp from rfl), h]) ?_
  have hjp : Hq (fun s => cp s = { c0 with ip := ip }) (fun r s => r = some none ∧ cp s = { c0 with sp := hsp, ip := ip })
      (fun e s => cp s = { c0 with ip := ip } ∧ ¬G ∧ ∃ m, e = .panic m)
      (setSp hsp >>= fun _ => (pure (some none) : M (Option (Option Addr)))) :=
    Hq.modS_bind (Y := fun s => cp s = { c0 with sp := hsp, ip := ip }) (fun s h' => by show ({ cp s with sp := hsp } : CP) = _; rw [h'])
      (Hq.pure fun _ h' => ⟨rfl, h'⟩)
  dsimp only
  exact Hq.ite (fun _ => Hq.bind (clearDown_spec _ _ _ G hG) fun _ => hjp) fun _ => hjp

section
variable {np : Bool} {e0 : Option VmErr}

theorem handle_done {s1 s : State} {err : Addr} {h : Handler} {ip : Int} (hv : StepExc np s1) (he0 : s1.err = e0)
    (x : lastHandler (s1.frames.modify s1.curFrame (setErrF err))[s1.curFrame]! = some h)
    (hcp : cp s = { cp s1 with frames := s1.frames.modify s1.curFrame (setErrF err), sp := h.sp, ip := ip })
    (hip : AtBlock h ip) :
    ThrowOk np e0 err none s := by
  have hf := handle_facts hv.1 x
  simp only [cp, CP.mk.injEq] at hcp
  obtain ⟨hfr, hsp, hcur, -, hsz, he, hn, -, -, -, hi⟩ := hcp
  refine ⟨⟨?_, hn.trans hv.2⟩, he.trans he0, fun _ => ⟨by rw [hsp]; exact hf.1, ?_, ?_⟩, fun e he => by simp at he⟩
  · simp only [VInv]; rw [hfr, hcur, hsz]; exact hf.2.2.1
  · simp only [curFn]; rw [hfr, hcur]; exact hf.2.2.2.1
  · exact ⟨h, by rw [hfr, hcur]; exact x, hf.2.1, hsp, by rw [hi]; exact hip⟩

theorem handle_panic {G : Prop} {s1 s : State} {err : Addr} {h : Handler} {ip : Int} {m : String} (hv : StepExc np s1)
    (he0 : s1.err = e0) (x : lastHandler (s1.frames.modify s1.curFrame (setErrF err))[s1.curFrame]! = some h)
    (hcp : cp s = { cp s1 with frames := s1.frames.modify s1.curFrame (setErrF err), ip := ip }) (hng : ¬G) :
    ThrowExc np e0 G (.panic m) s := by
  simp only [cp, CP.mk.injEq] at hcp
  obtain ⟨hfr, -, hcur, -, hsz, he, hn, -⟩ := hcp
  refine ⟨⟨?_, hn.trans hv.2⟩, he.trans he0, hng⟩
  simp only [VInv]; rw [hfr, hcur, hsz]; exact (handle_facts hv.1 x).2.2.1

/-- `handleThrownError` in a frame that has a handler: the error is delivered, or the consumed handler is dropped and
    the fuel still covers the rest -/
theorem handlePre_spec (G : Prop) (fuel : Nat) (err : Addr) :
    Hq (fun s => ThrowPre np e0 G (fuel + 1) s ∧ hasHandler (s.frames[s.curFrame]!) = true)
      (fun r t => match r with
        | none => ThrowPre np e0 G fuel t
        | some x => ThrowOk np e0 err x t) (ThrowExc np e0 G) (handlePre err) := by
  refine Hq.of_cases (handlePre_to err) fun s ⟨⟨hv, he, hG, hH⟩, hh⟩ r t ht => ?_
  cases ht with
  | nil m hl => exact absurd hl (handle_some hv.1 hh)
  | land h x ip hip r t e =>
    have := (landAt_spec G ip h.sp (cp (marked err s)) fun g => ⟨(handle_facts hv.1 x).1, (hG g).1⟩).elim rfl e
    cases r with
    | ok a =>
      obtain ⟨rfl, hcp⟩ := this
      exact handle_done hv he x hcp hip
    | error x' =>
      obtain ⟨hcp, hng, m, rfl⟩ := this
      exact handle_panic hv he x hcp hng
  | consumed h x hc hf' =>
    have hf := handle_facts hv.1 x
    have h1 : totalH ((s.frames.modify s.curFrame (setErrF err)).modify s.curFrame popHandler) + 1 = totalH s.frames := by
      unfold totalH
      rw [Array.size_modify, Array.size_modify]
      exact needUpTo_consumed x hv.1.lt_size
    refine ⟨⟨hf.2.2.1.modify _ _ (frameOK_popHandler (hf.2.2.1.get! _)), hv.2⟩, he, hG, ?_⟩
    show totalH ((s.frames.modify s.curFrame (setErrF err)).modify s.curFrame popHandler) < fuel
    omega

/-- `throw` up to the handling frame: that frame is current and has a handler, or the error comes back unhandled -/
theorem throwPre_spec (G : Prop) (fuel : Nat) (err : Addr) :
    Hq (ThrowPre np e0 G fuel)
      (fun r t => match r with
        | none => ThrowPre np e0 G fuel t ∧ hasHandler (t.frames[t.curFrame]!) = true
        | some x => ThrowOk np e0 err x t) (ThrowExc np e0 G) (throwPre err) := by
  refine Hq.of_cases (throwPre_to err) fun s ⟨hv, he, hG, hH⟩ r t ht => ?_
  cases ht with
  | here hh => exact ⟨⟨hv, he, hG, hH⟩, hh⟩
  | range m hh hn =>
    refine ⟨hv, he, fun g => ?_⟩
    have := (hG g).2
    simp only [frameSize] at hn; omega
  | nilFn m hh hn i hr hf => exact absurd hf ((hv.1.get! i).1 (searched_some hr).2.1)
  | unhandled hh hn hr => exact ⟨⟨searched_inv _ hv.1, hv.2⟩, he, nofun, fun _ he => by cases he; rfl⟩
  | found hh hn i hr a hf =>
    obtain ⟨hi, hhi, hgi⟩ := searched_some hr
    have hlt : i < frameSize := by omega
    exact ⟨⟨⟨(searched_inv _ hv.1).cur i hlt, hv.2⟩, he,
      fun g => ⟨(hG g).1, by have := (hG g).2; show (i : Int) + 1 ≤ 1024; omega⟩,
      by show totalH (searched s.frames (s.frameIndex - 1).toNat).2 < fuel
         rw [totalH_searched]; exact hH⟩,
      by show hasHandler ((searched s.frames (s.frameIndex - 1).toNat).2[i]!) = true; rw [hgi]; exact hhi⟩

/-- `throw` from a state satisfying `VInv`: the error is delivered to the innermost handler of the nearest frame
    that has one, or comes back unhandled; the fuel is not exhausted, and under the guard `G` of `handlePanic` no
    Go panic is raised. -/
theorem throwF_spec (G : Prop) (fuel : Nat) (err : Addr) :
    Hq (ThrowPre np e0 G fuel) (ThrowOk np e0 err) (ThrowExc np e0 G) (throwF fuel err) :=
  Hq.throwF (X := ThrowPre np e0 G) (fun n => throwPre_spec G (n + 1) err) (fun n => handlePre_spec G n err)
    (fun _ _ h => absurd h.2.2.2 (Nat.not_lt_zero _)) fuel

theorem throwFuel_spec (X : State → Prop) :
    Hq X (fun n s => X s ∧ totalH s.frames < n) (fun _ _ => False) throwFuel :=
  fun s hs => ⟨hs, totalH_lt_fuelOf s.frames⟩

/-- `vm.throw(err)` with the model's fuel: the fuel is never exhausted -/
theorem throw_spec (G : Prop) (err : Addr) :
    Hq (fun s => StepExc np s ∧ s.err = e0 ∧ (G → s.sp < 2048 ∧ s.frameIndex ≤ 1024)) (ThrowOk np e0 err)
      (ThrowExc np e0 G) (throwFuel >>= fun n => throwF n err) :=
  Hq.bind ((throwFuel_spec _).conseq (fun _ h => h) (fun _ _ h => h) fun _ _ h => h.elim) fun n =>
    (throwF_spec G n err).pre fun _ h => ⟨h.1.1, h.1.2.1, h.1.2.2, h.2⟩

/-- the same in front of a continuation, as the opcodes and `handlePanic` have it -/
theorem throw_bind {α} (G : Prop) (err : Addr) {Q : α → State → Prop} {E : Exc → State → Prop}
    {k : Option Addr → M α} (hk : ∀ r, Hq (ThrowOk np e0 err r) Q E (k r)) (hE : ∀ e s, ThrowExc np e0 G e s → E e s) :
    Hq (fun s => StepExc np s ∧ s.err = e0 ∧ (G → s.sp < 2048 ∧ s.frameIndex ≤ 1024)) Q E
      (throwFuel >>= fun n => throwF n err >>= k) := by
  have e : (throwFuel >>= fun n => throwF n err >>= k) = ((throwFuel >>= fun n => throwF n err) >>= k) :=
    (bind_assoc _ _ _).symm
  rw [e]
  exact Hq.bind ((throw_spec G err).conseq (fun _ h => h) (fun _ _ h => h) hE) hk

/-- Recovery is total: under `VInv`, `handlePanic` raises no exception at all (neither a Go
    panic nor a model artefact); if it leaves `vm.err` unset, a handler took the error and the
    VM is at an instruction boundary with the error delivered. -/
theorem handlePanic_spec (msg : String) :
    Hq (StepExc np) (fun _ s => StepExc np s ∧ (s.err = none → StepPre np s ∧ ∃ ra, Delivered ra s))
      (fun _ _ => False) (handlePanic msg) := by
  unfold handlePanic
  refine Hq.getS_bind fun s0 => Hq.ite (fun hg => ?_) fun _ => Hq.modS fun _ h => ⟨h.1, nofun⟩
  simp only [Bool.and_eq_true, stackSize, frameSize, Option.isNone_iff_eq_none] at hg
  -- the guard holds; allocating the error value cannot fail and writes the heap only
  let X (s : State) : Prop := StepExc np s ∧ s.err = none ∧ (True → s.sp < 2048 ∧ s.frameIndex ≤ 1024)
  refine Hq.pre (X := X) ?_ fun s ⟨h, e⟩ => by
    subst e; exact ⟨h, hg.2, fun _ => ⟨of_decide_eq_true hg.1.1, of_decide_eq_true hg.1.2⟩⟩
  refine Hq.bind (R := fun _ => X) (fun _ h => h) fun ea => Hq.bind (R := fun _ => X) (fun _ h => h) fun ra => ?_
  refine throw_bind True ra (fun r => ?_) fun e _ h => ?_
  · cases r with
    | none =>
      exact Hq.pure fun _ h => ⟨h.1, fun _ => ⟨⟨⟨h.1, h.2.1, (h.2.2.1 rfl).2.1⟩, (h.2.2.1 rfl).1⟩, _, (h.2.2.1 rfl).2.2⟩⟩
    | some a => exact Hq.modS fun _ h => ⟨h.1, nofun⟩
  · cases e with
    | panic => exact h.2.2 trivial
    | unsupported => exact h.2.2
end

end UgoVerif.Proofs.VM

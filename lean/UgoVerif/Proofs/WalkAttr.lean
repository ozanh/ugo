import Lean.Meta.Tactic.Simp.RegisterCommand
/-
  What the walks over the `do` blocks of the VM model share: the step for a join point, and the simp attributes
  under which a walk finds the lemma of its judgement `J` for an action by the action's head symbol.

  A lemma with a side condition on the action's arguments cannot be such a simp lemma.  It is an instance of a
  class `… (m) (C : outParam Prop) : Prop where rule : C → J m`: a row of a table keyed on the action and read by
  instance resolution, which hands `C` back to the walk as a side goal.  Resolution unifies the key up to
  reducible definitions only, so a row is selected by the head symbol, and a missing row fails there without
  unfolding the action.  The tables are `TrIf` (Proofs/C08Prims.lean), `RelPrim` (Proofs/Shift.lean), `Hs.Rule`
  (Proofs/VMStep.lean) and `Tq.Rule` (Proofs/ExecAtStarts.lean); the last two are keyed on the whole term
  `m >>= f`, so that what a rule asks of the continuation is an `outParam` too (why, is said at `Hs.Rule`).
  `Pres R m` (Proofs/Frame.lean) is the case without `C`: what a row asks it asks of the relation, by an instance
  argument such as `[FrameRel R]`.  A walk looks up first and tries in turn only what a table cannot hold (a
  choice that depends on what the side-condition prover can show, a rule whose premise is itself walked): a
  lookup that fails has compared head symbols, an `exact`/`apply` that fails has first composed the explanation
  of its mismatch.
-/

/-- `walk_jp J by t`: the goal is `have jp := v; G`, a join point or local function of a `do` block
    (`lift_lets` brings one to the front; any other rule of a walk would unfold it and copy its body to each
    of its call sites).  The judgement `J` of `jp`, for all its arguments, is proved once by the walk `t` and
    kept as a hypothesis, and `jp` is abstracted; a `let` of a value keeps its equation. -/
syntax "walk_jp " term:max " by " tactic : tactic
macro_rules | `(tactic| walk_jp $J by $t) => `(tactic|
  ((first | lift_lets | skip); with_reducible intro jp__;
   first
   | (have hjp__ : $J jp__ := by
        (dsimp -zeta only [jp__]; $t)
      clear_value jp__)
   | (have hjp__ : ∀ a__, $J (jp__ a__) := by
        (intro a__; dsimp -zeta only [jp__]; $t)
      clear_value jp__)
   | (have hjp__ : ∀ a__ b__, $J (jp__ a__ b__) := by
        (intro a__ b__; dsimp -zeta only [jp__]; $t)
      clear_value jp__)
   | (have hjp__ : ∀ a__ b__ c__, $J (jp__ a__ b__ c__) := by
        (intro a__ b__ c__; dsimp -zeta only [jp__]; $t)
      clear_value jp__)
   | clear_value (ejp__ : jp__ = _)))

/-- the lemmas `Live (f …)` of Proofs/C07Step.lean, C07Throw.lean and C07Ops.lean, one per action `f` -/
register_simp_attr lives
/-- the lemmas `Tr n h0 (good n) (f …)` of Proofs/C08*.lean, one per function `f` of the VM model -/
register_simp_attr tr
/-- what `good n x` says for `x` of each type and of each constructor form, and the defining
    equations of the predicates on values and cells (Proofs/C08Inv.lean) -/
register_simp_attr good_simp
/-- the lemmas `HeapOnly (f …)` of Proofs/VMData.lean, one per heap primitive `f` of the VM model: the leaves at
    which the walks of the two-run calculi (`live`, `foot`, `rlc`) stop without unfolding -/
register_simp_attr heap_only
/-- the lemmas `Keeps P m` that the walk `ckeeps` (Proofs/ExecAtStartsData.lean) uses as leaves -/
register_simp_attr keeps_rule
/-- the triples `RelE`/`RelQ` (Proofs/Reloc*.lean) of the functions of the VM model that do not look at code positions -/
register_simp_attr rel_keep

import UgoVerif.Proofs.VMExec
import UgoVerif.Spec.Sem
import UgoVerif.Model.Compile
import UgoVerif.Gen.Opcodes
import UgoVerif.Proofs.CompSimProg
import UgoVerif.Proofs.CallBind
/-
  C02 — compiled execution follows the documented source-level semantics.

  Proved here:
  * the argument-binding rule of the reference semantics loses and duplicates nothing
    (`bindArgs_*`), i.e. the three-line rule the implementation is compared against is sane;
  * the variable mechanism of the VM model: DEFINELOCAL overwrites the slot — a fresh
    variable per executed declaration, even when the old variable was captured (boxed) —
    whereas SETLOCAL writes through an existing box, so closures see assignments;
  * argument binding of the VM model without spread (`callCompiled_fixed`, `callCompiled_variadic`,
    the two arity errors; Proofs/CallBind, in this namespace): the parameters ARE the arguments in
    order, the variadic parameter gets a fresh array of exactly the remaining arguments
    (`rest_eq_drop_args`: the same list the reference rule `Sem.bindArgs` binds), the other locals
    start as undefined;
  * consistency of the hand-written opcode / token numbers of the VM and compiler models
    with the tables regenerated from opcodes.go and token/token.go;
  * two slices of the simulation theorem compile ⊑ Sem (section "compile ⊑ Sem" below):
    `compile_expr_correct` (expressions over uncaptured scalar locals), `compile_stmt_correct` /
    `compile_stmts_correct` (`e;`, `x := e`, `var x = e`, `var x`, `var ( … )` groups, `x = e`, `x op= e`, `x++`, `x--`, blocks,
    `if` / `else` also with an init statement or a boolean literal as condition, `return`), with
    the VM heap related to the reference heap modulo the reference semantics' variable boxes, and
    the whole-script corollary `C02_fragment` for ALL scripts of that fragment (compile-model output,
    loaded and run by the VM model's `Run`, returns what `Sem.runProgram` returns; a script that
    falls off its end returns `undefined` through the RETURN `Bytecode()` appends: `C02_return_appended`).

  `C02_full` (every script's outcome equals the reference semantics Spec/Sem) is NOT
  proved: it is tested by stream `sem` (general, call-heavy, tail-call and try-dense
  generators; real compiler + real VM vs Spec/Sem on the same AST), with the compiler
  model byte-identical (stream `compile`) and the VM model in lock-step (stream `vmtrace`).
-/
set_option linter.unusedVariables false
namespace UgoVerif.Props.C02
open UgoVerif UgoVerif.Go UgoVerif.Proofs.ModCache UgoVerif.Proofs.VMExec
open UgoVerif.VM hiding exec exec_bind exec_pure exec_getS exec_curFrame exec_setSp exec_bumpIp

def boundValues : List (String × Sum V (List V)) → List V
  | [] => []
  | (_, .inl v) :: r => v :: boundValues r
  | (_, .inr vs) :: r => vs ++ boundValues r

theorem boundValues_zip_inl (ps : List String) (vs : List V) (h : ps.length = vs.length) :
    boundValues (ps.zip (vs.map Sum.inl)) = vs := by
  induction ps generalizing vs with
  | nil => cases vs <;> simp_all [boundValues]
  | cons p ps ih =>
    cases vs with
    | nil => simp at h
    | cons v vs => simp [boundValues, ih vs (by simpa using h)]

theorem boundValues_append (a b : List (String × Sum V (List V))) :
    boundValues (a ++ b) = boundValues a ++ boundValues b := by
  induction a with
  | nil => simp [boundValues]
  | cons x xs ih =>
    obtain ⟨n, v⟩ := x
    cases v <;> simp [boundValues, ih]

/-- fixed arity: accepted exactly when the counts agree, and then every argument is bound, in order -/
theorem bindArgs_fixed (ps : List String) (args : List V) :
    (args.length = ps.length → ∃ b, Sem.bindArgs ps false args = .ok b ∧ boundValues b = args ∧ b.map Prod.fst = ps) ∧
    (args.length ≠ ps.length → ∃ e, Sem.bindArgs ps false args = .error e) := by
  constructor
  · intro h
    refine ⟨ps.zip (args.map Sum.inl), ?_, boundValues_zip_inl ps args h.symm, ?_⟩
    · simp [Sem.bindArgs, h]
    · simp [List.map_fst_zip, h]
  · intro h
    simp [Sem.bindArgs, h]

/-- variadic: accepted when at least the fixed parameters are supplied; the fixed parameters get
    the first arguments, the variadic parameter gets ALL the remaining ones, nothing is lost -/
theorem bindArgs_variadic (ps : List String) (args : List V) (hps : ps ≠ [])
    (h : ps.length - 1 ≤ args.length) :
    ∃ b, Sem.bindArgs ps true args = .ok b ∧ boundValues b = args := by
  have hlt : ¬ args.length < ps.length - 1 := by omega
  refine ⟨(ps.take (ps.length - 1)).zip ((args.take (ps.length - 1)).map Sum.inl) ++
      [(ps.getLast!, Sum.inr (args.drop (ps.length - 1)))], by simp [Sem.bindArgs, hlt], ?_⟩
  rw [boundValues_append, boundValues_zip_inl]
  · simp [boundValues]
  · simp [List.length_take]; omega

/-- DEFINELOCAL stores the value in the slot itself, replacing whatever was there — also a box
    that a closure captured: the declaration creates a fresh variable, the closure keeps the old one -/
theorem defineLocal_fresh (s : State) (idx : Nat) (v : V)
    (hop : exec (opnd1 1) s = (.ok idx, s))
    (hsp : 1 ≤ s.sp ∧ s.sp ≤ (stackSize : Int))
    (hslot : 0 ≤ (s.frames[s.curFrame]!).bp + idx ∧ (s.frames[s.curFrame]!).bp + idx < (stackSize : Int))
    (hv : s.stack[(s.sp - 1).toNat]! = v) :
    exec execDefineLocal s = (.ok .next,
      { s with stack := (s.stack.set! ((s.frames[s.curFrame]!).bp + idx).toNat v).set! (s.sp - 1).toNat .nil,
               sp := s.sp - 1, ip := s.ip + 1 }) ∧
    (exec execDefineLocal s).2.heap = s.heap := by
  have e : exec execDefineLocal s = (.ok .next,
      { s with stack := (s.stack.set! ((s.frames[s.curFrame]!).bp + idx).toNat v).set! (s.sp - 1).toNat .nil,
               sp := s.sp - 1, ip := s.ip + 1 }) := by
    unfold execDefineLocal
    simp only [exec_bind, hop, exec_curFrame, exec_getSp]
    rw [exec_stackGet _ _ (by omega)]
    simp only [hv]
    rw [exec_stackSet _ _ _ hslot]
    simp only [exec_setSp]
    rw [exec_stackSet _ _ _ (by simp; omega)]
    simp only [exec_bumpIp, exec_pure]
  exact ⟨e, by rw [e]⟩

/-- SETLOCAL on a slot holding a box (whose cell is a box cell, as in every VM state) writes THROUGH the box (the captured variable itself is
    updated, so every closure sharing it sees the assignment); the slot keeps the same box -/
theorem setLocal_writes_through_box (s : State) (idx : Nat) (v : V) (a : Addr)
    (hop : exec (opnd1 1) s = (.ok idx, s))
    (hsp : 1 ≤ s.sp ∧ s.sp ≤ (stackSize : Int))
    (hslot : 0 ≤ (s.frames[s.curFrame]!).bp + idx ∧ (s.frames[s.curFrame]!).bp + idx < (stackSize : Int))
    (hv : s.stack[(s.sp - 1).toNat]! = v)
    (hbox : s.stack[((s.frames[s.curFrame]!).bp + idx).toNat]! = .box a)
    (hcell : ∃ w, s.heap[a]? = some (.box w)) :
    exec execSetLocal s = (.ok .next,
      { s with heap := s.heap.set! a (.box v), stack := s.stack.set! (s.sp - 1).toNat .nil,
               sp := s.sp - 1, ip := s.ip + 1 }) := by
  unfold execSetLocal
  simp only [exec_bind, hop, exec_getSp]
  rw [exec_stackGet _ _ (by omega)]
  simp only [hv, exec_curFrame]
  rw [exec_stackGet _ _ hslot]
  obtain ⟨w, hw⟩ := hcell
  have hbs : exec (boxSet a v) s = (.ok (), { s with heap := s.heap.set! a (.box v) }) := by
    unfold boxSet heapGet
    simp only [exec_bind, exec_getS, hw, exec_pure, exec_heapSet]
  simp only [hbox, exec_bind, hbs, exec_setSp]
  rw [exec_stackSet _ _ _ (by simp; omega)]
  simp only [exec_bumpIp, exec_pure]

theorem vm_opcodes_match_source :
    VM.OpConstant = Gen.Opcodes.OpConstant ∧ VM.OpCall = Gen.Opcodes.OpCall ∧
    VM.OpGetLocal = Gen.Opcodes.OpGetLocal ∧ VM.OpSetLocal = Gen.Opcodes.OpSetLocal ∧
    VM.OpDefineLocal = Gen.Opcodes.OpDefineLocal ∧ VM.OpClosure = Gen.Opcodes.OpClosure ∧
    VM.OpGetFree = Gen.Opcodes.OpGetFree ∧ VM.OpSetFree = Gen.Opcodes.OpSetFree ∧
    VM.OpGetLocalPtr = Gen.Opcodes.OpGetLocalPtr ∧ VM.OpGetFreePtr = Gen.Opcodes.OpGetFreePtr ∧
    VM.OpReturn = Gen.Opcodes.OpReturn ∧ VM.OpJump = Gen.Opcodes.OpJump ∧
    VM.OpJumpFalsy = Gen.Opcodes.OpJumpFalsy ∧ VM.OpAndJump = Gen.Opcodes.OpAndJump ∧
    VM.OpOrJump = Gen.Opcodes.OpOrJump ∧ VM.OpSetupTry = Gen.Opcodes.OpSetupTry ∧
    VM.OpSetupCatch = Gen.Opcodes.OpSetupCatch ∧ VM.OpSetupFinally = Gen.Opcodes.OpSetupFinally ∧
    VM.OpThrow = Gen.Opcodes.OpThrow ∧ VM.OpFinalizer = Gen.Opcodes.OpFinalizer ∧
    VM.OpCallName = Gen.Opcodes.OpCallName ∧ VM.OpBinaryOp = Gen.Opcodes.OpBinaryOp ∧
    VM.OpUnary = Gen.Opcodes.OpUnary ∧ VM.OpArray = Gen.Opcodes.OpArray ∧ VM.OpMap = Gen.Opcodes.OpMap ∧
    VM.OpGetIndex = Gen.Opcodes.OpGetIndex ∧ VM.OpSetIndex = Gen.Opcodes.OpSetIndex ∧
    VM.OpLoadModule = Gen.Opcodes.OpLoadModule ∧ VM.OpStoreModule = Gen.Opcodes.OpStoreModule ∧
    VM.OpIterInit = Gen.Opcodes.OpIterInit ∧ VM.OpPop = Gen.Opcodes.OpPop := by
  decide

theorem compiler_opcodes_match_vm :
    Compile.OpConstant = VM.OpConstant ∧ Compile.OpCall = VM.OpCall ∧ Compile.OpReturn = VM.OpReturn ∧
    Compile.OpDefineLocal = VM.OpDefineLocal ∧ Compile.OpSetLocal = VM.OpSetLocal ∧
    Compile.OpGetLocal = VM.OpGetLocal ∧ Compile.OpClosure = VM.OpClosure ∧
    Compile.OpSetupTry = VM.OpSetupTry ∧ Compile.OpThrow = VM.OpThrow ∧ Compile.OpFinalizer = VM.OpFinalizer ∧
    Compile.OpJump = VM.OpJump ∧ Compile.OpJumpFalsy = VM.OpJumpFalsy ∧ Compile.OpPop = VM.OpPop := by
  decide

theorem vm_tokens_match_source :
    VM.tokOfNat Gen.tok_Add = .Add ∧ VM.tokOfNat Gen.tok_Sub = .Sub ∧ VM.tokOfNat Gen.tok_Mul = .Mul ∧
    VM.tokOfNat Gen.tok_Quo = .Quo ∧ VM.tokOfNat Gen.tok_Rem = .Rem ∧ VM.tokOfNat Gen.tok_And = .And ∧
    VM.tokOfNat Gen.tok_Or = .Or ∧ VM.tokOfNat Gen.tok_Xor = .Xor ∧ VM.tokOfNat Gen.tok_Shl = .Shl ∧
    VM.tokOfNat Gen.tok_Shr = .Shr ∧ VM.tokOfNat Gen.tok_AndNot = .AndNot ∧
    VM.tokOfNat Gen.tok_Less = .Less ∧ VM.tokOfNat Gen.tok_Greater = .Greater ∧
    VM.tokOfNat Gen.tok_LessEq = .LessEq ∧ VM.tokOfNat Gen.tok_GreaterEq = .GreaterEq ∧
    VM.tokOfNat Gen.tok_Not = .Not ∧ VM.tokOfNat Gen.tok_Equal = .Equal ∧ VM.tokOfNat Gen.tok_NotEqual = .NotEqual := by
  decide

/- compile ⊑ Sem: expressions and statements over uncaptured scalar locals

  The reference semantics (Spec/Sem) keeps every variable in a heap box, the VM keeps an uncaptured
  local in a stack slot: the two heaps are NOT equal.  The relation between a VM state `s` and a
  reference state `t` (Proofs/CompSimInv):
  * `HeapRel s t`: `t.heap` is `s.heap` followed by cells that are all variable boxes (the fragment
    allocates nothing else until an error object is made);
  * `Static σ N env binds`, `Dyn binds t s bp`: `binds` lists the pairs (slot, box address) of the
    variables in scope, shadowed ones included; a name the compiler resolves to slot `i`
    (`σ = localIdx cs`, computed from the compiler's tables) is bound in `env` to a box `a` with
    `(i, a) ∈ binds`; slots are below `N = nextIndex` of the tables; different pairs have different slots
    and different boxes; box `a` lies behind the VM heap and holds the SCALAR that slot `bp + i` holds
    (`LocalsOK` is the projection the expression theorem needs).
  Scalars (`Scalar`: undefined, int, uint, float, char, bool, string, bytes) are the values the
  fragment computes; on them the object layer shared by the VM model and the reference semantics
  (`vBinaryOp`, `vUnary`, `vEqual`, `isFalsy`) neither reads nor writes the state
  (Proofs/CompSimScalar), which is why the simulation does not depend on the heap relation.

  `compile_expr_correct`: `e` in `ExprF` (literals, `( )`, unary, binary, `==` `!=`, `&&` `||`, `?:`,
  identifiers resolved to locals of the current function), compiled by the TOTAL compile model from
  `cs` to `cs'`; the function the VM runs has those bytes on `[cs.insts.size, cs'.insts.size)`
  (`hcode`), the constants are those of a pool extending `cs'.constants` (`hK`), `VMOk` (not aborted,
  stack 2048, current frame runs `code`, base pointer `bp`, `lo ≤ sp`), `ip` in front of the code,
  `need e` free slots, `LocalsOK`.  For EVERY fuel on which `Sem.evalExpr` returns `r` in state `t1`
  (`Outcome`):
  * `r = .val v`: the reference state is unchanged (`t = t1`), `v` is a scalar, and the VM loop gets
    (`Reach`: `loopF (n + k)` from `s` = `loopF k` from `s'`, all `k`) to a state with `v` pushed, `ip` at
    the end of the code, everything below the old `sp`, the control part (`Same`: frames, handlers,
    frame index, codes, constants, globals, modules, err …) and the VM HEAP unchanged;
  * `r = .thr a`: the VM loop reaches the call `failWith oe` (= `throwGenErr`) inside an instruction
    with the VM heap and the control part unchanged, `oe = .named name msg`, and the reference
    semantics' error (`a`, `t1`) is `rtErrOfOpErr oe` run in its own state `t`: both sides make the
    error object from the same name and message (at different addresses: the heaps differ).

  `compile_stmt_correct` / `compile_stmts_correct`: a statement (list) of `StmtF` — `e;`, `x := e`,
  `var x = e`, `var x`, `var (a = e; b; …)` (a group of one-name specifications), `x = e`, `x op= e`, `x++`, `x--`, `{ … }`, `if c { … }`, `if c { … } else { … }` / `else if`
  (`c` an expression of the fragment that is not a boolean literal, or the literal `true`: the compiler
  then emits the body only, or the literal `false`: a JUMP and the else part only), `if init; c { … }` with or without `else` (`init` a statement of the
  fragment, its variables in scope of `c`, body and else part), `return`, `return e`, the empty statement — compiled from `cs` to `cs'` in a state with a function table, outside `try`,
  whose slots fit (`CsOK`), the names of `B` resolved to locals (`Cov`); `L` bounds the function's
  `NumLocals` (`fnMax cs'.tables ≤ L`), the local slots `[bp, bp + L)` lie below `sp`.  For EVERY fuel
  on which `Sem.execStmt` / `Sem.execList` completes with `c` (`OutS`):
  * `normal`: the VM gets behind the code with `sp` where it was, the stack unchanged outside the
    local slots, VM heap and control part unchanged (`Frm`), and the states are related again through
    an extension `binds'` of `binds` (for the symbols and `nextIndex` of `cs'`, the new environment);
  * `ret v`: the VM stands in front of a RETURN instruction, with `v` (a scalar) on top of the stack
    for RETURN 1, `v = undefined` for RETURN 0; `HeapRel` holds;
  * `thr a`: as for expressions (`failWith oe`, `oe` named, states related when the error is made);
  * `break` / `continue` do not occur.
  What `Model/Sym` (symbol_table.go) contributes (Proofs/CompSimTab): `localIdx` is a lookup through
  the block tables of the function; a block (`Fork(true)` … `Parent`) leaves the enclosing tables
  unchanged up to `maxDefinition`, so the slot of a variable is stable while it is in scope and the
  block's slots are reused afterwards (their pairs leave `binds`); `DefineLocal` of a new name takes
  slot `nextIndex`, above every slot in use, and raises the function's `NumLocals` above it.

  `C02_fragment`: a whole script of the fragment (no `param`), compiled by `Compile.compileFile`,
  loaded into a fresh VM (`loadProg`) and run by `VM.runFrom` (prologue, loop, epilogue): whatever
  `Sem.runProgram` returns on the heap the VM starts with, `Run` returns — the same value for every
  large enough step budget, or an uncaught `*RuntimeError` with the same name and message.  No side
  condition on the script: when the statement list completes normally, `Bytecode()` has appended its
  `RETURN 0` (`C02_return_appended`: normal completion in Spec/Sem implies the syntactic predicate `fallL` —
  no `return` on the path to the end —, and for `fallL` scripts the scan of `Bytecode()` over the stream of
  the compile model cannot end in "last opcode RETURN, no pending jump": the last instruction is not a
  RETURN or a jump of the last `if` targets the end; Proofs/CompSimFall, on `Walk` /
  `LastAt` / `PendOK`), and the VM returns `undefined` there.  The only hypothesis beside "in the fragment,
  compiles, stack suffices" is that the builtin indices given to the compiler are valid (`< numBuiltins`).
  `C02_fragment_list` is the same for `Sem.execList` with the three completions separated.

  Not covered: loops (`break` / `continue` patching), captured variables /
  closures / free variables, calls, arrays / maps / index / selector / slice and every other value
  with a heap address (the heap relation then needs an address map), `try` / `catch` / `finally` /
  `throw` (C03), globals, builtins, `const` declarations, `var a, b = …` (several names in one specification), destructuring,
  `param`, imports / modules, `if init; <boolean literal>`, and the
  optimizer (C01).  -/

open UgoVerif.CompSim in
/-- **compile_expr_correct** — statement in the header comment of this section. -/
theorem compile_expr_correct (F : FloatOps) (e : Ast.Expr) (cs cs' : Compile.CState)
    (hc : Compile.runCM (Compile.compileExpr e) cs = (.ok (), cs'))
    (hF : ExprF (localIdx cs) e = true)
    (K : Array Compile.Const) (code : Code) (bp lo : Nat) (env : Sem.Env) (s t : State)
    (hK : Compile.IsPre cs'.constants K)
    (hcode : CodeHas code cs'.insts cs.insts.size)
    (hvm : VMOk K code bp lo s)
    (hip : s.ip + 1 = (cs.insts.size : Int))
    (hsp : s.sp + need e ≤ 2048)
    (hloc : LocalsOK (localIdx cs) env t s bp lo)
    (fuel : Nat) (ss ss1 : Sem.SemSt) (r : Sem.ER) (t1 : State)
    (hsem : exec ((Sem.evalExpr F fuel env e).run ss) t = (.ok (r, ss1), t1)) :
    ss1 = ss ∧ Shape cs cs' ∧ Outcome F s t t1 cs'.insts.size r :=
  have ⟨_, hb, _⟩ := hvm.base
  have ⟨h1, h2, o⟩ := expr_sim F hc hF hK hcode hvm hip hb hsp hloc hsem
  ⟨h1, h2, .of_at hb o⟩

open UgoVerif.CompSim in
/-- **compile_stmt_correct** — one statement of the fragment `StmtF`; statement in the header comment. -/
theorem compile_stmt_correct (F : FloatOps) (B : List String) (st : Ast.Stmt) (hF : StmtF B st = true)
    (cs cs' : Compile.CState) (hc : Compile.runCM (Compile.compileStmt st) cs = (.ok (), cs'))
    (hcov : Cov B (localIdx cs)) (hok : CsOK cs)
    (K : Array Compile.Const) (code : Code) (bp L : Nat) (env : Sem.Env) (binds : List (Nat × Addr)) (s t : State)
    (hK : Compile.IsPre cs'.constants K)
    (hcode : CodeHas code cs'.insts cs.insts.size)
    (hvm : VMOk K code bp (bp + L) s)
    (hip : s.ip + 1 = (cs.insts.size : Int))
    (hsp : s.sp + needS st ≤ 2048)
    (hL : fnMax cs'.tables ≤ L)
    (hst : Static (localIdx cs) (Compile.nextIndex cs.tables) env binds) (hdy : Dyn binds t s bp)
    (fuel : Nat) (ss ss' : Sem.SemSt) (c : Sem.Comp) (env' : Sem.Env) (t' : State)
    (hsem : exec ((Sem.execStmt F fuel env st).run ss) t = (.ok ((c, env'), ss'), t')) :
    ss = ss' ∧ StEff cs cs' ∧ CsOK cs' ∧ Cov (defsOf B st) (localIdx cs') ∧
      OutS F code cs'.insts.size bp L (localIdx cs') (Compile.nextIndex cs'.tables) binds s t' env' c := by
  obtain ⟨h1, h2, h3, h4⟩ := good_stmt F st B hF cs cs' hc hcov hok
  obtain ⟨h5, h6⟩ := h4 fuel K code bp L env binds s t ss ss' c env' t' hK hcode hvm hip hsp hL hst hdy hsem
  exact ⟨h5, h1, h2, h3, h6⟩

open UgoVerif.CompSim in
/-- **compile_stmts_correct** — a statement list of the fragment; statement in the header comment. -/
theorem compile_stmts_correct (F : FloatOps) (B : List String) (sts : List Ast.Stmt) (hF : StmtsF B sts = true)
    (cs cs' : Compile.CState) (hc : Compile.runCM (Compile.compileStmts sts) cs = (.ok (), cs'))
    (hcov : Cov B (localIdx cs)) (hok : CsOK cs)
    (K : Array Compile.Const) (code : Code) (bp L : Nat) (env : Sem.Env) (binds : List (Nat × Addr)) (s t : State)
    (hK : Compile.IsPre cs'.constants K)
    (hcode : CodeHas code cs'.insts cs.insts.size)
    (hvm : VMOk K code bp (bp + L) s)
    (hip : s.ip + 1 = (cs.insts.size : Int))
    (hsp : s.sp + needL sts ≤ 2048)
    (hL : fnMax cs'.tables ≤ L)
    (hst : Static (localIdx cs) (Compile.nextIndex cs.tables) env binds) (hdy : Dyn binds t s bp)
    (fuel : Nat) (ss ss' : Sem.SemSt) (c : Sem.Comp) (env' : Sem.Env) (t' : State)
    (hsem : exec ((Sem.execList F fuel env sts).run ss) t = (.ok ((c, env'), ss'), t')) :
    ss = ss' ∧ StEff cs cs' ∧ CsOK cs' ∧ Cov (defsL B sts) (localIdx cs') ∧
      OutS F code cs'.insts.size bp L (localIdx cs') (Compile.nextIndex cs'.tables) binds s t' env' c := by
  obtain ⟨h1, h2, h3, h4⟩ := good_stmts F sts B hF cs cs' hc hcov hok
  obtain ⟨h5, h6⟩ := h4 fuel K code bp L env binds s t ss ss' c env' t' hK hcode hvm hip hsp hL hst hdy hsem
  exact ⟨h5, h1, h2, h3, h6⟩

open UgoVerif.CompSim in
/-- **compile_exprstmt_correct** — the expression statement `e;` (code of `e`, then POP): the instance
    `st = e;` of `compile_stmt_correct`. -/
theorem compile_exprstmt_correct (F : FloatOps) (B : List String) (pos : Ast.Pos) (e : Ast.Expr)
    (hF : ExprF (bnd B) e = true)
    (cs cs' : Compile.CState) (hc : Compile.runCM (Compile.compileStmt (.expr pos e)) cs = (.ok (), cs'))
    (hcov : Cov B (localIdx cs)) (hok : CsOK cs)
    (K : Array Compile.Const) (code : Code) (bp L : Nat) (env : Sem.Env) (binds : List (Nat × Addr)) (s t : State)
    (hK : Compile.IsPre cs'.constants K)
    (hcode : CodeHas code cs'.insts cs.insts.size)
    (hvm : VMOk K code bp (bp + L) s)
    (hip : s.ip + 1 = (cs.insts.size : Int))
    (hsp : s.sp + need e ≤ 2048)
    (hL : fnMax cs'.tables ≤ L)
    (hst : Static (localIdx cs) (Compile.nextIndex cs.tables) env binds) (hdy : Dyn binds t s bp)
    (fuel : Nat) (ss ss' : Sem.SemSt) (c : Sem.Comp) (env' : Sem.Env) (t' : State)
    (hsem : exec ((Sem.execStmt F fuel env (.expr pos e)).run ss) t = (.ok ((c, env'), ss'), t')) :
    ss = ss' ∧ OutS F code cs'.insts.size bp L (localIdx cs') (Compile.nextIndex cs'.tables) binds s t' env' c := by
  obtain ⟨h1, _, _, _, h2⟩ := compile_stmt_correct F B (.expr pos e) hF cs cs' hc hcov hok K code bp L env binds s t hK hcode
    hvm hip hsp hL hst hdy fuel ss ss' c env' t' hsem
  exact ⟨h1, h2⟩

open UgoVerif.CompSim in
/-- **C02_fragment_list** — whole scripts of the fragment against `Sem.execList`: compile-model
    output, loaded and run by the VM model; the three completions separately (`ProgOut`). -/
theorem C02_fragment_list (F : FloatOps) (builtins : List (String × Nat)) (disabled : List String) (file : List Ast.Stmt)
    (bc : Compile.Bytecode) (hF : StmtsF [] file = true) (hc : Compile.compileFile builtins disabled file = .ok bc)
    (hsp : bc.main.numLocals + needL file ≤ 2048) (t : State) (hrel : HeapRel (startState bc) t)
    (fuel : Nat) (ss ss' : Sem.SemSt) (c : Sem.Comp) (env' : Sem.Env) (t' : State)
    (hsem : exec ((Sem.execList F fuel [[]] file).run ss) t = (.ok ((c, env'), ss'), t')) :
    ss = ss' ∧ ProgOut F bc (streamSize builtins disabled file < bc.main.insts.size) t' c :=
  prog_sim F hF hc hsp t hrel fuel ss ss' c env' t' hsem

open UgoVerif.CompSim in
/-- **C02_return_appended** — a script of the fragment whose statement list completes normally in the
    reference semantics: `Bytecode()` appended its `RETURN 0` behind the stream of the statement list
    (so the premise `appended` of `C02_fragment_list`'s normal case holds). -/
theorem C02_return_appended (F : FloatOps) (builtins : List (String × Nat)) (disabled : List String) (file : List Ast.Stmt)
    (bc : Compile.Bytecode) (hb : ∀ p ∈ builtins, p.2 < Gen.numBuiltins)
    (hF : StmtsF [] file = true) (hc : Compile.compileFile builtins disabled file = .ok bc)
    (fuel : Nat) (env env' : Sem.Env) (ss ss' : Sem.SemSt) (t t' : State)
    (hsem : exec ((Sem.execList F fuel env file).run ss) t = (.ok ((.normal, env'), ss'), t')) :
    streamSize builtins disabled file < bc.main.insts.size :=
  appended_of_fall F hb hF hc (normal_fall F hsem)

open UgoVerif.CompSim in
/-- **C02_fragment** — ALL whole scripts of the fragment: what `Sem.runProgram` returns (on a heap that
    is the VM's start heap, possibly followed by boxes), `VM.Run` of the compile model's output
    returns: the same value for every large enough step budget (`undefined` for a script that falls
    off its end), or an uncaught error with the same name and message. -/
theorem C02_fragment (F : FloatOps) (builtins : List (String × Nat)) (disabled : List String) (file : List Ast.Stmt)
    (bc : Compile.Bytecode) (hb : ∀ p ∈ builtins, p.2 < Gen.numBuiltins)
    (hF : StmtsF [] file = true) (hc : Compile.compileFile builtins disabled file = .ok bc)
    (hsp : bc.main.numLocals + needL file ≤ 2048)
    (t : State) (hrel : HeapRel (startState bc) t)
    (fuel : Nat) (ss ss' : Sem.SemSt) (res : Sem.Result) (t' : State)
    (hsem : exec ((Sem.runProgram F fuel file []).run ss) t = (.ok (res, ss'), t')) :
    ss = ss' ∧
    match res with
    | .value v => ∃ n, ∀ fuel, n ≤ fuel → (runFrom F fuel .nil [] (loadProg bc)).1 = VM.Outcome.value v
    | .error a => ∃ (nm msg : String) (n : Nat), ErrIs t'.heap a nm msg ∧ ∀ fuel, n ≤ fuel →
        ∃ a' sfin, runFrom F fuel .nil [] (loadProg bc) = (VM.Outcome.error (.rt a'), sfin) ∧ ErrIs sfin.heap a' nm msg :=
  prog_sim_run_all F hb hF hc hsp t hrel fuel ss ss' res t' hsem

/- non-vacuity: `(1 + x) * 2 < 7 || !b` with `x = 3`, `b = false` -/
namespace Ex
open UgoVerif.Ast UgoVerif.CompSim

deriving instance DecidableEq for V, IterK, Cell

def e0 : Expr :=
  .binary 1 tLOr
    (.binary 2 tLess (.binary 3 tMul (.paren 4 (.binary 5 tAdd (.int 6 1#64) (.ident 7 "x"))) (.int 8 2#64)) (.int 9 7#64))
    (.unary 10 tNot (.ident 11 "b"))

/-- compiler state inside a function whose locals are `x` (slot 0) and `b` (slot 1) -/
def cs0 : Compile.CState :=
  { tables := [{ store := [("x", { name := "x", index := 0, scope := .local_ }), ("b", { name := "b", index := 1, scope := .local_ })],
                 numDefinition := 2, maxDefinition := 2 }],
    builtins := [] }

def cs1 : Compile.CState := (Compile.runCM (Compile.compileExpr e0) cs0).2

def code0 : Code := { insts := cs1.insts, numParams := 0, numLocals := 2, variadic := false }

/-- the VM in front of the expression's code: frame 0 runs the code, `x = 3` and `b = false` in the
    local slots 0 and 1; the VM heap holds the function only -/
def s0 : State :=
  { newState #[code0] #[.fn 0 none] (cs1.constants.map constV) 0 0 with
    stack := ((Array.replicate stackSize V.nil).set! 0 (.int 3#64)).set! 1 (.bool false)
    sp := 2, ip := -1, frameIndex := 1
    frames := emptyFrames.modify 0 fun f => { f with fn := some 0, bp := 0 } }

/-- the state of the reference semantics: the VM heap followed by the boxes of `x` and `b` -/
def t0 : State := { s0 with heap := #[.fn 0 none, .box (.int 3#64), .box (.bool false)] }

def env0 : Sem.Env := [[("x", 1), ("b", 2)]]

def F0 : FloatOps := ⟨fun a _ => a, fun a _ => a, fun a _ => a, fun a _ => a, id, id, id⟩

def isOkU {ε} : Except ε Unit → Bool | .ok _ => true | .error _ => false

/-- the code: CONSTANT 0; GETLOCAL 0; BINARYOP +; CONSTANT 1; BINARYOP *; CONSTANT 2; BINARYOP <;
    ORJUMP 26; GETLOCAL 1; UNARY ! -/
example : cs1.insts = #[1, 0, 0, 5, 0, 8, 12, 1, 0, 1, 8, 14, 1, 0, 2, 8, 39, 15, 0, 0, 0, 26, 5, 1, 9, 42] := by
  decide +kernel
/-- evaluated agreement on this instance: the reference semantics (on its own heap) returns `true` … -/
example : (match (exec ((Sem.evalExpr F0 20 env0 e0).run {}) t0).1 with
    | .ok (.val v, _) => v == .bool true | _ => false) = true := by decide +kernel
/-- … and ten instructions of the VM model leave `true` in slot 2, `sp = 3`, `ip = 25` -/
example : (match exec (loopF F0 10) s0 with
    | (_, s) => s.ip == 25 && s.sp == 3 && s.stack[2]! == .bool true) = true := by decide +kernel

theorem hc0 : Compile.runCM (Compile.compileExpr e0) cs0 = (.ok (), cs1) := by
  have h : isOkU (Compile.runCM (Compile.compileExpr e0) cs0).1 = true := by decide +kernel
  unfold cs1
  cases hr : Compile.runCM (Compile.compileExpr e0) cs0 with
  | mk r c =>
    rw [hr] at h
    cases r with
    | ok u => rfl
    | error e => simp [isOkU] at h

attribute [irreducible] cs1

theorem hvm0 : VMOk cs1.constants code0 0 2 s0 where
  abort := rfl
  size := by decide +kernel
  code := ⟨0, 0, none, by decide +kernel, by decide +kernel, rfl⟩
  bp := by decide +kernel
  consts := constsOK_map _
  lo := by decide +kernel

theorem hloc0 : LocalsOK (localIdx cs0) env0 t0 s0 0 2 := by
  intro n i h
  by_cases hx : n = "x"
  · subst hx
    have h0 : localIdx cs0 "x" = some 0 := by decide +kernel
    rw [h0] at h
    injection h with h; subst h
    exact ⟨1, .int 3#64, by decide +kernel, by decide +kernel, by decide, by decide +kernel, trivial⟩
  · by_cases hb : n = "b"
    · subst hb
      have h0 : localIdx cs0 "b" = some 1 := by decide +kernel
      rw [h0] at h
      injection h with h; subst h
      exact ⟨2, .bool false, by decide +kernel, by decide +kernel, by decide, by decide +kernel, trivial⟩
    · exfalso
      have h1 : ("x" == n) = false := by simpa using fun h' => hx h'.symm
      have h2 : ("b" == n) = false := by simpa using fun h' => hb h'.symm
      simp [localIdx, cs0, Compile.resolveIn, Compile.lookupSym, h1, h2, Compile.rootDisabled] at h

theorem hF0 : ExprF (localIdx cs0) e0 = true := by decide +kernel
theorem hcode0 : CodeHas code0 cs1.insts cs0.insts.size := fun _ _ _ => rfl
theorem hip0 : s0.ip + 1 = (cs0.insts.size : Int) := by decide +kernel
theorem hsp0 : s0.sp + need e0 ≤ 2048 := by decide +kernel
theorem hsz0 : cs1.insts.size = 26 := by decide +kernel

/-- the hypotheses of `compile_expr_correct` are satisfiable (the reference heap has two boxes the VM
    heap does not have), and on this instance it says: the VM gets from `s0` to a state with `true`
    pushed, `sp = 3`, `ip` at the end of the code, its heap unchanged -/
example : ∃ s', Reach F0 s0 s' ∧ s'.stack[2]! = .bool true ∧ s'.sp = 3 ∧ s'.ip + 1 = 26 ∧ s'.frames = s0.frames ∧
    s'.heap = s0.heap := by
  have hres : (match (exec ((Sem.evalExpr F0 20 env0 e0).run {}) t0).1 with
      | .ok (.val (.bool true), _) => true | _ => false) = true := by decide +kernel
  cases hr : exec ((Sem.evalExpr F0 20 env0 e0).run {}) t0 with
  | mk r t1 =>
    rw [hr] at hres
    match r, hres with
    | .ok (.val (.bool true), ss1), _ =>
      have h := compile_expr_correct F0 e0 cs0 cs1 hc0 hF0 cs1.constants code0 0 2 env0 s0 t0
        (Compile.IsPre.refl _) hcode0 hvm0 hip0 hsp0 hloc0 20 {} ss1 _ t1 hr
      obtain ⟨_, _, _, _, s', hreach, hsame, hheap, hip, hsp, _, hget⟩ := h
      exact ⟨s', hreach, hget, by rw [hsp]; rfl, by rw [hip, hsz0]; rfl, hsame.frames, hheap⟩

/- non-vacuity of the statement slice and of `C02_fragment`:
    `x := 3; var y = x * 2; if y > 5 { x = x + y } else { x = 0 }; return x - 1` -/

def file0 : List Stmt :=
  [ .assign 1 tDefine [.ident 1 "x"] [.int 6 3#64],
    .declValue 8 tVar [(some 0, [(12, "y")], [some (.binary 16 tMul (.ident 16 "x") (.int 20 2#64))])],
    .if_ 20 none (.binary 23 tGreater (.ident 23 "y") (.int 27 5#64)) 29
      [.assign 31 tAssign [.ident 31 "x"] [.binary 35 tAdd (.ident 35 "x") (.ident 39 "y")]]
      (some (.block 48 [.assign 50 tAssign [.ident 50 "x"] [.int 54 0#64]])),
    .return_ 59 (some (.binary 66 tSub (.ident 66 "x") (.int 70 1#64))) ]

def bc0 : Compile.Bytecode :=
  match Compile.compileFile [] [] file0 with
  | .ok bc => bc
  | .error _ => default

def bcOf (f : List Stmt) : Compile.Bytecode :=
  match Compile.compileFile [] [] f with
  | .ok bc => bc
  | .error _ => default

theorem hcOf (f : List Stmt) (h : (match Compile.compileFile [] [] f with | .ok _ => true | .error _ => false) = true) :
    Compile.compileFile [] [] f = .ok (bcOf f) := by
  unfold bcOf
  cases hr : Compile.compileFile [] [] f with
  | ok bc => rfl
  | error e => rw [hr] at h; cases h

theorem hcF : Compile.compileFile [] [] file0 = .ok bc0 := hcOf file0 (by decide +kernel)

/-- the stack suffices for any script whose statements need at most 1792 slots: the compile model caps `numLocals` at 256 -/
theorem hspOf {f : List Stmt} {bc : Compile.Bytecode} (hc : Compile.compileFile [] [] f = .ok bc) (hn : needL f ≤ 1792) :
    bc.main.numLocals + needL f ≤ 2048 := by
  obtain ⟨_, _, _, _, _, h256, _⟩ := compileFile_inv hc
  omega

theorem hFF : StmtsF [] file0 = true := by decide +kernel
theorem hspF : bc0.main.numLocals + needL file0 ≤ 2048 := hspOf hcF (by decide)
theorem hb0 : ∀ p ∈ ([] : List (String × Nat)), p.2 < Gen.numBuiltins := fun _ h => by cases h

/-- the compiled script: two locals; CONSTANT 0 (3); DEFINELOCAL 0; GETLOCAL 0; CONSTANT 1 (2); BINARYOP *;
    DEFINELOCAL 1; GETLOCAL 1; CONSTANT 2 (5); BINARYOP >; JUMPFALSY 39; GETLOCAL 0; GETLOCAL 1; BINARYOP +;
    SETLOCAL 0; JUMP 44; CONSTANT 3 (0); SETLOCAL 0; GETLOCAL 0; CONSTANT 4 (1); BINARYOP -; RETURN 1
    (no RETURN appended: the script ends with `return`) -/
example : bc0.main.insts = #[1, 0, 0, 40, 0, 5, 0, 1, 0, 1, 8, 14, 40, 1, 5, 1, 1, 0, 2, 8, 40, 13, 0, 0, 0, 39, 5, 0, 5, 1,
    8, 12, 6, 0, 12, 0, 0, 0, 44, 1, 0, 3, 6, 0, 5, 0, 1, 0, 4, 8, 13, 39, 1] := by decide +kernel

/-- evaluated: the reference semantics returns 8 on the VM's start heap … -/
theorem semF : (match (exec ((Sem.runProgram F0 40 file0 []).run {}) (startState bc0)).1 with
    | .ok (.value v, _) => decide (v = .int 8#64) | _ => false) = true := by decide +kernel
/-- … and so does the VM model's `Run` of the compile model's output -/
example : (match (runFrom F0 100 .nil [] (loadProg bc0)).1 with
    | .value v => decide (v = .int 8#64) | _ => false) = true := by decide +kernel

theorem heapRel_refl (s : State) : HeapRel s s :=
  ⟨Nat.le_refl _, fun _ _ => rfl, fun a h1 h2 => absurd h2 (by omega)⟩

theorem run_of_sem (file : List Stmt) (bc : Compile.Bytecode) (fuel0 : Nat) (v : V) (hF : StmtsF [] file = true)
    (hc : Compile.compileFile [] [] file = .ok bc) (hsp : bc.main.numLocals + needL file ≤ 2048)
    (hsem : (match (exec ((Sem.runProgram F0 fuel0 file []).run {}) (startState bc)).1 with
      | .ok (.value w, _) => decide (w = v) | _ => false) = true) :
    ∃ n, ∀ fuel, n ≤ fuel → (runFrom F0 fuel .nil [] (loadProg bc)).1 = VM.Outcome.value v := by
  cases hr : exec ((Sem.runProgram F0 fuel0 file []).run {}) (startState bc) with
  | mk r t1 =>
    rw [hr] at hsem
    match r, hsem with
    | .ok (.value w, ss1), hv =>
      have hv' : w = v := of_decide_eq_true hv
      subst hv'
      exact (C02_fragment F0 [] [] file bc hb0 hF hc hsp (startState bc) (heapRel_refl _) fuel0 {} ss1 _ t1 hr).2

/-- the hypotheses of `C02_fragment` are satisfiable, and on this script it says: for every large
    enough step budget the VM's `Run` returns 8 -/
example : ∃ n, ∀ fuel, n ≤ fuel → (runFrom F0 fuel .nil [] (loadProg bc0)).1 = VM.Outcome.value (.int 8#64) := 
  run_of_sem file0 _ 40 _ hFF hcF hspF semF

/- non-vacuity of `x++`, `var`, `if init; c`, `if true` and of the fall-off-the-end case:
    `x := 3; var y; y = x * 2; x++; if z := x + y; z > 5 { x = z } else { x = 0 }; if true { y -= 1 }; y--;
     if x > y { x = x - y }` — no `return`: the script falls off its end (behind an `if` without `else`) -/

def file1 : List Stmt :=
  [ .assign 1 tDefine [.ident 1 "x"] [.int 6 3#64],
    .declValue 8 tVar [(some 0, [(12, "y")], [])],
    .assign 14 tAssign [.ident 14 "y"] [.binary 18 tMul (.ident 18 "x") (.int 22 2#64)],
    .incdec 24 tInc 25 (.ident 24 "x"),
    .if_ 28 (some (.assign 31 tDefine [.ident 31 "z"] [.binary 36 tAdd (.ident 36 "x") (.ident 40 "y")]))
      (.binary 43 tGreater (.ident 43 "z") (.int 47 5#64)) 49
      [.assign 51 tAssign [.ident 51 "x"] [.ident 55 "z"]]
      (some (.block 64 [.assign 66 tAssign [.ident 66 "x"] [.int 70 0#64]])),
    .if_ 74 none (.bool 77 true) 82 [.assign 84 tSubAssign [.ident 84 "y"] [.int 89 1#64]] none,
    .incdec 93 tDec 94 (.ident 93 "y"),
    .if_ 97 none (.binary 100 tGreater (.ident 100 "x") (.ident 104 "y")) 106
      [.assign 108 tAssign [.ident 108 "x"] [.binary 112 tSub (.ident 112 "x") (.ident 116 "y")]] none ]

/-- the same script followed by `return x + y` (x = 6, y = 4) -/
def file2 : List Stmt := file1 ++ [.return_ 120 (some (.binary 127 tAdd (.ident 127 "x") (.ident 131 "y")))]

theorem hc1 : Compile.compileFile [] [] file1 = .ok (bcOf file1) := hcOf file1 (by decide +kernel)
theorem hc2 : Compile.compileFile [] [] file2 = .ok (bcOf file2) := hcOf file2 (by decide +kernel)
theorem hF1 : StmtsF [] file1 = true := by decide +kernel
theorem hF2 : StmtsF [] file2 = true := by decide +kernel
theorem hsp1 : (bcOf file1).main.numLocals + needL file1 ≤ 2048 := hspOf hc1 (by decide)
theorem hsp2 : (bcOf file2).main.numLocals + needL file2 ≤ 2048 := hspOf hc2 (by decide)

/-- the statement list of `file1` compiles to 97 bytes; `Bytecode()` appends RETURN 0 (99 bytes, three locals) -/
example : streamSize [] [] file1 = 97 ∧ (bcOf file1).main.insts.size = 99 ∧ (bcOf file1).main.numLocals = 3 ∧
    (bcOf file1).main.insts[97]? = some 39 ∧ (bcOf file1).main.insts[98]? = some 0 := by decide +kernel
/-- the syntactic predicate: `file1` may fall off its end, `file2` may not -/
example : fallL file1 = true ∧ fallL file2 = false := by decide +kernel

/-- evaluated: the reference semantics completes `file1` normally (result `undefined`), `file2` returns 10 … -/
theorem sem1 : (match (exec ((Sem.runProgram F0 60 file1 []).run {}) (startState (bcOf file1))).1 with
    | .ok (.value v, _) => decide (v = V.undefined) | _ => false) = true := by decide +kernel
theorem sem2 : (match (exec ((Sem.runProgram F0 60 file2 []).run {}) (startState (bcOf file2))).1 with
    | .ok (.value v, _) => decide (v = V.int 10#64) | _ => false) = true := by decide +kernel
/-- … and so does the VM model's `Run` of the compile model's output -/
example : (match (runFrom F0 200 .nil [] (loadProg (bcOf file1))).1 with
    | .value v => decide (v = V.undefined) | _ => false) = true := by decide +kernel
example : (match (runFrom F0 200 .nil [] (loadProg (bcOf file2))).1 with
    | .value v => decide (v = V.int 10#64) | _ => false) = true := by decide +kernel

/-- `C02_fragment` applied to the script that falls off its end: for every large enough step budget the
    VM's `Run` returns `undefined` (through the appended RETURN) -/
example : ∃ n, ∀ fuel, n ≤ fuel → (runFrom F0 fuel .nil [] (loadProg (bcOf file1))).1 = VM.Outcome.value .undefined := 
  run_of_sem file1 _ 60 _ hF1 hc1 hsp1 sem1

/-- … and to the same script followed by `return x + y`: `Run` returns 10 -/
example : ∃ n, ∀ fuel, n ≤ fuel → (runFrom F0 fuel .nil [] (loadProg (bcOf file2))).1 = VM.Outcome.value (.int 10#64) := 
  run_of_sem file2 _ 60 _ hF2 hc2 hsp2 sem2

/- `if false`: `x := 1; if false { x = 2 } else { x++ }; if false { x = 5 }; return x` — the bodies of the two
    `if false` are not compiled (JUMP 15; JUMP 24; else part; JUMP 29; GETLOCAL 0; RETURN 1) -/

def file3 : List Stmt :=
  [ .assign 1 tDefine [.ident 1 "x"] [.int 6 1#64],
    .if_ 8 none (.bool 11 false) 17 [.assign 19 tAssign [.ident 19 "x"] [.int 23 2#64]]
      (some (.block 32 [.incdec 34 tInc 35 (.ident 34 "x")])),
    .if_ 40 none (.bool 43 false) 49 [.assign 51 tAssign [.ident 51 "x"] [.int 55 5#64]] none,
    .return_ 59 (some (.ident 66 "x")) ]

theorem hc3 : Compile.compileFile [] [] file3 = .ok (bcOf file3) := hcOf file3 (by decide +kernel)
theorem hF3 : StmtsF [] file3 = true := by decide +kernel
theorem hsp3 : (bcOf file3).main.numLocals + needL file3 ≤ 2048 := hspOf hc3 (by decide)
example : (bcOf file3).main.insts = #[1, 0, 0, 40, 0, 12, 0, 0, 0, 15, 12, 0, 0, 0, 24, 5, 0, 1, 0, 0, 8, 12, 6, 0,
    12, 0, 0, 0, 29, 5, 0, 39, 1] := by decide +kernel
theorem sem3 : (match (exec ((Sem.runProgram F0 60 file3 []).run {}) (startState (bcOf file3))).1 with
    | .ok (.value v, _) => decide (v = V.int 2#64) | _ => false) = true := by decide +kernel
example : (match (runFrom F0 200 .nil [] (loadProg (bcOf file3))).1 with
    | .value v => decide (v = V.int 2#64) | _ => false) = true := by decide +kernel
example : ∃ n, ∀ fuel, n ≤ fuel → (runFrom F0 fuel .nil [] (loadProg (bcOf file3))).1 = VM.Outcome.value (.int 2#64) := 
  run_of_sem file3 _ 60 _ hF3 hc3 hsp3 sem3

/- a `var` group: `var (a = 1; b; c = a + 2); b = a + c; return b * c` -/

def file4 : List Stmt :=
  [ .declValue 1 tVar [(some 0, [(6, "a")], [some (.int 10 1#64)]), (some 1, [(13, "b")], []),
      (some 2, [(16, "c")], [some (.binary 20 tAdd (.ident 20 "a") (.int 24 2#64))])],
    .assign 28 tAssign [.ident 28 "b"] [.binary 32 tAdd (.ident 32 "a") (.ident 36 "c")],
    .return_ 39 (some (.binary 46 tMul (.ident 46 "b") (.ident 50 "c"))) ]

theorem hc4 : Compile.compileFile [] [] file4 = .ok (bcOf file4) := hcOf file4 (by decide +kernel)
theorem hF4 : StmtsF [] file4 = true := by decide +kernel
theorem hsp4 : (bcOf file4).main.numLocals + needL file4 ≤ 2048 := hspOf hc4 (by decide)
theorem sem4 : (match (exec ((Sem.runProgram F0 60 file4 []).run {}) (startState (bcOf file4))).1 with
    | .ok (.value v, _) => decide (v = V.int 12#64) | _ => false) = true := by decide +kernel
example : (match (runFrom F0 200 .nil [] (loadProg (bcOf file4))).1 with
    | .value v => decide (v = V.int 12#64) | _ => false) = true := by decide +kernel
example : ∃ n, ∀ fuel, n ≤ fuel → (runFrom F0 fuel .nil [] (loadProg (bcOf file4))).1 = VM.Outcome.value (.int 12#64) := 
  run_of_sem file4 _ 60 _ hF4 hc4 hsp4 sem4

end Ex
/-- the source-level statement (not proved; tested by stream `sem`).  Proved slices of it:
    `compile_expr_correct`, `compile_stmt_correct`, `compile_stmts_correct`, `C02_fragment` above —
    scripts built from expression statements, `:=` / `var` (with or without value, groups) / `=` / compound assignment /
    `++` / `--` on uncaptured scalar locals, blocks, `if` / `else` (also `if init; c`, `if true`, `if false`), `return`, falling off
    the end.  Only tested: loops, captured variables / closures,
    calls, containers (arrays, maps, index, selector, slice), `try` / `catch` / `finally` / `throw`,
    globals, modules / imports, builtins, `const` declarations, `var a, b = …`, destructuring, `param` -/
def C02_full (Script Input Outcome : Type) (impl sem : Script → Input → Option Outcome) : Prop :=
  ∀ p i o₁ o₂, impl p i = some o₁ → sem p i = some o₂ → o₁ = o₂

/-- non-vacuity of `bindArgs_variadic` -/
example : Sem.bindArgs ["a", "rest"] true [.int 1#64, .int 2#64, .int 3#64]
    = .ok [("a", .inl (.int 1#64)), ("rest", .inr [.int 2#64, .int 3#64])] := by rfl

end UgoVerif.Props.C02

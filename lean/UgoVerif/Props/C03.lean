import UgoVerif.Proofs.VMExec
import UgoVerif.Proofs.FrameOps
/-
  C03 — `finally` runs exactly once on every exit path and the pending outcome survives it.

  Proved here: the HANDLER MECHANISM of the VM model (vm.go OpSetupTry / OpSetupCatch /
  OpSetupFinally / OpThrow 0 / OpFinalizer / handleThrownError), opcode by opcode, for every state:
  entering a finally body consumes the handler's finally address (so no later exit
  can enter it again), a caught error is bound once and cleared, normal completion of
  a try statement leaves no handler behind, a pending jump/return recorded by
  FINALIZER is resumed by THROW 0, a pending error is re-thrown by THROW 0
  (the three repairs of commit 5ac371b stated as theorems).
  A thrown error goes to the innermost live handler; a handler whose catch and finally are consumed
  never intercepts; the error of a function without a live handler reaches the NEAREST calling
  frame that has one (repair 9eeb286), or is returned from Run.
  A return/break/continue enters the NEAREST pending finally block of the statements being left
  (`errHandlers.findFinally` is shown equal to the list function `ffSpec`) and does not touch
  enclosing statements that are not being left.

  The source-level statement `C03_full` (every script's log/outcome equals the
  reference semantics Spec/Sem) is NOT proved; it is tested by stream `sem`
  (try-dense generator: every exit kind at every position, earlier completed try
  statements, errors crossing call frames) against Spec/Sem.
-/
namespace UgoVerif.Props.C03
open UgoVerif UgoVerif.Go UgoVerif.Proofs.ModCache UgoVerif.Proofs.VMExec
open UgoVerif.VM hiding exec exec_pure exec_bind exec_getIp exec_setIp exec_bumpIp exec_curFrame exec_setCurFrame

/-- SETUPFINALLY: entering the finally body consumes the catch and finally addresses of the
    statement's handler — nothing can jump to this finally block again while the handler lives. -/
theorem setupFinally_consumes (s : State) (h : Handler) (r : List Handler)
    (hc : s.curFrame < s.frames.size) (hh : handlersOf s = some (h :: r)) :
    (exec execSetupFinally s).1 = .ok .next ∧
    handlersOf (exec execSetupFinally s).2 = some ({ h with catch_ := 0, finally_ := 0 } :: r) := by
  unfold execSetupFinally
  simp only [exec_bind, exec_curFrame, hasHandler_cons _ h r hh, if_true, exec_setCurFrame, exec_pure]
  exact ⟨trivial, by simp only [handlersOf, getElem!_modify_self _ _ _ hc, setLast_cons _ _ h r hh]⟩

/-- THROW 0 at the end of a try statement that completed normally (no pending error, no
    pending jump) removes exactly that statement's handler and continues with the next
    instruction: completed try statements have no influence on later ones. -/
theorem throw0_normal_pops (s : State) (h : Handler) (r : List Handler)
    (hc : s.curFrame < s.frames.size) (hh : handlersOf s = some (h :: r))
    (hop : exec (opnd1 1) s = (.ok 0, s)) (herr : h.err = none) (hret : h.returnTo ≤ 0) :
    exec execThrow s = (.ok .next, { s with ip := s.ip + 1, frames := s.frames.modify s.curFrame popHandler }) ∧
    handlersOf (exec execThrow s).2 = some r := by
  have e : exec execThrow s = (.ok .next, { s with ip := s.ip + 1, frames := s.frames.modify s.curFrame popHandler }) := by
    rw [exec_throw_zero s h r hh hop, herr]
    exact if_neg (by omega)
  exact ⟨e, by simp only [e, handlersOf, getElem!_modify_self _ _ _ hc, popHandler_cons _ h r hh]⟩

/-- THROW 0 with a pending jump/return, at every stack height: the handler is removed, the operand stack is cut back
    to the height FINALIZER recorded (the slots from there up to `sp` are cleared) and control resumes the suspended jump -/
theorem throw0_resumes (s : State) (h : Handler) (r : List Handler) (hh : handlersOf s = some (h :: r))
    (hop : exec (opnd1 1) s = (.ok 0, s)) (herr : h.err = none) (hret : h.returnTo > 0)
    (hb : h.sp ≤ s.sp → 0 ≤ h.sp ∧ s.sp < (stackSize : Int)) :
    exec execThrow s = (.ok .next, { s with ip := h.returnTo - 1, stack := cleared s.stack s.sp h.sp, sp := h.sp,
                                            frames := s.frames.modify s.curFrame popHandler }) := by
  rw [exec_throw_zero s h r hh hop, herr]
  exact (if_pos hret).trans (exec_cutBack _ _ _ hb)

/-- THROW 0 with a pending jump/return (recorded by FINALIZER in `returnTo`, `sp`): the
    handler is removed and control resumes the suspended return/break/continue at the
    recorded stack height. -/
theorem throw0_resumes_jump (s : State) (h : Handler) (r : List Handler)
    (hc : s.curFrame < s.frames.size) (hh : handlersOf s = some (h :: r))
    (hop : exec (opnd1 1) s = (.ok 0, s)) (herr : h.err = none) (hret : h.returnTo > 0)
    (hsp : s.sp < h.sp) :
    exec execThrow s = (.ok .next, { s with ip := h.returnTo - 1, sp := h.sp, frames := s.frames.modify s.curFrame popHandler }) ∧
    handlersOf (exec execThrow s).2 = some r := by
  have e : exec execThrow s = (.ok .next, { s with ip := h.returnTo - 1, sp := h.sp, frames := s.frames.modify s.curFrame popHandler }) := by
    rw [throw0_resumes s h r hh hop herr hret fun c => absurd c (by omega), cleared_of_lt _ hsp]
  exact ⟨e, by simp only [e, handlersOf, getElem!_modify_self _ _ _ hc, popHandler_cons _ h r hh]⟩

/-- SETUPCATCH: the pending error of the statement is bound (pushed for the catch variable)
    exactly once: it is cleared from the handler and the catch address is consumed, so the
    error is not raised again once caught. -/
theorem setupCatch_binds (s : State) (h : Handler) (r : List Handler) (e : Addr)
    (hc : s.curFrame < s.frames.size) (hh : handlersOf s = some (h :: r)) (herr : h.err = some e)
    (hsp : 0 ≤ s.sp ∧ s.sp < (stackSize : Int)) (hst : s.stack.size = stackSize) :
    (exec execSetupCatch s).1 = .ok .next ∧
    handlersOf (exec execSetupCatch s).2 = some ({ h with catch_ := 0, err := none } :: r) ∧
    (exec execSetupCatch s).2.sp = s.sp + 1 ∧
    (exec execSetupCatch s).2.stack[s.sp.toNat]! = .rterr e := by
  have e1 : exec execSetupCatch s = (.ok .next,
      { s with frames := (s.frames.modify s.curFrame fun f => setLast f fun h => { h with catch_ := 0 }).modify s.curFrame
                  (fun f => setLast f fun h => { h with err := none }),
               stack := s.stack.set! s.sp.toNat (.rterr e), sp := s.sp + 1 }) := by
    unfold execSetupCatch
    simp only [exec_bind, exec_curFrame, hasHandler_cons _ h r hh, if_true, exec_setCurFrame,
      lastHandler_cons _ h r hh, herr, exec_pure]
    rw [exec_pushV _ _ (by simpa using hsp)]
  rw [e1]
  refine ⟨rfl, ?_, rfl, ?_⟩
  · simp only [handlersOf, getElem!_modify_self _ _ _ hc, getElem!_modify_self _ _ _ (show s.curFrame < (s.frames.modify _ _).size by simpa using hc),
      setLast_cons _ _ h r hh]
    rfl
  · have h1 : s.sp.toNat < s.stack.size := by rw [hst]; omega
    simp [h1]

/-- SETUPTRY: entering a try statement pushes exactly one handler, recording the stack height,
    the catch and finally addresses, no pending error and no pending jump. -/
theorem setupTry_pushes (s : State) (c f : Nat) (hc : s.curFrame < s.frames.size)
    (h1 : exec (opnd4 1) s = (.ok c, s)) (h5 : exec (opnd4 5) s = (.ok f, s)) :
    (exec execSetupTry s).1 = .ok .next ∧
    handlersOf (exec execSetupTry s).2 =
      some ({ sp := s.sp, catch_ := c, finally_ := f, returnTo := 0, err := none } :: (handlersOf s).getD []) ∧
    (exec execSetupTry s).2.ip = s.ip + 8 ∧ (exec execSetupTry s).2.sp = s.sp := by
  have e1 : exec execSetupTry s = (.ok .next,
      { s with frames := s.frames.modify s.curFrame (fun fr => { fr with handlers := some ({ sp := s.sp, catch_ := c, finally_ := f, returnTo := 0, err := none } :: (fr.handlers.getD [])) }),
               ip := s.ip + 8 }) := by
    unfold execSetupTry
    simp only [exec_bind, h1, h5, exec_getSp, exec_setCurFrame, exec_bumpIp, exec_pure]
  rw [e1]
  exact ⟨rfl, by simp only [handlersOf, getElem!_modify_self _ _ _ hc], rfl, rfl⟩

theorem lastHandler_marked {s : State} {h : Handler} {r : List Handler} (err : Addr) (hc : s.curFrame < s.frames.size)
    (hh : handlersOf s = some (h :: r)) :
    lastHandler ((marked err s).frames[s.curFrame]!) = some { h with err := some err } := by
  rw [marked, getElem!_modify_self _ _ _ hc, setLast_cons _ _ h r hh]; rfl

theorem exec_landAt (ip hsp : Int) (s : State) (h : hsp ≤ s.sp → 0 ≤ hsp ∧ s.sp < (stackSize : Int)) :
    exec (landAt ip hsp) s = (.ok (some none), { s with ip := ip, stack := cleared s.stack s.sp hsp, sp := hsp }) := by
  unfold landAt
  rw [exec_bind, exec_setIp]
  exact exec_cutBack _ _ _ h

/-- `handleThrownError` with a live catch or finally block, at every stack height: the error is recorded in the
    statement's handler, control goes to the catch block or, that one consumed, to the finally block, and the operand
    stack is cut back to the height recorded at SETUPTRY (the slots from there up to `sp` are cleared) -/
theorem handle_lands (fuel : Nat) (err : Addr) (s : State) (h : Handler) (r : List Handler)
    (hc : s.curFrame < s.frames.size) (hh : handlersOf s = some (h :: r)) (hlive : h.catch_ > 0 ∨ h.finally_ > 0)
    (hb : h.sp ≤ s.sp → 0 ≤ h.sp ∧ s.sp < (stackSize : Int)) :
    exec (throwF.handle fuel err) s = (.ok none,
      { s with frames := s.frames.modify s.curFrame (fun f => setLast f fun h => { h with err := some err }),
               ip := (if h.catch_ > 0 then h.catch_ else h.finally_) - 1,
               stack := cleared s.stack s.sp h.sp, sp := h.sp }) := by
  show VM.exec _ s = _
  rw [handle_eq, handleK, VM.exec_bind, exec_handlePre, lastHandler_marked err hc hh]
  dsimp only
  by_cases hcatch : h.catch_ > 0
  · rw [if_pos hcatch, if_pos hcatch, show VM.exec (landAt _ _) _ = _ from exec_landAt _ _ (marked err s) hb]
    rfl
  · rw [if_neg hcatch, if_neg hcatch, if_pos (hlive.resolve_left hcatch),
      show VM.exec (landAt _ _) _ = _ from exec_landAt _ _ (marked err s) hb]
    rfl

/-- `handleThrownError` with a live catch clause: the error is recorded in the statement's handler,
    control goes to the catch address, the operand stack is cut back to the height recorded at
    SETUPTRY, and the error is not propagated further. -/
theorem handle_delivers_to_catch (fuel : Nat) (err : Addr) (s : State) (h : Handler) (r : List Handler)
    (hc : s.curFrame < s.frames.size) (hh : handlersOf s = some (h :: r)) (hcatch : h.catch_ > 0)
    (hsp : s.sp < h.sp) :
    exec (throwF.handle fuel err) s = (.ok none,
      { s with frames := s.frames.modify s.curFrame (fun f => setLast f fun h => { h with err := some err }),
               ip := h.catch_ - 1, sp := h.sp }) := by
  rw [handle_lands fuel err s h r hc hh (.inl hcatch) fun c => absurd c (by omega), if_pos hcatch, cleared_of_lt _ hsp]

/-- no live catch clause but a pending finally block: control goes to the finally address with the
    error recorded as the statement's pending outcome (THROW 0 re-throws it afterwards) -/
theorem handle_enters_finally (fuel : Nat) (err : Addr) (s : State) (h : Handler) (r : List Handler)
    (hc : s.curFrame < s.frames.size) (hh : handlersOf s = some (h :: r)) (hcatch : h.catch_ = 0)
    (hfin : h.finally_ > 0) (hsp : s.sp < h.sp) :
    exec (throwF.handle fuel err) s = (.ok none,
      { s with frames := s.frames.modify s.curFrame (fun f => setLast f fun h => { h with err := some err }),
               ip := h.finally_ - 1, sp := h.sp }) := by
  rw [handle_lands fuel err s h r hc hh (.inr hfin) fun c => absurd c (by omega), if_neg (by omega), cleared_of_lt _ hsp]

/-- a handler whose catch and finally were both consumed (the error was raised inside its catch
    or finally body) does not intercept: it is removed and the error propagates to the next
    enclosing handler -/
theorem handle_skips_exhausted (fuel : Nat) (err : Addr) (s : State) (h : Handler) (r : List Handler)
    (hc : s.curFrame < s.frames.size) (hh : handlersOf s = some (h :: r)) (hcatch : h.catch_ = 0)
    (hfin : h.finally_ = 0) :
    exec (throwF.handle fuel err) s = exec (throwF fuel err)
      { s with frames := (s.frames.modify s.curFrame (fun f => setLast f fun h => { h with err := some err })).modify s.curFrame popHandler } := by
  show VM.exec _ s = _
  rw [handle_eq, handleK, VM.exec_bind, exec_handlePre, lastHandler_marked err hc hh]
  dsimp only
  rw [if_neg (by omega), if_neg (by omega)]
  rfl

/-- the frame search of `throw`: it stops at the NEAREST frame below the failing one that has a
    handler — every frame it skipped had none (and is released) — or finds none at all. -/
theorem searchFrames_nearest (n : Nat) (s : State) (hn : n ≤ frameSize) :
    (∃ k s', exec (searchFrames n) s = (.ok (some k), s') ∧ k < n ∧ hasHandler (s.frames[k]!) = true ∧
        (∀ j, k < j → j < n → hasHandler (s.frames[j]!) = false) ∧
        (∀ j, j ≤ k → s'.frames[j]! = s.frames[j]!) ∧ s'.stack = s.stack ∧ s'.sp = s.sp ∧ s'.heap = s.heap) ∨
    (∃ s', exec (searchFrames n) s = (.ok none, s') ∧ (∀ j, j < n → hasHandler (s.frames[j]!) = false) ∧
        s'.stack = s.stack ∧ s'.sp = s.sp ∧ s'.heap = s.heap) := by
  have e : exec (searchFrames n) s = _ := (VM.exec_searchFrames n s).trans (if_neg (Nat.not_lt.mpr hn))
  cases hr : (searched s.frames n).1 with
  | some k =>
    obtain ⟨h1, h2, h3⟩ := searched_eq_some.mp hr
    exact .inl ⟨k, { s with frames := (searched s.frames n).2 }, by rw [e, hr], h1, h2, h3, fun j hj => searched_get_of_lt (by rw [hr]; exact Nat.lt_succ_of_le hj), rfl, rfl, rfl⟩
  | none => exact .inr ⟨{ s with frames := (searched s.frames n).2 }, by rw [e, hr], searched_eq_none.mp hr, rfl, rfl, rfl⟩
/-- an error raised in a function without a live handler goes to the NEAREST calling frame that
    has one: the frames in between are released, that frame becomes the current frame again
    (at the instruction pointer it saved when it made the call) and its handler takes the error -/
theorem throwF_goes_to_nearest_caller (fuel : Nat) (err : Addr) (s : State)
    (hcur : hasHandler (s.frames[s.curFrame]!) = false) (hfi : (s.frameIndex - 1).toNat ≤ frameSize)
    (k : Nat) (hk : k < (s.frameIndex - 1).toNat) (hhk : hasHandler (s.frames[k]!) = true)
    (hnear : ∀ j, k < j → j < (s.frameIndex - 1).toNat → hasHandler (s.frames[j]!) = false)
    (hfn : (s.frames[k]!).fn ≠ none) :
    ∃ s' : State, (∀ j, j ≤ k → s'.frames[j]! = s.frames[j]!) ∧ s'.stack = s.stack ∧ s'.sp = s.sp ∧ s'.heap = s.heap ∧
      exec (throwF (fuel + 1) err) s =
        exec (throwF.handle fuel err) { s' with frameIndex := (k : Int) + 1, curFrame := k, ip := (s.frames[k]!).ip } := by
  have hr : (searched s.frames (s.frameIndex - 1).toNat).1 = some k := searched_eq_some.mpr ⟨hk, hhk, hnear⟩
  refine ⟨searchedS s, fun j hj => searched_get_of_lt (by rw [hr]; exact Nat.lt_succ_of_le hj), rfl, rfl, rfl, ?_⟩
  show VM.exec (throwF (fuel + 1) err) s = VM.exec (throwF.handle fuel err) (resumed s k)
  rw [throwF_succ, handle_eq, throwK, VM.exec_bind, exec_throwPre, if_neg (by rw [hcur]; exact Bool.false_ne_true),
    if_neg (Nat.not_lt.mpr hfi), hr]
  dsimp only
  cases hf : (s.frames[k]!).fn with
  | none => exact absurd hf hfn
  | some fa => rfl

/-- no frame has a live handler: the error is not intercepted and becomes the error returned by Run -/
theorem throwF_unhandled (fuel : Nat) (err : Addr) (s : State)
    (hcur : hasHandler (s.frames[s.curFrame]!) = false) (hfi : (s.frameIndex - 1).toNat ≤ frameSize)
    (hnone : ∀ j, j < (s.frameIndex - 1).toNat → hasHandler (s.frames[j]!) = false) :
    (exec (throwF (fuel + 1) err) s).1 = .ok (some err) := by
  show (VM.exec (throwF (fuel + 1) err) s).1 = .ok (some err)
  rw [throwF_succ, throwK, VM.exec_bind, exec_throwPre, if_neg (by rw [hcur]; exact Bool.false_ne_true),
    if_neg (Nat.not_lt.mpr hfi), searched_eq_none.mpr hnone]
  rfl

/-- `errHandlers.findFinally(upto)` as a function of the handler list (innermost first): handlers of
    the statements being left (index ≥ upto) are visited from the innermost outwards; one whose
    finally block was already entered (`finally_ = 0`) is dropped, the first one with a pending
    finally block stops the search. -/
def ffSpec : List Handler → Int → Int × List Handler
  | [], _ => (0, [])
  | h :: r, upto =>
    if ((r.length : Int) < upto) then (0, h :: r)
    else if h.finally_ == 0 then ffSpec r upto
    else (h.finally_, h :: r)

theorem modify_handlers_id (fs : Array Frame) (i : Nat) (hs : List Handler)
    (hh : (fs[i]!).handlers = some hs) : fs.modify i (fun f => { f with handlers := some hs }) = fs := by
  apply Array.ext
  · simp
  · intro j h1 h2
    by_cases hj : i = j
    · subst hj
      rw [getElem!_pos fs i h2] at hh
      simp [Array.getElem_modify, ← hh]
    · simp [Array.getElem_modify, hj]

theorem exec_findFinally (fuel : Nat) (upto : Int) (s : State) (hs : List Handler)
    (hc : s.curFrame < s.frames.size) (hh : handlersOf s = some hs) (hf : hs.length < fuel) :
    exec (findFinally fuel upto) s =
      (.ok ((ffSpec hs upto).1 : Int),
       { s with frames := s.frames.modify s.curFrame fun f => { f with handlers := some (ffSpec hs upto).2 } }) := by
  induction hs generalizing fuel s with
  | nil =>
    obtain ⟨fuel, rfl⟩ := Nat.exists_eq_succ_of_ne_zero (Nat.ne_zero_of_lt hf)
    have hh' : (s.frames[s.curFrame]!).handlers = some [] := hh
    unfold findFinally
    simp only [exec_bind, exec_curFrame, hh']
    simp [ffSpec, exec_pure, modify_handlers_id _ _ _ hh']
  | cons h r ih =>
    obtain ⟨fuel, rfl⟩ := Nat.exists_eq_succ_of_ne_zero (Nat.ne_zero_of_lt hf)
    have hh' : (s.frames[s.curFrame]!).handlers = some (h :: r) := hh
    unfold findFinally
    simp only [exec_bind, exec_curFrame, hh']
    by_cases hlt : (r.length : Int) < upto
    · simp [ffSpec, hlt, exec_pure, modify_handlers_id _ _ _ hh']
    · have hr0 : ¬ ((r.length : Int) < 0) := by omega
      by_cases hz : h.finally_ = 0
      · have hs' : handlersOf ({ s with frames := s.frames.modify s.curFrame popHandler } : State) = some r := by
          simp only [handlersOf, getElem!_modify_self _ _ _ hc, popHandler_cons _ h r hh]
        have := ih fuel { s with frames := s.frames.modify s.curFrame popHandler } (by simpa using hc) hs' (by simp at hf; omega)
        simp [hr0, hz, ffSpec, hlt, exec_bind, exec_setCurFrame, this, frames_modify_modify]
        congr 1
        funext f
        unfold popHandler
        split <;> rfl
      · simp [hr0, hz, ffSpec, hlt, exec_pure, modify_handlers_id _ _ _ hh']

theorem ffSpec_spec (hs : List Handler) (upto : Int) :
    ∃ dropped, hs = dropped ++ (ffSpec hs upto).2 ∧ (∀ d ∈ dropped, d.finally_ = 0) ∧
      (((ffSpec hs upto).1 = 0 ∧ ∀ x r, (ffSpec hs upto).2 = x :: r → (r.length : Int) < upto) ∨
       ∃ x r, (ffSpec hs upto).2 = x :: r ∧ x.finally_ ≠ 0 ∧ x.finally_ = (ffSpec hs upto).1 ∧ upto ≤ r.length) := by
  fun_induction ffSpec hs upto with
  | case1 => exact ⟨[], rfl, by simp, .inl ⟨rfl, by simp⟩⟩
  | case2 h r upto hlt =>
    exact ⟨[], rfl, by simp, .inl ⟨rfl, fun x r' e => by cases e; exact hlt⟩⟩
  | case3 h r upto hlt hz ih =>
    obtain ⟨d, hd, hall, hend⟩ := ih
    refine ⟨h :: d, by rw [List.cons_append, ← hd], ?_, hend⟩
    intro x hx
    rcases List.mem_cons.1 hx with rfl | hx
    · simpa using hz
    · exact hall x hx
  | case4 h r upto hlt hz =>
    exact ⟨[], rfl, by simp, .inr ⟨h, r, rfl, by simpa using hz, rfl, by omega⟩⟩

/-- what the search drops are exactly consumed handlers (finally already entered), innermost first -/
theorem ffSpec_suffix (hs : List Handler) (upto : Int) :
    ∃ dropped, hs = dropped ++ (ffSpec hs upto).2 ∧ ∀ d ∈ dropped, d.finally_ = 0 :=
  let ⟨d, h1, h2, _⟩ := ffSpec_spec hs upto
  ⟨d, h1, h2⟩

/-- a pending finally block that is found belongs to one of the statements being left
    (its index is at least the static depth `upto` of the jump target) and is the innermost such -/
theorem ffSpec_found (hs : List Handler) (upto : Int) (h : (ffSpec hs upto).1 ≠ 0) :
    ∃ x r, (ffSpec hs upto).2 = x :: r ∧ x.finally_ = (ffSpec hs upto).1 ∧ upto ≤ r.length := by
  obtain ⟨_, _, _, ⟨h0, _⟩ | ⟨x, r, e, _, hx, hup⟩⟩ := ffSpec_spec hs upto
  · exact absurd h0 h
  · exact ⟨x, r, e, hx, hup⟩

/-- nothing found: no handler of a statement being left remains (those that were there had their
    finally entered already and are dropped) -/
theorem ffSpec_none (hs : List Handler) (upto : Int) (h : (ffSpec hs upto).1 = 0) :
    ∀ x r, (ffSpec hs upto).2 = x :: r → (r.length : Int) < upto ∨ x.finally_ = 0 := by
  obtain ⟨_, _, _, ⟨_, hlt⟩ | ⟨x, r, _, hne, hx, _⟩⟩ := ffSpec_spec hs upto
  · exact fun x r e => .inl (hlt x r e)
  · exact absurd (hx.trans h) hne

/-- FINALIZER k (emitted before every `return`/`break`/`continue` that leaves try statements down to
    static depth k) with a pending finally block among the statements being left: the jump is
    suspended — its resume address and stack height are recorded in that statement's handler, any
    pending error of it is cancelled — and control enters the NEAREST pending finally block. -/
theorem finalizer_enters_pending_finally (s : State) (hs : List Handler) (upto : Nat)
    (hop : exec (opnd1 1) s = (.ok upto, s)) (hc : s.curFrame < s.frames.size)
    (hh : handlersOf s = some hs) (hpos : (ffSpec hs upto).1 > 0) :
    ∃ x r, (ffSpec hs upto).2 = x :: r ∧ x.finally_ = (ffSpec hs upto).1 ∧ (upto : Int) ≤ r.length ∧
      exec execFinalizer s = (.ok .next,
        { s with frames := s.frames.modify s.curFrame (fun f =>
                   { f with handlers := some ({ x with returnTo := s.ip, sp := s.sp, err := none } :: r) }),
                 ip := x.finally_ - 1 }) := by
  obtain ⟨x, r, hx, hfin, hup⟩ := ffSpec_found hs upto (by omega)
  refine ⟨x, r, hx, hfin, hup, ?_⟩
  have hh' : (s.frames[s.curFrame]!).handlers = some hs := hh
  unfold execFinalizer
  simp only [exec_bind, hop, exec_curFrame, hh']
  rw [exec_findFinally _ _ s hs hc hh (by omega)]
  have hnp : ¬ ((ffSpec hs ↑upto).1 ≤ 0) := by omega
  simp only [hnp, if_false, exec_getIp, exec_getSp, exec_setCurFrame, exec_setIp, exec_pure, exec_bind]
  simp only [hx, ← hfin]
  rw [frames_modify_modify]
  rfl

/-- FINALIZER k with no pending finally block among the statements being left: their (consumed)
    handlers are dropped and the jump proceeds at once -/
theorem finalizer_no_pending (s : State) (hs : List Handler) (upto : Nat)
    (hop : exec (opnd1 1) s = (.ok upto, s)) (hc : s.curFrame < s.frames.size)
    (hh : handlersOf s = some hs) (hpos : (ffSpec hs upto).1 ≤ 0) :
    exec execFinalizer s = (.ok .next,
      { s with frames := s.frames.modify s.curFrame (fun f => { f with handlers := some (ffSpec hs upto).2 }),
               ip := s.ip + 1 }) := by
  have hh' : (s.frames[s.curFrame]!).handlers = some hs := hh
  unfold execFinalizer
  simp only [exec_bind, hop, exec_curFrame, hh']
  rw [exec_findFinally _ _ s hs hc hh (by omega)]
  simp only [hpos, if_true, exec_bumpIp, exec_pure, exec_bind]

set_option linter.unusedVariables false

/-- THROW 0 at the end of a finally block whose statement has a pending error (the error was
    raised in the try or catch body and no catch took it, or it was recorded while another
    finally ran): the statement's handler is removed and the ORIGINAL error is thrown again,
    to the next enclosing handler — the pending outcome survives the finally block.
    (`hc` is not needed for this one.) -/
theorem throw0_rethrows_pending (s : State) (h : Handler) (r : List Handler) (e : Addr)
    (hc : s.curFrame < s.frames.size) (hh : handlersOf s = some (h :: r))
    (hop : exec (opnd1 1) s = (.ok 0, s)) (herr : h.err = some e) :
    exec execThrow s =
      (match exec (do let fuel ← throwFuel; throwF fuel e)
          ({ s with ip := s.ip + 1, frames := s.frames.modify s.curFrame popHandler } : State) with
       | (.ok none, s') => (.ok .next, s')
       | (.ok (some a), s') => (.ok .ret, { s' with err := some (.rt a) })
       | (.error x, s') => (.error x, s')) := by
  rw [exec_throw_zero s h r hh hop, herr]
  rfl

/-- the source-level statement (not proved; tested by stream `sem`): for every script of the
    try/loop/call fragment, the implementation's log and outcome are those of the reference
    semantics, in which `finally` runs exactly once per exit by definition. -/
def C03_full (Script Outcome : Type) (impl sem : Script → Option Outcome) : Prop :=
  ∀ p o₁ o₂, impl p = some o₁ → sem p = some o₂ → o₁ = o₂

/-- non-vacuity: a concrete handler stack meeting the hypotheses of `setupFinally_consumes` -/
example : ∃ s : State, s.curFrame < s.frames.size ∧
    handlersOf s = some ({ sp := 3, catch_ := 0, finally_ := 40, returnTo := 0, err := none } :: []) := by
  refine ⟨{ (newState #[] #[] #[] 0 0) with
    frames := #[{ handlers := some [{ sp := 3, catch_ := 0, finally_ := 40, returnTo := 0, err := none }] }] }, ?_, ?_⟩
  · simp [newState]
  · simp [handlersOf, newState]

end UgoVerif.Props.C03

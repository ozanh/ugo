import UgoVerif.Proofs.EncBytecode
import UgoVerif.Proofs.EncNorm
import UgoVerif.Proofs.EncCompile
import UgoVerif.Spec.EncPos
/-
  C04 — encoding bytecode and decoding it again preserves behaviour.

  Theorems over the hand model `Model/Enc.lean` of encoder/encoder.go + encoder/bytecode.go
  (repaired tree: Float −0.0 fix 43e8e7c, BuiltinFunction fix 6a8cdec, decoder hardening
  6f5a90c), whose tag/header constants are the regenerated `Gen/EncTags.lean`; tied to the
  implementation by the `enc` correspondence stream (implementation-encoded bytes decoded by
  the model and compared structurally; the model's re-encoding must be byte-identical).

  What is proved here is the *structural* half: decoding what the encoder wrote yields the
  normal form `norm` of the original, for every value and every bytecode, with `norm` proved
  to be idempotent and to be the identity on well-formed values (so the only things a round
  trip can change are: non-positive NumParams/NumLocals/NumModules ↦ 0, Free variables
  dropped, repeated keys of an association list collapsed — none of which the compiler
  produces).  The *behavioural* half ("runs to the same outcome") is `C04_full`, stated over an
  abstract `run`; it is proved with `run` := the VM model (`Spec/EncVM.lean`) for every bytecode of
  the shape the compiler produces without imports (`C04_full_shaped`, `C04_full_compiled`), and for
  module constants under `FixOK` (`C04_vm`).

  gob (objects without a binary marshaler) is a parameter assumed to round-trip
  (`Encodable C (.gob ..)`).
-/
namespace UgoVerif.Props.C04
open UgoVerif UgoVerif.Go UgoVerif.Model.Enc UgoVerif.Spec.Enc UgoVerif.Proofs.Enc UgoVerif.Gen.EncTags

/-- `binary.Uvarint` reads back what `binary.PutUvarint` wrote (any uint64, any trailing bytes) -/
theorem uvarint_roundtrip (n : Nat) (rest : Bytes) (hn : n < 2 ^ 64) :
    uvarint (putUvarint n ++ rest) = (n, ((putUvarint n).length : Int)) :=
  uvarint_put n rest hn

/-- `binary.Varint` reads back what `binary.PutVarint` wrote (any int64, incl. MinInt64/MaxInt64) -/
theorem varint_roundtrip (x : Int) (rest : Bytes) (h : -(2 ^ 63 : Int) ≤ x ∧ x < 2 ^ 63) :
    varint (putVarint x ++ rest) = (x, ((putVarint x).length : Int)) :=
  varint_put x rest (by simp [inInt64]; omega)

/-- the length-prefixed varint of `varintConv` through all three readers -/
theorem varintConv_roundtrip (v : Int) (rest : Bytes) (h : -(2 ^ 63 : Int) ≤ v ∧ v < 2 ^ 63) :
    viRead (toBytes v ++ rest) = .ok (v, rest) ∧
    viReadBytes (toBytes v ++ rest) = .ok (v, toBytes v, rest) ∧
    toVarint (toBytes v ++ rest) = .ok (v, (toBytes v).length) := by
  have hin : inInt64 v = true := by simp [inInt64]; omega
  exact ⟨viRead_toBytes v rest hin, viReadBytes_toBytes v rest hin, toVarint_toBytes v rest hin⟩

/-- the scratch buffers of the Go encoders are large enough (so the encoders cannot panic) -/
theorem varint_buffers_suffice (n : Nat) :
    (n < 2 ^ 64 → (putUvarint n).length ≤ 10) ∧ (n < 2 ^ 35 → (putUvarint n).length ≤ 5) :=
  ⟨putUvarint_len10 n, putUvarint_len5 n⟩

/-- `DecodeObject (MarshalBinary o ++ rest) = (norm o, rest)`: every constant kind — ints and
    uints at the extremes, chars, floats as bit patterns (NaN payloads, ±Inf, −0.0), empty
    and arbitrary (non-UTF-8) strings and bytes, arbitrarily nested arrays / maps / sync maps,
    compiled functions with instructions / source map / params / variadic flag, functions and
    builtin functions by name, gob-encoded objects — by induction on `o`.  Hypotheses: `o` has
    an encoding (`Encodable`: no nil interface, known builtin names, gob round-trips), the
    model has fuel, and lengths fit Go's `int`. -/
theorem object_roundtrip (C : Ctx) (o : Obj) (fuel : Nat) (rest : Bytes) (hE : Encodable C o)
    (hf : need o ≤ fuel) (hs : (encodeObject C o).length < 2 ^ 63) :
    (decodeObjectF C fuel (encodeObject C o ++ rest)).res = .ok (norm o, rest) :=
  rt_obj C o fuel rest hE hf hs

/-- the same for `decodeObject` (fuel 3·|input|+16, as used by the driver): the fuel always
    suffices, so no fuel hypothesis is left -/
theorem object_roundtrip_default_fuel (C : Ctx) (o : Obj) (rest : Bytes) (hE : Encodable C o)
    (hs : (encodeObject C o).length < 2 ^ 63) :
    (decodeObject C (encodeObject C o ++ rest)).res = .ok (norm o, rest) := by
  unfold decodeObject
  have := need_le C o
  exact rt_obj C o _ rest hE (by simp only [List.length_append]; omega) hs

/-- on well-formed values (unique map keys, compiler-shaped compiled functions) the round trip
    is the identity -/
theorem object_roundtrip_exact (C : Ctx) (o : Obj) (fuel : Nat) (rest : Bytes) (hE : Encodable C o)
    (hw : WF o) (hf : need o ≤ fuel) (hs : (encodeObject C o).length < 2 ^ 63) :
    (decodeObjectF C fuel (encodeObject C o ++ rest)).res = .ok (o, rest) := by
  rw [object_roundtrip C o fuel rest hE hf hs, norm_of_WF o hw]

private theorem encodeFloat_length_le (v : F64) : (encodeFloat v).length ≤ 12 := by
  unfold encodeFloat; split
  · simp
  · have := putUvarint_len10 v.toNat v.isLt
    simp; omega

/-- the −0.0 row of DESIGN §6: in the repaired tree the sign bit survives (and −0.0 is not
    elided: its encoding is longer than the two bytes of +0.0) -/
theorem negative_zero_roundtrip (C : Ctx) (rest : Bytes) :
    (decodeObjectF C 1 (encodeObject C (.float 0x8000000000000000#64) ++ rest)).res =
      .ok (.float 0x8000000000000000#64, rest) ∧
    encodeObject C (.float 0x8000000000000000#64) ≠ encodeObject C (.float 0#64) := by
  refine ⟨rt_obj C _ 1 rest (by simp [Encodable]) (by simp [need]) (by
    simp only [encodeObject]
    have := encodeFloat_length_le 0x8000000000000000#64
    omega), ?_⟩
  intro h
  have := congrArg List.length h
  have hp := putUvarint_length_pos (0x8000000000000000#64 : BitVec 64).toNat
  simp [encodeObject, encodeFloat] at this hp
  rw [this] at hp
  simp at hp

/-- `DecodeBytecodeFrom (EncodeBytecodeTo bc)` is `fixObjects` applied to the normal form of
    `bc`: file set, main function, constants, number of modules. -/
theorem bytecode_roundtrip (C : Ctx) (conv : BC → Res BC) (mods : Mods) (bc : BC) (fuel : Nat)
    (hf : needBC bc ≤ fuel) (hE : EncodableBC C bc) :
    (decodeBytecodeF C conv mods fuel (encodeBytecode C bc)).res = fixObjects mods (normBC bc) :=
  rt_bytecode C conv mods bc fuel hf hE

/-- the same for `decodeBytecode` (fuel 3·|input|+16) -/
theorem bytecode_roundtrip_default_fuel (C : Ctx) (conv : BC → Res BC) (mods : Mods) (bc : BC)
    (hE : EncodableBC C bc) :
    (decodeBytecode C conv mods (encodeBytecode C bc)).res = fixObjects mods (normBC bc) := by
  unfold decodeBytecode
  refine rt_bytecode C conv mods bc _ ?_ hE
  unfold needBC
  have hb := (body_bounds C bc).2.2
  have hlen : (encodeBytecodeBody C bc).length ≤ (encodeBytecode C bc).length := by
    unfold encodeBytecode; simp only [List.length_append]; omega
  cases hc : bc.constants with
  | none => simp only; omega
  | some cs =>
    have h1 := need_le C (.array cs)
    have h2 := hb cs hc
    simp only; omega

/-- the file set (names, bases, sizes, line tables) survives exactly, and so does every
    source map without repeated keys: error positions and stack traces are computed from
    exactly these -/
theorem positions_survive (bc : BC) (f : CF) (sm : List (BitVec 64 × BitVec 64)) :
    (normBC bc).fileSet = bc.fileSet ∧
    (f.sourceMap = some sm → (keys sm).Nodup → (normCF f).sourceMap = some sm) ∧
    (normCF f).instructions = f.instructions ∧ (normCF f).variadic = f.variadic := by
  refine ⟨rfl, ?_, rfl, rfl⟩
  intro h hk
  simp [normCF, h, mapOfList_of_nodup sm hk]

/-- `norm` changes nothing but representation: it is the identity on well-formed values … -/
theorem norm_only_representation (o : Obj) (h : WF o) : norm o = o := norm_of_WF o h

/-- … and on compiled functions it touches exactly NumParams/NumLocals ≤ 0, Free, and
    repeated source-map keys -/
theorem normCF_spec (f : CF) :
    (normCF f).numParams = (if 0 < f.numParams.toInt then f.numParams else 0) ∧
    (normCF f).numLocals = (if 0 < f.numLocals.toInt then f.numLocals else 0) ∧
    (normCF f).instructions = f.instructions ∧ (normCF f).variadic = f.variadic ∧
    (normCF f).numFree = 0 ∧ (normCF f).sourceMap = f.sourceMap.map mapOfList :=
  ⟨rfl, rfl, rfl, rfl, rfl, rfl⟩

/-- decode-twice clause, value level: normalising again changes nothing -/
theorem norm_idem (o : Obj) : norm (norm o) = norm o := UgoVerif.Proofs.Enc.norm_idem o

/-- decode-twice clause: encoding the decoded bytecode and decoding once more gives the same
    bytecode again -/
theorem decode_twice (C : Ctx) (conv : BC → Res BC) (mods : Mods) (bc : BC) (fuel : Nat)
    (hf : needBC (normBC bc) ≤ fuel) (hE : EncodableBC C (normBC bc)) :
    (decodeBytecodeF C conv mods fuel (encodeBytecode C (normBC bc))).res = fixObjects mods (normBC bc) := by
  rw [rt_bytecode C conv mods (normBC bc) fuel hf hE, normBC_idem]

/-- For a constant that was imported from the builtin module `name` (its entries
    are the module's attributes plus the `__module_name__` entry, in any order), decoding
    its encoding and running `fixObjects` with the same module map re-binds every item to the
    module's live object: the module lookup succeeds and every Go-type check passes. -/
theorem fix_rebinds (mods : Mods) (name : Bytes) (attrs items : List (Bytes × Obj))
    (hm : mods name = some attrs)
    (hname : lookupKV attrModuleName items = some (.str name))
    (hitems : ∀ k v, (k, v) ∈ items → (k = attrModuleName ∧ v = .str name) ∨
      (k ≠ attrModuleName ∧ lookupKV k attrs = some v)) :
    fixConst mods (.map (normKVs items)) = .ok (.map items) :=
  UgoVerif.Proofs.Enc.fix_rebinds mods name attrs items hm hname hitems

/-- the object tags are pairwise distinct (a duplicated tag in the Go const block breaks this) -/
theorem tags_distinct : (allTags.map (·.2)).Nodup := UgoVerif.Proofs.Enc.tags_distinct

/-- the field numbers the model uses are the ones in the source -/
theorem field_numbers : bcFieldsEnc = [0, 1, 2, 3] ∧ bcFieldsDec = [0, 1, 2, 3] ∧
    cfFieldsEnc = [0, 1, 2, 3, 5] ∧ cfFieldsDec = [0, 1, 2, 3, 4, 5] := by decide

/-- Full-strength C04 over an abstract `run` (the VM model's `Run` on a fresh state: bytecode,
    globals, arguments ↦ outcome) and an abstract compiler image `compiled`: every compiled
    bytecode, encoded and decoded with the same builtin modules, runs to the same outcome —
    and so does the bytecode obtained by encoding and decoding once more. -/
def C04_full {Outcome Inputs : Type} (C : Ctx) (conv : BC → Res BC) (mods : Mods)
    (compiled : BC → Prop) (run : BC → Inputs → Outcome) : Prop :=
  ∀ bc, compiled bc → ∃ bc', (∀ fuel, needBC bc ≤ fuel →
      (decodeBytecodeF C conv mods fuel (encodeBytecode C bc)).res = .ok bc') ∧
    (∀ i, run bc' i = run bc i) ∧
    ∃ bc'', (∀ fuel, needBC bc' ≤ fuel →
      (decodeBytecodeF C conv mods fuel (encodeBytecode C bc')).res = .ok bc'') ∧ ∀ i, run bc'' i = run bc i

/-- `C04_full` for an abstract `run`: whenever the compiler's output is encodable and `run` cannot
    observe what `norm`/`fixObjects` change (for compiler output `norm` is the identity up to the
    dropped Free list, `fixObjects` re-binds module items to the live objects they were
    copied from), `C04_full` holds.  `C04_vm` discharges the clause about `run` for the VM model. -/
theorem C04_partial {Outcome Inputs : Type} (C : Ctx) (conv : BC → Res BC) (mods : Mods)
    (compiled : BC → Prop) (run : BC → Inputs → Outcome)
    (hE : ∀ bc, compiled bc → EncodableBC C bc)
    (hfix : ∀ bc, compiled bc → ∃ bc', fixObjects mods (normBC bc) = .ok bc' ∧
      EncodableBC C bc' ∧ fixObjects mods (normBC bc') = .ok bc' ∧ ∀ i, run bc' i = run bc i) :
    C04_full C conv mods compiled run := by
  intro bc hc
  obtain ⟨bc', hfx, hE', hfx', hrun⟩ := hfix bc hc
  refine ⟨bc', ?_, hrun, bc', ?_, hrun⟩
  · intro fuel hf
    rw [rt_bytecode C conv mods bc fuel hf (hE bc hc), hfx]
  · intro fuel hf
    rw [rt_bytecode C conv mods bc' fuel hf hE', hfx']

/-! The behavioural half over the VM model.
  `run F H bc i` (`Spec/EncVM.lean`) is `VM.runFrom` — the VM model's `Run`, tied to vm.go by the
  lock-step `vmtrace` stream — on the state `load H bc` of a new VM for `bc`.  On well-formed
  bytecode `load` builds exactly the denoted objects (`load_is_plain`), and on the output of the
  compile model it is the state `Model/Eval.setBytecode` builds (`load_compiled`, the loader C10
  is stated over). -/

section vm
open UgoVerif.Spec.EncVM UgoVerif.Spec.EncPos UgoVerif.VM

/-- a bytecode and its normal form run to the same outcome, for all inputs (the two
    new VMs are in *equal* states) -/
theorem norm_run (F : FloatOps) (H : Host) (bc : BC) (i : Inputs) : run F H (normBC bc) i = run F H bc i :=
  run_congr_norm F H bc _ (normBC_idem bc) i

/-- `load` is the plain construction of the denoted Go objects on well-formed bytecode -/
theorem load_is_plain (H : Host) (bc : BC) (h : WFBC bc) : load H bc = loadRaw H bc := load_of_WF H bc h

/-- more than that: `load = loadRaw` as soon as the maps among the constants are Go maps (unique
    keys) — compiled functions may have negative counts, a non-empty `Free`, repeated source-map
    keys: none of that is part of the VM state, so `norm_run` is not an artefact of loading through
    the normal form -/
theorem load_is_plain_keys (H : Host) (hH : HostNorm H) (bc : BC)
    (h : ∀ cs, bc.constants = some cs → KeysOKL cs) : load H bc = loadRaw H bc :=
  loadRaw_norm H hH bc h

/-- … and on compiler output it is `NewVM(bc)` of the Eval model -/
theorem load_compiled (H : Host) (fs : Option FileSet) (cbc : Compile.Bytecode) (hs : SmallCounts cbc) :
    load H (toEnc fs cbc) = Eval.setBytecode (newState #[] #[] #[] 0 0) cbc.main 0 cbc.constants #[] :=
  load_toEnc H fs cbc hs

/-- Encoding a bytecode and decoding it with the same builtin modules gives
    a bytecode that runs to the same outcome for all globals and arguments.  Hypotheses: the
    bytecode has an encoding (`EncodableBC`), and `fixObjects` succeeds constant by constant
    without changing normal forms (`FixOK`: true for every constant that is not a module map —
    `FixOK_notModule` — and for the map of an imported builtin module when the same module is
    supplied — `FixOK_module`, from `fix_rebinds`).  Function constants carry no free
    variables (the loader gives them `Free = nil`; the encoder does not write `Free`). -/
theorem C04_roundtrip_run (F : FloatOps) (H : Host) (C : Ctx) (conv : BC → Res BC) (mods : Mods) (bc : BC)
    (hE : EncodableBC C bc) (hfix : ∀ cs, bc.constants = some cs → ∀ c ∈ cs, FixOK mods c) :
    ∃ bc', (decodeBytecode C conv mods (encodeBytecode C bc)).res = .ok bc' ∧
      ∀ i, run F H bc' i = run F H bc i := by
  obtain ⟨bc', hfx, hn⟩ := fixObjects_of_FixOK mods bc hfix
  exact ⟨bc', by rw [bytecode_roundtrip_default_fuel C conv mods bc hE, hfx],
    fun i => run_congr_norm F H bc bc' hn i⟩

/-- `C04_full` with `run` := the VM model: holds for every class of bytecodes that are encodable
    and whose constants `fixObjects` re-binds (`FixOK`), provided the re-bound bytecode is
    encodable again (second round trip). -/
theorem C04_vm (F : FloatOps) (H : Host) (C : Ctx) (conv : BC → Res BC) (mods : Mods) (compiled : BC → Prop)
    (hE : ∀ bc, compiled bc → EncodableBC C bc)
    (hfix : ∀ bc, compiled bc → ∀ cs, bc.constants = some cs → ∀ c ∈ cs, FixOK mods c)
    (hE' : ∀ bc bc', compiled bc → fixObjects mods (normBC bc) = .ok bc' → EncodableBC C bc') :
    C04_full C conv mods compiled (run F H) :=
  C04_partial C conv mods compiled (run F H) hE fun bc hc => by
    obtain ⟨bc', hfx, hn⟩ := fixObjects_of_FixOK mods bc (hfix bc hc)
    exact ⟨bc', hfx, hE' bc bc' hc hfx, by rw [hn, hfx], fun i => run_congr_norm F H bc bc' hn i⟩

/-- the compile-model lemma: constants produced by the compile model never carry free variables
    (`Compile.CFn` has no `Free` at all; closures are built at run time by OpClosure) -/
theorem compiled_constants_no_free (cbc : Compile.Bytecode) :
    (cfOfCFn cbc.main).numFree = 0 ∧
    ∀ c ∈ cbc.constants.toList, ∀ f, objOfConst c = .compiledFunction f → f.numFree = 0 :=
  constants_no_free cbc

/-- bytecodes returned by the compile model (optimizer off, no imports), with the parser's file
    set `fs`; side conditions: every length and count fits Go's `int` -/
def CompilerOutput (C : Ctx) (builtins : List (String × Nat)) (disabled : List String) (fs : Option FileSet)
    (bc : BC) : Prop :=
  ∃ file cbc, Compile.compileFile builtins disabled file = .ok cbc ∧ bc = toEnc fs cbc ∧
    SmallCounts cbc ∧ (encodeBytecodeBody C bc).length < 2 ^ 63

/-- compiler output is well-formed, so the round trip returns *exactly* the bytecode that was
    encoded: instructions, constants, source maps, file set, counts — nothing is normalised away
    (`Free` is nil to begin with) -/
theorem compiled_roundtrip_exact (C : Ctx) (conv : BC → Res BC) (mods : Mods) (fs : Option FileSet)
    (cbc : Compile.Bytecode) (hs : SmallCounts cbc)
    (hsmall : (encodeBytecodeBody C (toEnc fs cbc)).length < 2 ^ 63) :
    (decodeBytecode C conv mods (encodeBytecode C (toEnc fs cbc))).res = .ok (toEnc fs cbc) := by
  rw [bytecode_roundtrip_default_fuel C conv mods _ (toEnc_encodable C fs cbc hsmall), fixObjects_toEnc mods fs cbc hs]

/-- every bytecode of the shape the compiler produces without imports — constants are scalars
    and compiled functions without free variables, a main function — whether or not the optimizer
    produced it -/
def CompilerShaped (C : Ctx) (fs : Option FileSet) (bc : BC) : Prop :=
  ∃ cbc : Compile.Bytecode, bc = toEnc fs cbc ∧ SmallCounts cbc ∧ (encodeBytecodeBody C bc).length < 2 ^ 63

theorem C04_full_shaped (F : FloatOps) (H : Host) (C : Ctx) (conv : BC → Res BC) (mods : Mods) (fs : Option FileSet) :
    C04_full C conv mods (CompilerShaped C fs) (run F H) :=
  C04_partial C conv mods _ _ (by rintro bc ⟨cbc, rfl, _, hsmall⟩; exact toEnc_encodable C fs cbc hsmall) <| by
    rintro bc ⟨cbc, rfl, hs, hsmall⟩
    have hfx := fixObjects_toEnc mods fs cbc hs
    exact ⟨_, hfx, toEnc_encodable C fs cbc hsmall, hfx, fun _ => rfl⟩

/-- `C04_full` for compiler output of the modelled language: for every script the compile model
    accepts, the compiled bytecode, encoded and decoded (and encoded and decoded once more), runs
    to the same outcome and final state in the VM model, for all globals and arguments. -/
theorem C04_full_compiled (F : FloatOps) (H : Host) (C : Ctx) (conv : BC → Res BC) (mods : Mods)
    (builtins : List (String × Nat)) (disabled : List String) (fs : Option FileSet) :
    C04_full C conv mods (CompilerOutput C builtins disabled fs) (run F H) := by
  rintro bc ⟨file, cbc, _, hbc, hs, hsmall⟩
  exact C04_full_shaped F H C conv mods fs bc ⟨cbc, hbc, hs, hsmall⟩

/-- the decoded bytecode has the same file set, and every function whose source map is a Go map
    (unique keys) has the same source map: as values of the position model -/
theorem positions_equal (bc : BC) (f : CF) (hk : ∀ sm, f.sourceMap = some sm → (keys sm).Nodup) :
    (normBC bc).fileSet.map fileSetOf = bc.fileSet.map fileSetOf ∧ sourceMapOf (normCF f) = sourceMapOf f := by
  refine ⟨rfl, ?_⟩
  unfold sourceMapOf normCF
  cases h : f.sourceMap with
  | none => rfl
  | some sm => simp only [Option.map_some, Option.getD_some, mapOfList_of_nodup sm (hk sm h)]

/-- `getSourcePos` / `getFrameSourcePos` / the trace built by `throw` / `StackTrace()` of the
    position model (`Model/Trace.lean`, property C16) are the same over the decoded bytecode as
    over the original: for every call stack (current function, ip, caller frames) whose
    functions have Go-map source maps, and every file set. -/
theorem trace_positions_equal (bc : BC) (noTrace : Bool) (cur : Option CF) (ip : Int) (callers : List PFrame)
    (trace : List Model.Pos)
    (hcur : ∀ f, cur = some f → ∀ sm, f.sourceMap = some sm → (keys sm).Nodup)
    (hcallers : ∀ fr ∈ callers, ∀ f, fr.fn = some f → ∀ sm, f.sourceMap = some sm → (keys sm).Nodup) :
    Model.throwTrace noTrace ((cur.map normCF).map sourceMapOf) ip ((callers.map decodedFrame).map tframeOf) trace =
      Model.throwTrace noTrace (cur.map sourceMapOf) ip (callers.map tframeOf) trace ∧
    ∀ tr, ((normBC bc).fileSet.map fun fs => Model.stackTrace (fileSetOf fs) tr) =
      (bc.fileSet.map fun fs => Model.stackTrace (fileSetOf fs) tr) := by
  refine ⟨?_, fun _ => rfl⟩
  have h1 : (cur.map normCF).map sourceMapOf = cur.map sourceMapOf := by
    cases cur with
    | none => rfl
    | some f => simp only [Option.map_some, (positions_equal {} f (hcur f rfl)).2]
  have h2 : (callers.map decodedFrame).map tframeOf = callers.map tframeOf := by
    rw [List.map_map]
    apply List.map_congr_left
    intro fr hfr
    obtain ⟨fn, fip, hh⟩ := fr
    cases fn with
    | none => rfl
    | some f =>
      simp only [Function.comp, decodedFrame, tframeOf, Option.map_some,
        (positions_equal {} f (hcallers _ hfr f rfl)).2]
  rw [h1, h2]

end vm

/-- a context in which gob rejects everything and `len` is a builtin -/
def ctx0 : Ctx :=
  { gobDec := fun _ => none, gobAlloc := fun _ => 0, gobEnc := fun _ _ => [],
    isBuiltinFn := fun n => n == "len".toUTF8.toList }

/-- a nested constant meeting the hypotheses of `object_roundtrip` -/
def sample : Obj :=
  .array [.int 0x8000000000000000#64, .float 0x7FF8000000000001#64, .str [0xff, 0x00],
          .map [([0x61], .array []), ([], .undefined)], .compiledFunction { numParams := 1#64, variadic := true },
          .builtinFunction "len".toUTF8.toList, .syncMap true []]

example : Encodable ctx0 sample := by
  simp [sample, Encodable, EncodableL, EncodableKV, ctx0]
example : WF sample := by
  simp only [sample, WF, WFL, WFKV, keys, and_true, true_and]
  refine ⟨by decide, ?_⟩
  exact ⟨by decide, by decide, rfl, by intro sm h; cases h⟩
theorem moduleM_items (k : Bytes) (v : Obj)
    (h : (k, v) ∈ [(([0x66] : Bytes), Obj.function [0x66]), (attrModuleName, .str [0x6d])]) :
    (k = attrModuleName ∧ v = .str [0x6d]) ∨
      (k ≠ attrModuleName ∧ lookupKV k [(([0x66] : Bytes), Obj.function [0x66])] = some v) := by
  simp only [List.mem_cons, Prod.mk.injEq, List.mem_nil_iff, or_false] at h
  rcases h with ⟨rfl, rfl⟩ | ⟨rfl, rfl⟩
  · right; exact ⟨by decide, rfl⟩
  · left; exact ⟨rfl, rfl⟩

/-- the hypotheses of `fix_rebinds` are satisfiable: module "m" = {f: <function f>} -/
example : fixConst (fun n => if n = [0x6d] then some [([0x66], .function [0x66])] else none)
    (.map (normKVs [([0x66], .function [0x66]), (attrModuleName, .str [0x6d])])) =
    .ok (.map [([0x66], .function [0x66]), (attrModuleName, .str [0x6d])]) :=
  fix_rebinds _ [0x6d] [([0x66], .function [0x66])] _ (by simp) rfl moduleM_items

/-- the hypotheses of `C04_partial` are satisfiable: the empty bytecode with a trivial `run` -/
example : C04_full ctx0 (fun bc => .ok bc) (fun _ => none) (fun bc => bc = {}) (fun _ (_ : Unit) => ()) :=
  C04_partial ctx0 _ _ _ _
    (by intro bc h; subst h; exact ⟨(by intro cs h; cases h), (by simp [encodeBytecodeBody])⟩)
    (by intro bc h; subst h
        exact ⟨{}, rfl, ⟨(by intro cs h; cases h), (by simp [encodeBytecodeBody])⟩, rfl, fun _ => rfl⟩)

/-- the empty script compiles (compile model, evaluated by the kernel): `RETURN 0` -/
def emptyMain : Compile.CFn :=
  { numParams := 0, numLocals := 0, variadic := false, insts := #[39, 0], sourceMap := [(0, 0)] }
theorem emptyProg : Compile.compileFile [] [] [] = .ok { main := emptyMain, constants := #[] } := rfl

/-- `CompilerOutput` is inhabited: the bytecode of the empty script meets every side condition of
    `C04_full_compiled` -/
example : CompilerOutput ctx0 [] [] none (toEnc none { main := emptyMain, constants := #[] }) := by
  have hsmall : (encodeBytecodeBody ctx0 (toEnc none { main := emptyMain, constants := #[] })).length < 2 ^ 63 := by
    have h := encodeCF_length_le (cfOfCFn emptyMain) 2 1 (by intro i hi; simp [cfOfCFn, emptyMain] at hi; subst hi; simp)
      (by intro sm hs; simp [cfOfCFn, emptyMain, mapOfList, mapSet] at hs; subst hs; simp) (by decide)
    simp only [encodeBytecodeBody, toEnc, encodeObject]
    simp
    omega
  exact ⟨[], _, emptyProg, rfl, ⟨⟨by decide, by decide⟩, by intro c hc; simp at hc⟩, hsmall⟩

/-- the hypotheses of `C04_roundtrip_run` with a module constant are satisfiable (`FixOK_module`) -/
example : FixOK (fun n => if n = [0x6d] then some [([0x66], .function [0x66])] else none)
    (.map [([0x66], .function [0x66]), (attrModuleName, .str [0x6d])]) :=
  FixOK_module _ [0x6d] [([0x66], .function [0x66])] _ (by simp) (by decide) rfl moduleM_items

/-- a call stack meeting the hypotheses of `trace_positions_equal` -/
example : ∀ sm, (cfOfCFn emptyMain).sourceMap = some sm → (keys sm).Nodup :=
  (cfOfCFn_WF emptyMain ⟨by decide, by decide⟩).smKeys

end UgoVerif.Props.C04

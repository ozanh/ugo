import UgoVerif.Proofs.CompileEnc
import UgoVerif.Gen.Limits
import UgoVerif.Gen.Opcodes
import UgoVerif.Gen.SymFacts
import UgoVerif.Model.Eval
import UgoVerif.Proofs.VMRun
/-
  C05 — Compile is total: bytecode or an error for any input, never a panic.

  Model: `Model/Compile.lean` (compiler.go / compiler_nodes.go / symbol_table.go with the optimizer
  off; byte-identical with the implementation on the `compile` / `compilefuzz` streams).  Every
  function of the model is a total Lean definition accepted by the structural-recursion checker:
  the compiler terminates on every AST.  A Go panic inside the compiler is `CErr.panic`; an operand
  that does not fit its field is `CErr.err` / `CErr.bare` (the `*operandError` recovered by
  `compileScript`).

  Not modelled (covered by stream `compilefuzz` only): scanner, parser, optimizer, module import,
  tracing output.
-/
namespace UgoVerif.Props.C05
open UgoVerif UgoVerif.Go UgoVerif.Ast UgoVerif.Compile

-- ties to the limits and opcode tables regenerated from the Go source (Gen/Limits.lean, Gen/Opcodes.lean)

theorem maxOf_tie : ∀ w ∈ [1, 2, 4], maxOf w = (Gen.Limits.maxVal w : Int) := by decide
theorem maxOf_tie_opcodes : ∀ w ∈ [1, 2, 4], (Gen.Limits.maxVal w) = Gen.Opcodes.makeInstructionMax w := by decide
theorem operandWidths_tie : ∀ op, op < Gen.Opcodes.numOpcodes → Gen.Opcodes.opcodeOperands op = some (operandWidths op) := by decide
theorem numOpcodes_tie : numOpcodes = Gen.Opcodes.numOpcodes := by decide
theorem maxNumLocals_tie : maxNumLocals = Gen.Limits.maxNumLocals := by decide
/-- the three `NumLocals` checks use the model's limit (compileFuncLit's literal 256 included) -/
theorem numLocals_checks_tie :
    Gen.Limits.numLocalsCheck_compileScript = maxNumLocals ∧ Gen.Limits.numLocalsCheck_compileModule = maxNumLocals ∧
    Gen.Limits.numLocalsCheck_compileFuncLit = 256 := by decide
/-- the frame size fits the one-byte local operand: `maxNumLocals - 1 ≤ maxVal 1` -/
theorem locals_fit_operand : maxNumLocals - 1 ≤ Gen.Limits.maxVal 1 := by decide
/-- `emit` / `changeOperand` panic only with `*operandError`, and `compileScript` recovers exactly
    that, returning its error: this is why the model's `emit` / `changeOperand` answer `.err`/`.bare` -/
theorem operand_error_is_recovered :
    Gen.Limits.emitOperandErrorPanics = 1 ∧ Gen.Limits.emitOtherPanics = 0 ∧
    Gen.Limits.changeOperandOperandErrorPanics = 1 ∧ Gen.Limits.changeOperandOtherPanics = 0 ∧
    Gen.Limits.compileScriptRecoversOperandError = true ∧ Gen.Limits.compileScriptRepanicsOthers = true ∧
    Gen.Limits.compileScriptReturnsOperandError = true ∧ Gen.Limits.compileFileRecoversOperandError = true := by decide

/-- `makeInstruction op args` fails iff the operand count is wrong or some operand is negative or
    exceeds the maximum of its width (255 / 65535 / 2^31-1) -/
theorem makeInstruction_spec (op : Nat) (args : List Int) :
    (∃ bs, makeInstruction op args = .ok bs) ↔
      ((operandWidths op).length = args.length ∧ operandsFit (operandWidths op) args) := by
  simp only [makeInstruction_ok_iff, ← encodeOperands_ok_iff]
  constructor
  · rintro ⟨_, hl, rest, hr, _⟩
    exact ⟨hl, rest, hr⟩
  · rintro ⟨hl, rest, hr⟩
    exact ⟨_, hl, rest, hr, rfl⟩

/-- on success the bytes are the opcode followed by each operand big-endian in its width: decoding
    them with `readOperands` gives the operands back -/
theorem makeInstruction_layout (op : Nat) (args : List Int) (bs : List UInt8)
    (h : makeInstruction op args = .ok bs) :
    ∃ rest, bs = UInt8.ofNat op :: rest ∧ rest.length = opWidth op ∧ readOperands (operandWidths op) rest = args := by
  obtain ⟨rest, hbs, hl⟩ := makeInstruction_ok h
  subst hbs
  exact ⟨rest, rfl, hl, makeInstruction_read h⟩

example : makeInstruction OpDefineLocal [255] = .ok [40, 255] := rfl
example : ∃ m, makeInstruction OpDefineLocal [256] = .error m := ⟨_, rfl⟩
example : ∃ m, makeInstruction OpCall [256, 0] = .error m := ⟨_, rfl⟩
example : ∃ m, makeInstruction OpArray [65536] = .error m := ⟨_, rfl⟩
example : ∃ m, makeInstruction OpJump [2147483648] = .error m := ⟨_, rfl⟩
example : ∃ m, makeInstruction OpJump [-1] = .error m := ⟨_, rfl⟩
example : makeInstruction OpSetupTry [258, 65536] = .ok [34, 0, 0, 1, 2, 0, 1, 0, 0] := rfl

/-- `emit` with an operand that does not fit yields a compile error (`CErr.err` at the node, or
    `CErr.bare` without a node), never a panic, and leaves the compiler state unchanged -/
theorem emit_limit_is_error (pos : Pos) (op : Nat) (args : List Int) (s : CState) (m : String)
    (hop : op < numOpcodes) (h : makeInstruction op args = .error m) :
    runCM (emit pos op args) s = (.error (if pos == 0 then .bare m else .err pos m), s) := by
  unfold emit
  rw [if_neg (by omega), h]
  simp only
  split <;> rfl

/-- `changeOperand` with an operand that does not fit (a jump beyond 2^31-1) is an error as well -/
theorem changeOperand_limit_is_error (p : Nat) (args : List Int) (s : CState) (opb : UInt8) (m : String)
    (hp : s.insts[p]? = some opb) (hop : opb.toNat < numOpcodes) (h : makeInstruction opb.toNat args = .error m) :
    runCM (changeOperand p args) s = (.error (.bare m), s) := by
  unfold changeOperand
  rw [runCM_bind, runCM_get]
  simp only [hp]
  rw [if_neg (by omega), h]
  rfl

example : ∀ s, ∃ m, runCM (emit 7 OpDefineLocal [256]) s = (.error (.err 7 m), s) :=
  fun s => ⟨_, emit_limit_is_error 7 OpDefineLocal [256] s _ (by decide) rfl⟩

/-- the builtin table handed to the compiler maps names to indices of builtin objects (the Go
    compiler reads the package-level `BuiltinsMap`; `builtinsMap_ok` below ties the regenerated copy) -/
def BuiltinsOK (builtins : List (String × Nat)) : Prop := ∀ p ∈ builtins, p.2 < Gen.numBuiltins

instance (builtins : List (String × Nat)) : Decidable (BuiltinsOK builtins) := by unfold BuiltinsOK; exact inferInstance

/-- the regenerated `BuiltinsMap` (Gen/SymFacts.lean) has only indices below the regenerated number
    of builtin objects, and `:makeArray` — the one index the compiler emits on its own — is one -/
theorem builtinsMap_ok :
    (∀ p ∈ Gen.SymFacts.builtinsMap, p.2 < Gen.numBuiltins) ∧ Gen.builtinMakeArray < Gen.numBuiltins ∧
    Gen.SymFacts.builtinMakeArray = Gen.builtinMakeArray := by decide

theorem compileFile_sat (builtins : List (String × Nat)) (hb : BuiltinsOK builtins) (disabled : List String)
    (file : List Stmt) (hok : okSs file = true) :
    Sat (compileProg file) (initState builtins disabled) (fun bc s' => Inv s' ∧ Rel (initState builtins disabled) s' ∧ WFMain bc) :=
  sat_compileProg file hok _ (inv_initState builtins disabled hb) rfl

theorem compileFile_ok (builtins : List (String × Nat)) (hb : BuiltinsOK builtins) (disabled : List String)
    (file : List Stmt) (hok : okSs file = true) {bc : Bytecode} (h : compileFile builtins disabled file = .ok bc) :
    WFMain bc := by
  obtain ⟨s', hr⟩ := compileFile_run h
  exact ((compileFile_sat builtins hb disabled file hok).ok hr).2.2

/-- **Compile never panics** (model, optimizer off): for every builtin table with valid indices,
    every set of disabled builtins and every AST whose assignment statements have a non-empty
    left-hand side (what the parser produces; `okSs`), `compileFile` — `compileScript` after parsing —
    returns bytecode or an error.  Termination is the totality of `compileFile`. -/
theorem compile_no_panic (builtins : List (String × Nat)) (hb : BuiltinsOK builtins) (disabled : List String)
    (file : List Stmt) (hok : okSs file = true) (m : String) : compileFile builtins disabled file ≠ .error (.panic m) :=
  (compileFile_sat builtins hb disabled file hok).no_panic m

/-- the same from ANY compiler state that satisfies the invariant `Inv` — in particular a re-used
    symbol table and constant pool (an Eval session), nested tables, pending loops — for the
    statements of a file (`compileStmts`; `compileProg` adds `Bytecode()`, for which see
    `compile_no_panic_reused`) -/
theorem compileStmts_no_panic (s : CState) (hs : Inv s) (file : List Stmt) (hok : okSs file = true) (m : String) :
    (runCM (compileStmts file) s).1 ≠ .error (.panic m) :=
  (good_compileStmts file hok s hs).no_panic m

/-- `compileProg` from any state satisfying `Inv` whose table chain is a root table alone (a re-used
    symbol table and constant pool: an Eval session) -/
theorem compile_no_panic_reused (s : CState) (hs : Inv s) (t : Table) (ht : s.tables = [t]) (file : List Stmt)
    (hok : okSs file = true) (m : String) : (runCM (compileProg file) s).1 ≠ .error (.panic m) :=
  (sat_compileProg file hok s hs ht).no_panic m

/-- the invariant is re-established by a successful compilation: the next fragment of a session
    starts from a state satisfying `Inv` again (and its table chain is again a root table alone) -/
theorem compile_keeps_invariant (s : CState) (hs : Inv s) (t : Table) (ht : s.tables = [t]) (file : List Stmt)
    (hok : okSs file = true) (bc : Bytecode) (s' : CState) (h : runCM (compileProg file) s = (.ok bc, s')) :
    Inv s' ∧ ∃ t', s'.tables = [t'] := by
  have hg := (sat_compileProg file hok s hs ht).ok h
  exact ⟨hg.1, chainLE_singleton (ht ▸ hg.2.1.chain)⟩

/-- non-vacuity: the hypothesis `okSs` is needed — the compiler indexes `lhs[0]` unchecked -/
example : compileFile [] [] [.assign 1 tAssign [] []] = .error (.panic "runtime error: index out of range [0] with length 0") := rfl
/-- non-vacuity: a program that compiles, one that is rejected -/
example : okSs [.expr 1 (.int 1 5#64)] = true := rfl
example : ∃ bc, compileFile [] [] [.expr 1 (.int 1 5#64)] = .ok bc := ⟨_, rfl⟩
example : ∃ p m, compileFile [] [] [.expr 1 (.ident 1 "x")] = .error (.err p m) := ⟨_, _, rfl⟩

/-- an operand read from `w` bytes is below `256 ^ w`: CALL / CALLNAME (1 + 1 bytes), ARRAY / MAP
    (2 bytes) and every other operand of a decoded instruction is within its width by construction;
    the compiler side is `emit_limit_is_error` (a count that does not fit is a compile error) -/
theorem readBE_lt (a : Array UInt8) (i : Nat) : ∀ w, readBE a i w < 256 ^ w
  | 0 => by simp [readBE]
  | w + 1 => by
    have ih := readBE_lt a i w
    have hb := (a[i + w]?.getD 0).toNat_lt
    have hstep : readBE a i (w + 1) = readBE a i w * 256 + (a[i + w]?.getD 0).toNat := by
      simp [readBE, List.range_succ, List.foldl_append]
    rw [hstep, Nat.pow_succ]
    have : readBE a i w + 1 ≤ 256 ^ w := ih
    have := Nat.mul_le_mul_right 256 this
    omega

/-- Well-formedness of one compiled function `f` with `nf` free variables against the constant pool
    `cs`.  `Bd a p`: `p` is the start of an instruction of `a` (reached by decoding from 0, and
    `p < a.size`); `Walk a 0 t`: `t` is the start of an instruction or the end of the stream. -/
structure WFFn (cs : Array Const) (nf : Nat) (f : CFn) : Prop where
  /-- NumParams ≤ NumLocals -/
  params : f.numParams ≤ f.numLocals
  /-- the stream decodes completely into instructions with known opcodes and full operands -/
  decodes : Walk f.insts 0 f.insts.size
  /-- the last instruction is RETURN -/
  ret : ∃ q b, Walk f.insts 0 q ∧ f.insts[q]? = some b ∧ b.toNat = OpReturn ∧ q + 1 + opWidth OpReturn = f.insts.size
  /-- JUMP / JUMPFALSY / ANDJUMP / ORJUMP: the target is the start of an instruction strictly inside the stream -/
  jump : ∀ p op, Bd f.insts p → f.insts[p]? = some op →
    (op.toNat = OpJump ∨ op.toNat = OpJumpFalsy ∨ op.toNat = OpAndJump ∨ op.toNat = OpOrJump) →
    Bd f.insts (readBE f.insts (p + 1) 4)
  /-- SETUPTRY: both operands are instruction starts (0 for an absent catch) or the end of the stream -/
  try_ : ∀ p op, Bd f.insts p → f.insts[p]? = some op → op.toNat = OpSetupTry →
    Walk f.insts 0 (readBE f.insts (p + 1) 4) ∧ Walk f.insts 0 (readBE f.insts (p + 5) 4)
  /-- GETFREE / SETFREE / GETFREEPTR: the index is below the number of free variables -/
  free : ∀ p op, Bd f.insts p → f.insts[p]? = some op →
    (op.toNat = OpGetFree ∨ op.toNat = OpSetFree ∨ op.toNat = OpGetFreePtr) → readBE f.insts (p + 1) 1 < nf
  /-- GETBUILTIN: the index names a builtin object -/
  builtin : ∀ p op, Bd f.insts p → f.insts[p]? = some op → op.toNat = OpGetBuiltin →
    readBE f.insts (p + 1) 1 < Gen.numBuiltins
  /-- GETGLOBAL / SETGLOBAL: the index names a String constant -/
  global : ∀ p op, Bd f.insts p → f.insts[p]? = some op → (op.toNat = OpGetGlobal ∨ op.toNat = OpSetGlobal) →
    ∃ b, cs[readBE f.insts (p + 1) 2]? = some (.val (.str b))
  /-- CONSTANT: the index is in the pool; a function loaded this way uses no free variable -/
  const : ∀ p op, Bd f.insts p → f.insts[p]? = some op → op.toNat = OpConstant →
    readBE f.insts (p + 1) 2 < cs.size ∧ ∀ g, cs[readBE f.insts (p + 1) 2]? = some (.fn g) → FreeBound 0 g.insts
  /-- CLOSURE i n: constant `i` is a compiled function that uses at most the `n` free variables supplied -/
  closure : ∀ p op, Bd f.insts p → f.insts[p]? = some op → op.toNat = OpClosure →
    ∃ g, cs[readBE f.insts (p + 1) 2]? = some (.fn g) ∧ FreeBound (readBE f.insts (p + 3) 1) g.insts

theorem opnd1_of_targetsOK {L : Lims} {a : Array UInt8} (ht : TargetsOK L a) {p : Nat} {op : UInt8}
    (hbd : Bd a p) (hop : a[p]? = some op) {k w : Nat} (hk : op.toNat = k) (hw : operandWidths k = [w]) :
    Opnd1OK L k (readBE a (p + 1) w) :=
  hk ▸ (ht p op hbd hop).2.2.1 w [] (hk ▸ hw)

theorem wfFn_of_finFn {cs : Array Const} {nf : Nat} {f : CFn} (h : FinFn cs nf f) : WFFn cs nf f := by
  obtain ⟨⟨⟨hw, ht⟩, hj, hr⟩, hp, _⟩ := h
  refine ⟨hp, hw, hr, ?_, ?_, ?_, ?_, ?_, ?_, ?_⟩
  · intro p op hbd hop hc
    have hjo : isJumpOp op.toNat = true := by
      rcases hc with h | h | h | h <;> rw [h] <;> rfl
    exact ⟨(ht p op hbd hop).1 hjo, hj p op hbd hop hjo⟩
  · intro p op hbd hop hc
    exact (ht p op hbd hop).2.1 hc
  · intro p op hbd hop hc
    rcases hc with h | h | h <;> exact (opnd1_of_targetsOK ht hbd hop h rfl).1 rfl
  · intro p op hbd hop hc
    exact (opnd1_of_targetsOK ht hbd hop hc rfl).2.1 rfl
  · intro p op hbd hop hc
    rcases hc with h | h <;> exact (opnd1_of_targetsOK ht hbd hop h rfl).2.2.1 rfl
  · intro p op hbd hop hc
    have := opnd1_of_targetsOK ht hbd hop hc rfl
    exact ⟨this.2.2.2.1 rfl, this.2.2.2.2 rfl⟩
  · intro p op hbd hop hc
    exact (ht p op hbd hop).2.2.2 hc

/-- Well-formedness of returned bytecode: the main function has at most `maxNumLocals` (256) locals
    and is well formed without free variables; every compiled function in the constant pool has at
    most 256 locals and is well formed for some number of free variables (the number every CLOSURE
    naming it supplies, by `WFFn.closure`; 0 if it is loaded by CONSTANT, by `WFFn.const`). -/
def WF (bc : Bytecode) : Prop :=
  bc.main.numLocals ≤ maxNumLocals ∧ WFFn bc.constants 0 bc.main ∧
  ∀ g, Const.fn g ∈ bc.constants.toList → g.numLocals ≤ 256 ∧ ∃ nf, WFFn bc.constants nf g

/-- **the bytecode returned by Compile is well formed** (`WF`, over main and every function constant):
    streams decode; every jump target is an instruction start strictly inside its function, the
    last instruction is RETURN; SETUPTRY operands are instruction boundaries; free-variable, builtin,
    global-name, constant and closure indices are in range and of the right kind; NumParams ≤
    NumLocals ≤ 256.  (Not included: the local-slot index of GETLOCAL / SETLOCAL / DEFINELOCAL /
    GETLOCALPTR — see `C05_full`.) -/
theorem compile_wf (builtins : List (String × Nat)) (hb : BuiltinsOK builtins) (disabled : List String)
    (file : List Stmt) (hok : okSs file = true) (bc : Bytecode) (h : compileFile builtins disabled file = .ok bc) :
    WF bc := by
  obtain ⟨h1, h2, h3⟩ := compileFile_ok builtins hb disabled file hok h
  refine ⟨h1, wfFn_of_finFn h2, fun g hgm => ?_⟩
  obtain ⟨hl, nf, hf⟩ := h3 (.fn g) hgm g rfl
  exact ⟨hl, nf, wfFn_of_finFn hf⟩

/-- the slot operand of every local-variable instruction is below NumLocals -/
def LocalsOK (f : CFn) : Prop :=
  ∀ p op, Bd f.insts p → f.insts[p]? = some op →
    (op.toNat = OpGetLocal ∨ op.toNat = OpSetLocal ∨ op.toNat = OpDefineLocal ∨ op.toNat = OpGetLocalPtr) →
    readBE f.insts (p + 1) 1 < f.numLocals

/-- the operands of every SETUPTRY are instruction starts strictly inside the stream (catch: or 0) -/
def TryStrict (f : CFn) : Prop :=
  ∀ p op, Bd f.insts p → f.insts[p]? = some op → op.toNat = OpSetupTry →
    (readBE f.insts (p + 1) 4 = 0 ∨ Bd f.insts (readBE f.insts (p + 1) 4)) ∧ Bd f.insts (readBE f.insts (p + 5) 4)

theorem tryStrict_of_finFn {cs : Array Const} {nf : Nat} {f : CFn} (h : FinFn cs nf f) : TryStrict f := by
  intro p op hbd hop hc
  obtain ⟨w1, w2⟩ := (wfFn_of_finFn h).try_ p op hbd hop hc
  obtain ⟨l1, l2⟩ := h.2.2 p op hbd hop hc
  exact ⟨.inr ⟨w1, l1⟩, ⟨w2, l2⟩⟩

/-- **the SETUPTRY operands of compiled code lie strictly inside their function** (`TryStrict`, over
    main and every function constant): the catch operand (0 when there is no catch clause: the
    SETUPTRY itself is an instruction, so offset 0 is a start as well) and the finally operand are
    instruction starts, never the end-of-stream offset.  Invariant `Inv.tryLt` (`TryLt`: both
    operands of every SETUPTRY emitted so far are below the current length of the stream): the
    catch position is read right before SETUPCATCH is emitted at it, the finally position is that of
    the emitted SETUPFINALLY, and only then is SETUPTRY patched (`st_changeOperand … hstrict`);
    the stream only grows afterwards. -/
theorem compile_try_strict (builtins : List (String × Nat)) (hb : BuiltinsOK builtins) (disabled : List String)
    (file : List Stmt) (hok : okSs file = true) (bc : Bytecode) (h : compileFile builtins disabled file = .ok bc) :
    TryStrict bc.main ∧ ∀ g, Const.fn g ∈ bc.constants.toList → TryStrict g := by
  obtain ⟨_, h2, h3⟩ := compileFile_ok builtins hb disabled file hok h
  refine ⟨tryStrict_of_finFn h2, fun g hgm => ?_⟩
  obtain ⟨_, nf, hf⟩ := h3 (.fn g) hgm g rfl
  exact tryStrict_of_finFn hf

/-- non-vacuity of `compile_try_strict`: `try { 1 } catch { } finally { }` compiles; the stream starts
    with SETUPTRY, whose catch operand is non-zero and below the finally operand, which is below the
    length of the stream -/
def tryDemo : List Stmt := [.try_ 1 1 [.expr 2 (.int 2 1#64)] (some (3, none, 3, [])) (some (4, 4, []))]
example : okSs tryDemo = true := by decide
example : (match compileFile [] [] tryDemo with
    | .ok bc => bc.main.insts[0]? == some 34 && decide (0 < readBE bc.main.insts 1 4) &&
        decide (readBE bc.main.insts 1 4 < readBE bc.main.insts 5 4) && decide (readBE bc.main.insts 5 4 < bc.main.insts.size)
    | .error _ => false) = true := by decide +kernel

/-- The full statement: `compileFile` returns an error or bytecode that is well formed (`WF`) and in
    which, for main and every function constant, local slots are below NumLocals (`LocalsOK`) and try
    targets lie strictly inside (`TryStrict`); and the claim covers scanner, parser, optimizer and
    module import.

    Proved: `compile_no_panic` (the error side, for every AST), `compile_wf` (`WF`) and
    `compile_try_strict` (`TryStrict`).

    Not proved — checked on real bytecode by the structural scan of stream `compilefuzz`:
    `LocalsOK` (it does not hold for every AST: `DefineLocal(":array")` of a destructuring
    assignment and the identifier of `catch` / `for-in` return an existing symbol of any scope and
    its index is emitted as a local slot; excluding that needs identifier hygiene — no user symbol
    named `:array` — and block-table facts the invariant does not carry).
    Not modelled: scanner / parser / optimizer / imports. -/
def C05_full : Prop :=
  ∀ (builtins : List (String × Nat)), BuiltinsOK builtins → ∀ (disabled : List String) (file : List Stmt),
    okSs file = true →
    match compileFile builtins disabled file with
    | .ok bc => WF bc ∧ LocalsOK bc.main ∧ TryStrict bc.main ∧
        ∀ g, Const.fn g ∈ bc.constants.toList → LocalsOK g ∧ TryStrict g
    | .error e => ∀ m, e ≠ .panic m

/-- `MainWF` — the hypothesis of the C06 theorems about `Run` (the prologue slices
    `stack[:NumLocals]` and indexes `locals[NumParams-1]` outside `recover`) — holds for every VM
    state into which compiler output is loaded with `SetBytecode`: `NumLocals ≤ 256 ≤ 2048` and
    `NumParams ≤ NumLocals` by `compile_wf`. -/
theorem compiled_main_wf (builtins : List (String × Nat)) (hb : BuiltinsOK builtins) (disabled : List String)
    (file : List Stmt) (hok : okSs file = true) (bc : Bytecode) (h : compileFile builtins disabled file = .ok bc)
    (vm : UgoVerif.VM.State) (oldN : Nat) (modules : Array UgoVerif.VM.V) :
    UgoVerif.Proofs.VM.MainWF (UgoVerif.Eval.setBytecode vm bc.main oldN bc.constants modules) := by
  have hwf := compile_wf builtins hb disabled file hok bc h
  intro c free hget
  simp only [UgoVerif.Eval.setBytecode, UgoVerif.Eval.allocFn] at hget ⊢
  simp only [Array.getElem?_push_size, Option.some.injEq] at hget
  injection hget with hc _
  subst hc
  simp [UgoVerif.Eval.codeOfCFn, UgoVerif.VM.stackSize]
  have h1 := hwf.1
  have h2 := hwf.2.1.params
  unfold maxNumLocals at h1
  omega

end UgoVerif.Props.C05

import UgoVerif.Proofs.VMRun
/-
  C06 — with recovery enabled, running a script never panics the host.

  All theorems are about the hand-written VM model `UgoVerif/VM/{Types,Base,Step,Run}.lean`
  (vm.go in Go statement order; every Go index/slice/nil-dereference/type-assertion is an
  explicit `Exc.panic` branch that keeps the partial state).  The model is tied to /repo by
  the lock-step correspondence streams `vmtrace` and `vmfail`.

  The theorems quantify over EVERY state satisfying the invariants and over ARBITRARY
  bytecode (not only compiler output), every fuel, globals and arguments.
-/
namespace UgoVerif.Props.C06
open UgoVerif UgoVerif.Go UgoVerif.VM UgoVerif.Proofs.VM

/- The invariants (`Proofs/VMInv.lean`) written out.  `VInv` is what the recovery path depends on: it holds at
   every instruction boundary AND in the partial state at every panic site; `VInvB` holds at boundaries only. -/

example (s : State) : VInv s ↔
    s.frames.size = frameSize ∧ s.stack.size = stackSize ∧ s.curFrame < frameSize ∧
      ∀ i (h : i < s.frames.size),
        (hasHandler s.frames[i] = true → s.frames[i].fn ≠ none) ∧
        (∀ hs, s.frames[i].handlers = some hs → ∀ h ∈ hs, 0 ≤ h.sp) := Iff.rfl

example (s : State) : VInvB s ↔ VInv s ∧ 0 ≤ s.sp ∧ (s.frames[s.curFrame]!).fn ≠ none := Iff.rfl

/-- One instruction from ANY boundary state (arbitrary bytecode): whichever way it
    ends — `continue`, return from `loop`, Go panic at any panic site, or leaving the modelled
    subset — the resulting (partial) state satisfies `VInv`; after `continue` it is a boundary
    state again; a return without error leaves `1 ≤ sp` (the epilogue reads `stack[sp-1]`).
    `(step F).run.run s` returns the state at the panic site in its second component. -/
theorem step_VInv (F : FloatOps) (s : State) (hs : VInvB s) (he : s.err = none) :
    (∀ s', (step F).run.run s = (.ok .next, s') → VInvB s' ∧ s'.err = none ∧ s'.noPanic = s.noPanic) ∧
    (∀ s', (step F).run.run s = (.ok .ret, s') → VInv s' ∧ s'.noPanic = s.noPanic ∧ (s'.err = none → 1 ≤ s'.sp)) ∧
    (∀ e s', (step F).run.run s = (.error e, s') → VInv s' ∧ s'.noPanic = s.noPanic) := by
  have h := (step_ok s.noPanic F).run s (stepPre_iff.2 ⟨hs, he, rfl⟩)
  exact ⟨fun s' hr => stepPre_iff.1 (h.1 _ _ hr), fun s' hr => and_assoc.1 (h.1 _ _ hr), h.2⟩

/-- `loop` (any number of instructions) lifts `step_VInv`. -/
theorem loop_VInv (F : FloatOps) (fuel : Nat) (s : State) (hs : VInvB s) (he : s.err = none) :
    (∀ r s', (loopF F fuel).run.run s = (.ok r, s') →
        VInv s' ∧ s'.noPanic = s.noPanic ∧ (r = some () → s'.err = none → 1 ≤ s'.sp)) ∧
    (∀ e s', (loopF F fuel).run.run s = (.error e, s') → VInv s' ∧ s'.noPanic = s.noPanic) :=
  have h := (loopF_spec s.noPanic F fuel).run s (stepPre_iff.2 ⟨hs, he, rfl⟩)
  ⟨fun r s' hr => and_assoc.1 (h.1 r s' hr), h.2⟩

/-- `throwF (← throwFuel)` (vm.go throw/handleThrownError with the
    model's recursion budget) never reaches the fuel-exhausted branch: from a `VInv` state it
    raises no `unsupported` exception at all. -/
theorem throw_fuel_adequate (err : Addr) (s : State) (hv : VInv s) :
    ∀ m s', (do let f ← throwFuel; throwF f err : M (Option Addr)).run.run s ≠ (.error (.unsupported m), s') := by
  intro m s' hr
  exact ((throw_spec False err).run s ⟨⟨hv, rfl⟩, rfl, False.elim⟩).2 _ _ hr |>.2.2

/-- From any `VInv` state (in particular the partial state at any panic
    site) `handlePanic` — which runs in the deferred function of `run()`, outside `recover` —
    raises nothing: it returns normally, preserves `VInv` and the recovery switch, and if it
    leaves `vm.err` unset the VM is at an instruction boundary again (the loop is re-entered). -/
theorem recovery_total (msg : String) (s : State) (hv : VInv s) :
    ∃ s', (handlePanic msg).run.run s = (.ok (), s') ∧ VInv s' ∧ s'.noPanic = s.noPanic ∧
      (s'.err = none → VInvB s') := by
  obtain ⟨s', h1, h2, h3⟩ := handlePanic_run msg s ⟨hv, rfl⟩
  exact ⟨s', h1, h2.1, h2.2, fun h => (stepPre_iff.1 (h3 h).1).1⟩

/-- A recovered panic is either *delivered*: it is the pending error
    of the innermost handler of the (new) current frame, `ip` points at that handler's catch —
    or, when the catch is consumed, finally — block and `sp` is the handler's saved `sp`; or it is
    *returned*: `vm.err` is set and `Run` returns it as an error. -/
theorem delivered_or_returned (msg : String) (s : State) (hv : VInv s) :
    ∃ s', (handlePanic msg).run.run s = (.ok (), s') ∧
      ((s'.err = none ∧ ∃ ra h, lastHandler (s'.frames[s'.curFrame]!) = some h ∧ h.err = some ra ∧ s'.sp = h.sp ∧
          ((0 < h.catch_ ∧ s'.ip = h.catch_ - 1) ∨ (¬ 0 < h.catch_ ∧ 0 < h.finally_ ∧ s'.ip = h.finally_ - 1)))
       ∨ (∃ e, s'.err = some e ∧ (runFrom.finish s').1 = .error e)) := by
  obtain ⟨s', h1, -, h4⟩ := handlePanic_run msg s ⟨hv, rfl⟩
  refine ⟨s', h1, ?_⟩
  cases he : s'.err with
  | none =>
    obtain ⟨ra, h, hh⟩ := (h4 he).2
    exact Or.inl ⟨rfl, ra, h, hh⟩
  | some e => exact Or.inr ⟨e, rfl, by simp [runFrom.finish, he]⟩

/-- well-formedness of the main function needed by the prologue of `Run`, which runs outside
    `recover` (`initLocals` slices `vm.stack[:NumLocals]` and indexes `locals[NumParams-1]`);
    the compiler guarantees `NumLocals ≤ 256` and `NumParams ≤ NumLocals`. -/
abbrev MainWF := UgoVerif.Proofs.VM.MainWF

/-- With the recovery switch on, from any `VInv` state (a new VM or one that
    ran anything before), for all bytecode, fuel, globals and arguments, `Run` never lets a Go
    panic escape: the outcome is a value, an error, or one of the two model outcomes
    (`unsupported`, `outOfFuel`) — never `goPanic`. -/
theorem Run_no_panic (F : FloatOps) (fuel : Nat) (g : V) (args : List V) (s : State)
    (hnp : s.noPanic = true) (hv : VInv s) (hwf : MainWF s) :
    ∀ m, (runFrom F fuel g args s).1 ≠ .goPanic m :=
  (runFrom_ok true F fuel g args s ⟨hv, hnp⟩ hwf).2 rfl

/-- Whatever happened (value, error, recovered or — with recovery off — escaped
    panic, budget exhausted), the state `Run` leaves satisfies `VInv` again and keeps the recovery
    switch, so the hypotheses of `Run_no_panic` hold for the next `Run` on the same VM. -/
theorem reusable (F : FloatOps) (fuel : Nat) (g : V) (args : List V) (s : State)
    (hv : VInv s) (hwf : MainWF s) :
    VInv (runFrom F fuel g args s).2 ∧ (runFrom F fuel g args s).2.noPanic = s.noPanic :=
  (runFrom_ok s.noPanic F fuel g args s ⟨hv, rfl⟩ hwf).1

theorem newState_VInv (codes : Array Code) (heap : Array Cell) (consts : Array V) (mainFn : Addr) (nm : Nat) :
    VInv (newState codes heap consts mainFn nm) := by
  refine ⟨by simp [newState, emptyFrames], by simp [newState], by simp [newState, frameSize], ?_⟩
  intro i h
  have : (newState codes heap consts mainFn nm).frames[i] = ({} : Frame) := by
    simp [newState, emptyFrames]
  rw [this]
  exact frameOK_noHandlers rfl

/-- the bytecode `POP` as main function with no locals: the very first instruction panics
    (`vm.sp--; vm.stack[-1] = nil`) -/
def popMain : State :=
  { newState #[{ insts := #[22], numParams := 0, numLocals := 0, variadic := false }] #[.fn 0 none] #[] 0 0 with
    noPanic := true }

theorem popMain_VInv : VInv popMain :=
  newState_VInv #[{ insts := #[22], numParams := 0, numLocals := 0, variadic := false }] #[.fn 0 none] #[] 0 0

theorem popMain_WF : MainWF popMain := by
  intro c free h
  simp [popMain, newState] at h
  obtain ⟨h1, _⟩ := h; subst h1
  simp [popMain, newState, stackSize]

/-- the hypotheses of `Run_no_panic` are satisfiable (and this script does panic inside `loop`) -/
example : popMain.noPanic = true ∧ VInv popMain ∧ MainWF popMain := ⟨rfl, popMain_VInv, popMain_WF⟩

example (F : FloatOps) : ∀ m, (runFrom F 10 .nil [] popMain).1 ≠ .goPanic m :=
  Run_no_panic F 10 .nil [] popMain rfl popMain_VInv popMain_WF

end UgoVerif.Props.C06

import UgoVerif.Proofs.C07Ops
import UgoVerif.Gen.VmWrites
/-
  C07 — a run's outcome depends only on bytecode, globals and arguments.

  Model: `VM/{Types,Base,Step,Run}.lean` (vm.go in Go statement order) + `VM/Reset.lean`
  (`Clear`, `SetBytecode`).  `runFrom F fuel globals args s` is `VM.Run` on an ARBITRARY
  prior state `s`: the history of the VM (earlier runs that returned, failed, panicked,
  overflowed or were aborted) is quantified as "any state whatsoever".

  `C07_full` is proved (`C07_holds`); so is the immutability of the Bytecode under `Run`
  (`bytecode_immutable`, `function_cells_immutable` for the heap part of the constants, and
  `no_shared_store_outside_allowlist` over the store table regenerated from the Go source).
  `step_live` is proved opcode by opcode (Proofs/C07Step, C07Throw, C07Ops): every function of
  VM/Base, VM/Step and `handlePanic` is `Live` — it gives the same result on two states that
  differ only in dead frame data and the recorded trace, which is exactly the difference that
  `Clear`/`SetBytecode` leave between a used VM and a new one (both nil the whole stack).
-/
namespace UgoVerif.Props.C07
open UgoVerif UgoVerif.Go UgoVerif.VM

/-- a new VM for bytecode (consts, mainFn, numModules) over the same code memory and heap,
    with the embedder's settings (`SetRecover`, trace recording) of `s` -/
def freshFor (s : State) (consts : Array V) (mainFn : Addr) (numModules : Nat) : State :=
  { newState s.codes s.heap consts mainFn numModules with noPanic := s.noPanic, traceOn := s.traceOn }

theorem resetEq_setBytecode (c : Array V) (m : Addr) (n : Nat) (s : State) (hs : Shape s) :
    ResetEq (setBytecode c m n s) (freshFor s c m n) :=
  { heap := rfl, codes := rfl, consts := rfl, mainFn := rfl, numModules := rfl, modules := rfl, noPanic := rfl,
    steps := rfl, traceOn := rfl, shapeS := ⟨by simp [setBytecode], hs.frames⟩,
    shapeT := ⟨by simp [freshFor, newState], by simp [freshFor, newState, emptyFrames]⟩ }

/-- `Clear` keeps the bytecode, the heap and the settings: a new VM for `clear s` is one for `s` -/
theorem resetEq_clear_setBytecode (c : Array V) (m : Addr) (n : Nat) (s : State) (hs : Shape s) :
    ResetEq (setBytecode c m n (clear s)) (freshFor s c m n) :=
  resetEq_setBytecode c m n (clear s) ⟨by simp [clear], hs.frames⟩

/-- `Clear` is `SetBytecode` of the VM's own bytecode, except that it also nils `globals`, which
    `ResetEq` does not mention -/
theorem resetEq_clear (s : State) (hs : Shape s) :
    ResetEq (clear s) (freshFor s s.consts s.mainFn s.numModules) :=
  { resetEq_setBytecode s.consts s.mainFn s.numModules s hs with shapeS := ⟨by simp [clear], hs.frames⟩ }

theorem stack_clear_fresh (s : State) (c : Array V) (m : Addr) (n : Nat) (i : Nat) :
    (clear s).stack[i]! = (freshFor s c m n).stack[i]! := rfl

/-- `liveEq`, all stack slots agree, the frame array has its Go size: what holds after the
    prologue on a VM that was cleared or given new bytecode -/
def liveEqS : State → State → Prop := liveEqW (fun _ => True)

theorem stack_setBytecode_fresh (s : State) (c : Array V) (m : Addr) (n : Nat) (i : Nat) :
    (setBytecode c m n s).stack[i]! = (freshFor s c m n).stack[i]! := rfl

/-- `Clear` and (the repaired) `SetBytecode` nil the whole stack:
    after the prologue the two states agree on every stack slot, not only below `sp`. -/
theorem prologue_live_cleared (g : V) (args : List V) (c : Array V) (m : Addr) (n : Nat) (s : State) (hs : Shape s) :
    SameEnd liveEqS (exec (prologue g args) (setBytecode c m n s)) (exec (prologue g args) (freshFor s c m n))
    ∧ SameEnd liveEqS (exec (prologue g args) (setBytecode c m n (clear s))) (exec (prologue g args) (freshFor s c m n))
    ∧ SameEnd liveEqS (exec (prologue g args) (clear s))
        (exec (prologue g args) (freshFor s s.consts s.mainFn s.numModules)) :=
  ⟨(prologue_reset g args _ _ (resetEq_setBytecode c m n s hs) fun _ => rfl).mono fun _ _ => LiveS.toW,
   (prologue_reset g args _ _ (resetEq_clear_setBytecode c m n s hs) fun _ => rfl).mono fun _ _ => LiveS.toW,
   (prologue_reset g args _ _ (resetEq_clear s hs) fun _ => rfl).mono fun _ _ => LiveS.toW⟩

/-- For ANY residue state `s` (any history), after `SetBytecode(bc)` —
    with or without `Clear()` — or after `Clear()` alone, the prologue of `Run` ends the same
    way as on a new VM, and when it ends normally the two states are `liveEq`. -/
theorem prologue_live (g : V) (args : List V) (c : Array V) (m : Addr) (n : Nat) (s : State) (hs : Shape s) :
    SameEnd liveEq (exec (prologue g args) (setBytecode c m n s)) (exec (prologue g args) (freshFor s c m n))
    ∧ SameEnd liveEq (exec (prologue g args) (setBytecode c m n (clear s))) (exec (prologue g args) (freshFor s c m n))
    ∧ SameEnd liveEq (exec (prologue g args) (clear s))
        (exec (prologue g args) (freshFor s s.consts s.mainFn s.numModules)) :=
  let ⟨h1, h2, h3⟩ := prologue_live_cleared g args c m n s hs
  ⟨h1.mono fun _ _ h => h.1, h2.mono fun _ _ h => h.1, h3.mono fun _ _ h => h.1⟩

/-- The Bytecode is never modified, model half.  `Run` from any state, ending in any way, for any
    fuel, leaves the shared Bytecode — code memory, constants, main function, module count —
    exactly as it was. -/
theorem bytecode_immutable (F : FloatOps) (fuel : Nat) (g : V) (args : List V) (s : State) :
    (runFrom F fuel g args s).2.codes = s.codes ∧ (runFrom F fuel g args s).2.consts = s.consts ∧
    (runFrom F fuel g args s).2.mainFn = s.mainFn ∧ (runFrom F fuel g args s).2.numModules = s.numModules :=
  runFrom_keeps (codes := s.codes) (consts := s.consts) (mainFn := s.mainFn) (nm := s.numModules)
    F fuel g args s ⟨rfl, rfl, rfl, rfl⟩

/-- one instruction — every opcode, including its error and panic paths — assigns none of them -/
theorem step_keeps_bytecode (F : FloatOps) (s : State) :
    (exec (step F) s).2.codes = s.codes ∧ (exec (step F) s).2.consts = s.consts ∧
    (exec (step F) s).2.mainFn = s.mainFn ∧ (exec (step F) s).2.numModules = s.numModules :=
  (keeps_step (codes := s.codes) (consts := s.consts) (mainFn := s.mainFn) (nm := s.numModules) F).elim s
    ⟨rfl, rfl, rfl, rfl⟩

/-- the recovery path does not either -/
theorem handlePanic_keeps_bytecode (m : String) (s : State) :
    (exec (handlePanic m) s).2.codes = s.codes ∧ (exec (handlePanic m) s).2.consts = s.consts :=
  let h := (keeps_handlePanic (codes := s.codes) (consts := s.consts) (mainFn := s.mainFn) (nm := s.numModules) m).elim s
    ⟨rfl, rfl, rfl, rfl⟩
  ⟨h.1, h.2.1⟩

/-- Heap half of `bytecode_immutable`.  A function cell — the
    compiled functions among the constants, every closure — is never overwritten by `Run`,
    from any state, ending in any way, for any fuel: the model overwrites existing heap cells
    only through `heapUpd` (same-kind update of an array, map or iterator cell) and `boxSet`
    (write through an `*ObjectPtr`); allocation and `Copy()` append. -/
theorem function_cells_immutable (F : FloatOps) (fuel : Nat) (g : V) (args : List V) (s : State)
    (a : Nat) (c : Nat) (f : Option (List Addr)) (h : s.heap[a]? = some (Cell.fn c f)) :
    (runFrom F fuel g args s).2.heap[a]? = some (Cell.fn c f) :=
  FnStable.inert.runFrom (fun _ _ h => h) F fuel g args s (fun _ _ _ h => h) a c f h

theorem step_keeps_function_cells (F : FloatOps) (s : State) (a : Nat) (c : Nat) (f : Option (List Addr))
    (h : s.heap[a]? = some (Cell.fn c f)) : (exec (step F) s).2.heap[a]? = some (Cell.fn c f) :=
  (FnStable.inert.keeps (m := step F)).elim s (fun _ _ _ h => h) a c f h

/-- structural half, over the table REGENERATED from vm.go (and objects.go, modules.go,
    bytecode.go, parser/source_file.go): functions that may store to data rooted at the shared
    Bytecode.  `loop`, `Run`, `Clear`, every `xOp…` helper are NOT in the list. -/
def storeAllowed : List (String × String) :=
  [("vm.go", "SetBytecode"), ("vm.go", "NewVM"), ("vm.go", "_acquire"), ("vm.go", "_release"),
   ("parser/source_file.go", "AddFile"), ("parser/source_file.go", "AddLine")]

/-- No store to shared data outside the allow-list: adding an assignment / `IndexSet` /
    `append` / `copy` / `delete` / `&` whose target is rooted at `vm.constants`, `vm.bytecode.*`,
    a `*Bytecode`/`*CompiledFunction` field or a file-set field to an opcode breaks this. -/
theorem no_shared_store_outside_allowlist :
    Gen.VmWrites.stores.all (fun w => storeAllowed.contains (w.file, w.func)) = true := by decide

/-- One instruction — operand fetch, the H1 record, any of the 44 opcodes with
    its error and Go-panic paths — ends the same way on two states that differ only in dead
    frame data and the recorded trace, and leaves such states again. -/
theorem step_live (F : FloatOps) (s t : State) (h : LiveS s t) : Both LiveS (exec (step F) s) (exec (step F) t) :=
  LiveS.of_live (live_step F) h

/-- The recovery path (`handlePanic` → `throw` → `handleThrownError`, frame
    search included) does too — although the model's fuel for it counts dead handlers. -/
theorem panic_live (m : String) (s t : State) (h : LiveS s t) :
    Both LiveS (exec (handlePanic m) s) (exec (handlePanic m) t) :=
  LiveS.of_live (live_handlePanic m) h

/-- For ANY relation `R ⊆ liveEq` preserved by one instruction, by
    the recovery path, by the abort assignment and by the deferred `clearCurrentFrame`: if the
    prologue maps two states to `R`-related states, `Run` returns the same outcome from both,
    for every fuel — through `loopF`, the reruns after recovered panics and the epilogue. -/
theorem lifting_run {F : FloatOps} {R : State → State → Prop} (hR : LiveRel F R) (fuel : Nat) (g : V)
    (args : List V) (s t : State) (hpro : SameEnd R (exec (prologue g args) s) (exec (prologue g args) t)) :
    (runFrom F fuel g args s).1 = (runFrom F fuel g args t).1 := by
  rw [← runFromG_step, ← runFromG_step]
  exact hR.runRel.run fuel g args s t hpro

theorem run_resetEq (F : FloatOps) (fuel : Nat) (g : V) (args : List V) {s t : State} (h : ResetEq s t)
    (hst : ∀ i : Nat, s.stack[i]! = t.stack[i]!) : (runFrom F fuel g args s).1 = (runFrom F fuel g args t).1 :=
  lifting_run (liveRel_LiveS F) fuel g args s t (prologue_reset g args s t h hst)

/-- the full statement: after ANY history (`s` arbitrary), `SetBytecode(bc)`, `Clear()` then
    `SetBytecode(bc)`, or `Clear()` alone, `Run` returns what it returns on a new VM; for every
    bytecode (also hand-made or decoded), globals, arguments and fuel. -/
def C07_full : Prop :=
  ∀ (F : FloatOps) (fuel : Nat) (g : V) (args : List V) (c : Array V) (m : Addr) (n : Nat) (s : State), Shape s →
    (runFrom F fuel g args (setBytecode c m n s)).1 = (runFrom F fuel g args (freshFor s c m n)).1 ∧
    (runFrom F fuel g args (setBytecode c m n (clear s))).1 = (runFrom F fuel g args (freshFor s c m n)).1 ∧
    (runFrom F fuel g args (clear s)).1 = (runFrom F fuel g args (freshFor s s.consts s.mainFn s.numModules)).1

/-- No hypothesis about the bytecode, none about the history. -/
theorem run_history_independent (F : FloatOps) (fuel : Nat) (g : V) (args : List V) (c : Array V) (m : Addr) (n : Nat)
    (s : State) (hs : Shape s) :
    (runFrom F fuel g args (setBytecode c m n s)).1 = (runFrom F fuel g args (freshFor s c m n)).1 ∧
    (runFrom F fuel g args (setBytecode c m n (clear s))).1 = (runFrom F fuel g args (freshFor s c m n)).1 ∧
    (runFrom F fuel g args (clear s)).1 = (runFrom F fuel g args (freshFor s s.consts s.mainFn s.numModules)).1 :=
  ⟨run_resetEq F fuel g args (resetEq_setBytecode c m n s hs) fun _ => rfl,
   run_resetEq F fuel g args (resetEq_clear_setBytecode c m n s hs) fun _ => rfl,
   run_resetEq F fuel g args (resetEq_clear s hs) fun _ => rfl⟩

theorem C07_holds : C07_full := fun F fuel g args c m n s hs => run_history_independent F fuel g args c m n s hs

/-- Running the same Bytecode again on the cleared VM gives the outcome of a
    run on a new VM — whatever the first run (any globals, arguments, fuel, any end) did. -/
theorem rerun_same (F : FloatOps) (fuel fuel' : Nat) (g g' : V) (args args' : List V) (s0 : State)
    (hs : Shape (runFrom F fuel' g' args' s0).2) :
    let used := (runFrom F fuel' g' args' s0).2
    (runFrom F fuel g args (clear used)).1 =
      (runFrom F fuel g args (freshFor used s0.consts s0.mainFn s0.numModules)).1 := by
  intro used
  have hb := bytecode_immutable F fuel' g' args' s0
  have := (run_history_independent F fuel g args used.consts used.mainFn used.numModules used hs).2.2
  rw [hb.2.1, hb.2.2.1, hb.2.2.2] at this
  exact this

/-- a new VM has the shape the theorems ask for … -/
example : Shape (newState #[] #[] #[] 0 0) := ⟨by simp [newState], by simp [newState, emptyFrames]⟩

/-- … `liveEq` relates states that differ in dead data only: for every state whose current
    frame is the top one, overwriting any stack slot at or above `sp` gives a `liveEq` state -/
example (s : State) (hl : (s.curFrame : Int) + 1 = s.frameIndex) (k : Nat) (hk : s.sp ≤ (k : Int)) (v : V) :
    liveEq s { s with stack := s.stack.set! k v } := by
  refine { heap := rfl, codes := rfl, consts := rfl, mainFn := rfl, numModules := rfl, globals := rfl, modules := rfl,
           noPanic := rfl, err := rfl, abort := rfl, ip := rfl, sp := rfl, frameIndex := rfl, curFrame := rfl,
           steps := rfl, traceOn := rfl, stackSize := ?_, framesSize := rfl,
           stack := ?_, cur := ⟨rfl, rfl, rfl, rfl, rfl⟩, below := fun _ _ => rfl, link := hl }
  · simp only [Array.set!_eq_setIfInBounds, Array.size_setIfInBounds]
  · intro i hi
    show s.stack[i]! = (s.stack.set! k v)[i]!
    rw [getElem!_set!]
    have : ¬ (k = i ∧ k < s.stack.size) := by
      intro h
      have := h.1
      omega
    simp only [this, if_false]

/-- … and such states exist: a VM right after `frameIndex = 1` -/
example : ((({ newState #[] #[] #[] 0 0 with frameIndex := 1 } : State).curFrame : Nat) : Int) + 1
    = ({ newState #[] #[] #[] 0 0 with frameIndex := 1 } : State).frameIndex := rfl

/-- the regenerated store table is not empty (the `decide` fact is about real entries) -/
example : Gen.VmWrites.stores.length > 0 := by decide

end UgoVerif.Props.C07

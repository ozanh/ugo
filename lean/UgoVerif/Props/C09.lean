import UgoVerif.Proofs.Conc
/-
  C09 — Abort and context cancellation are never lost.

  Model: `Model/Conc.lean` (interleaving semantics of Run / Abort / Invoker / pool / Eval.run at
  the granularity of the named sync points).  Tie to the source: the `shape_*` facts below
  compare the synchronisation-operation lists regenerated from vm.go / eval.go /
  cmd/ugo/main.go (`Gen/AbortOps.lean`) with the order of operations the model's steps
  implement; moving the reset, dropping a lock, reordering `pool.abort()` and the store, or
  moving a sync point changes a regenerated list and breaks the corresponding fact.  The
  `sched` correspondence stream forces every schedule of the model on the real code.

  The full statement `C09_full` is FALSE of the code (open finding
  `C09:abort-before-reset@Run-entry` and siblings): `C09_full_false`.  Proved: `C09_partial` /
  `abort_after_reset_not_lost`, which exclude exactly the reset windows and the
  registration of a child after the abort's pool snapshot.
-/
namespace UgoVerif.Props.C09
open UgoVerif.Model.Conc UgoVerif.Proofs.Conc UgoVerif.Gen.AbortOps

theorem shape_VM_Abort : VM_Abort =
    [.sync "Abort.enter", .call "vm.pool.abort", .sync "Abort.between", .store "vm.abort" 1, .ret] := rfl
theorem shape_VM_Aborted : VM_Aborted =
    [.load "vm.abort", .ret] := rfl
theorem shape_VM_Run : VM_Run =
    [.sync "Run.enter", .lock "vm.mu", .deferUnlock "vm.mu", .ifBegin, .unlock "vm.mu", .ret, .ifEnd, .sync "Run.beforeReset", .store "vm.abort" 0, .sync "Run.afterReset", .loopBegin, .call "vm.run", .loopEnd, .ifBegin, .unlock "vm.mu", .ret, .ifEnd, .ifBegin, .ifBegin, .unlock "vm.mu", .ret, .ifEnd, .unlock "vm.mu", .ret, .ifEnd, .unlock "vm.mu", .ret] := rfl
theorem shape_VM_run : VM_run =
    [.call "vm.loop", .ret] := rfl
theorem shape_VM_loop : VM_loop =
    [.sync "loop.enter", .loopBegin, .load "vm.abort", .sync "loop.body", .loopEnd, .ret] := rfl
theorem shape_Invoker_Acquire : Invoker_Acquire =
    [.call "inv.acquire", .ret] := rfl
theorem shape_Invoker_acquire : Invoker_acquire =
    [.call "inv.vm.pool.acquire", .ret] := rfl
theorem shape_Invoker_Release : Invoker_Release =
    [.ifBegin, .call "inv.child.pool.release", .ifEnd, .ret] := rfl
theorem shape_Invoker_Invoke : Invoker_Invoke =
    [.ifBegin, .call "inv.acquire", .ifEnd, .sync "Invoke.beforeCheck", .call "inv.child.Aborted", .sync "Invoke.afterCheck", .ifBegin, .call "inv.child.Run", .ret, .ifEnd, .ret] := rfl
theorem shape_vmPool_abort : vmPool_abort =
    [.lock "v.mu", .deferUnlock "v.mu", .rangeBegin "v.vms", .call "vm.Abort", .loopEnd, .unlock "v.mu", .ret] := rfl
theorem shape_vmPool_acquire : vmPool_acquire =
    [.call "v.root.pool._acquire", .ret] := rfl
theorem shape_vmPool__acquire : vmPool__acquire =
    [.sync "_acquire.outside", .lock "v.mu", .deferUnlock "v.mu", .sync "_acquire.inside", .poolAdd "v.vms", .unlock "v.mu", .ret] := rfl
theorem shape_vmPool_release : vmPool_release =
    [.call "v.root.pool._release", .ret] := rfl
theorem shape_vmPool__release : vmPool__release =
    [.sync "_release.outside", .lock "v.mu", .sync "_release.inside", .poolDel "v.vms", .unlock "v.mu", .sync "_release.after", .ret] := rfl
theorem shape_Eval_run : Eval_run =
    [.sync "Eval.run.beforeSelect1", .selectBegin, .caseRecv "ctx.Done()", .call "r.VM.Abort", .caseDefault, .sync "Eval.run.beforeGo", .goBegin, .deferClose "doneCh", .call "r.VM.Run", .close "doneCh", .goEnd, .sync "Eval.run.beforeSelect2", .selectBegin, .caseRecv "ctx.Done()", .call "r.VM.Abort", .recv "doneCh", .caseRecv "doneCh", .selectEnd, .selectEnd, .ret] := rfl
theorem shape_executeScript : executeScript =
    [.goBegin, .deferClose "done", .call "vm.Run", .close "done", .goEnd, .selectBegin, .caseRecv "done", .caseRecv "ctx.Done()", .call "vm.Abort", .recv "done", .selectEnd, .ret] := rfl

/-- An Abort whose stores landed outside the reset windows (`armedOK`: the root `Store 1`
    came after the root's `Store 0` of the current Run, and no child `Store 1` of this
    Abort fell between a child's `Aborted()` check and its reset), with no child registered
    after the pool snapshot, is never lost, in every interleaving of any length: the root
    flag stays 1, the flag of the child R is working with stays 1 and R is not inside the
    child window, and at most one further instruction (root or child) is executed — the
    one that was already past its loop-condition load. -/
theorem abort_after_reset_not_lost (cfg : Cfg) (s : State) (h : Reach cfg s)
    (ha : s.armedOK = true) (hl : s.lateAcq = false) :
    s.rootFlag = 1 ∧ postReset s.rpc = true ∧
    (∀ c, cur s.rpc = some c → s.childFlag c = 1 ∧ childWin s.rpc c = false) ∧
    s.extraOK + (if isBody s.rpc then 1 else 0) ≤ 1 := by
  have i := inv_reach h
  exact ⟨(i.j1 ha).1, (i.j1 ha).2, i.okc (Or.inl ha) hl, i.phi ha hl⟩

/-- … and the next loop-condition load of the root VM makes Run return the aborted error -/
theorem abort_exits_root_loop (cfg : Cfg) (s : State) (h : Reach cfg s) (ha : s.armedOK = true)
    (hp : s.rpc = .loopEnter) : stepR cfg s = some (finishRun s .aborted) := by
  have i := inv_reach h
  have := (i.j1 ha).1
  simp [stepR, hp, this]

/-- … likewise the next load of a running child makes the child's Run return (Invoke then
    reports the aborted error and every later Invoke on that child returns at its check) -/
theorem abort_exits_child_loop (cfg : Cfg) (s : State) (h : Reach cfg s) (ha : s.armedOK = true)
    (hl : s.lateAcq = false) (cb : Cb) (c : Nat) (hp : s.rpc = .kLoopEnter cb c) :
    stepR cfg s = some (afterCb s cb.ip (cbNext cb.ip cb.ops (some c) cb.dorel)) := by
  have i := inv_reach h
  have := (i.okc (Or.inl ha) hl c (by simp [hp, cur])).1
  simp [stepR, hp, this]

theorem invoke_after_abort_returns (cfg : Cfg) (s : State) (h : Reach cfg s) (ha : s.armedOK = true)
    (hl : s.lateAcq = false) (cb : Cb) (c : Nat) (hp : s.rpc = .invBefore cb c) :
    stepR cfg s = some (afterCb s cb.ip (cbNext cb.ip cb.ops (some c) cb.dorel)) := by
  have i := inv_reach h
  have := (i.okc (Or.inl ha) hl c (by simp [hp, cur])).1
  simp [stepR, hp, this]

/-- the proved part of C09: outside the windows at most one further instruction runs -/
theorem C09_partial (cfg : Cfg) (s : State) (h : Reach cfg s)
    (ha : s.armedOK = true) (hl : s.lateAcq = false) : s.extraOK ≤ 1 := by
  have := (abort_after_reset_not_lost cfg s h ha hl).2.2.2
  omega

/-- Abort may be called any number of times: once an abort is in effect (root flag and the
    flags of all registered children are 1) every step of any further Abort call, however
    interleaved, leaves all flags, the pool and the runner untouched. -/
theorem abort_idempotent (cfg : Cfg) (s s' : State) (order : List Nat) (h : Reach cfg s)
    (hr : s.rootFlag = 1) (hc : ∀ c, c ∈ s.pool → s.childFlag c = 1)
    (hs : stepC s order = some s') :
    s'.rootFlag = 1 ∧ (∀ c, s'.childFlag c = s.childFlag c) ∧ s'.pool = s.pool ∧ s'.rpc = s.rpc := by
  obtain ⟨k1, k2, k3, k4, -⟩ := stepC_writes hs
  exact ⟨k3.elim (· ▸ hr) id,
    fun c => (k4 c).elim id fun ⟨hm, k⟩ => k.trans (hc c (pend_in_pool h c hm)).symm, k2, k1⟩

/-- An aborted VM runs later scripts normally: whatever happened before (any number of
    aborts, aborted or completed runs), once Run has passed its reset and no new Abort store
    has landed since, the flag is 0, so the loop condition holds and the script proceeds. -/
theorem reset_allows_rerun (cfg : Cfg) (s : State) (h : Reach cfg s)
    (hp : postReset s.rpc = true) (hn : s.storesSinceReset = 0) : s.rootFlag = 0 :=
  (inv_reach h).l1 hp hn

/-- Full strength: there is a bound B such that in every interleaving, once an Abort has
    completed at any moment after Run was entered (`armedAny`: the root `Store 1` happened
    while R was anywhere between Run entry — for `Eval.run`: the `go` statement — and Run's
    return), at most B further instructions (root or child VMs) are executed. -/
def C09_full : Prop := ∃ B : Nat, ∀ (cfg : Cfg) (s : State), Reach cfg s → s.armedAny = true → s.extraAny ≤ B

def cfgLoop : Cfg := { prog := fun _ _ => .plain, cprog := fun _ _ => .ret }

/-- the state n instructions after the lost abort -/
def lostState (n : Nat) : State :=
  { init with rpc := .body n, rootFlag := 0, aborts := 1, armedAny := true, excl := true, extraAny := n,
              storesSinceReset := 0 }

/-- witness schedule: R enters Run and parks before the reset; Abort runs to completion;
    R resets the flag and starts the loop -/
def lostPrefix : List Label := [.r, .r, .c [], .c [], .c [], .r, .r, .r]

theorem lostPrefix_run : runLabels cfgLoop init lostPrefix = some (lostState 0) := by
  simp [runLabels, lostPrefix, step, stepR, stepC, init, sameMembers, rootWin, lostState]

theorem lostState_reach : ∀ n, Reach cfgLoop (lostState n) := by
  intro n
  induction n with
  | zero => exact runLabels_reach Reach.init lostPrefix_run
  | succ n ih =>
    refine Reach.step .r ih ?_
    simp [step, stepR, lostState, cfgLoop, count, rootLoad, init]

/-- C09 at full strength is false of the code as it stands: an Abort that lands between Run
    entry and `abort.Store(0)` is overwritten by the reset and the script runs on for any
    number of instructions.  (Open finding `C09:abort-before-reset@Run-entry`.) -/
theorem C09_full_false : ¬ C09_full := by
  rintro ⟨B, hB⟩
  have := hB cfgLoop (lostState (B + 1)) (lostState_reach (B + 1)) (by simp [lostState])
  simp [lostState] at this
  omega

def cfgInv : Cfg :=
  { prog := fun _ ip => if ip = 0 then .cb [.acquire, .invoke, .invoke, .release] else .plain,
    cprog := fun _ j => if j < 3 then .plain else .ret }

def rs (n : Nat) : List Label := List.replicate n .r

/-- `C09:abort-before-reset@Invoke`: the child's `Store 1` lands between `child.Aborted()` and
    the child's reset; the child function then runs to its end — twice, because the reset
    also makes the next `Aborted()` check pass — although Abort returned long ago. -/
theorem lost_at_invoke_window :
    ∃ s, Reach cfgInv s ∧ s.armedAny = true ∧ s.lateAcq = false ∧ s.armedOK = false ∧ s.extraAny = 8 :=
  ⟨_, runLabels_reach Reach.init (ls := rs 9 ++ [.c [0], .c [0], .c [0], .c [0], .c [0]] ++ rs 19) rfl, by decide⟩

/-- `C09:abort-before-acquire@Invoke`: Abort completes (outside every reset window: `armedOK`)
    while R is inside a callback that has not registered its child yet; the child is not in
    the pool snapshot, starts with flag 0 and runs on.  This is why `C09_partial` needs
    `lateAcq = false`. -/
theorem lost_at_late_acquire :
    ∃ s, Reach cfgInv s ∧ s.armedOK = true ∧ s.lateAcq = true ∧ s.extraOK = 9 :=
  ⟨_, runLabels_reach Reach.init (ls := rs 5 ++ [.c [], .c [], .c []] ++ rs 23) rfl, by decide⟩

def cfgEval : Cfg := { prog := fun _ ip => if ip < 5 then .plain else .ret, cprog := fun _ _ => .ret }

/-- `C09:abort-before-reset@Eval-run`: `Eval.run` starts Run on a new goroutine, the context is
    cancelled, the second select calls Abort before the new goroutine reached the reset;
    the script runs to its end while `Eval.run` waits on `doneCh`. -/
theorem lost_at_eval_start :
    ∃ es, EReach cfgEval es ∧ es.cancelled = true ∧ es.epc = .waitDone ∧ es.s.armedAny = true ∧ es.s.extraAny = 5 :=
  ⟨_, runELabels_reach EReach.init (ls := [.e [], .e [], .cancel, .e [], .e [], .e []] ++ List.replicate 9 .r) rfl, by decide⟩

/-- the theorems about `Reach` cover evaluation under a context -/
theorem eval_covered (cfg : Cfg) (es : EState) (h : EReach cfg es)
    (ha : es.s.armedOK = true) (hl : es.s.lateAcq = false) : es.s.extraOK ≤ 1 :=
  C09_partial cfg es.s h.base ha hl

/-- hypotheses of `abort_after_reset_not_lost` are satisfiable: Abort while the root loop runs -/
example : ∃ s, Reach cfgLoop s ∧ s.armedOK = true ∧ s.lateAcq = false ∧ s.rpc = .body 2 :=
  ⟨_, runLabels_reach Reach.init (ls := rs 7 ++ [.c [], .c [], .c []]) rfl, by decide⟩

/-- … and while a registered child runs (child flag set by `vmPool.abort`, outside its window) -/
example : ∃ s cb, Reach cfgInv s ∧ s.armedOK = true ∧ s.lateAcq = false ∧ s.rpc = .kBody cb 0 1 :=
  ⟨_, ⟨[.invoke, .release], 0, true⟩, runLabels_reach Reach.init (ls := rs 15 ++ [.c [0], .c [0], .c [0], .c [0], .c [0]]) rfl, by decide⟩

/-- `abort_idempotent`: a second Abort in a state where the first is in effect -/
example : ∃ s, Reach cfgLoop s ∧ s.rootFlag = 1 ∧ s.aborts = 1 ∧ (stepC s []).isSome = true :=
  ⟨_, runLabels_reach Reach.init (ls := rs 7 ++ [.c [], .c [], .c []]) rfl, by decide⟩

/-- `reset_allows_rerun`: a run is aborted, Abort is called once more while the VM is idle,
    the next Run passes its reset: flag 0 again, second run in progress -/
example : ∃ s, Reach cfgLoop s ∧ s.results = [.aborted] ∧ s.aborts = 2 ∧ postReset s.rpc = true ∧
    s.storesSinceReset = 0 ∧ s.rpc = .body 1 :=
  ⟨_, runLabels_reach Reach.init (ls := rs 7 ++ [.c [], .c [], .c []] ++ rs 1 ++ [.c [], .c [], .c []] ++ rs 6) rfl, by decide⟩

end UgoVerif.Props.C09

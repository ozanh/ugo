import UgoVerif.Proofs.EvalFix
import UgoVerif.Proofs.EvalSym
import UgoVerif.Proofs.EvalLocals
import UgoVerif.Proofs.EvalMono
import UgoVerif.Proofs.CompileAppend
/-
  C10 — evaluating fragments one by one equals evaluating them as one script.

  Model: `Model/Eval.lean` (Eval session: `compileSession`, `fixOpPop`, `setBytecode`,
  `getLocals`, `clearVM`, `evalRun`) over the compiler model and the VM model; tied to
  eval.go / compiler.go / vm.go by the lock-step stream `eval`.

  Proved (all inputs, no bounds): what `fixOpPop` does to every NOOP-free decodable stream
  (`fixOpPop_spec`); GetLocals ∘ initLocals(NumParams = NumLocals) restores frame 0, boxes included
  (`locals_roundtrip`); a whole `compileSession` — success, error or panic — extends the root table
  and only appends to the constant pool, for every later fragment (`session_table_monotone_full`,
  `session_resolve_stable`, `evalSession_monotone`); compiling `f₁ ++ f₂` is compiling `f₁`, then
  `f₂`, in one compiler state, and for `f₂` jump-free at its top level the bytes of `f₂` behind any
  prefix are the bytes of `f₂` compiled alone, no relocation (`compile_append_partial`), so the batch
  main function is the concatenation of the fragments' streams (`eval_split_partial`); the first
  fragment (`first_fragment_eq_batch`).
  Stated, NOT proved (`C10_full`): session ≈ batch for every fragment sequence.  Missing: the
  relocating version of `compile_append_partial` for top-level `if`/`for`/`for-in`/`try`/`&&`/`||`/`?:`
  (jump operands are absolute), and the run level (the VM relocation simulation of
  `Props/C11VM.lean` applied at a fragment boundary, and the boundary-state lemma).
  `C10_full` is moreover false of the code for three input classes
  (open findings C10:variadic-param, C10:codeless-fragment and — with the optimizer on —
  C10:optimizer-error-timing, reproduced by the stream's oracle on every run).
-/
namespace UgoVerif.Props.C10
open UgoVerif UgoVerif.Go UgoVerif.Ast UgoVerif.Compile UgoVerif.VM UgoVerif.Eval
open UgoVerif.Model.Bytecode UgoVerif.Gen.Opcodes
open UgoVerif.Proofs.EvalFix UgoVerif.Proofs.EvalSym UgoVerif.Proofs.EvalLocals UgoVerif.Proofs.ModCache

/-- For every instruction stream `bs` the decoder accepts and that contains no
    NOOP (the compiler emits none), `fixOpPop` never panics, and, reading `bs` as its instructions
    `L` (same opcodes as the decoder's): when the last two instructions are `POP; RETURN 0` and at
    least one instruction precedes them (`fixPos > 0`), the result is the same stream with exactly
    these two rewritten to `NOOP; RETURN 1`; in every other case — fewer than two instructions,
    another last pair, `RETURN 1`, or `POP; RETURN 0` standing alone at offset 0 — `bs` is unchanged.
    Nothing in the rule looks at jump targets: a `RETURN 0` that is the target of a jump is
    rewritten all the same (see `fixOpPop_rewrites_jump_target`). -/
theorem fixOpPop_spec (bs : Bytes) (is : List Instr) (hd : decodeV2 bs = some is)
    (hclean : ∀ i ∈ is, i.op ≠ Gen.Opcodes.OpNoOp) :
    ∃ L : List Ins, flat L = bs ∧ L.map (fun p => p.1.toNat) = is.map (·.op) ∧
      fixOpPop bs = .ok (match L.reverse with
        | p :: p1 :: r => if Fire p1 p ∧ r ≠ [] then flat r.reverse ++ [0, 39, 1] else bs
        | _ => bs) := by
  obtain ⟨L, rfl, hins, hops⟩ := flat_of_decode _ bs 0 is hd
  have hgood : ∀ p ∈ L, Good p := fun p hp => ⟨hins p hp, by
    obtain ⟨i, hi, he⟩ := List.mem_map.mp (hops ▸ List.mem_map_of_mem hp)
    exact he ▸ hclean i hi⟩
  refine ⟨L, rfl, hops, ?_⟩
  cases hrev : L.reverse with
  | nil =>
    obtain rfl := List.reverse_eq_iff.mp hrev
    exact fixOpPop_short [] hgood (Nat.zero_le _)
  | cons p R =>
    cases R with
    | nil =>
      obtain rfl := List.reverse_eq_iff.mp hrev
      exact fixOpPop_short [p] hgood (Nat.le_refl _)
    | cons p1 r =>
      obtain rfl : L = r.reverse ++ [p1, p] := by simpa using List.reverse_eq_iff.mp hrev
      rw [fixOpPop_two r.reverse p1 p (fun q hq => hgood q (by simp [hq])) (hgood p1 (by simp)) (hgood p (by simp))]
      simp only [ne_eq, List.reverse_eq_nil_iff]

/-- non-vacuity / the expected case: `CONSTANT 0; POP; RETURN 0` becomes `CONSTANT 0; NOOP; RETURN 1` -/
example : fixOpPop [1, 0, 0, 22, 39, 0] = .ok [1, 0, 0, 0, 39, 1] := by decide
/-- corner case `fixPos > 0`: a stream that is only `POP; RETURN 0` has the POP at offset 0 and is left alone -/
example : fixOpPop [22, 39, 0] = .ok [22, 39, 0] := by decide
/-- `RETURN 1`, or an expression statement that is not last, is left alone -/
example : fixOpPop [1, 0, 0, 22, 39, 1] = .ok [1, 0, 0, 22, 39, 1] := by decide
example : fixOpPop [1, 0, 0, 22, 1, 0, 0, 40, 0, 39, 0] = .ok [1, 0, 0, 22, 1, 0, 0, 40, 0, 39, 0] := by decide
/-- a truncated last instruction is a Go index panic in `ReadOperands` -/
example : (fixOpPop [1, 0, 0, 22, 39]).isPanic = true := by decide

/-- the trailing `RETURN 0` of `if c { 5 }` is the target of the JUMPFALSY: it is rewritten to
    `RETURN 1` although the jump reaches it with nothing pushed (`TRUE; JUMPFALSY 10; CONSTANT 0;
    POP; RETURN 0`).  On the real code `a := 7` then `if a == 2 { 5 }` answers 7. -/
theorem fixOpPop_rewrites_jump_target :
    fixOpPop [41, 13, 0, 0, 0, 10, 1, 0, 0, 22, 39, 0] = .ok [41, 13, 0, 0, 0, 10, 1, 0, 0, 0, 39, 1] := by decide

theorem getLocals_ok {vm : State} {n : Nat} {prev ls : List V} (h : getLocals vm n prev = .ok ls) :
    n ≤ stackSize ∧ ls = vm.stack.toList.take n ++ prev.drop (vm.stack.toList.take n).length := by
  unfold getLocals at h
  split at h
  · cases h
  · exact ⟨by omega, (Res.ok.inj h).symm⟩

/-- Let `vm` be the VM after a run whose main function has `n` locals, and
    `ls` what `Eval.Run` stores in `r.Locals` (`GetLocals`, then the tail of the previous locals).
    Running the prologue's `initLocals ls` for the next fragment — main function with
    `NumParams = NumLocals = m ≥ n`, not variadic (what `Eval.Run` sets) — on any VM state `s`
    (the stack is cleared or not) does not panic and puts into every slot `j < n` of frame 0
    exactly the object slot `j` held at the end of the previous run: values and pointer boxes
    alike (no dereference), so closures made earlier still share their captured variables with
    later fragments.  Slots `n ≤ j < m` receive the tail of `ls` or undefined; slots `≥ m` are untouched. -/
theorem locals_roundtrip (vm s : State) (n : Nat) (prev ls : List V) (ci : Nat) (free : Option (List Addr))
    (hget : getLocals vm n prev = .ok ls) (hvsz : vm.stack.size = stackSize)
    (hfn : s.heap[s.mainFn]? = some (.fn ci free))
    (hnp : (s.codes[ci]!).numParams = (s.codes[ci]!).numLocals) (hva : (s.codes[ci]!).variadic = false)
    (hm : n ≤ (s.codes[ci]!).numLocals) (hnl : (s.codes[ci]!).numLocals ≤ stackSize) (hsz : s.stack.size = stackSize) :
    ∃ st', exec (initLocals ls) s = (.ok (), { s with stack := st' }) ∧
      (∀ j, j < n → st'[j]? = vm.stack[j]?) ∧
      (∀ j, (s.codes[ci]!).numLocals ≤ j → st'[j]? = s.stack[j]?) := by
  obtain ⟨st', hex, _, hlow, hhigh⟩ := initLocals_session ls s ci free hfn hnp hva hnl hsz
  obtain ⟨_, rfl⟩ := getLocals_ok hget
  refine ⟨st', hex, fun j hj => ?_, hhigh⟩
  have hjs : j < vm.stack.size := by omega
  rw [hlow j (by omega), List.getD, List.getElem?_append_left (by simp; omega)]
  simp [hj, hjs]

/-- `getLocals` keeps the arguments beyond the fragment's locals (the repaired `Eval.Run`) -/
theorem getLocals_keeps_tail (vm : State) (n : Nat) (prev ls : List V) (h : getLocals vm n prev = .ok ls)
    (hvsz : vm.stack.size = stackSize) : ls.drop n = prev.drop n ∧ n ≤ stackSize := by
  obtain ⟨hn, rfl⟩ := getLocals_ok h
  have hlen : (vm.stack.toList.take n).length = n := by simp; omega
  refine ⟨?_, hn⟩
  rw [hlen, List.drop_append_of_le_length (by omega)]
  simp

example : getLocals { (default : State) with stack := #[.int 1, .box 7, .nil] } 2 [.int 9, .int 9, .int 5] =
    .ok [.int 1, .box 7, .int 5] := by simp [getLocals, stackSize]

def TableExt (t t' : Table) : Prop :=
  (∀ n sym, lookupSym n t.store = some sym → lookupSym n t'.store = some sym) ∧
  t'.disabled = t.disabled ∧ t.maxDefinition ≤ t'.maxDefinition

/-- The table operations every later compile is made of, on the root table.
    (1) a name bound by an earlier fragment resolves to the same symbol — same scope, same
        index — and resolving leaves the table untouched;
    (2) resolving any name (this may cache a builtin) extends the table;
    (3) declaring another name keeps every binding; (4) declaring (`:=`, `var`, `const`, `param`)
        a name the root table already binds (not the entry cached for a builtin that was merely
        used) creates no new symbol: `DefineLocal` answers "exists" and the compiler reports the
        redeclaration;
    (5) a disabled builtin that is not shadowed does not resolve, before and after any resolve;
    (6) `updateMaxDefs` never lowers `maxDefinition`: NumLocals of the session only grows. -/
theorem session_table_monotone (bs : List (String × Nat)) (t : Table) :
    (∀ n sym, lookupSym n t.store = some sym → resolveIn bs t.disabled n [t] = (some sym, [t])) ∧
    (∀ m, ∃ t', (resolveIn bs t.disabled m [t]).2 = [t'] ∧ TableExt t t' ∧ t'.numDefinition = t.numDefinition) ∧
    (∀ n m s, m ≠ n → lookupSym n (putSym m s t.store) = lookupSym n t.store) ∧
    (∀ n sym (s : CState), s.tables = [t] → lookupSym n t.store = some sym → sym.scope ≠ .builtin →
        (defineLocal n).run.run s = (.ok (sym, true), s)) ∧
    (∀ n, n ∈ t.disabled → lookupSym n t.store = none →
        (resolveIn bs t.disabled n [t]).1 = none ∧
        ∀ m, ∃ t', (resolveIn bs t.disabled m [t]).2 = [t'] ∧ n ∈ t'.disabled) ∧
    (∀ k r, ∃ t' r', updateMaxDefs k (t :: r) = t' :: r' ∧ t.maxDefinition ≤ t'.maxDefinition ∧
        t'.store = t.store ∧ t'.disabled = t.disabled) := by
  refine ⟨fun n sym h => resolve_bound bs _ n t sym h, ?_, fun n m s h => lookupSym_putSym_other n m s h _,
    fun n sym s hs h hb => defineLocal_existing n s t sym hs h hb, ?_, ?_⟩
  · intro m
    obtain ⟨t', h1, h2, h3, h4, _, h6⟩ := resolve_keeps bs t.disabled m t
    exact ⟨t', h1, ⟨h6, h2, by omega⟩, h4⟩
  · intro n hd hs
    refine ⟨resolve_disabled_root bs _ n t hd hs, fun m => ?_⟩
    obtain ⟨t', h1, h2, _⟩ := resolve_keeps bs t.disabled m t
    exact ⟨t', h1, by rw [h2]; exact hd⟩
  · intro k r
    obtain ⟨t', r', h1, h4, _, _, _, h2, h5⟩ := updateMaxDefs_head k t r
    exact ⟨t', r', h1, h2, h4, h5⟩

/-- non-vacuity: `a` declared by an earlier fragment at local slot 3 -/
example : resolveIn [("len", 5)] [] "a" [{ store := [("a", { name := "a", index := 3, scope := .local_ })] }]
    = (some { name := "a", index := 3, scope := .local_ }, [{ store := [("a", { name := "a", index := 3, scope := .local_ })] }]) := by
  simp [resolveIn, lookupSym]
example : (resolveIn [("len", 5)] ["len"] "len" [{ disabled := ["len"] }]).1 = none := by decide

/-- A whole `compileSession` of a fragment — whatever it compiles
    to, and also when it fails or panics half-way — extends the session's root table
    (`Compile.RootExt`):
    * every earlier binding that is not merely the cache entry of a builtin that was used keeps its
      scope, constness, constant-literal value and name, and its index unless it is a global (a
      `global` re-declaration recomputes the index of the name constant) — `Compile.SymKeep`;
    * the disabled builtins are the same; `maxDefinition` (NumLocals) and `numDefinition` never go
      down; no global symbol is left waiting for its name constant (`NoPending`, so the theorem
      applies again to the next fragment);
    and on success the new constant pool is the old one with constants appended.
    Hypothesis `NoPending t`: the table holds no global symbol with index −1 (true of a new session
    and preserved).  Proof: `Proofs/CompileMono*.lean` — every function of the compiler model is
    monotone (`mono_rules`, the walk of `Proofs/CompileLogic.lean`), `Proofs/EvalMono.lean` for `compileSession`. -/
theorem session_table_monotone_full (bs : List (String × Nat)) (t : Table) (cs : Array Const) (file : List Stmt)
    (hp : NoPending t) :
    RootExt t (compileSession bs t cs file).table ∧
    (∀ bc, (compileSession bs t cs file).result = .ok bc → IsPre cs bc.constants) :=
  UgoVerif.Proofs.EvalMono.compileSession_spec bs t cs file hp

/-- a name an earlier fragment declared resolves, after any later compile, to a symbol of the same
    scope, index (globals excepted), constness and literal value; resolving does not touch the table -/
theorem session_resolve_stable (bs : List (String × Nat)) (t : Table) (cs : Array Const) (file : List Stmt)
    (hp : NoPending t) (n : String) (y : Symbol) (hy : lookupSym n t.store = some y) (hb : y.scope ≠ .builtin) :
    ∃ y', resolveIn bs (compileSession bs t cs file).table.disabled n [(compileSession bs t cs file).table]
        = (some y', [(compileSession bs t cs file).table]) ∧ SymKeep y y' := by
  obtain ⟨y', h1, h2⟩ := (session_table_monotone_full bs t cs file hp).1.keep n y hy hb
  exact ⟨y', resolve_bound bs _ n _ y' h1, h2⟩

/-- the hypothesis holds of a new session, and of a table with a global that has its constant -/
example (d : List String) : NoPending { disabled := d } := fun p h => by simp at h
example : NoPending { store := [("g", { name := "g", index := 4, scope := .global })] } := by
  intro p hp _
  simp at hp
  subst hp
  decide

theorem evalSession_cons (F : FloatOps) (fuel : Nat) (s : Session) (f : List Stmt) (fs : List (List Stmt)) :
    ∃ tl, evalSession F fuel s (f :: fs) = evalRun F fuel s f :: tl ∧
      tl ⊆ evalSession F fuel (evalRun F fuel s f).session fs := by
  rw [evalSession]
  split
  · exact ⟨_, rfl, fun _ h => h⟩
  · exact ⟨[], rfl, fun _ h => nomatch h⟩

/-- Every later fragment: along a whole session each `Eval.Run` leaves a root table that
    extends the table the session started with, and a constant pool that extends the first one -/
theorem evalSession_monotone (F : FloatOps) (fuel : Nat) : ∀ (frags : List (List Stmt)) (s : Session),
    NoPending s.table → ∀ o ∈ evalSession F fuel s frags,
      RootExt s.table o.session.table ∧ IsPre s.constants o.session.constants := by
  intro frags s0 hp0 o ho
  refine (Proofs.EvalMono.evalSession_inv F fuel
    (P := fun s => NoPending s.table ∧ RootExt s0.table s.table ∧ IsPre s0.constants s.constants)
    (fun s f ⟨hp, hr, hc0⟩ => ?_) frags s0 ⟨hp0, RootExt.refl _, IsPre.refl _⟩ o ho).2
  have hstep := session_table_monotone_full s.builtins s.table s.constants f hp
  obtain ⟨ht, _, hc⟩ := Proofs.EvalMono.evalRun_table F fuel s f
  have h1 : RootExt s.table (evalRun F fuel s f).session.table := ht ▸ hstep.1
  refine ⟨h1.pend hp, hr.trans h1, hc0.trans ?_⟩
  rcases hc with hc | ⟨bc, hbc, hc⟩
  · exact hc ▸ IsPre.refl _
  · exact hc ▸ hstep.2 bc hbc

/-- `f₁` ANY statement list that compiles from `s` to `s₁`; `f₂` jump-free
    at its top level (`Ast.jfSs`: no `if`, `for`, `for-in`, `try`, `break`/`continue`, `&&`, `||`,
    `?:` outside function literals — everything else, function literals with any body included).
    Compiling `f₁ ++ f₂` from `s` and compiling `f₂` alone from `s₁` with an emptied instruction
    stream (what the next fragment of a session starts from) have the same outcome (`EquiOut`):
    the same error, or both succeed and the batch state is the fragment's final state with
    `s₁.insts` in front of its stream: same tables, same constant pool, same bytes appended, no
    operand relocated.
    NOT covered: top-level statements that emit jumps — their operands are absolute positions, so
    the appended bytes differ by a constant shift (`Spec/Reloc`); the bookkeeping of pending
    placeholder operands (C05's `St`) would have to be redone relationally.
    Not part of the statement: (1) the `Bytecode()` epilogue (final RETURN) and `fixOpPop`;
    (2) source-map keys and `Pos` values (the batch AST has shifted positions; bytes, tables and
    constants do not depend on them — not proved); (3) `Eval`'s fresh `cfuncCache` per fragment
    (`Model/Eval.maskFns`): a function literal of a later fragment that is identical to a function
    constant of an earlier one is de-duplicated by the batch compile and not by the session, which
    changes constant indexes (not behaviour). -/
theorem compile_append_partial (s s₁ : CState) (f₁ f₂ : List Stmt) (hjf : jfSs f₂ = true)
    (h₁ : runCM (compileStmts f₁) s = (.ok (), s₁)) :
    EquiOut s₁.insts (runCM (compileStmts f₂) (freshStream s₁)) (runCM (compileStmts (f₁ ++ f₂)) s) :=
  Compile.compile_append_partial s s₁ f₁ f₂ hjf h₁

/-- the monadic core, for ALL statement lists: the batch compile is the parts compiled one after
    the other in one compiler state -/
theorem compile_append_monadic (f₁ f₂ : List Stmt) :
    compileStmts (f₁ ++ f₂) = (do compileStmts f₁; compileStmts f₂) := compileStmts_append f₁ f₂

/-- non-vacuity: `x := 1; f := func() { if x { return x } }; f()` is jump-free at its top level
    (the `if` sits inside a function literal); a top-level `if` is not -/
example : jfSs [.assign 1 tDefine [.ident 1 "x"] [.int 6 1#64],
    .assign 9 tDefine [.ident 9 "f"] [.func 14 false [] 21 [.if_ 23 none (.ident 26 "x") 28 [.return_ 30 (some (.ident 37 "x"))] none]],
    .expr 44 (.call 44 false (.ident 44 "f") [])] = true := by decide
example : jfS (.if_ 1 none (.ident 4 "x") 6 [] none) = false := by decide

/-- Bytecode level.  Fragments `fs` compiled one after the other by the
    compiler model — each from an emptied stream and from the tables and constants its predecessor
    left (`compileChain`) — give the streams `Δ₀, Δ₁, …`.  If every fragment after the statements
    `done` already compiled is jump-free at its top level, the concatenation compiles from the same
    start to `s₁.insts ++ Δ₀ ++ Δ₁ ++ …`, with the same final tables and constant pool: the main
    function of fragment `k` is, byte for byte, the part of the batch main function behind the
    streams of the earlier fragments (both before the `Bytecode()` epilogue).
    With `session_table_monotone_full` (slot numbers and constant indexes of earlier names are the
    same in every later fragment) and `locals_roundtrip` (frame 0 is restored, boxes included) this
    is the compile half of `session ≈ batch` for these fragments.
    NOT PROVED (run level): that the VM model, running `Δ₀ ++ … ++ Δₖ ++ RETURN`, passes after
    `Δ₀ ++ … ++ Δₖ₋₁` through a state whose frame-0 slots are what `getLocals` stored, and from
    there behaves like a fresh run of `Δₖ ++ RETURN` on those locals.  For jump-free streams the
    relocation is the constant shift `φ = (· + d)`; the VM model's relocation theorem
    (`Props/C11VM.lean`: `vm_equivariant`, `reloc_vm`) relates runs of whole programs from two new
    VMs and is not applied here to a run entered at a fragment boundary, which also needs the
    boundary-state lemma (stack height = NumLocals at a statement boundary; not a clause of C05
    `compile_wf`). -/
theorem eval_split_partial (fs : List (List Stmt)) (s : CState) (done : List Stmt) (s₁ : CState)
    (h₁ : runCM (compileStmts done) s = (.ok (), s₁)) (hjf : ∀ f ∈ fs, jfSs f = true)
    (ds : List (Array UInt8)) (u : CState) (hc : compileChain s₁ fs = some (ds, u)) :
    ∃ M, runCM (compileStmts (done ++ fs.flatten)) s =
      (.ok (), { u with insts := ds.foldl (· ++ ·) s₁.insts, sourceMap := M }) :=
  eval_split_chain fs s done s₁ h₁ hjf ds u hc

/-- address-free image of a runtime value, to depth `d` -/
inductive Img where
  | nil | undefined | cut | bad
  | int (v : BitVec 64) | uint (v : BitVec 64) | float (v : F64) | char (v : BitVec 32) | bool (b : Bool)
  | str (s : Bytes) | bytes (s : Bytes)
  | arr (xs : List Img) | map (kvs : List (Bytes × Img)) | box (x : Img)
  | fn (nfree : Nat) | builtin (i : Nat) | err (name msg : Bytes) | other
  deriving Repr, Inhabited

def image (heap : Array Cell) : Nat → V → Img
  | 0, _ => .cut
  | d+1, v =>
    match v with
    | .nil => .nil | .undefined => .undefined
    | .int x => .int x | .uint x => .uint x | .float x => .float x | .char x => .char x | .bool b => .bool b
    | .str s => .str s | .bytes s => .bytes s
    | .arr a off len =>
      match heap[a]? with
      | some (.arr xs) => .arr (((xs.toList.drop off).take len).map (image heap d))
      | _ => .bad
    | .map a =>
      match heap[a]? with
      | some (.map kvs) => .map (kvs.map fun (k, x) => (k, image heap d x))
      | _ => .bad
    | .box a => match heap[a]? with | some (.box x) => .box (image heap d x) | _ => .bad
    | .cfun a => match heap[a]? with | some (.fn _ free) => .fn (free.getD []).length | _ => .bad
    | .builtin i => .builtin i
    | .err a => match heap[a]? with | some (.err n m _) => .err n m | _ => .bad
    | .rterr a =>
      match heap[a]? with
      | some (.rterr (some ea)) => (match heap[ea]? with | some (.err n m _) => .err n m | _ => .bad)
      | _ => .bad
    | .iter _ => .other
    | .host _ => .other

/-- what the property observes of one `Eval.Run` (printed output is not modelled) -/
structure Obs where
  result : Img                  -- value, or `.err name msg` of the error (`.other` for non-script errors)
  failed : Bool
  locals : List Img
  globals : Img
  deriving Inhabited

def obsOf (d : Nat) (o : RunOut) : Option Obs :=
  let h := o.session.vm.heap
  let rest := (o.session.locals.map (image h d), image h d o.session.globals)
  match o.result with
  | .value v => some { result := image h d v, failed := false, locals := rest.1, globals := rest.2 }
  | .error (.rt a) => some { result := image h d (.rterr a), failed := true, locals := rest.1, globals := rest.2 }
  | .error _ => some { result := .other, failed := true, locals := rest.1, globals := rest.2 }
  | .compileError _ => some { result := .other, failed := true, locals := [], globals := .cut }
  | _ => none       -- crash / outside the model / out of fuel: not compared

/-- the statement's proviso on compiled code: the main function of the fragment holds no RETURN
    except as its very last instruction -/
def returnsOnlyAtEnd (insts : Bytes) : Bool :=
  match decodeV2 insts with
  | some is => is.dropLast.all fun i => i.op != Gen.Opcodes.OpReturn
  | none => false

def ProvisoHolds (F : FloatOps) (fuel : Nat) (s0 : Session) (frags : List (List Stmt)) : Prop :=
  ∀ o ∈ (evalSession F fuel s0 frags).dropLast, ∀ bc, o.bytecode = some bc → returnsOnlyAtEnd bc.main.insts.toList = true

/-- **C10_full** (NOT proved; false of the code for the open findings): for every session
    start, every sequence of fragments meeting the proviso and every `k`, the `k`-th `Eval.Run`
    of the session and ONE `Eval.Run` of the concatenation of the first `k+1` fragments on an
    equal fresh session show the same result or error, locals and globals (as address-free
    images to every depth), up to and including the first fragment that fails (`evalSession`
    stops there). -/
def C10_full : Prop :=
  ∀ (F : FloatOps) (fuel : Nat) (builtins : List (String × Nat)) (disabled : List String) (heap : Array Cell)
    (g : V) (args : List V) (frags : List (List Stmt)),
    let s0 := newSession builtins disabled heap g args
    ProvisoHolds F fuel s0 frags →
    ∀ (k : Nat) (o : RunOut), (evalSession F fuel s0 frags)[k]? = some o →
      ∀ d, ∀ a b, obsOf d o = some a → obsOf d (evalRun F fuel s0 (frags.take (k + 1)).flatten) = some b →
        a.failed = b.failed ∧ a.result = b.result ∧ (a.failed = false ∨ o.bytecode.isSome → a.locals = b.locals ∧ a.globals = b.globals)

/-- the first fragment: session and batch are the same computation -/
theorem first_fragment_eq_batch (F : FloatOps) (fuel : Nat) (s0 : Session) (f : List Stmt) (rest : List (List Stmt)) :
    (evalSession F fuel s0 (f :: rest))[0]? = some (evalRun F fuel s0 ((f :: rest).take 1).flatten) := by
  obtain ⟨tl, htl, _⟩ := evalSession_cons F fuel s0 f rest
  simp only [htl, List.take_succ_cons, List.take_zero, List.flatten_cons, List.flatten_nil, List.append_nil,
    List.getElem?_cons_zero]

/-- The proved parts of `C10_full` — the first fragment; the exact effect of
    `fixOpPop`; the locals round trip with boxes; the table operations.  Missing for `C10_full`:
    compile-append in general (compiling `f₁ ++ f₂` = compiling `f₁`, then `f₂` from the resulting table and
    constants, modulo the final RETURN and a constant shift of jump targets) and the run level (VM
    relocation simulation at a fragment boundary); the compile half is proved for fragments that are jump-free
    at their top level (`compile_append_partial`, `eval_split_partial`) and the table half for all
    fragments (`session_table_monotone_full`). -/
theorem C10_partial :
    (∀ (F : FloatOps) (fuel : Nat) (s0 : Session) (f : List Stmt) (rest : List (List Stmt)),
      (evalSession F fuel s0 (f :: rest))[0]? = some (evalRun F fuel s0 ((f :: rest).take 1).flatten)) ∧
    (∀ (pre : List Ins) (p1 p : Ins), (∀ q ∈ pre, Good q) → Good p1 → Good p →
      fixOpPop (flat (pre ++ [p1, p])) =
        .ok (if Fire p1 p ∧ pre ≠ [] then flat pre ++ [0, 39, 1] else flat (pre ++ [p1, p]))) ∧
    (∀ (bs : List (String × Nat)) (t : Table) n sym, lookupSym n t.store = some sym →
      resolveIn bs t.disabled n [t] = (some sym, [t])) :=
  ⟨first_fragment_eq_batch, fixOpPop_two, fun bs t n sym h => resolve_bound bs _ n t sym h⟩

end UgoVerif.Props.C10

import UgoVerif.Proofs.V1
import UgoVerif.Spec.Reloc
/-
  C11 — bytecode in the version-1 format still runs the same program.

  The theorems are about `Model/V1.convFn`, the model of the repaired
  `convCompFuncV1ToV2` (tied to the code by stream `v1`), over the opcode tables
  `Gen/Opcodes.lean` regenerated from opcodes.go, encoder/opv1/opcodes_v1.go,
  MakeInstruction and the converter's switches on every run.
-/
namespace UgoVerif.Props.C11
open UgoVerif.Go UgoVerif.Gen.Opcodes UgoVerif.Model.Bytecode UgoVerif.Model.V1
open UgoVerif.Proofs.Bytecode UgoVerif.Proofs.V1 UgoVerif.Spec.Reloc

def Fits : List Nat → List Nat → Prop
  | [], [] => True
  | w :: ws, a :: as => a < 256 ^ w ∧ Fits ws as
  | _, _ => False

theorem encodeArgs_fits : ∀ (ws args : List Nat), Fits ws args →
    (encodeArgs ws args).length = ws.sum ∧ ∀ rest, decodeArgs ws (encodeArgs ws args ++ rest) = args
  | [], [], _ => ⟨rfl, fun _ => rfl⟩
  | w :: ws, a :: as, ⟨hwa, hf⟩ => by
    obtain ⟨h1, h2⟩ := encodeArgs_fits ws as hf
    refine ⟨by simp [encodeArgs, beBytes_length, h1], fun rest => ?_⟩
    rw [encodeArgs, List.append_assoc, decodeArgs_cons_beBytes hwa, h2]
  | [], _ :: _, h => h.elim
  | _ :: _, [], h => h.elim

theorem readOperands_encodeArgs (ws args : List Nat) (rest : Bytes) (hs : Supported ws) (hf : Fits ws args) :
    readOperands ws (encodeArgs ws args ++ rest) = .ok (args, rest) := by
  obtain ⟨h1, h2⟩ := encodeArgs_fits ws args hf
  rw [readOperands_eq hs, if_pos (by simp [h1]), h2, List.drop_left' h1]

/-- decoding an encoded instruction gives the instruction back (operands fitting their widths) -/
theorem decode_encode (tbl : WidthTable) (op : Nat) (ws args : List Nat) (bs rest : Bytes)
    (hop : op < 256) (ht : tbl op = some ws) (hs : Supported ws)
    (hfit : Fits ws args)
    (henc : encodeInstr tbl op args = some bs) :
    decodeInstr tbl (bs ++ rest) = some (op, args, rest) := by
  simp [encodeInstr, ht] at henc
  obtain ⟨_, rfl⟩ := henc
  have hb : (UInt8.ofNat op).toNat = op := by simp [UInt8.toNat_ofNat']; omega
  simp [decodeInstr, hb, ht, readOperands_encodeArgs ws args rest hs hfit]

example : decodeInstr opcodeOperands ([12, 0, 0, 1, 2] ++ [22]) = some (OpJump, [258], [22]) := by decide

/-- every opcode the converter re-encodes is at least as wide in the current table (the
    subtraction `shift -= w` of the first pass never goes below zero) and grows by at most its
    own version-1 size -/
theorem widen_nonneg : ∀ op ∈ convJumpClass, ∀ w ws2, opWidthTable[op]? = some w →
    opcodeOperands op = some ws2 → w ≤ ws2.sum ∧ ws2.sum ≤ 2 * w + 1 := by
  intro op _ w ws2 hw h2
  obtain ⟨ws1, h1, rfl⟩ := v1_of_opWidth hw
  obtain ⟨ws2', h2', hle, hub, _⟩ := v2_of_v1 h1
  rw [h2] at h2'; cases h2'
  exact ⟨hle, hub⟩

/-- opcodes that are copied unchanged have the same operand layout in both formats -/
theorem unchanged_same_layout (op : Nat) (ws : List Nat) (hj : isJumpClass op = false)
    (h : V1.opcodeOperands op = some ws) : opcodeOperands op = some ws := nonjump_same hj h

/-- inside the table by its order; across its end because every entry is below what `pos + shift` gives behind it -/
theorem relocate_strict_mono {np : List Nat} {sh n : Nat} (h : NewPos np sh 0 n 0) (a b : Nat) (hab : a < b) :
    relocate np sh a < relocate np sh b := by
  unfold relocate
  have hl := h.length
  cases ha : np[a]? with
  | none =>
    have hal := List.getElem?_eq_none_iff.mp ha
    have hb : np[b]? = none := List.getElem?_eq_none_iff.mpr (by omega)
    simp [hb]; omega
  | some x =>
    obtain ⟨hal, hax⟩ := List.getElem?_eq_some_iff.mp ha
    cases hb : np[b]? with
    | none =>
      have hbl := List.getElem?_eq_none_iff.mp hb
      have := (h.range x (List.mem_of_getElem? ha)).2
      simp; omega
    | some y =>
      obtain ⟨hbl, hby⟩ := List.getElem?_eq_some_iff.mp hb
      have := List.pairwise_iff_getElem.mp h.strict a b hal hbl hab
      simp; omega

/-- inside the table by `NewPos.small`; behind it because the final shift is at most the length of the stream -/
theorem relocate_le {np : List Nat} {sh n : Nat} (h : NewPos np sh 0 n 0) (p : Nat) : relocate np sh p ≤ 2 * p := by
  obtain ⟨hsh, hb⟩ := h.small (Nat.le_refl _)
  have hl := h.length
  unfold relocate
  cases hx : np[p]? with
  | none => have := List.getElem?_eq_none_iff.mp hx; simp; omega
  | some x => have := hb p x hx; simp; omega

theorem newOff_cases (ins : Bytes) :
    newOff ins = (fun p => p) ∨ ∃ np sh, NewPos np sh 0 ins.length 0 ∧ newOff ins = relocate np sh := by
  unfold newOff
  cases hp : pass1 (ins.length + 1) ins 0 0 with
  | ok p => exact .inr ⟨p.1, p.2, pass1_inv hp, rfl⟩
  | err e => exact .inl rfl
  | panic m => exact .inl rfl

/-- the boundary map the converter computes is strictly monotone (on all offsets, hence on the
    instruction boundaries), for every byte string -/
theorem newOff_strict_mono (ins : Bytes) (a b : Nat) (hab : a < b) : newOff ins a < newOff ins b := by
  rcases newOff_cases ins with h | ⟨np, sh, hnp, h⟩ <;> rw [h]
  · exact hab
  · exact relocate_strict_mono hnp a b hab

theorem newOff_zero (ins : Bytes) : newOff ins 0 = 0 := by
  rcases newOff_cases ins with h | ⟨np, sh, hnp, h⟩ <;> rw [h]
  exact Nat.le_zero.mp (relocate_le hnp 0)

/-- a zero (absent catch / finally) operand of SETUPTRY stays zero; every other operand of a
    re-encoded instruction goes through the offset map -/
theorem absent_stays_zero (φ : Nat → Nat) : relocArgs φ convKeepZeroOp [0, 0] = [0, 0] := by
  simp [relocArgs]

theorem relocArgs_jump (φ : Nat → Nat) (op t : Nat) (h : op ≠ convKeepZeroOp) :
    relocArgs φ op [t] = [φ t] := by simp [relocArgs, h]

theorem relocArgs_try (φ : Nat → Nat) (c f : Nat) (hc : c ≠ 0) (hf : f ≠ 0) :
    relocArgs φ convKeepZeroOp [c, f] = [φ c, φ f] := by simp [relocArgs, hc, hf]

theorem relocInstr_id (x : Instr) : relocInstr (fun p => p) x = x := by
  cases x with
  | mk off op args =>
    simp only [relocInstr, relocArgs]
    congr 1
    split <;> simp

theorem map_relocInstr_id (is : List Instr) : is.map (relocInstr (fun p => p)) = is := by
  induction is with
  | nil => rfl
  | cons x xs ih => simp [relocInstr_id, ih]

theorem convSm_map (sm : SrcMap) (φ : Nat → Nat) (is : List Instr) :
    convSm sm is (is.map (relocInstr φ)) =
      is.filterMap (fun x => (sm.lookup x.off).map (fun p => (φ x.off, p))) := by
  induction is with
  | nil => simp [convSm]
  | cons x xs ih =>
    simp only [List.map, convSm, ih, List.filterMap_cons, relocInstr]
    cases sm.lookup x.off <;> simp

/-- **Main structural theorem.**  For every version-1 stream that decodes (all opcodes known, no
    truncated instruction) and every source map, the converter succeeds and the converted
    stream decodes, in the current format, to the same instructions moved by the offset map
    `newOff ins`: same opcodes, same operands except that the jump / try operands go through
    `newOff ins` (a zero SETUPTRY operand stays zero), every instruction offset goes through
    `newOff ins`; the source map is unchanged when nothing had to be widened (then `newOff ins`
    is the identity) and otherwise consists of the entries of the old instruction offsets
    re-keyed through `newOff ins`.  The converted stream ends where the map sends the old end. -/
theorem conv_decodes (ins : Bytes) (sm : SrcMap) (is : List Instr) (h : decodeV1 ins = some is) :
    ∃ out m, convFn ins sm = .ok (out, m) ∧
      decodeV2 out = some (is.map (relocInstr (newOff ins))) ∧
      out.length = newOff ins ins.length ∧
      ((m = sm ∧ ∀ p, newOff ins p = p) ∨
       m = is.filterMap (fun x => (sm.lookup x.off).map (fun p => (newOff ins x.off, p)))) := by
  have hD : Dec1 ins 0 is := Dec1.of_aux h
  have hbj := hasJump_of_dec hD (ins.length + 1) (Nat.lt_succ_self _)
  cases hany : is.any fun x => isJumpClass x.op with
  | false =>
    rw [hany] at hbj
    obtain ⟨hd, np, hp, hnp⟩ := nojump_of_dec hD (fun x hx => by simpa using List.any_eq_false.mp hany x hx) 0
      (ins.length + 1) (Nat.lt_succ_self _)
    have hid : ∀ p, newOff ins p = p := by
      intro p
      simp only [newOff, hp, relocate]
      cases hx : np[p]? with
      | none => simp
      | some x => have := hnp p x hx; simp; omega
    have hfun : newOff ins = fun p => p := funext hid
    refine ⟨ins, sm, by simp [convFn, hbj], ?_, (hid _).symm, Or.inl ⟨rfl, hid⟩⟩
    rw [hfun, map_relocInstr_id]
    exact hd.aux _ (Nat.lt_succ_self _)
  | true =>
    rw [hany] at hbj
    obtain ⟨np, sh, hp, hag, hlast, hnp⟩ := pass1_of_dec hD 0 (ins.length + 1) (Nat.lt_succ_self _)
    obtain ⟨out, m, hp2, hd2, hm, hol⟩ := pass2_of_dec (relocate np sh) sm (fun p hp => by have := relocate_le hnp p; omega) hD 0 (ins.length + 1) (Nat.lt_succ_self _)
    have hno : newOff ins = relocate np sh := by
      funext p; simp [newOff, hp]
    have hrel := hag (relocate np sh) (by
      intro j x hx
      simp [relocate, hx])
    simp at hrel
    refine ⟨out, m, by simp [convFn, hbj, hp, hp2], ?_, ?_, Or.inr ?_⟩
    · rw [hno, ← hrel]
      exact hd2.aux _ (Nat.lt_succ_self _)
    · rw [hno, hol]; simp [relocate, hlast]
    · rw [hm, hno, hrel, convSm_map]

/-- decodable input: the converter neither panics nor fails -/
theorem conv_no_panic (ins : Bytes) (sm : SrcMap) (is : List Instr) (h : decodeV1 ins = some is) :
    (convFn ins sm).isOk = true := by
  obtain ⟨out, m, hc, _⟩ := conv_decodes ins sm is h
  simp [hc, Res.isOk]

/-- **Arbitrary bytes** (shared with C18): the converter returns a converted function or an error,
    it never panics — unknown opcodes and truncated instructions are rejected by the first pass,
    and everything the first pass accepts the second pass can rewrite. -/
theorem conv_total (ins : Bytes) (sm : SrcMap) : (convFn ins sm).isPanic = false := by
  unfold convFn
  have hj := hasJump_no_panic (ins.length + 1) ins (Nat.lt_succ_self _)
  cases hbj : hasJumpLoop (ins.length + 1) ins with
  | panic m => simp [hbj, Res.isPanic] at hj
  | err e => simp [Res.isPanic]
  | ok bj =>
    cases bj with
    | false => simp [Res.isPanic]
    | true =>
      rcases pass1_err_or_dec _ ins 0 0 (Nat.lt_succ_self _) with ⟨e, he⟩ | ⟨is, his⟩
      · simp [he, Res.isPanic]
      · obtain ⟨out, m, hc, _⟩ := conv_decodes ins sm is (his.aux _ (Nat.lt_succ_self _))
        simp only [convFn, hbj] at hc
        simp [hc, Res.isPanic]

/-- the hypotheses of the theorems can be met: `JUMPFALSY 7; CONSTANT 0; RETURN 1; …` decodes, and its
    jump target moves from 7 to 9 -/
example : decodeV1 [13, 0, 7, 1, 0, 0, 39, 1, 21, 39, 1] =
    some [⟨0, 13, [7]⟩, ⟨3, 1, [0]⟩, ⟨6, 39, [1]⟩, ⟨8, 21, []⟩, ⟨9, 39, [1]⟩] := by decide
example : convFn [13, 0, 7, 1, 0, 0, 39, 1, 21, 39, 1] [(0, 5), (6, 9)] =
    .ok ([13, 0, 0, 0, 9, 1, 0, 0, 39, 1, 21, 39, 1], [(0, 5), (8, 9)]) := by decide
example : newOff [13, 0, 7, 1, 0, 0, 39, 1, 21, 39, 1] 8 = 10 := by decide

theorem fetch_map (φ : Nat → Nat) (hinj : ∀ a b, φ a = φ b → a = b) (endOff : Nat) (is : List Instr) (ip : Nat) :
    fetch (φ endOff) (is.map (relocInstr φ)) (φ ip) =
      (fetch endOff is ip).map (fun p => (relocInstr φ p.1, φ p.2)) := by
  induction is with
  | nil => simp [fetch]
  | cons x xs ih =>
    simp only [List.map, fetch]
    by_cases hx : x.off = ip
    · have : (relocInstr φ x).off = φ ip := by simp [relocInstr, hx]
      simp only [this, hx, if_true, Option.map_some]
      cases xs with
      | nil => simp
      | cons y ys => simp [relocInstr]
    · have : ¬ (relocInstr φ x).off = φ ip := by
        simp only [relocInstr]; intro hc; exact hx (hinj _ _ hc)
      simp only [this, hx, if_false]
      exact ih

/-- an equivariant machine runs the relocated program, from the relocated state, to the same
    result (for every amount of fuel, in particular: one side runs out of fuel iff the other does) -/
theorem reloc_sim {δ ρ : Type} (M : Machine δ ρ) (φ : Nat → Nat) (hinj : ∀ a b, φ a = φ b → a = b)
    (hM : M.Equivariant φ) (posOf posOf' : Nat → Option Nat) (hpos : ∀ o, posOf' (φ o) = posOf o)
    (endOff : Nat) (is : List Instr) :
    ∀ (fuel ip : Nat) (d : δ),
      run M posOf' (φ endOff) (is.map (relocInstr φ)) fuel (φ ip) (M.mapD φ d) =
        run M posOf endOff is fuel ip d := by
  intro fuel
  induction fuel with
  | zero => intro ip d; rfl
  | succ fuel ih =>
    intro ip d
    simp only [run, fetch_map φ hinj]
    cases hf : fetch endOff is ip with
    | none => simp
    | some p =>
      obtain ⟨x, nx⟩ := p
      simp only [Option.map_some, hM posOf posOf' hpos x d]
      cases he : M.exec posOf x d with
      | next d' => simp only [Effect.map]; exact ih nx d'
      | goto t d' => simp only [Effect.map]; exact ih t d'
      | halt r => simp only [Effect.map]

/-- **Full statement of C11 for a VM semantics `M`**: a function in the version-1 layout and its
    conversion run to the same outcome (result value or error, including the source positions an
    error reports through the source map) from every state, with every amount of fuel.  `M` is
    an abstract one-function machine (`Spec/Reloc.lean`). -/
def C11_full {δ ρ : Type} (M : Machine δ ρ) : Prop :=
  ∀ (ins : Bytes) (sm : SrcMap) (is : List Instr), decodeV1 ins = some is →
    ∃ out m is', convFn ins sm = .ok (out, m) ∧ decodeV2 out = some is' ∧
      ∀ (fuel : Nat) (d : δ),
        run M (srcPos m) out.length is' fuel 0 (M.mapD (newOff ins) d) =
          run M (srcPos sm) ins.length is fuel 0 d

theorem inj_of_mono (φ : Nat → Nat) (hmono : ∀ a b, a < b → φ a < φ b) (a b : Nat)
    (h : φ a = φ b) : a = b := by
  rcases Nat.lt_trichotomy a b with hlt | heq | hgt
  · have := hmono a b hlt; omega
  · exact heq
  · have := hmono b a hgt; omega

/-- What is proved of `C11_full`: it holds for every machine that is equivariant under the
    converter's offset map, given that the converted source map answers position queries like
    the original one (`hpos`; true when every source-map key is an instruction offset, which
    holds for compiler output: `Props/C11VM.lean: C11_positions`).
    The VM model is not an instance of `Machine`; its equivariance and its run-level theorem are
    `Props/C11VM.lean: vm_equivariant`, `C11_vm`. -/
theorem C11_partial {δ ρ : Type} (M : Machine δ ρ)
    (hM : ∀ ins, M.Equivariant (newOff ins))
    (hpos : ∀ ins sm out m, convFn ins sm = .ok (out, m) → ∀ o, srcPos m (newOff ins o) = srcPos sm o) :
    C11_full M := by
  intro ins sm is h
  obtain ⟨out, m, hc, hd, hlen, _⟩ := conv_decodes ins sm is h
  refine ⟨out, m, _, hc, hd, ?_⟩
  intro fuel d
  have := reloc_sim M (newOff ins) (inj_of_mono _ (newOff_strict_mono ins)) (hM ins) (srcPos sm) (srcPos m) (hpos ins sm out m hc)
    ins.length is fuel 0 d
  rw [newOff_zero, ← hlen] at this
  exact this

/-- non-vacuity of `Equivariant`: a machine whose JUMP continues at its operand and whose other
    instructions fall through is equivariant under the offset map of `JUMP 3; NULL` -/
example : (⟨fun _ x d => if x.op = OpJump then (match x.args with | [t] => .goto t d | _ => .halt 0) else .next d,
    fun _ d => d, 1⟩ : Machine Unit Nat).Equivariant (newOff [12, 0, 3, 21]) := by
  intro posOf posOf' _ x d
  simp only [relocInstr, Effect.map]
  by_cases hx : x.op = OpJump
  · simp only [hx, if_true]
    have : isJumpClass OpJump = true := by decide
    simp only [this, if_true, relocArgs]
    match x.args with
    | [] => simp
    | [t] => simp [OpJump, convKeepZeroOp]
    | _ :: _ :: _ => simp
  · simp [hx]

end UgoVerif.Props.C11

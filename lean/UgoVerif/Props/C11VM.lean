import UgoVerif.Proofs.RelocConvMain
import UgoVerif.Proofs.RelocPos
/-
  C11, behavioural half on the VM model (`VM/*.lean`): a program in the version-1 layout run by
  the version-1 reading of the VM (`Spec/RelocVM.lean`: `stepW false`, `runFromW false` — the VM model
  with the operands of JUMP, JUMPFALSY, ANDJUMP, ORJUMP, SETUPTRY read 2 bytes wide) and its
  conversion (`convCodes` = `convFn` on every function) run by the VM model return the same outcome.

  `vm_equivariant` is the VM-model counterpart of `Spec.Reloc.Machine.Equivariant`, for several
  functions with one offset map each: the abstract `Machine` of `Spec/Reloc.lean` is a one-function,
  instruction-level machine and cannot hold the byte-level, multi-frame VM model; the relation
  `Proofs/RelocRel.lean: R` is the relocation relation of DESIGN §5 spelled out on `VM.State`.
  `reloc_vm` covers any pair of programs related by `CodeRel`, in particular a constant shift
  `φ = (· + d)` of a function in the current layout (`wide = true`).
-/
namespace UgoVerif.Props.C11VM
open UgoVerif UgoVerif.Go UgoVerif.VM UgoVerif.VM.Reloc
open UgoVerif.Model.Bytecode UgoVerif.Model.V1 UgoVerif.Spec.Reloc

/-- **Equivariance of the VM model, one instruction.**  `P` gives, per function index, the source
    stream (layout `P.wide`), the target stream (current layout), the offset map `P.Φ c` and the
    instruction offsets `P.BB c` (`P.OK`: they are related by `CodeRel`).  From two states related by
    the relocation relation at an instruction boundary (`RB`: equal except code, `ip ↦ Φ ip`, saved
    ips of the frames, handler catch/finally/returnTo addresses), one instruction of the source VM
    and one `VM.step` end the same way — same `Ctl`, or the same Go panic / model exit — in related
    states; related at an instruction boundary again when the loop goes on. -/
theorem vm_equivariant (P : Params) (hP : P.OK) (F : FloatOps) (s t : State) (h : RB P s t) :
    (∃ r s' t', exec (stepW P.wide F) s = (.ok r, s') ∧ exec (step F) t = (.ok r, t') ∧
        RM P s' t' ∧ (r = .next → RB P s' t')) ∨
    (∃ e s' t', exec (stepW P.wide F) s = (.error e, s') ∧ exec (step F) t = (.error e, t') ∧ RM P s' t') := by
  rcases (rel_step hP F).elim h with ⟨a, b, s', t', h1, h2, hab, hRM, hRB⟩ | ⟨e, s', t', h1, h2, hE⟩
  · subst hab
    exact Or.inl ⟨a, s', t', h1, h2, hRM, hRB⟩
  · exact Or.inr ⟨e, s', t', h1, h2, hE⟩

/-- in the current layout the source VM is the VM model itself -/
theorem runFromW_true (F : FloatOps) (fuel : Nat) (g : V) (args : List V) (s0 : State) :
    runFromW true F fuel g args s0 = runFrom F fuel g args s0 := by
  unfold runFromW
  rw [stepW_true]
  exact runFromG_step F fuel g args s0

/-- **Run-level relocation theorem** for any two programs related by `CodeRel` (`P.OK`), from two VMs
    that hold the same data and no frame in use (`D`; two new VMs: `D_new`): same outcome of `Run`
    for every fuel, globals, arguments. -/
theorem reloc_vm (P : Params) (hP : P.OK) (F : FloatOps) (fuel : Nat) (g : V) (args : List V) (s0 t0 : State)
    (h : D P s0 t0) : (runFromW P.wide F fuel g args s0).1 = (runFrom F fuel g args t0).1 :=
  vm_reloc hP F fuel g args h

/-- **C11 on the VM model.**  `cs` = the functions of a version-1 program (every function decodes in
    the version-1 table, its jump / try operands are instruction offsets and it ends with RETURN:
    `WFProg`), `heap`/`consts`/`mainFn` the rest of the bytecode (function cells refer to functions of
    `cs`).  A new VM reading `cs` in the version-1 layout and a new VM (the VM model) over the
    converted functions `convCodes cs` return the same outcome of `Run` — value, run-time error,
    escaping Go panic, model exit or out-of-fuel — for every float semantics, fuel, globals and
    arguments. -/
theorem C11_vm (F : FloatOps) (cs : Array Code) (hwf : WFProg cs) (heap : Array Cell) (consts : Array V)
    (mainFn : Addr) (nm : Nat) (hfn : ∀ (a : Nat) k fr, heap[a]? = some (Cell.fn k fr) → k < cs.size)
    (fuel : Nat) (g : V) (args : List V) :
    (runFromW false F fuel g args (newState cs heap consts mainFn nm)).1 =
      (runFrom F fuel g args (newState (convCodes cs) heap consts mainFn nm)).1 :=
  vm_reloc (P := convParams cs) (convParams_OK cs hwf) F fuel g args
    (D_new (convParams cs) heap consts mainFn nm (fun a k fr hk => convParams_entry cs hwf k (hfn a k fr hk)))

/-- the hypotheses of `C11_vm` are satisfiable: `JUMPFALSY 8; CONSTANT 0; RETURN 1; NULL; RETURN 1` -/
example : WFProg #[{ insts := #[13, 0, 8, 1, 0, 0, 39, 1, 21, 39, 1], numParams := 0, numLocals := 0, variadic := false }] := by
  intro k hk
  have hk0 : k = 0 := by
    have : k < 1 := hk
    omega
  subst hk0
  exact ⟨[⟨0, 13, [8]⟩, ⟨3, 1, [0]⟩, ⟨6, 39, [1]⟩, ⟨8, 21, []⟩, ⟨9, 39, [1]⟩], by decide,
    ⟨by decide, ⟨[⟨0, 13, [8]⟩, ⟨3, 1, [0]⟩, ⟨6, 39, [1]⟩, ⟨8, 21, []⟩], ⟨9, 39, [1]⟩, rfl, rfl⟩⟩⟩

/-- and the conversion of that function has the jump target moved from 8 to 10 -/
example : (convCode { insts := #[13, 0, 8, 1, 0, 0, 39, 1, 21, 39, 1], numParams := 0, numLocals := 0, variadic := false }).insts =
    #[13, 0, 0, 0, 10, 1, 0, 0, 39, 1, 21, 39, 1] := by decide

/-- **Positions** (`hpos` of `Props.C11.C11_partial`): when the keys of the source map are instruction
    offsets (the compiler records `SourceMap[len(instructions)]` before emitting an instruction), the
    converted source map answers `SourcePos` at the relocated offset like the original at the
    original offset — for every offset, also inside an instruction and behind the stream. -/
theorem C11_positions (ins : Bytes) (sm : SrcMap) (is : List Instr) (hd : decodeV1 ins = some is)
    (hkeys : ∀ k p, (k, p) ∈ sm → ∃ x ∈ is, x.off = k)
    (out : Bytes) (m : SrcMap) (hc : convFn ins sm = .ok (out, m)) :
    ∀ o, srcPos m (newOff ins o) = srcPos sm o :=
  UgoVerif.Proofs.RelocPos.srcPos_conv ins sm is hd hkeys out m hc

/-- **Full statement on the VM model** (not proved): `C11_vm` for every decodable version-1 program,
    without the well-formedness `WF1` of its functions.  `C11_vm` is the part proved; what `WF1`
    excludes are streams whose jumps go into the middle of an instruction or behind the stream and
    functions that run off their end — there the Go index panic of the instruction fetch carries the
    stream length in its text, which differs between the layouts. -/
def C11_vm_full : Prop :=
  ∀ (F : FloatOps) (cs : Array Code), (∀ k, k < cs.size → ∃ is, decodeV1 (cs[k]!).insts.toList = some is) →
    ∀ (heap : Array Cell) (consts : Array V) (mainFn : Addr) (nm : Nat),
      (∀ (a : Nat) k fr, heap[a]? = some (Cell.fn k fr) → k < cs.size) →
      ∀ (fuel : Nat) (g : V) (args : List V),
        (runFromW false F fuel g args (newState cs heap consts mainFn nm)).1 =
          (runFrom F fuel g args (newState (convCodes cs) heap consts mainFn nm)).1

end UgoVerif.Props.C11VM

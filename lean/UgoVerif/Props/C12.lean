import UgoVerif.Proofs.ModStore
import UgoVerif.Proofs.Copy
import UgoVerif.Proofs.ModCache
/-
  C12 — a module is loaded once per run and every import sees the same object.

  Compile side: Model/ModStore.lean (moduleStore, checkCyclicImports, the store part of
  compileImportExpr), tied by request `ms` of the `modules` stream.
  Run side: the VM model (VM/Step.lean `execLoadModule`, `execStoreModule`, VM/Copy.lean),
  tied by the lock-step `vm` requests of the `modules` stream.
-/
namespace UgoVerif.Props.C12
open UgoVerif UgoVerif.Go UgoVerif.VM
open UgoVerif.Model.ModStore UgoVerif.Proofs.ModStore UgoVerif.Proofs.Copy UgoVerif.Proofs.ModCache

private theorem main_post {mm : ModMap} {fuel : Nat} {imports : List String} {st : St}
    (hmain : mm.get "(main)" ≠ some .builtin) (h : compileMain mm fuel imports = .ok st) :
    Post mm ["(main)"] imports {} st :=
  (compile_post mm).2 fuel ["(main)"] imports {} st
    (by intro p hp; simp at hp; subst hp; exact hmain) (inv_empty mm) h

/-- One (kind, constant index, module index) per module name, across all forked compilers:
    every LOADMODULE emitted anywhere during the compilation carries the store's triple for its
    module name, so two import expressions naming the same module are compiled with identical
    operands; and every module index is below `NumModules`. -/
theorem store_functional (mm : ModMap) (fuel : Nat) (imports : List String) (st : St)
    (hmain : mm.get "(main)" ≠ some .builtin) (h : compileMain mm fuel imports = .ok st) :
    (∀ n it1 it2, (n, it1) ∈ st.emitted → (n, it2) ∈ st.emitted → it1 = it2) ∧
    (∀ n it, (n, it) ∈ st.emitted → it.modIdx < numModules st) := by
  obtain ⟨⟨hok, hem, _, _⟩, _, _, _⟩ := main_post hmain h
  constructor
  · intro n it1 it2 h1 h2
    have a := hem _ h1
    have b := hem _ h2
    simp at a b
    rw [a] at b
    exact Option.some.inj b
  · intro n it h1
    exact hok n it (hem _ h1)

/-- … and the triple of a name never changes while compilation proceeds (forks share the store):
    compiling further imports leaves every stored triple as it is. -/
theorem store_stable (mm : ModMap) (fuel : Nat) (path names : List String) (st st' : St)
    (hp : PathOK mm path) (hinv : Inv mm st) (h : compileImports mm fuel path names st = .ok st') :
    ∀ n it, st.store.get n = some it → st'.store.get n = some it :=
  ((compile_post mm).2 fuel path names st st' hp hinv h).2.1

/-- A static import cycle of any length is a compile error: if compilation succeeds, no module
    that was compiled (every module reachable from the main script's imports is) lies on a chain
    of import edges leading back to itself. -/
theorem cycle_rejected (mm : ModMap) (fuel : Nat) (imports : List String) (st : St)
    (hmain : mm.get "(main)" ≠ some .builtin) (h : compileMain mm fuel imports = .ok st) :
    ∀ m, (st.store.get m).isSome → ¬ Chain mm m m := by
  obtain ⟨⟨hok, _, htopo, _⟩, _, _, _⟩ := main_post hmain h
  intro m hm hc
  obtain ⟨it, hg⟩ := Option.isSome_iff_exists.1 hm
  obtain ⟨it', h1, h2⟩ := chain_decreases htopo hc it hg
  rw [hg] at h1
  cases h1
  exact Nat.lt_irrefl _ h2

/-- everything reachable is compiled: the modules the main script imports are stored, and so are
    the imports of every stored source module -/
theorem reachable_compiled (mm : ModMap) (fuel : Nat) (imports : List String) (st : St)
    (hmain : mm.get "(main)" ≠ some .builtin) (h : compileMain mm fuel imports = .ok st) :
    (∀ m ∈ imports, (st.store.get m).isSome) ∧
    (∀ m is, (st.store.get m).isSome → mm.get m = some (.source is) → ∀ i ∈ is, (st.store.get i).isSome) := by
  obtain ⟨⟨_, _, htopo, _⟩, _, hall, _⟩ := main_post hmain h
  refine ⟨hall, ?_⟩
  intro m is hm hsrc i hi
  obtain ⟨it, hg⟩ := Option.isSome_iff_exists.1 hm
  obtain ⟨it', h1, _⟩ := htopo m it is hg hsrc i hi
  simp [h1]

/-- the local form of cycle detection: importing a module that is being compiled (it is on the
    path of parent compilers and not stored yet) is the error "cyclic module import" -/
theorem cycle_rejected_at (mm : ModMap) (fuel : Nat) (path : List String) (name : String) (st : St)
    (is : List String) (hsrc : mm.get name = some (.source is)) (hp : name ∈ path)
    (hn : st.store.get name = none) :
    compileImport mm (fuel+1) path name st = .error (.cyclic name) := by
  simp [compileImport, hsrc, hn, checkCyclic, hp]

/-- An unknown module is a compile error at the import expression … -/
theorem unknown_rejected_at (mm : ModMap) (fuel : Nat) (path : List String) (name : String) (st : St)
    (h : mm.get name = none) : compileImport mm (fuel+1) path name st = .error (.notFound name) := by
  simp [compileImport, h]

/-- … hence a successful compilation stored only modules the module map knows, and every import
    expression of every compiled module names a known module. -/
theorem unknown_rejected (mm : ModMap) (fuel : Nat) (imports : List String) (st : St)
    (hmain : mm.get "(main)" ≠ some .builtin) (h : compileMain mm fuel imports = .ok st) :
    (∀ m ∈ imports, (mm.get m).isSome) ∧
    (∀ m is, (st.store.get m).isSome → mm.get m = some (.source is) → ∀ i ∈ is, (mm.get i).isSome) := by
  obtain ⟨⟨_, _, _, hknown⟩, _, _, _⟩ := main_post hmain h
  obtain ⟨r1, r2⟩ := reachable_compiled mm fuel imports st hmain h
  constructor
  · intro m hm
    obtain ⟨it, hg⟩ := Option.isSome_iff_exists.1 (r1 m hm)
    exact hknown m it hg
  · intro m is hm hsrc i hi
    obtain ⟨it, hg⟩ := Option.isSome_iff_exists.1 (r2 m is hm hsrc i hi)
    exact hknown i it hg

/-- non-vacuity: a diamond over a builtin module compiles, a 3-cycle and an unknown module do not -/
example : (compileMain [("a", .source ["b", "c"]), ("b", .source ["d"]), ("c", .source ["d", "b"]), ("d", .builtin)] 50 ["a", "c"]).toOption.map
    (fun st => (numModules st, st.emitted.length)) = some (4, 7) := by decide
example : (match compileMain [("a", .source ["b"]), ("b", .source ["c"]), ("c", .source ["a"])] 50 ["a"] with
    | .error e => some e | .ok _ => none) = some (.cyclic "a") := by decide
example : (match compileMain [("a", .source ["zz"])] 50 ["a"] with
    | .error e => some e | .ok _ => none) = some (.notFound "zz") := by decide

/-- The value STOREMODULE caches is built from fresh objects only — every array, map,
    function, error object reachable from it (through arrays and maps, to any depth `d`) lies at
    an address that did not exist before the copy, and nothing that existed is modified.  Hence
    the cached module shares no mutable object with the Bytecode constant it was copied from
    (nor with the Go-side attribute map): builtin-module state is private per VM.  (Captured
    variable boxes of closures are shared on purpose — `CompiledFunction.Copy` keeps `Free` —
    and constants never carry free variables.) -/
theorem copy_fresh (fuel : Nat) (h : Array Cell) (v v' : V) (h' : Array Cell)
    (hc : copyVal fuel h v = some (v', h')) :
    (h.size ≤ h'.size ∧ ∀ i, i < h.size → h'[i]? = h[i]?) ∧ ∀ d, FreshVal h.size h' d v' :=
  copyVal_spec fuel h v v' h' hc

/-- non-vacuity: copying the nested constant `{k: [1]}` -/
example : ∃ v' h', copyVal 5 #[.arr #[.int 1], .map [([107], .arr 0 0 1)]] (.map 1) = some (v', h') ∧ v' = .map 3 :=
  ⟨_, _, rfl, rfl⟩

/-- No instruction other than STOREMODULE changes the module
    cache — whatever the instruction does, including raising errors, unwinding frames, panicking
    or leaving the modelled subset; in particular LOADMODULE only reads it. -/
theorem only_storemodule_writes_cache (F : FloatOps) (op : Nat) (hop : op ≠ OpStoreModule)
    (s : State) : (exec (dispatch F op) s).2.modules = s.modules :=
  (pm_dispatch F op hop).h s

/-- … and neither do the instruction fetch and the H1 trace record, so a whole `step` whose
    opcode is not STOREMODULE leaves the cache as it is (`exec_step`: `step` = fetch ; dispatch). -/
theorem step_keeps_cache (F : FloatOps) (s s1 : State) (op : Nat)
    (hf : exec fetchOp s = (.ok op, s1)) (hop : op ≠ OpStoreModule) :
    (exec (step F) s).2.modules = s.modules := by
  rw [exec_step, hf]
  simp only
  rw [(pm_dispatch F op hop).h s1]
  have := pm_fetchOp.h s
  rw [hf] at this
  exact this

/-- STOREMODULE leaves the cache alone (when it fails) or overwrites exactly the entry named by
    its operand -/
theorem storemodule_writes_one (s : State) :
    (exec execStoreModule s).2.modules = s.modules ∨
    ∃ midx v, exec (opnd2 1) s = (.ok midx, s) ∧ (exec execStoreModule s).2.modules = s.modules.set! midx v :=
  storeModule_spec s

/-- the prologue of `Run` only grows the cache: what is loaded stays loaded (a VM that is run
    again, REPL), new entries are nil -/
theorem prologue_grows_cache (g : V) (args : List V) (s : State) (j : Nat) (hj : j < s.modules.size) :
    (exec (prologue g args) s).2.modules[j]? = s.modules[j]? :=
  (pg_prologue g args).h s j hj

/-- The trace invariant with ghost counters: `stores m` counts the executed STOREMODULE m instructions, `misses m` the LOADMODULE m
    instructions that found entry m nil (`gstep`; its state component is exactly `step`'s:
    `gstep_state`).  Along every execution (`Reach`: any number of instructions, any interleaving
    of opcodes, from any state satisfying the invariant — e.g. a new VM after its prologue: all
    entries nil, all counters 0):
      a cache entry that is not nil has an executed STOREMODULE behind it, i.e.
      `stores m = 0 → cache[m] = nil`: LOADMODULE m can only hit after a STOREMODULE m. -/
theorem cache_nil_until_stored (F : FloatOps) (a b : Ghost × State)
    (hr : Reach F a b) (hinv : GInv a.1 a.2) : GInv b.1 b.2 :=
  reach_inv F hr hinv

theorem ghost_is_step (F : FloatOps) (g : Ghost) (s : State) : (gstep F (g, s)).2 = (exec (step F) s).2 :=
  gstep_state F g s

/-- non-vacuity: the state of a new VM with three module slots satisfies the invariant -/
example : GInv {} { (default : State) with modules := #[.nil, .nil, .nil] } := by
  intro m v hm hv
  have : v = .nil := by
    match m, hm with
    | 0, hm => simp at hm; exact hm.symm
    | 1, hm => simp at hm; exact hm.symm
    | 2, hm => simp at hm; exact hm.symm
    | n+3, hm => simp at hm
  exact absurd this hv

/-- The full run-side statement: along every execution from a new VM, every module is missed
    (= a load of it, for a source module its body, is started) at most once.
    This is FALSE of the code — `known_findings.jsonl` `C12:body-rerun-after-throw` (a body that ends
    in an error leaves the entry nil, the next import misses again) and
    `C12:body-reentered-via-global` (through a function stored in the globals a body reaches an
    import of its own module while its entry is still nil); both are reproduced on the real VM and
    in the model by the `modules` stream on every check.  What the theorems above establish instead:
    the only writer of the cache is STOREMODULE, a hit is only possible after a STOREMODULE of that
    module and then yields the stored object, so at most one *completed* load is ever observed,
    and a second *start* needs a miss, i.e. an earlier start that did not (yet) complete. -/
def C12_full : Prop :=
  ∀ (F : FloatOps) (s0 : State) (b : Ghost × State),
    (∀ (m : Nat) (v : V), s0.modules[m]? = some v → v = V.nil) → Reach F ({}, s0) b → ∀ m, b.1.misses m ≤ 1

/-- what is proved of it (the partial statement): with the same premises, every entry that is
    not nil at the end has been stored. -/
theorem C12_partial (F : FloatOps) (s0 : State) (b : Ghost × State)
    (h0 : ∀ (m : Nat) (v : V), s0.modules[m]? = some v → v = V.nil) (hr : Reach F ({}, s0) b) :
    ∀ (m : Nat) (v : V), b.2.modules[m]? = some v → v ≠ V.nil → 0 < b.1.stores m :=
  reach_inv F hr (fun m v hm hv => absurd (h0 m v hm) hv)

end UgoVerif.Props.C12

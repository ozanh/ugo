import UgoVerif.Proofs.Sym
import UgoVerif.Gen.SymFacts
import UgoVerif.Proofs.CompileGbEval
/-
  C13 — a disabled builtin cannot be reached by any script.

  Model: `Model/Sym.lean` (symbol_table.go statement by statement, the module-table
  lines of compileModule, the first lines of optimizerEval.resetCompiler), tied to
  the code by the `symops` correspondence stream; structural facts regenerated
  from the Go source in `Gen/SymFacts.lean`.  The theorems hold for every table of
  builtin names `B`; the examples instantiate the regenerated `BuiltinsMap`.
-/
namespace UgoVerif.Props.C13
open UgoVerif UgoVerif.Go UgoVerif.Model.Sym UgoVerif.Proofs.Sym UgoVerif.Gen.SymFacts

/-
  The regenerated structural facts `fact_*`: each equation compares a table of `Gen/SymFacts.lean`,
  which `goextract` prints from the Go source, with the literal written here (the proof only unfolds
  the table).  So an edit of the Go code that
  removes one of these features is noticed once `Gen/SymFacts.lean` has been printed again from the
  edited source: the new table differs from the literal and the equation fails to check. -/

/-- (a) the only `BuiltinsMap` lookup of `Resolve` sits in the statement guarded by
    `!ok && st.parent == nil && !st.isBuiltinDisabled(name)`, in this order -/
theorem fact_resolve_guard :
    resolveFallbackGuard = ["!ok", "st.parent == nil", "!st.isBuiltinDisabled(name)"] ∧
    resolveBuiltinLookups = 1 ∧ resolveBuiltinLookupsGuarded = resolveBuiltinLookups := ⟨rfl, rfl, rfl⟩

/-- the helpers the guard relies on read the *root* scope's set -/
theorem fact_isBuiltinDisabled :
    isBuiltinDisabledBody = ["root := st.root()", "_, ok := root.disabledBuiltins[name]", "return ok"] ∧
    rootBody = ["if st.parent == nil { return st }", "return st.parent.root()"] ∧
    disabledBuiltinsMapBody = ["if st == nil { return nil }", "root := st.root()", "return root.disabledBuiltins"] :=
  ⟨rfl, rfl, rfl⟩

/-- BUILTIN symbols are created only by `Resolve` -/
theorem fact_builtin_scope_sites : builtinScopeSites = [("symbol_table.go", "SymbolTable.Resolve")] := rfl

/-- `DisableBuiltin` evicts a builtin symbol cached by an earlier `Resolve` -/
theorem fact_disable_evicts :
    disableBuiltinLoop = ["root.disabledBuiltins[n] = struct{}{}",
      "if s, ok := root.store[n]; ok && s.Scope == ScopeBuiltin { delete(root.store, n) }"] := rfl

/-- (b) `compileModule` hands the forked compiler a new table that received a copy of the
    disabled set of the compiler's table -/
theorem fact_compileModule_copies :
    compileModuleTableInit = ["symbolTable := NewSymbolTable()",
      "symbolTable.disabledBuiltins = copyMapStringSet(c.symbolTable.disabledBuiltinsMap())",
      "fork := c.fork(modFile, modulePath, moduleMap, symbolTable)"] ∧
    copyMapStringSetBody = ["if m == nil { return nil }", "n := make(map[string]struct{}, len(m))",
      "for k, v := range m { n[k] = v }", "return n"] := ⟨rfl, rfl⟩

/-- (c) the optimizer's evaluator builds its table (new or reset), copies the disabled and
    shadowed names, and only then compiles with that table -/
theorem fact_evaluator_copies :
    resetCompilerPrefix = ["if ev.symtab == nil { ev.symtab = NewSymbolTable() } else { ev.symtab.reset() }",
      "ev.symtab.EnableParams(false)", "optimCopyBuiltinStates(ev.symtab, so.compSymTab)",
      "optimCopyBuiltinStatesFromScope(ev.symtab, so.scope)"] ∧
    resetCompilerSymtabField = "ev.symtab" ∧ "ev.resetCompiler(so)" ∈ evalBeforeCompile :=
  ⟨rfl, rfl, List.mem_cons_self⟩

/-- every place that creates a symbol table is one the model covers -/
theorem fact_newSymbolTable_sites :
    newSymbolTableSites = [("compiler.go", "newCompiler"), ("compiler.go", "Compiler.compileModule"),
      ("eval.go", "NewEval"), ("optimizer.go", "optimizerEval.resetCompiler"),
      ("symbol_table.go", "SymbolTable.Fork")] := rfl

/-- (d) GETBUILTIN is emitted at exactly two places: `compileIdent` with the index of the
    symbol `Resolve` returned in scope BUILTIN, and destructuring with the private `:makeArray` -/
theorem fact_getbuiltin_sites :
    getBuiltinEmitSites = [("compiler_nodes.go", "Compiler.compileAssignStmt", "int(BuiltinMakeArray)"),
      ("compiler_nodes.go", "Compiler.compileIdent", "symbol.Index")] ∧
    compileIdentFirstStmt = "symbol, ok := c.symbolTable.Resolve(node.Name)" ∧
    compileIdentSwitchTag = "symbol.Scope" ∧
    compileIdentBuiltinCase = ["c.emit(node, OpGetBuiltin, symbol.Index)"] ∧
    opGetBuiltinUses = [("compiler.go", "MakeInstruction", "1"), ("opcodes.go", "(package)", "3"),
      ("optimizer.go", "canOptimizeInsts", "2"), ("vm.go", "VM.loop", "1")] := ⟨rfl, rfl, rfl, rfl, rfl⟩

/-- distinct builtin names have distinct indices in the regenerated `BuiltinsMap`, and
    `:makeArray` (not a lexable identifier) is the builtin destructuring uses -/
theorem fact_builtins_distinct :
    (builtinsMap.map (·.2)).Nodup ∧ (builtinsMap.map (·.1)).Nodup ∧
    mapGet builtinsMap [58, 109, 97, 107, 101, 65, 114, 114, 97, 121] = some builtinMakeArray := by
  -- the indices are 0, 1, 2, … in table order; that the names differ is a fact of the table only
  have hidx : builtinsMap.map (·.2) = List.range builtinsMap.length := rfl
  exact ⟨hidx ▸ List.nodup_range, by decide +kernel, by decide +kernel⟩

theorem resolve_disabled_chain (B : Builtins) (ch ch' : Chain) (n : Name) (s : Symbol)
    (hok : ChainOK B ch) (hd : n ∈ rootDisabled ch) (hr : resolve B ch n = .ok (ch', some s)) :
    s.scope ≠ .builtin := by
  intro hb
  exact ((resolve_rel B n ch ch' (some s) hok hr).2 s rfl hb).1 hd

/-- For every table reachable by *any* sequence of API calls (NewSymbolTable,
    Fork, Parent, Define*, SetParams, Resolve, DisableBuiltin in any order and on any table,
    module-table and evaluator-table construction) from the empty heap: if `n` is in the disabled
    set of the table's root, `Resolve` does not return a BUILTIN symbol for `n`. -/
theorem resolve_disabled (B : Builtins) (ops : List Op) (id : Nat) (n : Name) (ch' : Chain) (s : Symbol)
    (hd : n ∈ rootDisabled (tabsOf (run B [] ops) (some id)))
    (hr : resolve B (tabsOf (run B [] ops) (some id)) n = .ok (ch', some s)) : s.scope ≠ .builtin :=
  resolve_disabled_chain B _ ch' n s (chainOf_ok B _ id (run_ok B ops [] trivial)) hd hr

def nLen : Name := [108, 101, 110]

/-- non-vacuity: `len` disabled on a root, a function scope forked: the name is in the governing
    set and `Resolve` answers "unresolved" -/
example :
    let H := run builtinsMap [] [.newTable, .disable (some 0) [nLen], .fork (some 0) false]
    nLen ∈ rootDisabled (tabsOf H (some 1)) ∧
    (resolve builtinsMap (tabsOf H (some 1)) nLen).isOk = true := by decide

/-- without disabling, the same table resolves `len` to the builtin (so the theorem is not vacuous
    because builtins never resolve) -/
example : ∃ ch', resolve builtinsMap (tabsOf (run builtinsMap [] [.newTable, .fork (some 0) false]) (some 1)) nLen
    = .ok (ch', some { name := nLen, index := 5, scope := .builtin }) := ⟨_, rfl⟩

/-- a reference to a disabled name that no enclosing scope declares is unresolved (compile error) -/
theorem resolve_disabled_undeclared (B : Builtins) (n : Name) : ∀ (ch : Chain), ch ≠ [] →
    n ∈ rootDisabled ch → (∀ t, t ∈ ch → mapGet t.store n = none) →
    ∃ ch', resolve B ch n = .ok (ch', none)
  | [], h, _, _ => absurd rfl h
  | [st], _, hd, hs => ⟨[st], resolve_root_disabled B st n (hs st List.mem_cons_self) hd⟩
  | st :: p :: pps, _, hd, hs => by
    have h1 : mapGet st.store n = none := hs st (by simp)
    obtain ⟨ps', hr⟩ := resolve_disabled_undeclared B n (p :: pps) (by simp)
      (by simpa [rootDisabled, rootTab] using hd) (fun t ht => hs t (by simp [ht]))
    exact ⟨st :: ps', by simp [resolve, h1, hr]⟩

example : ∃ ch', resolve builtinsMap [forkTab newTab true, { newTab with disabledBuiltins := some [nLen] }] nLen
    = .ok (ch', none) :=
  resolve_disabled_undeclared builtinsMap nLen _ (by simp) (by decide) (by decide)

/-- Scopes: the table `Fork` returns is governed by the same root set -/
theorem fork_keeps_disabled (B : Builtins) (H : Heap) (id : Nat) (block : Bool) (hid : id < H.length) :
    rootDisabled (tabsOf (step B H (.fork (some id) block)).1 (some H.length)) =
    rootDisabled (tabsOf H (some id)) := fork_rootDisabled B H id block hid

example : (1 : Nat) < (run builtinsMap [] [.newTable, .disable (some 0) [nLen], .fork (some 0) false]).length := by
  decide

/-- The same for modules: the table `compileModule` creates has exactly the disabled
    set of the importing compiler's table -/
theorem module_table_keeps_disabled (ch : Chain) (t : Tab) (h : newModuleTab ch = .ok t) :
    t.store = [] ∧ ∀ n, n ∈ disabledSet t ↔ n ∈ rootDisabled ch := newModuleTab_spec ch t h

example : ∃ t, newModuleTab [forkTab newTab false, { newTab with disabledBuiltins := some [nLen] }] = .ok t ∧
    nLen ∈ disabledSet t := ⟨_, rfl, by decide⟩

/-- The table the optimizer's evaluator compiles an expression with
    (created or reset by `resetCompiler`) is empty and disables every name that is disabled in the
    compiler's table, shadowed in any scope of the compiler's table, or shadowed in the optimizer's
    scope chain at the call site. -/
theorem evaluator_table_disabled (B : Builtins) (ev : Option Tab) (comp : Chain) (scopes : List (List Name))
    (t : Tab) (h : evalResetTab ev comp scopes = .ok t) :
    t.store = [] ∧ (∀ n, n ∈ rootDisabled comp → n ∈ disabledSet t) ∧
    (∀ n, n ∈ shadowedAlong comp → n ∈ disabledSet t) ∧
    (∀ sc, sc ∈ scopes → ∀ n, n ∈ sc → n ∈ disabledSet t) :=
  have ⟨h1, h2⟩ := evalResetTab_adds ev comp scopes t h
  ⟨h1, fun n hn => (h2 n).2 (.inl hn), fun n hn => (h2 n).2 (.inr (.inl hn)),
    fun sc hsc n hn => (h2 n).2 (.inr (.inr ⟨sc, hsc, hn⟩))⟩

/-- hence the evaluator cannot resolve any of those names -/
theorem evaluator_cannot_resolve (B : Builtins) (ev : Option Tab) (comp : Chain) (scopes : List (List Name))
    (t : Tab) (h : evalResetTab ev comp scopes = .ok t) (n : Name)
    (hn : n ∈ rootDisabled comp ∨ n ∈ shadowedAlong comp ∨ ∃ sc, sc ∈ scopes ∧ n ∈ sc) :
    resolve B [t] n = .ok ([t], none) := by
  have ⟨h1, h2⟩ := evalResetTab_adds ev comp scopes t h
  exact resolve_root_disabled B t n (by rw [h1]; rfl) ((h2 n).2 hn)

example : ∃ t, evalResetTab (some { newTab with store := [(nLen, { name := nLen, index := 5, scope := .builtin })] })
      [{ newTab with shadowedBuiltins := [[105, 110, 116]], disabledBuiltins := some [nLen] }] [[[99, 97, 112]]] = .ok t ∧
    disabledSet t = [nLen, [105, 110, 116], [99, 97, 112]] := ⟨_, rfl, by decide⟩

/-- After the script declares the (disabled) name, `Resolve` in that scope
    answers with the script's own symbol, never a builtin. -/
theorem shadow_then_resolve (B : Builtins) (ch ch1 : Chain) (n : Name) (s : Symbol) (e : Bool)
    (hok : ChainOK B ch) (hd : n ∈ rootDisabled ch) (h : defineLocal B ch n = .ok (ch1, s, e)) :
    resolve B ch1 n = .ok (ch1, some s) ∧ s.scope ≠ .builtin := by
  obtain ⟨hrel, st2, ps2, rfl, hm⟩ := defineLocal_spec B ch n ch1 s e h
  have hres := resolve_hit B st2 ps2 n s hm
  exact ⟨hres, resolve_disabled_chain B _ _ n s (hrel.ok hok) (hrel.rootDisabled n hd) hres⟩

example : ∃ ch1 s e, defineLocal builtinsMap [{ newTab with disabledBuiltins := some [nLen] }] nLen = .ok (ch1, s, e) ∧
    s.scope = .local := ⟨_, _, _, rfl, rfl⟩

/-- a declaration in *any* enclosing scope makes the name resolve to a non-builtin symbol (the
    script's symbol or the free-variable copy of it), in nested functions and blocks -/
theorem shadow_then_resolve_nested (B : Builtins) (n : Name) : ∀ (ch : Chain), ChainOK B ch →
    n ∈ rootDisabled ch → (∃ t, t ∈ ch ∧ (mapGet t.store n).isSome = true) →
    ∃ ch' s, resolve B ch n = .ok (ch', some s) ∧ s.scope ≠ .builtin := by
  intro ch hok hd hex
  have key : ∀ (ch : Chain), (∃ t, t ∈ ch ∧ (mapGet t.store n).isSome = true) →
      ∃ ch' s, resolve B ch n = .ok (ch', some s) := by
    intro ch
    induction ch with
    | nil => rintro ⟨t, ht, _⟩; cases ht
    | cons st ps ih =>
      rintro ⟨t, ht, hs⟩
      cases hg : mapGet st.store n with
      | some sym => exact ⟨_, sym, resolve_hit B _ _ _ _ hg⟩
      | none =>
        have htps : t ∈ ps := by
          simp only [List.mem_cons] at ht
          rcases ht with ht | ht
          · subst ht; simp [hg] at hs
          · exact ht
        obtain ⟨ps', s, hr⟩ := ih ⟨t, htps, hs⟩
        cases ps with
        | nil => cases htps
        | cons p pps =>
          unfold resolve
          simp only [hg, hr]
          split
          · exact ⟨_, _, rfl⟩
          · exact ⟨_, _, rfl⟩
  obtain ⟨ch', s, hr⟩ := key ch hex
  exact ⟨ch', s, hr, resolve_disabled_chain B ch ch' n s hok hd hr⟩

/-- **Persistence across Eval fragments.**  An Eval session threads one symbol table through its
    compile calls; a fragment is any sequence of calls (none of which is the optimizer resetting
    *that* table, which it never owns).  A name disabled before the first fragment stays disabled
    for the table after all fragments, and `Resolve` never answers with the builtin. -/
theorem eval_fragments_persist (B : Builtins) (ops0 : List Op) (fragments : List (List Op)) (id : Nat) (n : Name)
    (hid : id < (run B [] ops0).length)
    (hd : n ∈ rootDisabled (tabsOf (run B [] ops0) (some id)))
    (hnr : ∀ f, f ∈ fragments → ∀ op, op ∈ f → NoReset op) :
    let H := run B (run B [] ops0) fragments.flatten
    n ∈ rootDisabled (tabsOf H (some id)) ∧
    ∀ ch' s, resolve B (tabsOf H (some id)) n = .ok (ch', some s) → s.scope ≠ .builtin := by
  intro H
  have h0 : HeapOK B (run B [] ops0) := run_ok B ops0 [] trivial
  have hm : Mono (run B [] ops0) H := run_mono B _ _ h0 (by
    intro op hop
    obtain ⟨f, hf, hof⟩ := List.mem_flatten.1 hop
    exact hnr f hf op hof)
  have hd' : n ∈ rootDisabled (tabsOf H (some id)) := hm.2 id hid n hd
  exact ⟨hd', fun ch' s hr => resolve_disabled_chain B _ ch' n s (chainOf_ok B _ id (run_ok B _ _ h0)) hd' hr⟩

example :
    let H0 := run builtinsMap [] [.newTable, .disable (some 0) [nLen]]
    0 < H0.length ∧ nLen ∈ rootDisabled (tabsOf H0 (some 0)) := by decide

theorem pair_unique {α : Type} : ∀ (bs : List (α × Nat)), (bs.map (·.2)).Nodup → ∀ a b i, (a, i) ∈ bs → (b, i) ∈ bs → a = b := by
  intro bs
  induction bs with
  | nil => intro _ a b i h; cases h
  | cons p r ih =>
    intro hn a b i ha hb
    simp only [List.map_cons, List.nodup_cons, List.mem_map, not_exists, not_and] at hn
    simp only [List.mem_cons] at ha hb
    rcases ha with ha | ha <;> rcases hb with hb | hb
    · rw [← hb] at ha; exact (Prod.mk.inj ha).1
    · subst ha; exact absurd rfl (hn.1 (b, i) hb)
    · subst hb; exact absurd rfl (hn.1 (a, i) ha)
    · exact ih hn.2 a b i ha hb

theorem mem_of_mapGet : ∀ (B : Builtins) a i, mapGet B a = some i → (a, i) ∈ B := by
  intro B
  induction B with
  | nil => intro a i h; cases h
  | cons p r ih =>
    intro a i h
    obtain ⟨k, v⟩ := p
    unfold mapGet at h
    split at h
    · rename_i hk; cases h; subst hk; exact List.mem_cons_self
    · exact List.mem_cons_of_mem _ (ih a i h)

theorem BInj_of_nodup (B : Builtins) (h : (B.map (·.2)).Nodup) : BInj B :=
  fun a b i ha hb => pair_unique B h a b i (mem_of_mapGet B a i ha) (mem_of_mapGet B b i hb)

theorem builtinsMap_injective : BInj builtinsMap := BInj_of_nodup _ fact_builtins_distinct.1

theorem crun_inv (B : Builtins) (mk : Nat) (D : List Name) (hinj : BInj B) : ∀ (evs : List CEvent) (s : CState),
    CInv B mk D s → AllLegal B mk s evs → CInv B mk D (crun B mk s evs)
  | [], _, h, _ => h
  | e :: es, s, h, hl => crun_inv B mk D hinj es _ (cstep_inv B mk D hinj s e h hl.1) hl.2

/-- an abstract compiler: on success, the operands of all GETBUILTIN instructions of all compiled
    functions of the Bytecode (main script, nested functions, imported source modules), given the
    symbol table state (a reachable heap and the handle of the table handed to the compiler) -/
structure CompilerSem (Prog : Type) where
  compile : Heap → Nat → Prog → Res (List Int)

/-- **Full statement (no_getbuiltin).**  If every name of `D` is disabled in the table handed to the
    compiler, the produced Bytecode contains no GETBUILTIN whose operand is the index of a name in
    `D` (the private `:makeArray`, index `mk`, excepted). -/
def C13_full (B : Builtins) (mk : Nat) {Prog : Type} (C : CompilerSem Prog) : Prop :=
  ∀ (ops0 : List Op) (id : Nat) (D : List Name) (p : Prog) (out : List Int),
    id < (run B [] ops0).length → Covered D (run B [] ops0) id →
    C.compile (run B [] ops0) id p = .ok out →
    ∀ i, i ∈ out → GoodOperand B mk D i

/-- What is assumed about the compiler (not modelled here; `Model/Compile` of DESIGN.md §5):
    a successful compilation is a finite trace of (1) calls of the symbol-table API on tables of
    its own family — the handed table, scopes forked from family tables, module tables built by
    `compileModule` from a family table, evaluator tables built by `resetCompiler` from a family
    table (a reused evaluator table is represented by a fresh one, which `evaluator_table_disabled`
    justifies: the reset table is empty and receives the same names) —, (2) `compileIdent` on a
    family table, (3) the destructuring emission; and its GETBUILTIN operands are exactly those the
    trace emits.  The regenerated facts `fact_getbuiltin_sites`, `fact_newSymbolTable_sites`,
    `fact_builtin_scope_sites`, `fact_compileModule_copies`, `fact_evaluator_copies` pin the code
    features this description relies on. -/
def CompilerDiscipline (B : Builtins) (mk : Nat) {Prog : Type} (C : CompilerSem Prog) : Prop :=
  ∀ (H : Heap) (id : Nat) (p : Prog) (out : List Int), C.compile H id p = .ok out →
    ∃ evs, AllLegal B mk { heap := H, fam := [id], out := [] } evs ∧
      (crun B mk { heap := H, fam := [id], out := [] } evs).out = out

/-- The reduction of `C13_full` to `CompilerDiscipline`: every GETBUILTIN emission goes through `Resolve`
    returning a BUILTIN-scope symbol (or is the fixed `:makeArray`), and `Resolve` on every table
    of the compilation's family is governed by a root set that contains `D`
    (`fork_keeps_disabled`, `module_table_keeps_disabled`, `evaluator_table_disabled`,
    monotonicity), so by `resolve_disabled` no operand names a member of `D`. -/
theorem no_getbuiltin_partial (B : Builtins) (mk : Nat) {Prog : Type} (C : CompilerSem Prog)
    (hinj : BInj B) (hdisc : CompilerDiscipline B mk C) : C13_full B mk C := by
  intro ops0 id D p out hid hcov hc i hi
  obtain ⟨evs, hl, hout⟩ := hdisc _ id p out hc
  have inv0 : CInv B mk D { heap := run B [] ops0, fam := [id], out := [] } :=
    ⟨run_ok B ops0 [] trivial, by
      intro j hj; simp only [List.mem_singleton] at hj; subst hj; exact ⟨hid, hcov⟩,
     by intro i hi; cases hi⟩
  have := (crun_inv B mk D hinj evs _ inv0 hl).out i (by rw [hout]; exact hi)
  exact this

/-- non-vacuity of the trace model: `len` disabled; the main script forks a function scope, declares
    `x`, compiles the identifiers `x` (local) and `int` (builtin 11) and a destructuring: the trace is
    legal and emits GETBUILTIN 11 and GETBUILTIN :makeArray; compiling `len` emits nothing. -/
example :
    let s0 : CState := { heap := run builtinsMap [] [.newTable, .disable (some 0) [nLen]], fam := [0], out := [] }
    let evs : List CEvent := [.api (.fork (some 0) false), .api (.defineLocal (some 1) [120]),
      .ident (some 1) [120], .ident (some 1) [105, 110, 116], .destructure, .ident (some 1) nLen]
    (crun builtinsMap builtinMakeArray s0 evs).out = [11, 47] := by decide


/-
  The compiled Bytecode, over the compiler model: `Model/Compile.lean` is a total model of compiler.go / compiler_nodes.go / symbol_table.go with the
  optimizer off, byte-identical with the real compiler on every generated program (stream `compile`).
  For it the discipline assumed by `no_getbuiltin_partial` is proved: the invariant `GB.Inv` "every
  GETBUILTIN operand emitted so far — in the current stream and in every compiled function of the
  constant pool — is `:makeArray` or the index of a builtin name outside `D`; every BUILTIN-scope
  symbol in any table of the chain carries such an index; `D` is contained in the root table's
  disabled set" is carried through the mutual compile functions, all block / function scopes
  (`Fork`/`Parent`), loops and back-patches: the rules `GB.rules c` of `Proofs/CompileGbMain.lean`
  instantiate the walk over the compiler of `Proofs/CompileLogic.lean`.
  Not in that model: import expressions (module compilation: `fact_compileModule_copies`,
  `module_table_keeps_disabled` and the `disable` oracle) and the optimizer
  (`fact_evaluator_copies`, `evaluator_table_disabled` and the `disable` oracle). -/

end UgoVerif.Props.C13

namespace UgoVerif.Props.C13
open UgoVerif UgoVerif.Go UgoVerif.Ast UgoVerif.Compile UgoVerif.Compile.GB UgoVerif.Eval

/-- `i` is the operand of a GETBUILTIN instruction of the stream `a`: `p` is an instruction
    boundary when `a` is decoded from offset 0 (`Walk`), the opcode byte there is GETBUILTIN and the
    next byte (its one-byte operand) is `i` -/
def GetBuiltinAt (a : Array UInt8) (i : Nat) : Prop :=
  ∃ p op b, Walk a 0 p ∧ a[p]? = some op ∧ op.toNat = OpGetBuiltin ∧ a[p + 1]? = some b ∧ b.toNat = i

/-- positive form: every GETBUILTIN operand of the stream is `:makeArray` or the index of a builtin
    name that is NOT disabled -/
def GetBuiltinsAllowed (bs : List (String × Nat)) (D : List String) (a : Array UInt8) : Prop :=
  ∀ i, GetBuiltinAt a i → i = Gen.builtinMakeArray ∨ ∃ n, (n, i) ∈ bs ∧ n ∉ D

/-- the property: no GETBUILTIN operand of the stream is the index of a name in `D`
    (`:makeArray`, which no script can name, excepted) -/
def NoDisabledGetBuiltin (bs : List (String × Nat)) (D : List String) (a : Array UInt8) : Prop :=
  ∀ i, GetBuiltinAt a i → i = Gen.builtinMakeArray ∨ ∀ n, n ∈ D → (n, i) ∉ bs

/-- … for the main function and every compiled function (nested functions, closures) of the Bytecode -/
def BytecodeClean (bs : List (String × Nat)) (D : List String) (bc : Bytecode) : Prop :=
  (NoDisabledGetBuiltin bs D bc.main.insts ∧ GetBuiltinsAllowed bs D bc.main.insts) ∧
  ∀ f, Const.fn f ∈ bc.constants.toList → NoDisabledGetBuiltin bs D f.insts ∧ GetBuiltinsAllowed bs D f.insts

theorem gbOK_allowed {bs : List (String × Nat)} {D : List String} {a : Array UInt8} (h : GbOK ⟨bs, D⟩ a) :
    GetBuiltinsAllowed bs D a := by
  rintro i ⟨p, op, b, hw, hop, h7, hb, rfl⟩
  exact h p op b hw hop h7 hb

theorem gbOK_clean {bs : List (String × Nat)} {D : List String} {a : Array UInt8} (hinj : (bs.map (·.2)).Nodup)
    (h : GbOK ⟨bs, D⟩ a) : NoDisabledGetBuiltin bs D a := by
  intro i hi
  rcases gbOK_allowed h i hi with h | ⟨n, hn, hnd⟩
  · exact .inl h
  · refine .inr fun n' hn' hmem => ?_
    have := pair_unique bs hinj n n' i hn hmem
    subst this
    exact hnd hn'

theorem bcOK_clean {bs : List (String × Nat)} {D : List String} {bc : Bytecode} (hinj : (bs.map (·.2)).Nodup)
    (h : BcOK ⟨bs, D⟩ bc) : BytecodeClean bs D bc :=
  ⟨⟨gbOK_clean hinj h.1, gbOK_allowed h.1⟩, fun f hf => ⟨gbOK_clean hinj (h.2 f hf), gbOK_allowed (h.2 f hf)⟩⟩

/-- C13 at the Bytecode level, over the compiler model, with no hypothesis on the compiler.  For
    every builtin table with distinct indices, every disabled set `D` and EVERY
    AST (any nesting of functions, closures, blocks, loops, try, destructuring, declarations): if
    `compileFile` returns a Bytecode, then no GETBUILTIN instruction of its main function or of any
    compiled function in its constant pool has as operand the index of a name in `D` (`:makeArray`
    excepted), and every such operand is the index of a builtin that is not disabled.
    Partial w.r.t. `C13_full` only in what the compiler model leaves out: import expressions (module
    compilation) and the optimizer's evaluator. -/
theorem no_getbuiltin_compiled (bs : List (String × Nat)) (hinj : (bs.map (·.2)).Nodup) (D : List String)
    (file : List Stmt) (bc : Bytecode) (h : compileFile bs D file = .ok bc) : BytecodeClean bs D bc := by
  obtain ⟨s', hr⟩ := compileFile_run h
  exact bcOK_clean hinj ((goodP_compileProg (c := ⟨bs, D⟩) file _ (inv_initState bs D)).ok hr).2.2

/-- the same from ANY compiler state satisfying the invariant `GB.Inv` — a re-used symbol table
    with cached BUILTIN symbols and earlier definitions, nested scopes, a constant pool holding earlier
    compiled functions, pending loops —, and the invariant holds again afterwards (the counterpart of
    C05's `compile_no_panic_reused` / `compile_keeps_invariant`) -/
theorem no_getbuiltin_reused (bs : List (String × Nat)) (hinj : (bs.map (·.2)).Nodup) (D : List String)
    (s : CState) (hs : GB.Inv ⟨bs, D⟩ s) (file : List Stmt) (bc : Bytecode) (s' : CState)
    (h : runCM (compileProg file) s = (.ok bc, s')) : BytecodeClean bs D bc ∧ GB.Inv ⟨bs, D⟩ s' := by
  have hg := (goodP_compileProg (c := ⟨bs, D⟩) file s hs).ok h
  exact ⟨bcOK_clean hinj hg.2.2, hg.1⟩

/-- a compilation that ends with an error (or a Go panic) leaves symbol tables that still satisfy
    their part of the invariant: nothing a failed fragment cached can make a later one reach a
    disabled builtin -/
theorem failed_compile_keeps_tables (bs : List (String × Nat)) (D : List String)
    (s : CState) (hs : GB.Inv ⟨bs, D⟩ s) (file : List Stmt) (e : CErr) (s' : CState)
    (h : runCM (compileProg file) s = (.error e, s')) : GB.TabsInv ⟨bs, D⟩ s'.tables := by
  have hg := goodP_compileProg (c := ⟨bs, D⟩) file s hs
  unfold GB.Sat at hg
  rw [h] at hg
  exact hg

/-- `resolve` of the compiler model never answers with a BUILTIN-scope symbol for a name in `D`
    (the model-level counterpart of `resolve_disabled`, used by the invariant at `compileIdent`) -/
theorem compile_resolve_disabled (bs : List (String × Nat)) (hinj : (bs.map (·.2)).Nodup) (D : List String)
    (s : CState) (hs : GB.Inv ⟨bs, D⟩ s) (name : String) (y : Symbol) (s' : CState)
    (h : runCM (Compile.resolve name) s = (.ok (some y), s')) (hb : y.scope = .builtin) :
    ∃ i : Nat, y.index = i ∧ (∃ n, (n, i) ∈ bs ∧ n ∉ D) ∧ ∀ n, n ∈ D → (n, i) ∉ bs := by
  obtain ⟨i, hi, n, hn, hnd⟩ := ((goodP_resolve (c := ⟨bs, D⟩) name s hs).ok h).2.2 y rfl hb
  refine ⟨i, hi, ⟨n, hn, hnd⟩, fun n' hn' hmem => ?_⟩
  have := pair_unique bs hinj n n' i hn hmem
  subst this
  exact hnd hn'

/-- the regenerated `BuiltinsMap` of builtins.go (`Gen/SymFacts.lean`) with its names as strings: the
    table the compiler model is run with -/
def builtinsStrMap : List (String × Nat) :=
  Gen.SymFacts.builtinsMap.map fun p => (String.ofList (p.1.map fun b => Char.ofNat b.toNat), p.2)

theorem builtinsStrMap_distinct : (builtinsStrMap.map (·.2)).Nodup := by
  have h := fact_builtins_distinct.1
  have e : builtinsStrMap.map (·.2) = Gen.SymFacts.builtinsMap.map (·.2) := by
    simp [builtinsStrMap, List.map_map, Function.comp_def]
  rw [e]; exact h

/-- the instance for the real builtin table; `:makeArray` is the index the compiler model emits for
    destructuring -/
theorem no_getbuiltin_builtinsMap (D : List String) (file : List Stmt) (bc : Bytecode)
    (h : compileFile builtinsStrMap D file = .ok bc) : BytecodeClean builtinsStrMap D bc :=
  no_getbuiltin_compiled _ builtinsStrMap_distinct D file bc h

example : Gen.builtinMakeArray = Gen.SymFacts.builtinMakeArray ∧ (":makeArray", Gen.builtinMakeArray) ∈ builtinsStrMap := by
  decide +kernel

def exBs : List (String × Nat) := [("len", 5), ("int", 11)]

theorem getBuiltinAt_of_head {a : Array UInt8} {b : UInt8} (h : a.toList.take 2 = [7, b]) : GetBuiltinAt a b.toNat := by
  have h0 : a[0]? = some 7 := by
    have := congrArg (·[0]?) h
    simpa [List.getElem?_take] using this
  have h1 : a[0 + 1]? = some b := by
    have := congrArg (·[1]?) h
    simpa [List.getElem?_take] using this
  exact ⟨0, 7, b, .refl 0, h0, rfl, h1, rfl⟩

def firstTwo (r : Except CErr Bytecode) : List (List UInt8) :=
  match r with
  | .ok bc => bc.main.insts.toList.take 2 :: bc.constants.toList.filterMap fun k =>
      match k with | .fn f => some (f.insts.toList.take 2) | _ => none
  | .error _ => []

/-- non-vacuity: with `len` disabled, a closure inside a block that calls `int(1)` compiles, and its
    compiled function starts with GETBUILTIN 11 (`int`); a reference to `len` is a compile error;
    without disabling, the same reference compiles to GETBUILTIN 5 (so the theorem does not hold
    because builtins never compile) -/
example : firstTwo (compileFile exBs ["len"]
    [.block 1 [.expr 1 (.func 1 false [] 1 [.return_ 1 (some (.call 1 false (.ident 1 "int") [.int 1 1#64]))])]])
    = [[1, 0], [7, 11]] := by decide +kernel
example : ∃ p m, compileFile exBs ["len"] [.expr 1 (.call 1 false (.ident 1 "len") [])] = .error (.err p m) := ⟨_, _, rfl⟩
example : ∃ bc, compileFile exBs [] [.expr 1 (.ident 1 "len")] = .ok bc ∧ GetBuiltinAt bc.main.insts 5 :=
  ⟨_, rfl, getBuiltinAt_of_head (b := 5) rfl⟩
example : (exBs.map (·.2)).Nodup := by decide
example (bs : List (String × Nat)) (D : List String) : GB.Inv ⟨bs, D⟩ (initState bs D) := inv_initState bs D

/-- what an Eval session must satisfy for `D` to stay unreachable: its root table is acceptable
    (`GB.TableOK`: cached BUILTIN symbols are indices of names outside `D`, `D ⊆ disabled`), holds no
    pending global (`NoPending`), and the compiled functions in its constant pool are clean -/
structure SessionOK (bs : List (String × Nat)) (D : List String) (s : Session) : Prop where
  builtins : s.builtins = bs
  table : GB.TableOK ⟨bs, D⟩ s.table
  pending : NoPending s.table
  consts : GB.ConstsOK ⟨bs, D⟩ s.constants

/-- a new session whose options disable `D` is fine -/
theorem session_new_ok (bs : List (String × Nat)) (D : List String) (heap : Array VM.Cell) (globals : VM.V) (args : List VM.V) :
    SessionOK bs D (newSession bs D heap globals args) :=
  ⟨rfl, ⟨fun _ h => by simp [newSession] at h, fun n hn => hn⟩, fun p h => by simp [newSession] at h,
   fun f hf => by simp [newSession] at hf⟩

/-- One `Eval.Run`.  The compile of the fragment — which continues from
    the session's root table and constants — yields, when it succeeds, a Bytecode without GETBUILTIN
    of a name in `D` (main function, new and earlier function constants); and whatever the outcome
    (compile error, run-time error, success) the session handed to the next fragment is fine again.
    (The disabled set itself is unchanged by every compile: `session_table_monotone_full`, C10.)
    Not covered: the two bytes `fixOpPop` rewrites in the main function afterwards (NOOP, RETURN 1). -/
theorem no_getbuiltin_session (bs : List (String × Nat)) (hinj : (bs.map (·.2)).Nodup) (D : List String)
    (F : FloatOps) (fuel : Nat) (s : Session) (file : List Stmt) (hs : SessionOK bs D s) :
    SessionOK bs D (evalRun F fuel s file).session ∧
    ∀ bc, (compileSession s.builtins s.table s.constants file).result = .ok bc → BytecodeClean bs D bc := by
  have hc := compileSession_gb (c := ⟨bs, D⟩) s.table s.constants file hs.table hs.pending hs.consts
  have hp := (UgoVerif.Proofs.EvalMono.compileSession_spec bs s.table s.constants file hs.pending).1.pend hs.pending
  rw [hs.builtins]
  refine ⟨?_, fun bc hbc => bcOK_clean hinj (hc.2 bc hbc)⟩
  have key := UgoVerif.Proofs.EvalMono.evalRun_table F fuel s file
  rw [hs.builtins] at key
  obtain ⟨k1, k2, k3⟩ := key
  refine ⟨k2, by rw [k1]; exact hc.1, by rw [k1]; exact hp, ?_⟩
  rcases k3 with k3 | ⟨bc, hbc, k3⟩
  · rw [k3]; exact hs.consts
  · rw [k3]; exact (hc.2 bc hbc).2

/-- … hence along a whole session: after every fragment the session is fine, so the statement above
    applies to every fragment (re-used tables, definitions and cached symbols of earlier fragments,
    fragments that failed to compile in between) -/
theorem no_getbuiltin_session_all (bs : List (String × Nat)) (hinj : (bs.map (·.2)).Nodup) (D : List String)
    (F : FloatOps) (fuel : Nat) : ∀ (fs : List (List Stmt)) (s : Session), SessionOK bs D s →
      ∀ o, o ∈ evalSession F fuel s fs → SessionOK bs D o.session :=
  UgoVerif.Proofs.EvalMono.evalSession_inv F fuel fun s f hs => (no_getbuiltin_session bs hinj D F fuel s f hs).1

example : SessionOK exBs ["len"] (newSession exBs ["len"] #[] .undefined []) := session_new_ok _ _ _ _ _

end UgoVerif.Props.C13

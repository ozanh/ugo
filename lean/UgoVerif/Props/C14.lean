import UgoVerif.VM.Invoke
import UgoVerif.Gen.VmFields
import UgoVerif.Proofs.InvokeShift
import UgoVerif.Proofs.ShiftLoop
import UgoVerif.Proofs.GlobalsKeep
import UgoVerif.Proofs.InvokePool
/-
  C14 — calling a script function from Go (Invoker) equals calling it inside the script.

  Model: VM/Invoke.lean (`acquireFrom`, `releaseVM`, `zeroVM`, pool, `runAt`), VM/Run.lean
  (`initLocals`, `prologue`), VM/Step.lean (`callCompiled`).  Tie: the `invoke` stream runs the
  model in lock-step with the real VM for in-script and Go-side calls; `Gen/VmFields.lean` is
  regenerated from vm.go on every check.
-/
namespace UgoVerif.Props.C14
open UgoVerif UgoVerif.Go UgoVerif.VM UgoVerif.Gen.VmFields
open UgoVerif.Proofs.InvokeBind UgoVerif.Proofs.Shift UgoVerif.Proofs.InvokeShift UgoVerif.Props.C02


/-- VM fields whose value in a child needs no per-invocation initialisation:
    `stack`, `frames` — contents at or above `sp` / `frameIndex` are dead (liveness, C07 `step_live`;
    the prologue sets `sp`, `frameIndex` and re-initialises frame 0 and the locals);
    `mu` — a mutex, zero value = unlocked, only locked/unlocked by `Run`. -/
def zeroOk : List String := ["stack", "frames", "mu"]

/-- fields a child keeps from its creation (`&VM{bytecode: …}`) through every `_release` -/
def keptSinceCreation : List String :=
  releaseKeeps.filter fun f => newChildKeeps.contains f && syncPoolNewKeeps.contains f

/-- Every VM field (or `bytecode.` sub-field) that `Run` and the methods reachable from it read
    is assigned by `_acquire`, or assigned (not merely grown) by `Run`'s prologue, or is set when the
    child is created and preserved by `_release`, or is one of the three `zeroOk` fields.  A new VM
    field read by the loop and not initialised for children, or an assignment dropped from
    `_acquire` (`modulesCache`, `noPanic`, `constants`, …), breaks this obligation. -/
theorem acquire_complete :
    runReads.all (fun f => acquireAssigns.contains f || prologueAssigns.contains f ||
      keptSinceCreation.contains f || zeroOk.contains f) = true := by decide

/-- the lists are about the real struct: every path names a field of `VM` -/
theorem reads_are_fields : runReadRoots.all (fun f => vmFields.contains f) = true := by decide

/-- `_release` overwrites the whole VM with `VM{bytecode: bc}` after `*bc = Bytecode{}`
    (regenerated): the model's `releaseVM = zeroVM` is what the code does. -/
theorem release_zeroes :
    releaseAssignsWholeVM = true ∧ releaseKeeps = ["bytecode"] ∧ releaseResetsBytecode = true ∧
    newChildKeeps = ["bytecode"] ∧ syncPoolNewKeeps = ["bytecode"] := by decide

/-- non-vacuity: a used child with residue everywhere -/
example : ∃ used : State, used.sp = 7 ∧ used.abort = true ∧
    (acquireFrom default default (releaseVM used) 3).abort = false ∧ (acquireFrom default default (releaseVM used) 3).sp = 0 :=
  ⟨{ (default : State) with sp := 7, abort := true }, rfl, rfl, rfl, rfl⟩

/-- Go's `copy(dst, src)` on lists -/
def goCopy (dst src : List V) : List V := src.take dst.length ++ dst.drop src.length

/-- vm.go `initLocals`, statement by statement, as a function on the locals slice
    (`arr` = the array object allocated for the variadic parameter) -/
def initLocalsSpec (np nl : Nat) (variadic : Bool) (args : List V) (arr : V) : List V :=
  let locals := List.replicate nl V.undefined
  if np = 0 then locals
  else if args.length < np then
    goCopy (if variadic then locals.set (np - 1) arr else locals) args
  else
    goCopy (locals.set (np - 1) (if variadic then arr else args.getD (np - 1) .undefined)) (args.take (np - 1))

/-- vm.go `xOpCallCompiled` with `flags = 0` on the slots `[bp, bp+numLocals)` of the new frame,
    for an argument count it accepts: the arguments are already in place, the variadic tail is
    replaced by `arr`, the remaining locals are set to undefined -/
def callbindSpec (np nl : Nat) (variadic : Bool) (args : List V) (arr : V) : List V :=
  if variadic then args.take (np - 1) ++ [arr] ++ List.replicate (nl - np) V.undefined
  else args ++ List.replicate (nl - np) V.undefined

/- the argument counts both entry points accept (property text: others are not compared):
   `accepted np variadic n` (Proofs/InvokeBind) = `if variadic then 1 ≤ np ∧ np - 1 ≤ n else n = np` -/

theorem goCopy_take_lt (locals args : List V) (n : Nat) (h1 : n ≤ args.length) (h2 : n ≤ locals.length) :
    goCopy locals (args.take n) = args.take n ++ locals.drop n := by
  unfold goCopy
  rw [List.take_of_length_le (by simp; omega)]
  simp [List.length_take, Nat.min_eq_left h1]

theorem drop_set_replicate (n q : Nat) (u x : V) (hq : q < n) :
    ((List.replicate n u).set q x).drop q = x :: List.replicate (n - q - 1) u := by
  apply List.ext_getElem?
  intro i
  simp only [List.getElem?_drop, List.getElem?_set, List.length_replicate, List.getElem?_replicate]
  cases i with
  | zero => simp [hq]
  | succ i =>
    have h1 : ¬ q = q + (i + 1) := by omega
    simp only [h1, if_false, List.getElem?_cons_succ, List.getElem?_replicate]
    by_cases h : q + (i + 1) < n
    · rw [if_pos h, if_pos (by omega)]
    · rw [if_neg h, if_neg (by omega)]

/-- Parameter binding, `initLocals` (Go-side call) against `xOpCallCompiled` (in-script call): over the two statement-by-statement list specifications of the
    binding code, both entry points leave the same values in the callee's `NumLocals` slots for
    every accepted argument list (`arr` = the variadic array). -/
theorem bindSpecs_agree (np nl : Nat) (variadic : Bool) (args : List V) (arr : V) (hnl : np ≤ nl)
    (hacc : accepted np variadic args.length) :
    initLocalsSpec np nl variadic args arr = callbindSpec np nl variadic args arr := by
  unfold initLocalsSpec callbindSpec
  -- both entry points: the first `np - 1` arguments, slot `np - 1`, undefined above
  have key : ∀ (x : V) (src : List V), src = args.take (np - 1) → 1 ≤ np → np - 1 ≤ args.length →
      goCopy ((List.replicate nl V.undefined).set (np - 1) x) src =
        args.take (np - 1) ++ [x] ++ List.replicate (nl - np) V.undefined := by
    intro x src hsrc h1p hle
    subst hsrc
    rw [goCopy_take_lt _ _ _ (by omega) (by simp; omega), drop_set_replicate _ _ _ _ (by omega)]
    have e : nl - (np - 1) - 1 = nl - np := by omega
    rw [e, List.append_assoc]
    rfl
  cases variadic with
  | false =>
    simp only [accepted, Bool.false_eq_true, if_false] at hacc
    simp only [Bool.false_eq_true, if_false]
    by_cases h0 : np = 0
    · subst h0
      have : args = [] := List.eq_nil_of_length_eq_zero hacc
      simp [this]
    · have hlt : ¬ args.length < np := by omega
      simp only [h0, hlt, if_false]
      have h : np - 1 < args.length := by omega
      have e : args.getD (np - 1) .undefined = args[np - 1] := by simp [List.getD, List.getElem?_eq_getElem h]
      rw [key _ _ rfl (by omega) (by omega), e, List.take_append_getElem h, List.take_of_length_le (by omega)]
  | true =>
    simp only [accepted, if_true] at hacc
    obtain ⟨h1p, hle⟩ := hacc
    have h0 : ¬ np = 0 := by omega
    simp only [h0, if_false, if_true]
    by_cases hlt : args.length < np
    · simp only [hlt, if_true]
      exact key _ args (by rw [List.take_of_length_le (by omega)]) h1p hle
    · simp only [hlt, if_false]
      exact key _ _ rfl h1p hle

example : initLocalsSpec 2 4 false [.int 1, .int 2] (.arr 9 0 0) = callbindSpec 2 4 false [.int 1, .int 2] (.arr 9 0 0) := rfl
example : initLocalsSpec 2 3 true [.int 1] (.arr 9 0 0) = callbindSpec 2 3 true [.int 1] (.arr 9 0 0) := rfl
example : initLocalsSpec 2 3 true [.int 1, .int 2, .int 3] (.arr 9 0 2) = callbindSpec 2 3 true [.int 1, .int 2, .int 3] (.arr 9 0 2) := rfl
example : initLocalsSpec 1 1 true [] (.arr 9 0 0) = callbindSpec 1 1 true [] (.arr 9 0 0) := rfl
/-- the mutation `numParams` for `numParams-1` in the variadic slot is visible in the specification -/
example : ((goCopy ((List.replicate 3 V.undefined).set 2 (.arr 9 0 1)) ([V.int 1, .int 2, .int 3].take 1)) ==
    callbindSpec 2 3 true [.int 1, .int 2, .int 3] (.arr 9 0 2)) = false := by decide

/-- the in-script call of `fa(args…)` from the current frame of `s`: push callee and arguments,
    execute `callCompiled`, then run instructions until the frame index is back (model fuel) -/
def inScriptCall (F : FloatOps) (fuel : Nat) (s : State) (fa : Addr) (args : List V) : Except OpErr V × State :=
  let push : M Unit := do
    pushV (.cfun fa)
    for a in args do pushV a
  match push.run.run s with
  | (.error _, s1) => (.error (.named "" "model"), s1)
  | (.ok (), s1) =>
    match (callCompiled fa args.length 0).run.run s1 with
    | (.ok (.ok ()), s2) =>
      let base := s.frameIndex
      let rec go : Nat → State → Except OpErr V × State
        | 0, t => (.error (.named "" "fuel"), t)
        | n+1, t =>
          match (step F).run.run t with
          | (.ok .next, t') =>
            if t'.frameIndex ≤ base then
              match t'.stack[(t'.sp - 1).toNat]? with
              | some v => (.ok v, t')
              | none => (.error (.named "" "model"), t')
            else go n t'
          | (_, t') =>
            match t'.err with
            | some (.rt a) => (.error (.rt a), t')
            | _ => (.error (.named "" "stopped"), t')
      go fuel s2
    | (.ok (.error e), s2) => (.error e, s2)
    | (.error _, s2) => (.error (.named "" "model"), s2)

def sameResult : InvRes → Except OpErr V → Prop
  | .value v, .ok v' => v = v'
  | .error (.rt a), .error (.rt b) => a = b
  | .error (.named n m), .error (.named n' m') => n = n' ∧ m = m'
  | .error .stackOverflow, .error .stackOverflow => True
  | _, _ => False

/-- The two monadic binders, slot by slot.  `c` is a child VM whose `Main` is the compiled function `fa`
    (heap cell `.fn ci free`), `p` the parent with `args` on its operand stack, both over the same heap
    and code memory.  For every accepted argument list (exactly `NumParams`, or at least
    `NumParams - 1` when variadic) `initLocals args` on the child and `xOpCallCompiled fa (len args) 0`
    on the parent both succeed, leave EQUAL heaps (the variadic array is one fresh cell at the same
    address, holding exactly `args.drop (NumParams-1)`), and slot `j` of the child equals slot `bp + j`
    of the parent for every `j < NumLocals`, both being `bindSlot`: the parameter's argument, the
    variadic array, `undefined` for the other locals.  (Not covered: the self tail call, where
    `xOpCallCompiled` reuses the caller's frame — hypothesis `hself`.) -/
theorem initLocals_eq_callbind (c p : State) (fa ci : Nat) (free : Option (List Addr)) (args : List V)
    (hfn : p.heap[fa]? = some (.fn ci free))
    (hheap : c.heap = p.heap) (hcodes : c.codes = p.codes) (hmain : c.mainFn = fa)
    (hszc : c.stack.size = stackSize) (hszp : p.stack.size = stackSize)
    (hargs : argsOnStack p args.length = args)
    (hacc : accepted (p.codes[ci]!).numParams (p.codes[ci]!).variadic args.length)
    (hself : (p.frames[p.curFrame]!).fn ≠ some fa)
    (hfi : 0 ≤ p.frameIndex ∧ p.frameIndex + 1 ≤ (frameSize : Int) - 1)
    (hbp : 0 ≤ p.sp - args.length) (hsp : p.sp ≤ (stackSize : Int))
    (hroom : p.sp - args.length + (p.codes[ci]!).numLocals ≤ (stackSize : Int))
    (hnl : (p.codes[ci]!).numParams ≤ (p.codes[ci]!).numLocals) :
    ∃ c' p', exec (initLocals args) c = (.ok (), c') ∧
      exec (callCompiled fa args.length 0) p = (.ok (.ok ()), p') ∧
      c'.heap = p'.heap ∧
      c'.heap = bindHeap (p.codes[ci]!).numParams (p.codes[ci]!).variadic args p.heap ∧
      ∀ j, j < (p.codes[ci]!).numLocals →
        c'.stack[j]! = p'.stack[(p.sp - args.length).toNat + j]! ∧
        c'.stack[j]! = bindSlot (p.codes[ci]!).numParams (p.codes[ci]!).variadic args p.heap.size j := by
  have hcell : exec (fnCell fa) p = (.ok (p.codes[ci]!, free), p) := UgoVerif.Proofs.EvalLocals.exec_fnCell p fa ci free hfn
  obtain ⟨stp, hp, _, hpslots, _⟩ :=
    callCompiled_slots fa args p _ free _ hcell hargs hacc hself hfi (Int.toNat_of_nonneg hbp).symm hsp hroom hnl hszp
  have hfn1 : c.heap[c.mainFn]? = some (.fn ci free) := by rw [hmain, hheap]; exact hfn
  have hnlS : (p.codes[ci]!).numLocals ≤ stackSize := by omega
  obtain ⟨stc, hci, _, hcslots, _⟩ :=
    initLocals_slots args c ci free hfn1 (by rw [hcodes]; exact hnl) (by rw [hcodes]; exact hnlS) hszc
  rw [hcodes, hheap] at hci hcslots
  refine ⟨_, _, hci, hp, rfl, rfl, ?_⟩
  intro j hj
  have e1 := getElem!_of_getElem? _ _ _ (hcslots j hj)
  have e2 := getElem!_of_getElem? _ _ _ (hpslots j hj)
  exact ⟨by show stc[j]! = stp[_]!; rw [e1, e2], e1⟩

/-- The REJECTED arities do NOT agree — by design, property text: "Go-side
    calls with too few or too many arguments are lenient … and are not compared".  `Run` has no
    argument check: `initLocals` succeeds for EVERY argument list (missing parameters are `undefined`,
    surplus arguments are dropped — `bindSlot`), whereas `xOpCallCompiled` answers
    `WrongNumberOfArgumentsError`.  Witness on the real code: `f := func(a, b) {…}`; `Invoke(1)` returns
    `[1, undefined]`, `f(1)` throws `WrongNumberOfArgumentsError: want=2 got=1`. -/
theorem arity_rejected_lenient (c p : State) (fa ci : Nat) (free : Option (List Addr)) (args : List V)
    (hfn : p.heap[fa]? = some (.fn ci free))
    (hheap : c.heap = p.heap) (hcodes : c.codes = p.codes) (hmain : c.mainFn = fa)
    (hszc : c.stack.size = stackSize)
    (hnl : (p.codes[ci]!).numParams ≤ (p.codes[ci]!).numLocals) (hnlS : (p.codes[ci]!).numLocals ≤ stackSize)
    (hrej : ¬ accepted (p.codes[ci]!).numParams (p.codes[ci]!).variadic args.length)
    (hnp : (p.codes[ci]!).variadic = true → 1 ≤ (p.codes[ci]!).numParams) :
    (∃ c', exec (initLocals args) c = (.ok (), c') ∧ ∀ j, j < (p.codes[ci]!).numLocals →
        c'.stack[j]! = bindSlot (p.codes[ci]!).numParams (p.codes[ci]!).variadic args p.heap.size j) ∧
    (∃ m, exec (callCompiled fa args.length 0) p = (.ok (.error (.named "WrongNumberOfArgumentsError" m)), p)) := by
  have hcell : exec (fnCell fa) p = (.ok (p.codes[ci]!, free), p) := UgoVerif.Proofs.EvalLocals.exec_fnCell p fa ci free hfn
  have hfn1 : c.heap[c.mainFn]? = some (.fn ci free) := by rw [hmain, hheap]; exact hfn
  obtain ⟨stc, hci, _, hcslots, _⟩ :=
    initLocals_slots args c ci free hfn1 (by rw [hcodes]; exact hnl) (by rw [hcodes]; exact hnlS) hszc
  rw [hcodes, hheap] at hci hcslots
  refine ⟨⟨_, hci, fun j hj => getElem!_of_getElem? _ _ _ (hcslots j hj)⟩, ?_⟩
  cases hv : (p.codes[ci]!).variadic with
  | false =>
    simp only [accepted, hv, Bool.false_eq_true, if_false] at hrej
    exact ⟨_, callCompiled_fixed_arity_error fa args.length p _ free hcell hv (by omega)⟩
  | true =>
    simp only [accepted, hv, if_true] at hrej
    have := hnp hv
    exact ⟨_, callCompiled_variadic_arity_error fa args.length p _ free hcell hv (by omega)⟩

theorem emptyFrames_zero : (Array.replicate frameSize ({} : Frame))[0]! = {} := by
  rw [getElem!_pos _ 0 (by simp [frameSize])]
  simp

/-- non-vacuity of `initLocals_eq_callbind` / `prologue_eq_callbind`: a VM inside `Run` about to call the
    zero-parameter function at heap address 0, and a child for it -/
def exP : State :=
  { newState #[{ insts := #[], numParams := 0, numLocals := 0, variadic := false }] #[.fn 0 none] #[] 0 0 with
    frameIndex := 1, globals := .undefined }

example : ∃ c' p', exec (prologue exP.globals []) exP = (.ok (), c') ∧
    exec (callCompiled 0 (([] : List V).length) 0) exP = (.ok (.ok ()), p') ∧ ShB p' 0 1 0 c' p' ∧ c'.sp = (0 : Nat) := by
  have hfr : (exP.frames[exP.curFrame]!).fn ≠ some 0 := by
    show (Array.replicate frameSize ({} : Frame))[0]!.fn ≠ some 0
    rw [emptyFrames_zero]; simp
  exact prologue_eq_callbind exP exP 0 0 none [] rfl rfl rfl rfl rfl rfl rfl (by decide) (by simp [exP]) rfl
    ⟨by simp [exP, newState], by simp [exP, newState, emptyFrames]⟩ ⟨by simp [exP, newState], by simp [exP, newState, emptyFrames]⟩
    (by simp [argsOnStack]) (by simp [accepted, exP, newState]) hfr (by decide) (by decide) (by decide) (by decide) (by decide)

/-- what `_acquire` gives `prologue_eq_callbind`: the child acquired for `fa` from a root whose
    constants, module count and module cache are the caller's satisfies its hypotheses on `c` -/
theorem acquire_meets_prologue (root caller child : State) (fa : Addr)
    (hc : root.consts = caller.consts) (hm : root.modules = caller.modules) (hn : root.numModules = caller.numModules) :
    let c := acquireFrom root caller child fa
    c.heap = caller.heap ∧ c.codes = caller.codes ∧ c.consts = caller.consts ∧ c.modules = caller.modules ∧
    c.numModules = caller.numModules ∧ c.mainFn = fa := by
  simp [acquireFrom, hc, hm, hn]

/-- The simulation between the child and the callee's frames in the parent.  One instruction — ANY opcode, all 44 of opcodes.go and unknown ones — of the child and of the
    parent from `ShB T0 bp k d`-related states: the invoked function runs in the child's frame 0 / base 0 and in the
    parent's frame `k` / base `bp`; both VMs are `d ≥ 0` frames above it (nested calls), frame `j` of the child
    corresponding to frame `k + j` of the parent: same function, free variables, saved `ip`, base pointer shifted
    by `bp`, handler stacks equal up to the shift of the recorded `sp`; equal heap, code, constants, globals, module
    cache, `ip`; `child.stack[i] = parent.stack[bp+i]` on a region containing both stack pointers.
    Hypotheses: `StepOk` on the child's instruction (a local-slot operand addresses a slot below `sp`; MAP has an even
    operand; CALL / CALLNAME have no spread argument) and `CallRoom` (when the instruction is a call, the PARENT has a
    free frame: otherwise it answers StackOverflowError where the child still has `k` frames left).
    If both `step`s end normally (Go panics / `unsupported` are not compared: the child has `bp` more stack slots)
    then one of:
    * both continue (`.next`) in `ShB T0 bp k d'`-related states — `d' = d`, `d + 1` (CALL / CALLNAME of a compiled
      function, also the running function itself; a self tail call reuses the frame: `d' = d`), `d - 1` (RETURN of a
      nested call), or the depth of the frame whose handler caught a thrown error;
    * the child's loop returns with `vm.err = e` (an uGO error no handler of the function's frame or of a frame above
      it takes) and the parent's instruction ended as the frame search BELOW frame `k` ends (`EscQ`);
    * both loops return with the same Go error (unknown opcode, malformed THROW operand);
    * the invoked function RETURNed (`d = 0`): the child's loop returns without error, the parent is back in the
      caller's frame `k - 1` with `sp = bp`, and `child.stack[sp-1] = parent.stack[sp-1]` (`RetQ`). -/
theorem frame_shift (F : FloatOps) (T0 : State) (bp k d : Nat) (hk : 1 ≤ k) (hbp : 1 ≤ bp) (s t : State) (h : ShB T0 bp k d s t)
    (hok : StepOk s) (hroom : CallRoom s t)
    (r r' : Ctl) (s' t' : State) (h1 : exec (step F) s = (.ok r, s')) (h2 : exec (step F) t = (.ok r', t')) :
    (r = .next ∧ r' = .next ∧ ∃ d', ShB T0 bp k d' s' t') ∨
    (r = .ret ∧ ∃ e, s'.err = some (.rt e) ∧ EscQ T0 bp k e r' s' t') ∨
    (r = .ret ∧ r' = .ret ∧ (∃ m, s'.err = some (.goerr m) ∧ t'.err = some (.goerr m)) ∧
      s'.heap = t'.heap ∧ s'.globals = t'.globals ∧ s'.modules = t'.modules) ∨
    RetQ T0 bp k r r' s' t' := by
  rcases UgoVerif.Proofs.Shift.frame_shift F hk hbp s t ⟨h, hok, hroom⟩ r s' r' t' h1 h2 with (h | h | h) | h
  · exact Or.inl h
  · exact Or.inr (Or.inl h)
  · exact Or.inr (Or.inr (Or.inl h))
  · exact Or.inr (Or.inr (Or.inr h))

/-- The boundary of the simulation under a thrown error.  `vm.throw(e)` — from THROW, from the
    re-throw after `finally`, from any failing instruction (`failWith`) — in `Sh`-related states, with ANY two fuels
    (the model's `throwFuel` counts all frames, so the two sides get different ones).  If both end normally:
    * a handler in the function's frame or in a frame above it takes the error ON BOTH SIDES: same handler, `ip`
      set to its catch / finally position, `sp` reset to the `sp` it recorded (shifted by `bp` in the parent), the
      frames above the handling frame dropped: `ShB T0 bp k d'` again, `d'` the depth of the handling frame; or
    * there is none: the child's `throw` returns `e` (→ `vm.err`, `Run` returns it to the Go caller) and the parent's
      `throw` ended as `throwBelow n'' k e` — the search for a handler in frames `k-1, k-2, …, 0` — ends from a state
      `u` with the child's heap, globals and module cache.  Below this boundary the two sides legitimately differ
      (the Go caller of `Invoke` gets the error; the in-script caller's frames are searched). -/
theorem throw_shift_partial (T0 : State) (bp k d H N : Nat) (a : Int) (e : Addr) (n n' : Nat) (s t : State)
    (h : Sh T0 bp k d H N a s t) (ha : a ≤ N) (hH : H ≤ N) (r r' : Option Addr) (s' t' : State)
    (h1 : exec (throwF n e) s = (.ok r, s')) (h2 : exec (throwF n' e) t = (.ok r', t')) :
    (r = none ∧ r' = none ∧ ∃ d', ShB T0 bp k d' s' t') ∨
    (r = some e ∧ s'.err = none ∧ ∃ n'' u, u.heap = s'.heap ∧ u.globals = s'.globals ∧ u.modules = s'.modules ∧
      u.err = none ∧ (∀ j : Nat, j < k → u.frames[j]! = T0.frames[j]!) ∧ (∀ i : Nat, i + 1 < bp → u.stack[i]! = T0.stack[i]!) ∧
      exec (throwBelow n'' k e) u = (.ok r', t')) :=
  sh_throwF e n n' d H N a ha hH s t h r s' r' t' h1 h2

/-- `frame_shift` iterated while the child's loop goes on: after `m` instructions of the child that
    all continued, the parent (if it did not panic / leave the model) also continued `m` times and the states are
    related again (at some depth). -/
theorem steps_shift (F : FloatOps) (T0 : State) (bp k : Nat) (hk : 1 ≤ k) (hbp : 1 ≤ bp) (m j : Nat) (s t : State)
    (h : ∃ d, ShB T0 bp k d s t) (hok : OkRun F (m + j) s t)
    (s0 : State) (h1 : runSteps F m s = some (.next, s0)) (r0 : Ctl) (t0 : State) (h2 : runSteps F m t = some (r0, t0)) :
    r0 = .next ∧ (∃ d, ShB T0 bp k d s0 t0) ∧ OkRun F j s0 t0 :=
  UgoVerif.Proofs.Shift.steps_shift F hk hbp m j s t h hok s0 h1 r0 t0 h2

/-- The whole run of the invoked function.  `c` is the child as `_acquire` left it, `p` the
    parent with callee and `args` on its stack (hypotheses of `prologue_eq_callbind`; `1 ≤ frameIndex`: the parent is
    inside `Run`; `1 ≤ sp - #args`: the callee value lies below the arguments).  Both entries succeed; and for every
    number of instructions `n` (`OkRun`: every instruction met on the way satisfies `StepOk` / `CallRoom`): if the
    child's loop ENDS within `n` instructions — at its instruction `m + 1`, in state `c'` — then the parent, unless
    it panicked / left the model before, is still running after `m` instructions, and its instruction `m + 1` ends
    as `EndQ` says:
    * the function returned: `c'.err = none`, the parent is back in the caller's frame (`frameIndex = k`,
      `sp = bp`), equal heap / globals / module cache, and the slot `Run` reads its result from holds the value the
      in-script caller finds in the call's slot (`result_value_deref` for the epilogue's dereference); or
    * an error `e` left the function: `c'.err = e` (what `Invoke` returns) and the parent's instruction — the same
      throwing instruction — ended as the handler search below frame `k` ends from a state with the child's heap,
      globals and module cache (`EscQ`): the same error thrown at the call instruction of the caller; or
    * both loops stopped with the same Go error (malformed bytecode). -/
theorem invoke_eq_call_partial (F : FloatOps) (c p : State) (fa ci : Nat) (free : Option (List Addr)) (args : List V)
    (hfn : p.heap[fa]? = some (.fn ci free))
    (hheap : c.heap = p.heap) (hcodes : c.codes = p.codes) (hconsts : c.consts = p.consts)
    (hmods : c.modules = p.modules) (hnm : c.numModules = p.numModules) (hmain : c.mainFn = fa)
    (hfull : p.numModules ≤ p.modules.size) (hg : p.globals ≠ .nil) (herr : p.err = none)
    (hshc : Shape c) (hshp : Shape p)
    (hargs : argsOnStack p args.length = args)
    (hacc : accepted (p.codes[ci]!).numParams (p.codes[ci]!).variadic args.length)
    (hself : (p.frames[p.curFrame]!).fn ≠ some fa)
    (hfi : 1 ≤ p.frameIndex ∧ p.frameIndex + 1 ≤ (frameSize : Int) - 1)
    (hbp : 1 ≤ p.sp - args.length) (hsp : p.sp ≤ (stackSize : Int))
    (hroom : p.sp - args.length + (p.codes[ci]!).numLocals ≤ (stackSize : Int))
    (hnl : (p.codes[ci]!).numParams ≤ (p.codes[ci]!).numLocals) :
    ∃ c0 p0, exec (prologue p.globals args) c = (.ok (), c0) ∧
      exec (callCompiled fa args.length 0) p = (.ok (.ok ()), p0) ∧
      ∀ n, OkRun F n c0 p0 → ∀ c', runSteps F n c0 = some (.ret, c') →
        ∃ m cm, m < n ∧ runSteps F m c0 = some (.next, cm) ∧ exec (step F) cm = (.ok .ret, c') ∧
          ∀ r0 pm, runSteps F m p0 = some (r0, pm) → r0 = .next ∧
            ∀ r' p', exec (step F) pm = (.ok r', p') →
              EndQ p0 (p.sp - args.length).toNat p.frameIndex.toNat r' c' p' := by
  obtain ⟨c0, p0, h1, h2, hsh, _⟩ := prologue_eq_callbind c p fa ci free args hfn hheap hcodes hconsts hmods hnm hmain hfull hg
    herr hshc hshp hargs hacc hself ⟨by omega, hfi.2⟩ (by omega) hsp hroom hnl
  refine ⟨c0, p0, h1, h2, ?_⟩
  intro n hok c' hc'
  exact UgoVerif.Proofs.Shift.invoke_eq_call_partial F (by omega) (by omega) n c0 p0 ⟨0, hsh⟩ hok c' hc'

/-- what `EndQ` says when the function returned, spelled out -/
theorem return_shift (T0 : State) (bp k : Nat) (r' : Ctl) (s' t' : State) (h : RetQ T0 bp k .ret r' s' t') :
    r' = .next ∧ s'.heap = t'.heap ∧ s'.globals = t'.globals ∧ s'.modules = t'.modules ∧
    s'.err = none ∧ t'.err = none ∧ s'.frameIndex = 1 ∧ t'.frameIndex = k ∧ t'.sp = bp ∧ 1 ≤ s'.sp ∧
    s'.stack[(s'.sp - 1).toNat]! = t'.stack[(t'.sp - 1).toNat]! ∧ t'.stack.size = stackSize ∧
    (∀ j : Nat, j < k → t'.frames[j]! = T0.frames[j]!) ∧ (∀ i : Nat, i + 1 < bp → t'.stack[i]! = T0.stack[i]!) := h.2

/-- The epilogue.  `Run` returns `stack[sp-1]` unless it is an `*ObjectPtr`, which
    it dereferences (vm.go:170-176) — the in-script caller gets the slot value as it is.  So after
    `return_shift` the two results are EQUAL whenever the returned value is not a raw `*ObjectPtr`, and
    otherwise the Go side gets the pointee.  The compiler emits GETLOCALPTR / GETFREEPTR only as operands
    of CLOSURE (compiler_nodes.go:899-901), so no compiled function returns a raw pointer; with
    hand-made bytecode `GETLOCALPTR 0; RETURN 1` the real VM gives `typeName(f(5)) = "objectPtr"` but
    `typeName(Invoke(f, 5)) = "int"` (observed on the real code; outside the property's quantifier). -/
theorem result_value_deref (s : State) (hsp : 1 ≤ s.sp ∧ s.sp ≤ (stackSize : Int)) :
    ((∀ a, s.stack[(s.sp - 1).toNat]! ≠ .box a) → exec resultValue s = (.ok (s.stack[(s.sp - 1).toNat]!), s)) ∧
    (∀ a w, s.stack[(s.sp - 1).toNat]! = .box a → s.heap[a]? = some (.box w) → exec resultValue s = (.ok w, s)) :=
  ⟨resultValue_of_slot s hsp, fun a w hv hw => resultValue_of_box s hsp a w hv hw⟩

/-- what `ShB` says about the observable state: same heap, globals and module cache -/
theorem shB_observables (T0 : State) (bp k d : Nat) (s t : State) (h : ShB T0 bp k d s t) :
    s.heap = t.heap ∧ s.globals = t.globals ∧ s.modules = t.modules ∧ s.ip = t.ip ∧ t.sp = s.sp + bp := by
  obtain ⟨H, N, a, h, _, _⟩ := h
  exact ⟨h.heap, h.globals, h.modules, h.ip, by rw [h.spT, h.spS]⟩

/-- the opcodes that touch neither frames nor handlers (Proofs/ShiftOps), by number (opcodes.go); the other eight —
    CALL 2, CALLNAME 43, RETURN 39, THROW 37, SETUPTRY 34, SETUPCATCH 35, SETUPFINALLY 36, FINALIZER 38 — are in
    Proofs/ShiftCall, ShiftRet, ShiftTry -/
theorem coveredOps_eq : coveredOps =
    [0, 1, 3, 4, 5, 6, 7, 8, 9, 10, 11, 12, 13, 14, 15, 17, 18, 20, 21, 22, 23, 24, 25, 26, 27, 28, 29, 30, 31, 32, 33,
     40, 41, 42, 16, 19] := by decide

theorem exFrames : ∀ j : Nat, j ≤ 0 → FrameSh 0 0 (({ newState #[] #[] #[] 0 0 with frameIndex := 1 } : State).frames[j]!)
    (({ newState #[] #[] #[] 0 0 with frameIndex := 1 } : State).frames[0 + j]!) := by
  intro j hj
  have : j = 0 := by omega
  subst this
  show FrameSh 0 0 (Array.replicate frameSize ({} : Frame))[0]! (Array.replicate frameSize ({} : Frame))[0 + 0]!
  rw [Nat.add_zero, emptyFrames_zero]
  exact ⟨rfl, rfl, rfl, trivial, rfl, Int.le_refl _⟩

theorem exSh : Sh ({ newState #[] #[] #[] 0 0 with frameIndex := 1 } : State) 0 0 0 0 0 0 ({ newState #[] #[] #[] 0 0 with frameIndex := 1 } : State)
    ({ newState #[] #[] #[] 0 0 with frameIndex := 1 } : State) :=
  { heap := rfl, codes := rfl, consts := rfl, globals := rfl, modules := rfl, numModules := rfl, ip := rfl,
    spS := rfl, spT := rfl, curS := rfl, curT := rfl, fiS := rfl, fiT := rfl, errS := rfl, errT := rfl,
    shapeS := ⟨by simp [newState], by simp [newState, emptyFrames]⟩,
    shapeT := ⟨by simp [newState], by simp [newState, emptyFrames]⟩,
    kLt := by decide,
    frames := exFrames,
    ips := fun j hj => (by omega),
    bp0 := (by show (Array.replicate frameSize ({} : Frame))[0]!.bp = 0; rw [emptyFrames_zero]),
    bpPos := fun j h1 hj => (by omega),
    stack := fun i hi => (by omega),
    room := (by decide),
    lowF := fun _ _ => rfl,
    lowS := fun _ _ => rfl }

/-- non-vacuity of `ShB`: a VM at `frameIndex = 1` is related to itself with `bp = 0`, `k = 0`, depth 0 -/
example : ShB ({ newState #[] #[] #[] 0 0 with frameIndex := 1 } : State) 0 0 0 ({ newState #[] #[] #[] 0 0 with frameIndex := 1 } : State)
    ({ newState #[] #[] #[] 0 0 with frameIndex := 1 } : State) :=
  ⟨0, 0, 0, exSh, Int.le_refl _, Nat.le_refl _⟩

/-- The full statement of C14 over the model (NOT proved): for every function value `fa`, every
    accepted argument list, every pool history `w` and every caller state `s` whose module cache
    has its `NumModules` entries (the caller is inside `Run`), invoking `fa` through a child VM
    (`iterInvoke` … 1, any configuration) yields the value or error, the heap, the globals and
    the module cache that the in-script call `CALL numArgs 0` of `fa` from frame k of the caller
    yields when run to the matching RETURN.  Proved parts: `acquire_complete`, `release_zeroes`,
    `pool_fresh`, `pool_acquire_eq_new`, `pool_release_inv`, `acquire_fields`, `initLocals_eq_callbind`,
    `prologue_eq_callbind` (the entries), `frame_shift` (one instruction, every opcode), `throw_shift_partial`,
    `steps_shift`, `invoke_eq_call_partial` (the run of the function up to and including the instruction that ends
    it), `result_value_deref`, `invoke_loop_partial`, `host_loop_of_loop`, `epilogue_error` and, for one invocation
    through the whole Invoker plumbing of the model, `C14_value_restricted` / `C14_error_restricted`.  Missing: spread
    calls (`flags ≠ 0`), host-function callees inside the invoked function (the host branch of `loopI`), a recovered
    Go panic inside the child, several invocations on one Invoker (`iterInvoke` with `n > 1`), and — below the
    boundary — an error caught by a handler of a caller frame: that the parent's unwinding from frame `k - 1` equals
    what `failWith` does in the caller when `Invoke` returns the error (live parts only); as stated (no resource
    hypothesis) it is false at the stack / frame limits, where the child has more room. -/
def C14_full : Prop :=
  ∀ (F : FloatOps) (cfg : HostCfg) (root s : State) (w : World) (fa : Addr) (args : List V) (depth fuel : Nat),
    s.numModules ≤ s.modules.size → (∀ c ∈ w.idle, ∃ u, c = releaseVM u) →
    ∀ r w' s', iterInvoke (runAt F cfg root depth) cfg root fa args fuel false 1 w s none [] = (r, w', s') →
      ∀ out sIn, inScriptCall F fuel s fa args = (out, sIn) →
        sameResult r out ∧ s'.heap = sIn.heap ∧ s'.globals = sIn.globals ∧ s'.modules = sIn.modules

/-- `invoke_eq_call_partial` for the child's real loop `loopF` (`loop()`: abort check before every
    instruction): if it ends within `n` instructions without the VM having been aborted, it ended at its instruction
    `m + 1` and the parent's instruction `m + 1` ends as `EndQ` says. -/
theorem invoke_loop_partial (F : FloatOps) (T0 : State) (bp k : Nat) (hk : 1 ≤ k) (hbp : 1 ≤ bp) (n : Nat) (s t : State)
    (h : ∃ d, ShB T0 bp k d s t) (hok : OkRun F n s t) (s' : State)
    (hs : exec (loopF F n) s = (.ok (some ()), s')) (hna : s'.err ≠ some .aborted) :
    ∃ m s0, m < n ∧ runSteps F m s = some (.next, s0) ∧ exec (step F) s0 = (.ok .ret, s') ∧
      ∀ r0 t0, runSteps F m t = some (r0, t0) → r0 = .next ∧
        ∀ r' t', exec (step F) t0 = (.ok r', t') → EndQ T0 bp k r' s' t' :=
  UgoVerif.Proofs.Shift.invoke_loop_partial F hk hbp n s t h hok s' hs hna

/-- The host-aware loop `loopI` (VM/Invoke.lean: the loop of a VM whose globals may hold Go
    functions) of a child whose loop ends normally is that loop: an instruction that ends normally is never the call of
    a host function (`xOpCallObject` of a host object is outside `step`). -/
theorem host_loop_of_loop (F : FloatOps) (cfg : HostCfg) (root : State) (rc : ChildRun) (n : Nat) (w : World) (s s' : State)
    (h : exec (loopF F n) s = (.ok (some ()), s')) : loopI F cfg root rc n w s = (.ok (some ()), w, s') :=
  loopI_of_loopF F cfg root rc n w s s' h

/-- `Run` after a loop that ended with `vm.err = e` returns `e` (what `Invoke` hands to Go). -/
theorem epilogue_error (s : State) (e : VmErr) (herr : s.err = some e) :
    (runFrom.finish (exec clearCurrentFrame s).2).1 = .error e :=
  congrArg Prod.fst (finish_of_err (exec clearCurrentFrame s).2 e herr)

def pushArgs (fa : Addr) (args : List V) : M Unit := do
  pushV (.cfun fa)
  for a in args do pushV a

def StackOnly (s u : State) : Prop := u = { s with stack := u.stack, sp := u.sp }

theorem keeps_pushV_so (s : State) (v : V) : Keeps (StackOnly s) (pushV v) := by
  unfold pushV stackSet setSp getSp
  refine Keeps.bind (Keeps.bind Keeps.getS (fun _ => Keeps.pure _)) (fun sp => ?_)
  refine Keeps.bind ?_ (fun _ => ?_)
  · split
    · exact Keeps.panic _
    · exact Keeps.modS (fun u h => by unfold StackOnly at h ⊢; rw [h])
  · exact Keeps.modS (fun u h => by unfold StackOnly at h ⊢; rw [h])

theorem pushArgs_frame (fa : Addr) (args : List V) (s p : State) (h : exec (pushArgs fa args) s = (.ok (), p)) :
    StackOnly s p := by
  have hk : Keeps (StackOnly s) (pushArgs fa args) := by
    unfold pushArgs
    refine Keeps.bind (keeps_pushV_so s _) (fun _ => ?_)
    refine Keeps.bind (Keeps.forIn_list _ _ _ (fun a b => Keeps.bind (keeps_pushV_so s a) (fun _ => Keeps.pure _))) (fun _ => Keeps.pure _)
  have := hk.elim s rfl
  rw [h] at this
  exact this

theorem inScriptCall_eq (F : FloatOps) (fuel : Nat) (s : State) (fa : Addr) (args : List V) (p p0 : State)
    (h1 : exec (pushArgs fa args) s = (.ok (), p)) (h2 : exec (callCompiled fa args.length 0) p = (.ok (.ok ()), p0)) :
    inScriptCall F fuel s fa args = inScriptCall.go F s.frameIndex fuel p0 := by
  unfold inScriptCall
  have h1' : StateT.run (ExceptT.run (pushArgs fa args)) s = (.ok (), p) := h1
  unfold pushArgs at h1'
  simp only [h1']
  have h2' : StateT.run (ExceptT.run (callCompiled fa (↑args.length) 0)) p = (.ok (.ok ()), p0) := h2
  simp only [h2']

theorem go_next (F : FloatOps) (base : Int) (n : Nat) {t t' : State} (h : exec (step F) t = (.ok .next, t'))
    (hfi : base < t'.frameIndex) : inScriptCall.go F base (n + 1) t = inScriptCall.go F base n t' := by
  rw [inScriptCall.go, show (step F).run.run t = _ from h]
  exact if_neg (by omega)

theorem go_value (F : FloatOps) (base : Int) (n : Nat) {t t' : State} {v : V} (h : exec (step F) t = (.ok .next, t'))
    (hfi : t'.frameIndex ≤ base) (hv : t'.stack[(t'.sp - 1).toNat]? = some v) :
    inScriptCall.go F base (n + 1) t = (.ok v, t') := by
  rw [inScriptCall.go, show (step F).run.run t = _ from h]
  simp only [if_pos hfi, hv]

theorem go_error (F : FloatOps) (base : Int) (n : Nat) {t t' : State} {a : Addr} (h : exec (step F) t = (.ok .ret, t'))
    (he : t'.err = some (.rt a)) : inScriptCall.go F base (n + 1) t = (.error (.rt a), t') := by
  rw [inScriptCall.go, show (step F).run.run t = _ from h]
  simp only [he]

theorem go_of_steps (F : FloatOps) (base : Int) (m fuel : Nat) (t tm : State) (h : runSteps F m t = some (.next, tm))
    (hfi : ∀ j tj, 1 ≤ j → j ≤ m → runSteps F j t = some (.next, tj) → base < tj.frameIndex) :
    inScriptCall.go F base (m + fuel) t = inScriptCall.go F base fuel tm := by
  fun_induction runSteps F m t with
  | case1 => cases h; rw [Nat.zero_add]
  | case2 m t t1 e1 ih =>
    rw [Nat.succ_add, go_next F base _ e1 (hfi 1 t1 (by omega) (by omega) (by simp only [runSteps, e1]))]
    exact ih h fun j tj _ hj hr => hfi (j + 1) tj (by omega) (by omega) (by rw [runSteps, e1]; exact hr)
  | case3 => cases h
  | case4 => cases h

/-- The run of a related pair, on the in-script side's own loop: when the child's loop ends un-aborted, the parent's
    instruction `m + 1`, the one at which it ended, ends as `EndQ` says (`invoke_loop_partial`), and up to it the in-script
    call ran `m` instructions without its frame index coming back (`steps_shift` at every prefix: `frameIndex = k + d + 1`). -/
theorem run_to_end (F : FloatOps) {T0 : State} {bp k : Nat} (hk : 1 ≤ k) (hbp : 1 ≤ bp) (base : Int) (hb : base ≤ k)
    (fuel : Nat) (c0 p0 c1 : State) (hsh : ∃ d, ShB T0 bp k d c0 p0) (hok : OkRun F fuel c0 p0)
    (hloop : exec (loopF F fuel) c0 = (.ok (some ()), c1)) (hna : c1.err ≠ some .aborted)
    (hpar : ∀ j, j ≤ fuel → runSteps F j p0 ≠ none) :
    ∃ pm r' p' n, exec (step F) pm = (.ok r', p') ∧ EndQ T0 bp k r' c1 p' ∧
      inScriptCall.go F base fuel p0 = inScriptCall.go F base (n + 1) pm ∧ p'.globals = p0.globals := by
  obtain ⟨m, cm, hm, hcm, -, hparent⟩ := UgoVerif.Proofs.Shift.invoke_loop_partial F hk hbp fuel c0 p0 hsh hok c1 hloop hna
  -- `hpar`: the parent is there after `m` instructions, and after one more
  rcases hpm' : runSteps F m p0 with _ | ⟨r0, pm⟩
  · exact absurd hpm' (hpar m (by omega))
  obtain ⟨rfl, hfin⟩ := hparent r0 pm hpm'
  obtain ⟨r', p', e1⟩ := runSteps_alive hpm' (hpar (m + 1) (by omega))
  refine ⟨pm, r', p', fuel - m - 1, e1, hfin r' p' e1, ?_, ?_⟩
  · rw [← go_of_steps F base m (fuel - m - 1 + 1) p0 pm hpm' ?_, show m + (fuel - m - 1 + 1) = fuel by omega]
    intro j tj _ hj2 hr
    obtain ⟨cj, hcj⟩ := runSteps_prefix F m c0 cm hcm j hj2
    rw [show fuel = j + (fuel - j) by omega] at hok
    obtain ⟨_, ⟨d, H, N, a, hd, _, _⟩, _⟩ :=
      UgoVerif.Proofs.Shift.steps_shift F hk hbp j (fuel - j) c0 p0 hsh hok cj hcj .next tj hr
    have := hd.fiT
    omega
  · have g2 := (gkeeps_step (G := pm.globals) F).elim pm rfl
    rw [e1] at g2
    rw [g2, keeps_runSteps F (gkeeps_step (G := p0.globals) F) m p0 .next pm hpm' rfl]

/-- The parent's side of `C14_value_restricted` and `C14_error_restricted`, from their common hypotheses and "the
    child's loop was not aborted": the two entries are related (`prologue_eq_callbind`), and `run_to_end` runs them.
    The Invoker's side is `iterInvoke_of_loop`. -/
theorem one_call (F : FloatOps) (root s p : State) (fa ci : Nat)
    (free : Option (List Addr)) (args : List V) (fuel : Nat)
    (hrc : root.consts = s.consts) (hrn : root.numModules = s.numModules) (hshared : s.numModules ≤ s.modules.size)
    (hpush : exec (pushArgs fa args) s = (.ok (), p))
    (hfn : p.heap[fa]? = some (.fn ci free)) (hg : p.globals ≠ .nil) (herr : p.err = none) (hshp : Shape p)
    (hargs : argsOnStack p args.length = args)
    (hacc : accepted (p.codes[ci]!).numParams (p.codes[ci]!).variadic args.length)
    (hself : (p.frames[p.curFrame]!).fn ≠ some fa)
    (hfi : 1 ≤ p.frameIndex ∧ p.frameIndex + 1 ≤ (frameSize : Int) - 1)
    (hbp : 1 ≤ p.sp - args.length) (hsp : p.sp ≤ (stackSize : Int))
    (hroom : p.sp - args.length + (p.codes[ci]!).numLocals ≤ (stackSize : Int))
    (hnl : (p.codes[ci]!).numParams ≤ (p.codes[ci]!).numLocals)
    (c0 p0 c1 : State)
    (hc0 : exec (prologue s.globals args) (acquireFrom { root with modules := s.modules } s (zeroVM s) fa) = (.ok (), c0))
    (hp0 : exec (callCompiled fa args.length 0) p = (.ok (.ok ()), p0))
    (hloop : exec (loopF F fuel) c0 = (.ok (some ()), c1))
    (hok : OkRun F fuel c0 p0)
    (hpar : ∀ j, j ≤ fuel → runSteps F j p0 ≠ none)
    (hna : c1.err ≠ some .aborted) :
    ∃ pm r' p' n, exec (step F) pm = (.ok r', p') ∧ EndQ p0 (p.sp - args.length).toNat p.frameIndex.toNat r' c1 p' ∧
      inScriptCall F fuel s fa args = inScriptCall.go F s.frameIndex (n + 1) pm ∧
      p'.globals = s.globals ∧ p.frameIndex = s.frameIndex := by
  have hso := pushArgs_frame fa args s p hpush
  unfold StackOnly at hso
  have hpg : p.globals = s.globals := by rw [hso]
  have hpf : p.frameIndex = s.frameIndex := by rw [hso]
  obtain ⟨c0', p0', h1, h2, hsh, _⟩ := prologue_eq_callbind
    (acquireFrom { root with modules := s.modules } s (zeroVM s) fa) p fa ci free args hfn
    (by rw [hso]; rfl) (by rw [hso]; rfl) (by rw [hso]; exact hrc) (by rw [hso]; rfl) (by rw [hso]; exact hrn) rfl
    (by rw [hso]; exact hshared) hg herr ⟨(zeroVM_shape s).stack, (zeroVM_shape s).frames⟩ hshp hargs hacc hself
    ⟨by omega, hfi.2⟩ (by omega) hsp hroom hnl
  rw [hpg, hc0] at h1
  rw [hp0] at h2
  cases h1
  cases h2
  obtain ⟨pm, r', p', n, e1, hend, hgo, hgl⟩ := run_to_end F (by omega) (by omega) s.frameIndex (by omega) fuel c0 p0 c1
    ⟨0, hsh⟩ hok hloop hna hpar
  have g1 := (gkeeps_callCompiled (G := p.globals) fa args.length 0).elim p rfl
  rw [hp0] at g1
  exact ⟨pm, r', p', n, e1, hend, by rw [inScriptCall_eq F fuel s fa args p p0 hpush hp0, hgo], by rw [hgl, g1, hpg], hpf⟩

/-- The statement of `C14_full` for one invocation that RETURNS a value, with its restrictions named.
    `s` is the VM that runs the Go function; the Go side does
    `NewInvoker(vm, f).Invoke(args…)` — any configuration `cfg` (pooled or not, reuse or not), any pool history `w`
    that holds released VMs only, at any invocation depth ≥ 1; the script side pushes `f` and `args` (state `p`) and
    executes `CALL #args 0`, then runs until the frame index is back.  Restrictions:
    * the root's constants / module count are the caller's, the caller's module cache is complete (it is inside `Run`);
    * `p` satisfies the entry conditions of `prologue_eq_callbind` (accepted arity, the caller is not `f` itself in tail
      position, room for the frame and the locals);
    * the child's loop `loopF` ends normally (`hloop`: no Go panic, nothing outside the model — hence no call of a host
      function and no builtin outside the modelled ones — within `fuel` instructions) with `vm.err = nil` (`hret`: the
      function returned), the result is not a raw `*ObjectPtr` (`hnb`) and `sp < StackSize` (`hspl`: `Run` answers
      ErrStackOverflow otherwise — a function with 2047 locals);
    * every instruction met satisfies `StepOk` / `CallRoom` (`hok`: no spread calls; the parent has a free frame at
      every call) and the parent does not panic / leave the model (`hpar`) — at the stack limit the child has more room.
    Then `Invoke` returns the value `v` that the in-script call leaves in the call's slot, and heap, globals and module
    cache of the two final states are equal. -/
theorem C14_value_restricted (F : FloatOps) (cfg : HostCfg) (root s p : State) (w : World) (fa ci : Nat)
    (free : Option (List Addr)) (args : List V) (dpt fuel : Nat)
    (hw : ∀ c ∈ w.idle, ∃ u, c = releaseVM u)
    (hrc : root.consts = s.consts) (hrn : root.numModules = s.numModules) (hshared : s.numModules ≤ s.modules.size)
    (hpush : exec (pushArgs fa args) s = (.ok (), p))
    (hfn : p.heap[fa]? = some (.fn ci free)) (hg : p.globals ≠ .nil) (herr : p.err = none) (hshp : Shape p)
    (hargs : argsOnStack p args.length = args)
    (hacc : accepted (p.codes[ci]!).numParams (p.codes[ci]!).variadic args.length)
    (hself : (p.frames[p.curFrame]!).fn ≠ some fa)
    (hfi : 1 ≤ p.frameIndex ∧ p.frameIndex + 1 ≤ (frameSize : Int) - 1)
    (hbp : 1 ≤ p.sp - args.length) (hsp : p.sp ≤ (stackSize : Int))
    (hroom : p.sp - args.length + (p.codes[ci]!).numLocals ≤ (stackSize : Int))
    (hnl : (p.codes[ci]!).numParams ≤ (p.codes[ci]!).numLocals)
    (c0 p0 c1 : State)
    (hc0 : exec (prologue s.globals args) (acquireFrom { root with modules := s.modules } s (zeroVM s) fa) = (.ok (), c0))
    (hp0 : exec (callCompiled fa args.length 0) p = (.ok (.ok ()), p0))
    (hloop : exec (loopF F fuel) c0 = (.ok (some ()), c1))
    (hok : OkRun F fuel c0 p0)
    (hpar : ∀ j, j ≤ fuel → runSteps F j p0 ≠ none)
    (hret : c1.err = none) (hspl : c1.sp < (stackSize : Int)) (hnb : ∀ a, c1.stack[(c1.sp - 1).toNat]! ≠ .box a) :
    ∃ v w' s' sIn,
      iterInvoke (runAt F cfg root (dpt + 1)) cfg root fa args fuel false 1 w s none [] = (.value v, w', s') ∧
      inScriptCall F fuel s fa args = (.ok v, sIn) ∧
      s'.heap = sIn.heap ∧ s'.globals = sIn.globals ∧ s'.modules = sIn.modules := by
  obtain ⟨pm, r', p', n, e1, hend, hin, hgp, hpf⟩ := one_call F root s p fa ci free args fuel hrc hrn hshared
    hpush hfn hg herr hshp hargs hacc hself hfi hbp hsp hroom hnl c0 p0 c1 hc0 hp0 hloop hok hpar (by rw [hret]; simp)
  obtain ⟨w', hit⟩ := iterInvoke_of_loop F cfg root s w fa args dpt fuel c0 c1 hw hshared hc0 hloop
  rcases hend with hq | ⟨e, he, _⟩ | ⟨_, ⟨msg, he, _⟩, _⟩
  rotate_left
  · rw [hret] at he; cases he
  · rw [hret] at he; cases he
  obtain ⟨_, rfl, hh, -, hmo, _, _, _, hfk, hspk, hsp1, hval, hsz, _, _⟩ := hq
  rw [finish_of_noerr (exec clearCurrentFrame c1).2 hret ⟨hsp1, hspl⟩ hnb] at hit
  have hidx : (p'.sp - 1).toNat < p'.stack.size := by
    rw [hsz, hspk]
    simp only [stackSize] at hroom ⊢
    omega
  refine ⟨c1.stack[(c1.sp - 1).toNat]!, w', _, p', hit, ?_, hh, hgp.symm, ?_⟩
  · rw [hin]
    refine go_value F _ n e1 (by rw [hfk, ← hpf]; omega) ?_
    rw [Array.getElem?_eq_getElem hidx, hval, getElem!_pos p'.stack _ hidx]
  · show (if s.modules.size ≥ s.numModules then c1.modules else s.modules) = p'.modules
    rw [if_pos hshared]
    exact hmo

/-- The statement of `C14_full` for one invocation that ends with an uGO error which neither the
    function nor — `hnh` — any frame of the caller catches.  Same setting and hypotheses as `C14_value_restricted`,
    with `vm.err = e` at the end of the child's loop instead of `nil`.  Then `Invoke` returns the error `e` and the
    in-script call ends the parent's loop with `vm.err = e` — the SAME `*RuntimeError` object —, and heap, globals and
    module cache of the two final states are equal.  (When a frame of the caller has a handler the in-script run goes
    on inside that handler; `inScriptCall` then reports a value: not comparable, see `throw_shift_partial`.) -/
theorem C14_error_restricted (F : FloatOps) (cfg : HostCfg) (root s p : State) (w : World) (fa ci : Nat)
    (free : Option (List Addr)) (args : List V) (dpt fuel : Nat) (e : Addr)
    (hw : ∀ c ∈ w.idle, ∃ u, c = releaseVM u)
    (hrc : root.consts = s.consts) (hrn : root.numModules = s.numModules) (hshared : s.numModules ≤ s.modules.size)
    (hpush : exec (pushArgs fa args) s = (.ok (), p))
    (hfn : p.heap[fa]? = some (.fn ci free)) (hg : p.globals ≠ .nil) (herr : p.err = none) (hshp : Shape p)
    (hargs : argsOnStack p args.length = args)
    (hacc : accepted (p.codes[ci]!).numParams (p.codes[ci]!).variadic args.length)
    (hself : (p.frames[p.curFrame]!).fn ≠ some fa)
    (hfi : 1 ≤ p.frameIndex ∧ p.frameIndex + 1 ≤ (frameSize : Int) - 1)
    (hbp : 1 ≤ p.sp - args.length) (hsp : p.sp ≤ (stackSize : Int))
    (hroom : p.sp - args.length + (p.codes[ci]!).numLocals ≤ (stackSize : Int))
    (hnl : (p.codes[ci]!).numParams ≤ (p.codes[ci]!).numLocals)
    (c0 p0 c1 : State)
    (hc0 : exec (prologue s.globals args) (acquireFrom { root with modules := s.modules } s (zeroVM s) fa) = (.ok (), c0))
    (hp0 : exec (callCompiled fa args.length 0) p = (.ok (.ok ()), p0))
    (hloop : exec (loopF F fuel) c0 = (.ok (some ()), c1))
    (hok : OkRun F fuel c0 p0)
    (hpar : ∀ j, j ≤ fuel → runSteps F j p0 ≠ none)
    (hrete : c1.err = some (.rt e))
    (hnh : ∀ j, j < p.frameIndex.toNat → hasHandler (p0.frames[j]!) = false) :
    ∃ w' s' sIn,
      iterInvoke (runAt F cfg root (dpt + 1)) cfg root fa args fuel false 1 w s none [] = (.error (.rt e), w', s') ∧
      inScriptCall F fuel s fa args = (.error (.rt e), sIn) ∧
      s'.heap = sIn.heap ∧ s'.globals = sIn.globals ∧ s'.modules = sIn.modules := by
  obtain ⟨pm, r', p', n, e1, hend, hin, hgp, -⟩ := one_call F root s p fa ci free args fuel hrc hrn hshared
    hpush hfn hg herr hshp hargs hacc hself hfi hbp hsp hroom hnl c0 p0 c1 hc0 hp0 hloop hok hpar (by rw [hrete]; simp)
  obtain ⟨w', hit⟩ := iterInvoke_of_loop F cfg root s w fa args dpt fuel c0 c1 hw hshared hc0 hloop
  rcases hend with hq | ⟨e', he, hq⟩ | ⟨_, ⟨msg, he, _⟩, _⟩
  · obtain ⟨_, _, _, _, _, hce, _⟩ := hq
    rw [hrete] at hce; cases hce
  rotate_left
  · rw [hrete] at he; cases he
  rw [hrete] at he
  cases he
  have hkf : p.frameIndex.toNat ≤ frameSize := by have := hfi.2; simp only [frameSize] at this ⊢; omega
  obtain ⟨rfl, herr', hh, -, hm⟩ := hq.unhandled hkf hnh
  rw [finish_of_err (exec clearCurrentFrame c1).2 (.rt e) hrete] at hit
  refine ⟨w', _, p', hit, by rw [hin]; exact go_error F _ n e1 herr', hh.symm, hgp.symm, ?_⟩
  show (if s.modules.size ≥ s.numModules then c1.modules else s.modules) = p'.modules
  rw [if_pos hshared, hm]

end UgoVerif.Props.C14

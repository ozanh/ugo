import UgoVerif.Proofs.OpsNumeric
import UgoVerif.Spec.OperatorsDoc
import UgoVerif.Gen.Unary
/-
  C15 — operators obey their algebraic laws and the documented numeric semantics.

  All theorems are about the *regenerated* operator cells (`Gen/Numeric.lean`,
  translated from numeric.go / objects.go on every run) composed with the
  hand model of array/map recursion (`Model/Ops.lean`, tied by the `ops`
  correspondence stream).  They hold for every `FloatOps` instance (`trichotomy`: for
  every one whose conversions from integers give no NaN, `FloatOps.ConvNoNaN`), hence for
  IEEE-754 arithmetic.  The documented semantics is docs/operators.md written down
  in `Spec/OperatorsDoc.lean`.
-/
namespace UgoVerif.Props.C15
open UgoVerif UgoVerif.Go UgoVerif.Gen UgoVerif.Model UgoVerif.Proofs UgoVerif.Spec.OperatorsDoc

/-- `a == b` gives the same answer as `b == a`, for all (well-formed) values, nested
    arbitrarily deep. -/
theorem equal_comm (F : FloatOps) (a b : Val) (wa : WF a) (wb : WF b) :
    valEqual F a b = valEqual F b a :=
  valEqual_comm F a b wa wb

/-- `a != b` is the negation of `a == b` (model of vm.go OpNotEqual / OpEqual, `Model/Ops.lean`). -/
theorem neq_not_eq (F : FloatOps) (a b : Val) :
    opNotEqual F a b = .bool (!(match opEqual F a b with | .bool r => r | _ => false)) := by
  simp [opNotEqual, opEqual]

/-- exactly one of `a<b`, `a==b`, `a>b` whenever `<` and `>` are defined for the pair (NaN aside) -/
theorem trichotomy (F : FloatOps) (S : ObjOps) (hF : FloatOps.ConvNoNaN F) (a b : Val)
    (ha : notNaN a) (hb : notNaN b) (lt gt : Bool)
    (h1 : cmp F S .Less a b = some lt) (h2 : cmp F S .Greater a b = some gt) :
    exactlyOne lt (valEqual F a b) gt = true := by
  obtain ⟨e1, -, e2, -⟩ := cmp_key F S a b
  rw [e1] at h1; rw [e2] at h2
  cases hk : key F a b with
  | none => rw [hk] at h1; cases h1
  | some k =>
    rw [hk] at h1 h2; cases h1; cases h2
    rw [valEqual_key hk]; exact k.trich (key_ordered hF ha hb hk)

/-- `a <= b` means `a < b` or `a == b` -/
theorem le_iff_lt_or_eq (F : FloatOps) (S : ObjOps) (a b : Val) (le lt : Bool)
    (h1 : cmp F S .LessEq a b = some le) (h2 : cmp F S .Less a b = some lt) :
    le = (lt || valEqual F a b) := by
  obtain ⟨e2, e1, -, -⟩ := cmp_key F S a b
  rw [e1] at h1; rw [e2] at h2
  cases hk : key F a b with
  | none => rw [hk] at h1; cases h1
  | some k =>
    rw [hk] at h1 h2; cases h1; cases h2
    rw [valEqual_key hk]; exact k.le_eq

/-- `a < b` equals `b > a` -/
theorem lt_flip (F : FloatOps) (S : ObjOps) (a b : Val) (r r' : Bool)
    (h1 : cmp F S .Less a b = some r) (h2 : cmp F S .Greater b a = some r') : r = r' := by
  rw [(cmp_key F S a b).1] at h1; rw [(cmp_key F S b a).2.2.1] at h2
  cases hk : key F a b with
  | none => rw [hk] at h1; cases h1
  | some k =>
    cases hk' : key F b a with
    | none => rw [hk'] at h2; cases h2
    | some k' =>
      rw [hk] at h1; rw [hk'] at h2; cases h1; cases h2
      rw [key_swap hk hk']

@[simp] theorem classify_ok (v : Val) : classify (.ok v) = .value v := rfl
@[simp] theorem classify_zd : classify (.err .zeroDivision) = .zeroDivision := rfl
@[simp] theorem classify_ot (a b c : String) : classify (.err (.operandType a b c)) = .typeError := rfl
@[simp] theorem classify_te (m : String) : classify (.err (.typeErr m)) = .typeError := rfl

theorem docArith_some {F : FloatOps} {tok : Tok} {a b : Val} {d : Doc} (h : docArith F tok a b = some d) :
    isArith tok = true ∧ (kindOf a).isSome ∧ (kindOf b).isSome := by
  unfold docArith at h
  split at h
  · cases h
  · split at h
    · simp_all
    · cases h

/-- Arithmetic, bitwise and shift operators on int, uint, float, char and bool operands (all 25
    ordered kind pairs x 11 operators, all operand values): the regenerated operator cells return
    exactly the result of the Go operation after the documented operand conversion, and where
    the document has no result — division or remainder by zero, a negative shift count, operand
    kinds the table does not list — they return ZeroDivisionError resp. TypeError, never a
    panic and never another value. -/
theorem arith_matches_doc (F : FloatOps) (S : ObjOps) (tok : Tok) (a b : Val) (d : Doc)
    (h : docArith F tok a b = some d) : classify (binaryOp F S tok a b) = d := by
  obtain ⟨ht, ha, hb⟩ := docArith_some h
  rw [numeric_cell F S a b ha hb tok, numericDoc_arith ht, h]; rfl

/-- the statement above is not vacuous: the document covers every arithmetic operator on every
    pair of numeric operands -/
theorem docArith_total (F : FloatOps) (tok : Tok) (a b : Val) (ht : isArith tok = true)
    (ha : (kindOf a).isSome) (hb : (kindOf b).isSome) : (docArith F tok a b).isSome := by
  obtain ⟨ka, hka⟩ := Option.isSome_iff_exists.1 ha
  obtain ⟨kb, hkb⟩ := Option.isSome_iff_exists.1 hb
  simp only [docArith, ht, hka, hkb, Bool.not_true, Bool.false_eq_true, if_false]
  repeat' split
  all_goals rfl

theorem classify_of_isPanic {r : Res Val} (h : r.isPanic = true) : classify r = .panic := by
  cases r <;> first | rfl | cases h

/-- No operator application panics: every `/ %` by zero and every negative shift
    count is intercepted before the Go primitive that would panic. -/
theorem binop_no_panic (F : FloatOps) (S : ObjOps) (tok : Tok) (a b : Val) :
    (binaryOp F S tok a b).isPanic = false := by
  by_cases hn : (kindOf a).isSome ∧ (kindOf b).isSome
  · -- in the numeric table a panic would be one the document asks for
    exact Bool.eq_false_iff.2 fun hp => numericDoc_ne_panic
      ((numeric_cell F S a b hn.1 hn.2 tok).symm.trans (classify_of_isPanic hp))
  -- outside it no leaf is a primitive that can panic: along the dispatch on the left operand, where
  -- the array, map and function rows answer at once,
  fun_cases binaryOp F S tok a b
  any_goals rfl
  -- the undefined, string and bytes rows along their own dispatch on the right operand,
  case case1 => fun_cases Undefined_BinaryOp F S tok () b <;> first | rfl | (cases tok <;> rfl)
  case case7 o => fun_cases String_BinaryOp F S tok o b <;> cases tok <;> rfl
  case case8 o => fun_cases Bytes_BinaryOp F S tok o b <;> first | rfl | (cases tok <;> rfl)
  -- and a numeric row has the TypeError of the row, or its cell for undefined
  case case6 o => cases o <;> cases b <;> first | rfl | exact absurd ⟨rfl, rfl⟩ hn | (cases tok <;> rfl)
  all_goals cases b <;> first | rfl | exact absurd ⟨rfl, rfl⟩ hn | (cases tok <;> rfl)

/-- unary `+ - ^` (vm.go xOpUnary, regenerated): `0 + x`, `0 - x`, `m ^ x` with m all ones / -1,
    bool as int 1 or 0, TypeError for every other operand type -/
theorem unary_matches_doc (F : FloatOps) (isFalsy : Val → Bool) (tok : Tok) (v : Val) (d : Doc)
    (h : docUnary F tok v = some d) : classify (xOpUnary F isFalsy tok v) = d := by
  cases tok <;> try cases h
  all_goals
    rcases v with _ | a | a | a | a | (_ | _) | a | a | a | a | ⟨tn, i⟩ <;> cases h <;>
    first | rfl | simp [xOpUnary]

/-- examples: `true + 1.5` is evaluated as float, `'a' * 2` is a TypeError, `1 % 0` is ZeroDivisionError -/
example (F : FloatOps) : docArith F .Add (.bool true) (.float 0x3FF8000000000000#64)
    = some (.value (.float (F.add 0x3FF0000000000000#64 0x3FF8000000000000#64))) := by rfl
example (F : FloatOps) : docArith F .Mul (.char 97#32) (.int 2#64) = some .typeError := by rfl
example (F : FloatOps) : docArith F .Rem (.int 1#64) (.int 0#64) = some .zeroDivision := by rfl

end UgoVerif.Props.C15

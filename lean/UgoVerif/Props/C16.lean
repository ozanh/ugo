import UgoVerif.Proofs.PosLines
import UgoVerif.Proofs.C16Site
import UgoVerif.Proofs.ExecAtStartsLoad
import UgoVerif.Props.C05
/-
  C16 — runtime errors report the true source locations.

  Theorems about the hand model of parser/source_file.go, bytecode.go
  `SourcePos` and the trace bookkeeping of objects.go / vm.go
  (`Model/SourceFile.lean`, `Model/Trace.lean`; tied to the code by stream `pos`).
  Every statement quantifies over all tables, offsets, file sets, source maps,
  frame lists and texts.  The VM/compiler side (that the saved ip of a frame lies
  in the call's own statement) is the explicit hypothesis `SavedIpInCallStmt` of
  `C16_partial`; the full statement is `C16_full`.

  `SavedIpInCallStmt` is discharged for the output of the total compile model
  (`Model/Compile.lean`, optimizer off, no imports) run by the VM model (`VM/*.lean`):
  `sourcemap_covers` (compile side: every instruction has its own source-map entry; the
  instruction after a CALL / CALLNAME exists and carries the label — the line — of the call),
  `saved_ip_is_call_site` (VM side: every frame below the current one is suspended at a
  CALL / CALLNAME of its own function, `frame.ip = p + 2`), `C16_compiled` (their combination),
  under the hypothesis `ExecAtStarts`: the VM dispatches opcodes only at instruction starts of
  compiled code.  `exec_at_starts_compiled` proves `ExecAtStarts` for compiled code.
-/
namespace UgoVerif.Props.C16
open UgoVerif UgoVerif.Go UgoVerif.Model UgoVerif.Proofs.Pos

/-- For a well-formed line table and every offset ≥ 0 (in particular every offset
    `< size`), `position` reports the file's name, the offset, and the **unique**
    line `L+1` with `lineStart (L+1) ≤ offset < lineStart (L+2)` (no upper bound
    for the last line), with column `offset − lineStart + 1`.  No panic. -/
theorem position_spec (f : SrcFile) (hwf : WFLines f.lines f.size) (p : Pos) (h0 : f.base ≤ p) :
    ∃ (L : Nat) (start : Int),
      position f p = .ok { filename := f.name, offset := p - f.base, line := (L : Int) + 1,
                           column := (p - f.base) - start + 1 } ∧
      f.lines[L]? = some start ∧ start ≤ p - f.base ∧
      (∀ nxt, f.lines[L+1]? = some nxt → p - f.base < nxt) ∧
      (∀ (L' : Nat) (s' : Int), f.lines[L']? = some s' → s' ≤ p - f.base →
        (∀ nxt, f.lines[L'+1]? = some nxt → p - f.base < nxt) → L' = L) := by
  obtain ⟨L, start, h1, h2, h3, h4, h5⟩ := unpack_spec f hwf (p - f.base) (by omega)
  exact ⟨L, start, by simp [position, h1, bind, Res.bind], h2, h3, h4, h5⟩

example : WFLines [0, 4, 9] 12 :=
  ⟨rfl, by decide, by decide⟩
example : position { name := "a", base := 1, size := 12, lines := [0, 4, 9] } 6
    = .ok { filename := "a", offset := 5, line := 2, column := 2 } := by decide

/-- `lineStart` agrees with the table: the line reported by `position` starts at
    `base + start`. -/
theorem lineStart_spec (f : SrcFile) (L : Nat) (start : Int) (h : f.lines[L]? = some start) :
    lineStart f ((L : Int) + 1) = .ok (f.base + start) := by
  have hl : L < f.lines.length := (List.getElem?_eq_some_iff.mp h).1
  have e : ((L : Int) + 1 - 1).toNat = L := by omega
  have h1 : ¬ ((L : Int) + 1 < 1) := by omega
  have h2 : ¬ ((L : Int) + 1 > (f.lines.length : Int)) := by omega
  simp [lineStart, h1, h2, h]

/-- In a well-formed file set (files at increasing bases, disjoint ranges) with
    well-formed line tables, `SourceFileSet.Position p` never panics; when some file's
    range `[base, base+size]` contains `p` the answer names **that** file (it is
    unique, `file_unique`), the offset is `p − base ∈ [0, size]` and the line is ≥ 1;
    otherwise the answer is the zero position.  Holds for every state of the
    `LastFile` cache. -/
theorem position_in_file (s : FileSet) (h : WFSet s)
    (hl : ∀ f ∈ s.files, WFLines f.lines f.size) (p : Pos) (hp : p ≠ NoPos) :
    ∃ fp s', fsPosition s p = .ok (fp, s') ∧ s'.files = s.files ∧
      ((∃ (i : Nat) (f : SrcFile), s.files[i]? = some f ∧ f.base ≤ p ∧ p ≤ f.base + f.size ∧
          fp.filename = f.name ∧ fp.offset = p - f.base ∧ 0 ≤ fp.offset ∧ fp.offset ≤ f.size ∧
          1 ≤ fp.line) ∨
       ((∀ (i : Nat) (f : SrcFile), s.files[i]? = some f → ¬ (f.base ≤ p ∧ p ≤ f.base + f.size)) ∧
          fp = FilePos.zero)) := by
  obtain ⟨r, s', h1, h2, _, h4, h5⟩ := fileOf_spec s h p
  cases r with
  | none =>
    refine ⟨FilePos.zero, s', ?_, h2, Or.inr ⟨h5 rfl, rfl⟩⟩
    simp [fsPosition, hp, h1, bind, Res.bind]
  | some i =>
    obtain ⟨f, hf, hb1, hb2⟩ := h4 i rfl
    have hmem : f ∈ s.files := List.mem_of_getElem? hf
    obtain ⟨L, start, hpos, _, _, _, _⟩ := position_spec f (hl f hmem) p hb1
    refine ⟨{ filename := f.name, offset := p - f.base, line := (L : Int) + 1,
              column := (p - f.base) - start + 1 }, s', ?_, h2,
            Or.inl ⟨i, f, hf, hb1, hb2, rfl, rfl, ?_, ?_, ?_⟩⟩
    · have hf' : s'.files[i]? = some f := by rw [h2]; exact hf
      simp [fsPosition, hp, h1, bind, Res.bind, hf', hpos]
    · simp; omega
    · simp; omega
    · simp; omega

/-- positions of different files never overlap -/
theorem file_unique (s : FileSet) (h : WFSet s) (p : Pos) (i j : Nat) (fi fj : SrcFile)
    (hi : s.files[i]? = some fi) (hj : s.files[j]? = some fj)
    (hpi : fi.base ≤ p ∧ p ≤ fi.base + fi.size) (hpj : fj.base ≤ p ∧ p ≤ fj.base + fj.size) :
    i = j :=
  Proofs.Pos.file_unique h p i j fi fj hi hj hpi hpj

/-- multi-file base arithmetic: `NewFileSet` is well-formed and `AddFile` keeps it so —
    the new file (main script, then every imported source module) starts at or after
    the set's `Base`, i.e. strictly after the EOF position of every earlier file. -/
theorem newFileSet_wf : WFSet newFileSet :=
  ⟨by simp [newFileSet], by simp [newFileSet], by simp [newFileSet]⟩

theorem addFile_wf (s : FileSet) (h : WFSet s) (name : String) (base size : Int)
    (s' : FileSet) (i : Nat) (hadd : addFile s name base size = .ok (s', i)) :
    WFSet s' ∧ i = s.files.length ∧
      ∃ f, s'.files = s.files ++ [f] ∧ f.name = name ∧ f.size = size ∧ f.lines = [0] ∧
        s.base ≤ f.base ∧ s'.base = f.base + f.size + 1 := by
  unfold addFile at hadd
  simp only [] at hadd
  generalize hbdef : (if base < 0 then s.base else base) = b at hadd
  by_cases hg : b < s.base ∨ size < 0
  · simp [hg] at hadd
  · by_cases hov : b + size + 1 > maxInt
    · simp [hg, hov] at hadd
    · simp [hg, hov] at hadd
      obtain ⟨hs', hi⟩ := hadd
      subst hs'
      have hb : s.base ≤ b ∧ 0 ≤ size := by omega
      refine ⟨⟨?_, ?_, ?_⟩, hi.symm, _, rfl, rfl, rfl, rfl, hb.1, rfl⟩
      · intro f hf
        rcases List.mem_append.mp hf with hf | hf
        · exact h.sizes f hf
        · simp at hf; subst hf; exact hb.2
      · rw [List.pairwise_append]
        refine ⟨h.disjoint, by simp, ?_⟩
        intro a ha b' hb'
        simp at hb'; subst hb'
        have := h.below a ha
        simp; omega
      · intro f hf
        rcases List.mem_append.mp hf with hf | hf
        · have := h.below f hf; simp; omega
        · simp at hf; subst hf; simp; omega

example : ∃ s' i, addFile newFileSet "(main)" (-1) 10 = .ok (s', i) := ⟨_, _, rfl⟩

/-- The table the scanner builds for any text: exactly 0 and the offsets that follow a
    newline byte and are still inside the text; it is well-formed (first entry 0, strictly
    increasing, later entries inside the text), so `position_spec` applies to every
    scanned file. -/
theorem lines_spec (text : List UInt8) :
    WFLines (scanLines text) text.length ∧
    (∀ v ∈ scanLines text, 0 ≤ v ∧ v ≤ (text.length : Int)) ∧
    (∀ v : Int, v ∈ scanLines text ↔
      v = 0 ∨ ∃ j : Nat, text[j]? = some 10 ∧ v = (j : Int) + 1 ∧ v < (text.length : Int)) :=
  ⟨scanLines_wf text, scanLines_range text, scanLines_mem text⟩

def fileOfText (name : String) (base : Int) (text : List UInt8) : SrcFile :=
  { name := name, base := base, size := text.length, lines := scanLines text }

theorem scanLines_prepend_get (text : List UInt8) (hne : text ≠ []) (k n : Nat) :
    (scanLines (List.replicate k 10 ++ text))[k + n]? = ((scanLines text)[n]?).map (· + (k : Int)) := by
  rw [scanLines_prepend text hne k, List.getElem?_append_right (by simp), List.length_map, List.length_range,
    Nat.add_sub_cancel_left, List.getElem?_map]

/-- Prepending k blank lines moves every position down by exactly k lines, same
    column: for every non-empty text, every k, and every offset ≥ 0 of the original
    text (the same byte sits at `offset + k` in the new text). -/
theorem shift_lines (name : String) (base : Int) (text : List UInt8) (hne : text ≠ []) (k : Nat)
    (offset : Int) (h0 : 0 ≤ offset) (line col : Int)
    (h : unpack (fileOfText name base text) offset = .ok (line, col)) :
    unpack (fileOfText name base (List.replicate k 10 ++ text)) (offset + k) = .ok (line + k, col) := by
  obtain ⟨L, start, h1, h2, h3, h4, _⟩ :=
    unpack_spec (fileOfText name base text) (scanLines_wf text) offset h0
  obtain ⟨L', start', h1', h2', _, _, h5'⟩ :=
    unpack_spec (fileOfText name base (List.replicate k 10 ++ text))
      (scanLines_wf (List.replicate k 10 ++ text)) (offset + k) (by omega)
  rw [h] at h1
  obtain ⟨rfl, rfl⟩ := Prod.mk.inj (Res.ok.inj h1)
  have hget := scanLines_prepend_get text hne k
  simp only [fileOfText] at h2 h4 h2' h5'
  have hL : (scanLines (List.replicate k 10 ++ text))[k + L]? = some (start + k) := by rw [hget, h2]; rfl
  -- line `k + L` of the new table is the one that holds `offset + k`: the next entry is the next old entry, moved
  obtain rfl : k + L = L' := by
    refine h5' (k + L) (start + k) hL (by omega) fun nxt hn => ?_
    rw [Nat.add_assoc, hget] at hn
    obtain ⟨w, hw, rfl⟩ := Option.map_eq_some_iff.mp hn
    have := h4 w hw
    omega
  obtain rfl : start + k = start' := Option.some.inj (hL.symm.trans h2')
  rw [h1']
  simp only [Res.ok.injEq, Prod.mk.injEq]
  constructor <;> omega

/-- the table itself: `[0, 1, …, k−1]` followed by the original table shifted by k -/
theorem shift_table (text : List UInt8) (hne : text ≠ []) (k : Nat) :
    scanLines (List.replicate k 10 ++ text)
      = (List.range k).map Int.ofNat ++ (scanLines text).map (· + (k : Int)) :=
  scanLines_prepend text hne k

example : scanLines [97, 10, 98, 10, 10, 99] = [0, 2, 4, 5] := by decide
example : unpack (fileOfText "t" 1 [97, 10, 98]) 2 = .ok (2, 1) := by decide

/-- `SourcePos ip` is the position attached to the greatest key `k ≤ ip` (`0 ≤ k`) of
    the source map, and `NoPos` when there is none (or `ip < 0`). -/
theorem sourcepos_nearest (sm : SourceMap) (ip : Int) :
    (∀ (k : Nat) (v : Int), (k : Int) ≤ ip → smLookup sm (k : Int) = some v →
        (∀ k' : Nat, k < k' → (k' : Int) ≤ ip → smLookup sm (k' : Int) = none) → sourcePos sm ip = v) ∧
    ((∀ k : Nat, (k : Int) ≤ ip → smLookup sm (k : Int) = none) → sourcePos sm ip = NoPos) := by
  by_cases hneg : ip < 0
  · constructor
    · intro k v hk; omega
    · intro _; simp [sourcePos]; omega
  · have hip : ip ≥ 0 := by omega
    obtain ⟨h1, h2⟩ := sourcePosN_spec sm ip.toNat
    constructor
    · intro k v hk hv hgap
      have := h1 k v (by omega) hv (fun k' a b => hgap k' a (by omega))
      simp [sourcePos, hip, this]
    · intro hnone
      have := h2 (fun k hk => hnone k (by omega))
      simp [sourcePos, hip, this]

example : sourcePos [(0, 5), (3, 9), (7, 2)] 6 = 9 := by decide
example : sourcePos [(3, 9)] 2 = NoPos := by decide

/-- `addTrace` never drops or reorders earlier entries, and the new last entry is `pos` -/
theorem addTrace_spec (tr : List Pos) (pos : Pos) :
    (addTrace tr pos = tr ∨ addTrace tr pos = tr ++ [pos]) ∧ (addTrace tr pos).getLast? = some pos := by
  unfold addTrace
  cases h : tr.getLast? with
  | none => simp
  | some l =>
    by_cases hc : l = pos
    · subst hc; simp [h]
    · simp [hc]

/-- For an uncaught error raised at `(curFn, curIp)` with the active caller frames
    `callers` (innermost first; none of them has a handler), `StackTrace` lists the
    callers' saved positions **outermost first** — one entry per active frame — and
    the position of the failing instruction **last**. -/
theorem trace_shape (curFn : Option SourceMap) (curIp : Int) (callers : List TFrame)
    (h : ∀ f ∈ callers, f.hasHandler = false) :
    (stackTraceRaw (throwTrace false curFn curIp callers []).1).map (·.offset)
      = callers.reverse.map getFrameSourcePos ++ [getSourcePos curFn curIp] := by
  simp [throwTrace, addTrace, unwind_uncaught _ callers h, stackTraceRaw, List.map_reverse]

example : (stackTraceRaw (throwTrace false (some [(0, 30)]) 0
      [⟨some [(0, 20)], 4, false⟩, ⟨some [(0, 10)], 2, false⟩] []).1).map (·.offset) = [10, 20, 30] := by
  decide

/-- With a file set the entries are the `Position`s of the same list, in the same order. -/
theorem stackTrace_order (s : FileSet) (tr : List Pos) :
    stackTrace s tr = stackTraceFrom s tr.reverse := rfl

/-- One throw site as the VM presents it to `throw`, together with what the source
    says: `stmtPos` is the position of the failing statement's instruction,
    `callPos` the positions of the call statements of the active callers (innermost
    first). -/
structure ThrowSite where
  curFn   : Option SourceMap
  curIp   : Int
  callers : List TFrame
  stmtPos : Pos
  callPos : List Pos

/-- The VM/compiler side of C16: the current ip maps to the failing statement, and
    the saved `ip + 1` of every active frame maps into that frame's call statement.
    (In vm.go / compiler.go: `emit` records `node.Pos()` per instruction,
    `xOpCallCompiled` saves `ip + 2`.) -/
def SavedIpInCallStmt (t : ThrowSite) : Prop :=
  getSourcePos t.curFn t.curIp = t.stmtPos ∧ t.callers.map getFrameSourcePos = t.callPos ∧
  ∀ f ∈ t.callers, f.hasHandler = false

/-- what C16 asks of the reported trace at one throw site -/
def TraceTrue (t : ThrowSite) : Prop :=
  (stackTraceRaw (throwTrace false t.curFn t.curIp t.callers []).1).map (·.offset)
    = t.callPos.reverse ++ [t.stmtPos]

/-- **Full statement**: at every throw site the VM can reach on compiled bytecode (`Reach`;
    `ReachCompiled` for the compile model and the VM model) the reported trace
    is: call statements of the active frames outermost first, failing statement last. -/
def C16_full (Reach : ThrowSite → Prop) : Prop := ∀ t, Reach t → TraceTrue t

/-- C16 holds at every reachable throw site provided reachable sites
    satisfy the VM/compiler hypothesis `SavedIpInCallStmt`. -/
theorem C16_partial (Reach : ThrowSite → Prop) (hvm : ∀ t, Reach t → SavedIpInCallStmt t) :
    C16_full Reach := by
  intro t ht
  obtain ⟨h1, h2, h3⟩ := hvm t ht
  unfold TraceTrue
  rw [trace_shape t.curFn t.curIp t.callers h3, h1, ← h2, List.map_reverse]

example : SavedIpInCallStmt
    { curFn := some [(0, 30)], curIp := 0, callers := [⟨some [(0, 20)], 4, false⟩],
      stmtPos := 30, callPos := [20] } := by
  refine ⟨by decide, by decide, ?_⟩
  intro f hf; simp at hf; subst hf; rfl

section compile
open UgoVerif.Compile UgoVerif.Ast

/-- For every script the total compile model accepts and every labelling
    `lab` of source positions under which the script has one statement per label (`labSs`: every
    expression that belongs directly to a statement is labelled like the statement; `lab` = "line
    of"), the main function and every function constant of the bytecode satisfy `FnCov lab`:
    the stream decodes; EVERY instruction start has its own source-map entry (the VM can raise an
    error or record a trace entry only at an instruction, so `SourcePos` never has to search);
    and for every CALL / CALLNAME at an instruction start `p`, `p + 3` — the offset
    `getFrameSourcePos` looks up for the suspended caller: saved `ip + 1 = (p + 2) + 1` — is the
    start of a further instruction whose own entry has the same label as the entry of the call.
    (vm.go reports the position of the instruction AFTER the call, not of the call.) -/
theorem sourcemap_covers (lab : Nat → Nat) (builtins : List (String × Nat)) (disabled : List String)
    (file : List Stmt) (hl : labSs lab file = true) (bc : Compile.Bytecode)
    (h : compileFile builtins disabled file = .ok bc) :
    FnCov lab bc.main ∧ ∀ g, Const.fn g ∈ bc.constants.toList → FnCov lab g :=
  compileFile_cov lab builtins disabled file hl bc h

/-- the part that needs nothing of the script (any layout): every instruction has its own entry and
    a call is always followed by an instruction with its own entry -/
theorem sourcemap_covers_any (builtins : List (String × Nat)) (disabled : List String)
    (file : List Stmt) (bc : Compile.Bytecode) (h : compileFile builtins disabled file = .ok bc) :
    FnCov lab0 bc.main ∧ ∀ g, Const.fn g ∈ bc.constants.toList → FnCov lab0 g :=
  compileFile_cov lab0 builtins disabled file (labSs_lab0 file) bc h

/-- two statements on two "lines" (label = position / 20), each with a call -/
def demoFile : List Stmt :=
  [ .expr 10 (.call 10 false (.undef 10) []),
    .return_ 30 (some (.call 35 false (.undef 35) [])) ]

example : labSs (fun p => p / 20) demoFile = true := by decide

end compile

section vm
open UgoVerif.VM

/-- At every instruction boundary of a run of the VM model (after the
    prologue; after an instruction that ended with `continue`; after a recovered Go panic) at which
    `vm.err` is unset, every frame below the current one belongs to a heap function cell whose code
    has a CALL / CALLNAME opcode byte at `frame.ip - 2`, and `G` — whatever is known of every
    dispatched offset (`DispG`) — holds of that offset: frames are pushed only by
    `xOpCallCompiled`, which stores `ip + 2`; a self tail call reuses the frame; `OpReturn` and
    `throw` only pop.  For ARBITRARY bytecode. -/
theorem saved_ip_is_call_site (G : Code → Nat → Prop) (F : FloatOps) {s0 : State} (h0 : CallSites G s0)
    (hD : ∀ s, Boundary F s0 s → s.err = none → DispG G s) (s : State) (hb : Boundary F s0 s)
    (he : s.err = none) : CallSites G s :=
  (reach_inv F (CsInv.of_callSites h0) hD s hb).callSites he

/-- one instruction (any opcode) keeps it … -/
theorem saved_ip_step (G : Code → Nat → Prop) (F : FloatOps) {s : State} (hcs : CallSites G s) (hd : DispG G s)
    (s' : State) (hstep : exec (step F) s = (.ok .next, s')) (herr : s'.err = none) : CallSites G s' := by
  have := (step_inv (G := G) F).elim s ⟨CsInv.of_callSites hcs, fun _ => hd⟩
  rw [hstep] at this
  exact this.callSites herr

/-- … and the prologue of `Run` establishes it -/
theorem saved_ip_after_prologue (G : Code → Nat → Prop) (g : V) (args : List V) {s s' : State}
    (hsz : s.frames.size = frameSize) (h : exec (prologue g args) s = (.ok (), s')) : CallSites G s' :=
  callSites_prologue g args hsz h

example (codes : Array Code) (heap : Array Cell) (consts : Array V) (mainFn : Addr) (nm : Nat) :
    CallSites (fun _ _ => True) { newState codes heap consts mainFn nm with frameIndex := 1 } :=
  callSites_init rfl rfl (by simp [newState, emptyFrames])

end vm

section compiled
open UgoVerif.VM UgoVerif.Compile UgoVerif.Proofs.C16

/-- what `throw` reads off the VM state `s` (code memory `fns.map codeOfCFn`) when the instruction at
    `s.ip` raises an error, and what the compiler recorded: `stmtPos` = the entry of the failing
    instruction, `callPos` = for every frame below the current one (innermost first) the entry of the
    instruction that follows its call -/
def siteOf (fns : List CFn) (s : State) : ThrowSite :=
  { curFn := (frameFn fns s (s.frames[s.curFrame]!)).map smOf
    curIp := s.ip
    callers := callersOf fns s
    stmtPos := recorded fns s (s.frames[s.curFrame]!) s.ip
    callPos := (List.range s.curFrame).reverse.map fun i =>
      recorded fns s (s.frames[i]!) ((s.frames[i]!).ip + 1) }

/-- a VM state in which an error raised by the instruction at `s.ip` escapes: the code memory
    is compiler output, the frame stack satisfies the call-site invariant for "instruction start",
    the failing instruction is at an instruction start of the current function, and no frame
    below has a handler -/
structure UncaughtThrow (lab : Nat → Nat) (fns : List CFn) (s : State) : Prop where
  codes : s.codes.toList = fns.map Eval.codeOfCFn
  cov : ∀ g ∈ fns, FnCov lab g
  sites : CallSites AtStart s
  cur : ∃ fa c fr, (s.frames[s.curFrame]!).fn = some fa ∧ s.heap[fa]? = some (Cell.fn c fr) ∧ 0 ≤ s.ip ∧
    Bd (s.codes[c]!).insts s.ip.toNat
  uncaught : ∀ i, i ≤ s.curFrame → hasHandler (s.frames[i]!) = false

/-- the VM/compiler hypothesis of `C16_partial`, proved for such states -/
theorem throw_site_ok (lab : Nat → Nat) (fns : List CFn) (s : State) (h : UncaughtThrow lab fns s) :
    SavedIpInCallStmt (siteOf fns s) := by
  obtain ⟨fa, c, fr, hfn, hheap, h0, hbd⟩ := h.cur
  refine ⟨?_, ?_, ?_⟩
  · obtain ⟨g, v, hff, hv, hpos⟩ := current_reports lab h.codes h.cov hfn hheap h0 hbd
    simp only [siteOf]
    rw [hpos]
    simp [recorded, hff, hv]
  · simp only [siteOf, callersOf, List.map_map]
    apply List.map_congr_left
    intro i hi
    have hi' : i < s.curFrame := by simpa using hi
    obtain ⟨g, v, v', hff, _, hv', _, hpos⟩ := caller_reports lab h.codes h.cov (h.sites.inv i hi')
    simp only [Function.comp]
    rw [hpos]
    simp [recorded, hff, hv']
  · intro f hf
    simp only [siteOf, callersOf, List.mem_map, List.mem_reverse, List.mem_range] at hf
    obtain ⟨i, hi, rfl⟩ := hf
    exact h.uncaught i (Nat.le_of_lt hi)

def ReachCompiled (lab : Nat → Nat) (fns : List CFn) (t : ThrowSite) : Prop :=
  ∃ s, UncaughtThrow lab fns s ∧ t = siteOf fns s

/-- `C16_full` for the throw sites of compiled scripts: the reported trace is
    the entries recorded behind the calls of the active frames, outermost first, then the entry of
    the failing instruction. -/
theorem C16_compiled (lab : Nat → Nat) (fns : List CFn) : C16_full (ReachCompiled lab fns) :=
  C16_partial _ fun _ ⟨s, hs, ht⟩ => ht ▸ throw_site_ok lab fns s hs

/-- In labels (lines): the reported trace lists, outermost first, the label
    of the position the compiler recorded for the CALL / CALLNAME instruction at which each active
    frame is suspended (`frame.ip - 2`: the position of the call expression), and last the label of
    the position recorded for the failing instruction. -/
theorem C16_compiled_lines (lab : Nat → Nat) (fns : List CFn) (s : State) (h : UncaughtThrow lab fns s) :
    ((stackTraceRaw (throwTrace false (siteOf fns s).curFn (siteOf fns s).curIp (siteOf fns s).callers []).1).map
        fun fp => lab fp.offset.toNat)
      = ((List.range s.curFrame).map fun i => lab (recorded fns s (s.frames[i]!) ((s.frames[i]!).ip - 2)).toNat)
        ++ [lab (recorded fns s (s.frames[s.curFrame]!) s.ip).toNat] := by
  have ht : TraceTrue (siteOf fns s) := C16_compiled lab fns _ ⟨s, h, rfl⟩
  unfold TraceTrue at ht
  have hm := congrArg (List.map fun p : Int => lab p.toNat) ht
  rw [List.map_map] at hm
  rw [show (fun fp : FilePos => lab fp.offset.toNat) = ((fun p : Int => lab p.toNat) ∘ fun fp => fp.offset) from rfl, hm]
  simp only [siteOf, List.map_append, List.map_cons, List.map_nil, List.map_reverse, List.reverse_reverse, List.map_map]
  congr 1
  apply List.map_congr_left
  intro i hi
  have hi' : i < s.curFrame := by simpa using hi
  obtain ⟨g, v, v', hff, hv, hv', hlab, _⟩ := caller_reports lab h.codes h.cov (h.sites.inv i hi')
  simp [Function.comp, recorded, hff, hv, hv', hlab]

/-- the loader: `NewVM(bc)` for compile-model bytecode (`Model/Eval.setBytecode` on a new VM;
    `Props/C04.load_compiled`: the serializer's loader builds the same state) -/
def loaded (bc : Compile.Bytecode) : State := Eval.setBytecode (newState #[] #[] #[] 0 0) bc.main 0 bc.constants #[]

/-- **Control-flow integrity of the VM on compiled code** (a hypothesis of the theorems of this
    section; proved as `exec_at_starts_compiled` below, from `Proofs/ExecAtStarts*.lean`): at every instruction boundary
    of the run with `vm.err` unset, the offset `ip + 1` at which the next opcode is fetched is ≥ 0 and
    an instruction start of the current function.  (Also tested by the lock-step `vmtrace` stream,
    which compares (frameIndex, ip, opcode) before every instruction.) -/
def ExecAtStarts (F : FloatOps) (s1 : State) : Prop :=
  ∀ s, Boundary F s1 s → s.err = none → 0 ≤ s.ip + 1 ∧
    ∃ fa c fr, (s.frames[s.curFrame]!).fn = some fa ∧ s.heap[fa]? = some (Cell.fn c fr) ∧
      Bd (s.codes[c]!).insts (s.ip + 1).toNat

theorem ExecAtStarts.dispG {F : FloatOps} {s1 : State} (hx : ExecAtStarts F s1) (s : State) (hb : Boundary F s1 s)
    (he : s.err = none) : DispG AtStart s := by
  obtain ⟨_, fa, c, fr, hfn, hheap, hbd⟩ := hx s hb he
  intro fa' c' fr' hfn' hheap'
  rw [hfn] at hfn'; cases hfn'
  rw [hheap] at hheap'; cases hheap'
  exact hbd

/-- `compiled_run_sites` (below) with control-flow integrity `ExecAtStarts` as a hypothesis. -/
theorem compiled_run_sites_of_ExecAtStarts (lab : Nat → Nat) (builtins : List (String × Nat)) (disabled : List String)
    (file : List Ast.Stmt) (hl : Ast.labSs lab file = true) (bc : Compile.Bytecode)
    (hc : compileFile builtins disabled file = .ok bc) (F : FloatOps) (g : V) (args : List V) (s1 : State)
    (hpro : exec (prologue g args) (loaded bc) = (.ok (), s1)) (hx : ExecAtStarts F s1)
    (s : State) (hb : Boundary F s1 s) (he : s.err = none)
    (hnh : ∀ i, i ≤ s.curFrame → hasHandler (s.frames[i]!) = false) :
    UncaughtThrow lab (fnList bc) { s with ip := s.ip + 1 } := by
  have hcodes1 : s1.codes = (loaded bc).codes := by
    have := prologue_codes g args (loaded bc)
    rw [hpro] at this; exact this
  have hcodes : s.codes.toList = (fnList bc).map Eval.codeOfCFn := by
    rw [boundary_codes F hb, hcodes1]; exact load_codes bc
  have hcs1 : CallSites AtStart s1 := callSites_prologue g args (load_frames bc) hpro
  have hcs : CallSites AtStart s := saved_ip_is_call_site AtStart F hcs1 (fun s hb he => hx.dispG s hb he) s hb he
  obtain ⟨h0, fa, c, fr, hfn, hheap, hbd⟩ := hx s hb he
  exact ⟨hcodes, fnList_cov lab builtins disabled file hl bc hc, ⟨hcs.link, hcs.size, hcs.lt, hcs.inv⟩,
    ⟨fa, c, fr, hfn, hheap, h0, hbd⟩, hnh⟩

/-- `compiled_run_lines` (below) with `ExecAtStarts` as a hypothesis. -/
theorem compiled_run_lines_of_ExecAtStarts (lab : Nat → Nat) (builtins : List (String × Nat)) (disabled : List String)
    (file : List Ast.Stmt) (hl : Ast.labSs lab file = true) (bc : Compile.Bytecode)
    (hc : compileFile builtins disabled file = .ok bc) (F : FloatOps) (g : V) (args : List V) (s1 : State)
    (hpro : exec (prologue g args) (loaded bc) = (.ok (), s1)) (hx : ExecAtStarts F s1)
    (s : State) (hb : Boundary F s1 s) (he : s.err = none)
    (hnh : ∀ i, i ≤ s.curFrame → hasHandler (s.frames[i]!) = false) :
    let sd : State := { s with ip := s.ip + 1 }
    let t := siteOf (fnList bc) sd
    ((stackTraceRaw (throwTrace false t.curFn t.curIp t.callers []).1).map fun fp => lab fp.offset.toNat)
      = ((List.range s.curFrame).map fun i =>
            lab (recorded (fnList bc) sd (s.frames[i]!) ((s.frames[i]!).ip - 2)).toNat)
        ++ [lab (recorded (fnList bc) sd (s.frames[s.curFrame]!) (s.ip + 1)).toNat] :=
  C16_compiled_lines lab (fnList bc) _
    (compiled_run_sites_of_ExecAtStarts lab builtins disabled file hl bc hc F g args s1 hpro hx s hb he hnh)

end compiled

section cfi
open UgoVerif.VM UgoVerif.VM.Cfi UgoVerif.Compile UgoVerif.Proofs.C16 UgoVerif.Props.C05

/-- The general statement, for ANY code memory (`Proofs/ExecAtStartsRun.lean`):
    in a run of the VM model that starts at an instruction boundary of well-formed code — `Good s0`:
    every code a function cell of the heap names satisfies `WfCode` (the stream decodes, the last
    instruction is RETURN, jump targets and non-zero SETUPTRY operands are instruction starts strictly
    inside), `ip + 1` is an instruction start of the current function, every frame below resumes at an
    instruction start, every handler stores instruction starts — the same holds at every
    instruction boundary (`Boundary`: after any number of instructions of any of the 44 opcodes,
    calls incl. self tail calls, returns, thrown errors taken by catch / finally handlers of the
    current or a lower frame, finalizers, recovered Go panics): the next opcode is fetched at an
    instruction start of the code of the current frame's function.  "Compiled code never executes
    operand bytes."  No `vm.err` side condition, no fuel. -/
theorem exec_at_starts (F : FloatOps) {s0 : State} (h0 : Good s0) (s : State) (hb : Boundary F s0 s) :
    0 ≤ s.ip + 1 ∧ ∃ fa c fr, (s.frames[s.curFrame]!).fn = some fa ∧ s.heap[fa]? = some (Cell.fn c fr) ∧
      Bd (s.codes[c]!).insts (s.ip + 1).toNat :=
  UgoVerif.VM.Cfi.exec_at_starts F h0 s hb

/-- one instruction keeps it (`step` ending with `continue`) … -/
theorem exec_at_starts_step (F : FloatOps) {s s' : State} (h : Good s) (hstep : exec (step F) s = (.ok .next, s')) :
    Good s' :=
  ((tq_step F).elim_ok h hstep).2 rfl

/-- … a Go panic at any panic site of any opcode leaves a state from which `handlePanic` reaches an
    instruction boundary again (or sets `vm.err`) … -/
theorem exec_at_starts_recover (F : FloatOps) {s s1 s' : State} {msg : String} (h : Good s)
    (hstep : exec (step F) s = (.error (.panic msg), s1)) (hp : exec (handlePanic msg) s1 = (.ok (), s'))
    (he : s'.err = none) : Good s' :=
  (tq_handlePanic msg).elim_ok ((tq_step F).elim_err h hstep) hp he

/-- … and the prologue of `Run` establishes it on a loaded VM -/
theorem exec_at_starts_after_prologue (g : V) (args : List V) {s s' : State} (h0 : Safe0 s)
    (h : exec (prologue g args) s = (.ok (), s')) : Good s' :=
  good_prologue g args h0 h

/-- no operand of a SETUPTRY is the end-of-stream offset.  (`Props/C05.compile_wf` proves every such
    operand is an instruction start OR the end of the stream; that it is never the end — the catch /
    finally positions are those of emitted SETUPCATCH / SETUPFINALLY instructions — is
    `Props/C05.compile_try_strict` (`TryStrict`), which implies this.) -/
def TryNotEnd (f : CFn) : Prop :=
  ∀ p op, Bd f.insts p → f.insts[p]? = some op → op.toNat = Compile.OpSetupTry →
    readBE f.insts (p + 1) 4 ≠ f.insts.size ∧ readBE f.insts (p + 5) 4 ≠ f.insts.size

theorem tryNotEnd_of_tryStrict {f : CFn} (h : TryStrict f) : TryNotEnd f := by
  intro p op hbd hop hc
  obtain ⟨t1, t2⟩ := h p op hbd hop hc
  have hp := hbd.2
  refine ⟨?_, by have := t2.2; omega⟩
  rcases t1 with t1 | t1
  · omega
  · have := t1.2; omega

/-- what `Props/C05.compile_wf` (`WFFn`) and `TryNotEnd` say of a compiled function is `WfCode` of its code -/
theorem wfCode_of_wfFn {cs : Array Const} {nf : Nat} {g : CFn} (h : WFFn cs nf g) (ht : TryNotEnd g) :
    WfCode (Eval.codeOfCFn g) := by
  refine ⟨h.decodes, ?_, ?_, ?_⟩
  · obtain ⟨q, b, h1, h2, h3, h4⟩ := h.ret
    have : opWidth Compile.OpReturn = 1 := rfl
    exact ⟨q, b, h1, h2, h3, by rw [this] at h4; exact h4⟩
  · intro p op hbd hop hc
    exact h.jump p op hbd hop hc
  · intro p op hbd hop hc
    obtain ⟨w1, w2⟩ := h.try_ p op hbd hop hc
    obtain ⟨n1, n2⟩ := ht p op hbd hop hc
    have l1 := w1.le_size (Nat.zero_le _)
    have l2 := w2.le_size (Nat.zero_le _)
    exact ⟨fun _ => ⟨w1, by show readBE g.insts (p + 1) 4 < g.insts.size; omega⟩,
      fun _ => ⟨w2, by show readBE g.insts (p + 5) 4 < g.insts.size; omega⟩⟩

/-- no operand of a SETUPTRY — in main or in a function constant — is the end-of-stream offset
    (`TryNotEnd`; implied by `Props/C05.TryStrict`, `tryNotEnd_of_tryStrict`).  True of
    compile-model output: `compiled_try_targets_strict`.  (Also checked on real bytecode by the
    structural scan of the `compilefuzz` stream.) -/
def TryTargetsStrict (bc : Compile.Bytecode) : Prop :=
  TryNotEnd bc.main ∧ ∀ g, Const.fn g ∈ bc.constants.toList → TryNotEnd g

/-- every function of well-formed bytecode has well-formed code -/
theorem fnList_wfCode (bc : Compile.Bytecode) (hwf : WF bc) (ht : TryTargetsStrict bc) :
    ∀ g ∈ fnList bc, WfCode (Eval.codeOfCFn g) :=
  forall_fnList (P := fun g => WfCode (Eval.codeOfCFn g)) (wfCode_of_wfFn hwf.2.1 ht.1) fun g hg =>
    let ⟨_, _, hf⟩ := hwf.2.2 g hg
    wfCode_of_wfFn hf (ht.2 g hg)

/-- `TryTargetsStrict` holds of the output of the
    total compile model — `Props/C05.compile_try_strict` (invariant `TryLt` carried through every
    compile function: a SETUPTRY is patched only with the position at which SETUPCATCH was emitted
    and the position of the emitted SETUPFINALLY). -/
theorem compiled_try_targets_strict (builtins : List (String × Nat)) (hbi : BuiltinsOK builtins) (disabled : List String)
    (file : List Ast.Stmt) (hok : Ast.okSs file = true) (bc : Compile.Bytecode)
    (hc : compileFile builtins disabled file = .ok bc) : TryTargetsStrict bc := by
  obtain ⟨h1, h2⟩ := compile_try_strict builtins hbi disabled file hok bc hc
  exact ⟨tryNotEnd_of_tryStrict h1, fun g hg => tryNotEnd_of_tryStrict (h2 g hg)⟩

/-- `ExecAtStarts` for the output
    of the total compile model loaded into a new VM and run by the VM model, given `TryTargetsStrict`. -/
theorem exec_at_starts_compiled_of_TryTargetsStrict (builtins : List (String × Nat)) (hbi : BuiltinsOK builtins) (disabled : List String)
    (file : List Ast.Stmt) (hok : Ast.okSs file = true) (bc : Compile.Bytecode)
    (hc : compileFile builtins disabled file = .ok bc) (ht : TryTargetsStrict bc)
    (F : FloatOps) (g : V) (args : List V) (s1 : State)
    (hpro : exec (prologue g args) (loaded bc) = (.ok (), s1)) : ExecAtStarts F s1 := by
  have hwf := compile_wf builtins hbi disabled file hok bc hc
  have h0 : Safe0 (loaded bc) := safe0_loaded bc (fnList_wfCode bc hwf ht)
  have hg : Good s1 := good_prologue g args h0 hpro
  intro s hb _
  exact UgoVerif.VM.Cfi.exec_at_starts F hg s hb

/-- `ExecAtStarts` — the hypothesis of `compiled_run_sites_of_ExecAtStarts` /
    `compiled_run_lines_of_ExecAtStarts` — holds for the output of the total compile model (hypotheses of
    `compile_wf`: builtin table in range, assignment statements have a left-hand side) loaded into a new VM
    and run by the VM model.  There is no compiler-side hypothesis: `TryTargetsStrict` is
    `compiled_try_targets_strict`. -/
theorem exec_at_starts_compiled (builtins : List (String × Nat)) (hbi : BuiltinsOK builtins) (disabled : List String)
    (file : List Ast.Stmt) (hok : Ast.okSs file = true) (bc : Compile.Bytecode)
    (hc : compileFile builtins disabled file = .ok bc)
    (F : FloatOps) (g : V) (args : List V) (s1 : State)
    (hpro : exec (prologue g args) (loaded bc) = (.ok (), s1)) : ExecAtStarts F s1 :=
  exec_at_starts_compiled_of_TryTargetsStrict builtins hbi disabled file hok bc hc
    (compiled_try_targets_strict builtins hbi disabled file hok bc hc) F g args s1 hpro

theorem exec_ok_of_isOk {m : M Unit} {s : State}
    (h : (match (exec m s).1 with | .ok _ => true | .error _ => false) = true) :
    exec m s = (.ok (), (exec m s).2) := by
  rcases hx : exec m s with ⟨r, s'⟩
  rw [hx] at h
  cases r with
  | ok u => rfl
  | error e => cases h

/-- non-vacuity of `exec_at_starts_compiled` / `compiled_run_sites`: the demo script compiles, its
    bytecode satisfies `TryTargetsStrict`, the loaded VM passes the prologue -/
theorem demo_run : BuiltinsOK [] ∧ Ast.okSs demoFile = true ∧ Ast.labSs (fun p => p / 20) demoFile = true ∧
    ∃ bc, compileFile [] [] demoFile = .ok bc ∧ TryTargetsStrict bc ∧
      ∃ s1, exec (prologue .nil []) (loaded bc) = (.ok (), s1) := by
  have hb : BuiltinsOK [] := by decide
  have hok : Ast.okSs demoFile = true := by decide
  -- one evaluation, by the kernel, of compile + load + prologue; `TryTargetsStrict` is the theorem
  have key : (match compileFile [] [] demoFile with
      | .ok bc => (match (exec (prologue .nil []) (loaded bc)).1 with | .ok _ => true | .error _ => false)
      | .error _ => false) = true := by decide +kernel
  refine ⟨hb, hok, by decide, ?_⟩
  cases hc : compileFile [] [] demoFile with
  | error e => rw [hc] at key; cases key
  | ok bc =>
    rw [hc] at key
    exact ⟨bc, rfl, compiled_try_targets_strict [] hb [] demoFile hok bc hc, _, exec_ok_of_isOk key⟩

example : ∃ bc, compileFile [] [] demoFile = .ok bc :=
  let ⟨_, _, _, bc, h, _⟩ := demo_run
  ⟨bc, h⟩

/-- non-vacuity of `exec_at_starts`: the state after the prologue of the demo run is `Good` -/
example : ∃ s0 : State, Good s0 := by
  obtain ⟨hb, hok, _, bc, hc, ht, s1, hp⟩ := demo_run
  exact ⟨s1, good_prologue _ _ (safe0_loaded bc (fnList_wfCode bc (compile_wf [] hb [] demoFile hok bc hc) ht)) hp⟩

/-- Compile (total compile model), load, run the prologue of `Run` with any
    globals and arguments, execute any number of instructions (recovered Go panics included): at
    every instruction boundary, the state in which the next instruction is dispatched
    (`vm.ip++` done) satisfies `UncaughtThrow` when no active frame has a handler: the code memory
    is the compiler's functions, all of them satisfy `FnCov lab`, every frame below the current one
    is suspended at a CALL / CALLNAME instruction START of its function, the dispatched offset is an
    instruction start.  Neither control-flow integrity nor `TryTargetsStrict` is a hypothesis:
    the hypotheses are those of `Props/C05.compile_wf`, the labelling of the AST and the success
    of the prologue. -/
theorem compiled_run_sites (lab : Nat → Nat) (builtins : List (String × Nat)) (hbi : BuiltinsOK builtins)
    (disabled : List String) (file : List Ast.Stmt) (hok : Ast.okSs file = true) (hl : Ast.labSs lab file = true)
    (bc : Compile.Bytecode) (hc : compileFile builtins disabled file = .ok bc)
    (F : FloatOps) (g : V) (args : List V) (s1 : State)
    (hpro : exec (prologue g args) (loaded bc) = (.ok (), s1))
    (s : State) (hb : Boundary F s1 s) (he : s.err = none)
    (hnh : ∀ i, i ≤ s.curFrame → hasHandler (s.frames[i]!) = false) :
    UncaughtThrow lab (fnList bc) { s with ip := s.ip + 1 } :=
  compiled_run_sites_of_ExecAtStarts lab builtins disabled file hl bc hc F g args s1 hpro
    (exec_at_starts_compiled builtins hbi disabled file hok bc hc F g args s1 hpro) s hb he hnh

/-- … hence the reported lines (`C16_compiled_lines`) for an error raised by
    the instruction dispatched at that boundary (as far as `throw` is entered with the frames below,
    the current function and `vm.ip` as they are at the dispatch: by inspection of vm.go; every
    primitive of the VM model keeps them: `Proofs/VMCallSiteOps.lean`, `ck_*`). -/
theorem compiled_run_lines (lab : Nat → Nat) (builtins : List (String × Nat)) (hbi : BuiltinsOK builtins)
    (disabled : List String) (file : List Ast.Stmt) (hok : Ast.okSs file = true) (hl : Ast.labSs lab file = true)
    (bc : Compile.Bytecode) (hc : compileFile builtins disabled file = .ok bc)
    (F : FloatOps) (g : V) (args : List V) (s1 : State)
    (hpro : exec (prologue g args) (loaded bc) = (.ok (), s1))
    (s : State) (hb : Boundary F s1 s) (he : s.err = none)
    (hnh : ∀ i, i ≤ s.curFrame → hasHandler (s.frames[i]!) = false) :
    let sd : State := { s with ip := s.ip + 1 }
    let t := siteOf (fnList bc) sd
    ((stackTraceRaw (throwTrace false t.curFn t.curIp t.callers []).1).map fun fp => lab fp.offset.toNat)
      = ((List.range s.curFrame).map fun i =>
            lab (recorded (fnList bc) sd (s.frames[i]!) ((s.frames[i]!).ip - 2)).toNat)
        ++ [lab (recorded (fnList bc) sd (s.frames[s.curFrame]!) (s.ip + 1)).toNat] :=
  compiled_run_lines_of_ExecAtStarts lab builtins disabled file hl bc hc F g args s1 hpro
    (exec_at_starts_compiled builtins hbi disabled file hok bc hc F g args s1 hpro) s hb he hnh

end cfi

end UgoVerif.Props.C16

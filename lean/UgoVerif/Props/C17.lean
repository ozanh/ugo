import UgoVerif.Proofs.JsonEnc
import UgoVerif.Proofs.JsonScanSpec
import UgoVerif.Proofs.JsonCompact
import UgoVerif.Proofs.JsonIndent
/-
  C17 — the json module produces and accepts exactly standard JSON.

  Spec:   `Spec/Json.lean`   RFC 8259 recogniser `isJson : Bytes → Bool` (compared with
                              encoding/json.Valid on every byte string of the `json` stream)
  Model:  `Model/JsonEnc.lean`  Marshal (escape tables regenerated from tables.go: `Gen/JsonTables`)
          `Model/JsonScan.lean` scanner automaton, Valid, Compact, Indent
  Tie:    stream `json` (model vs implementation on Marshal/Valid/Compact/Indent; the
          implementation vs encoding/json as the property's own oracle)

  Proved here for ALL values / byte strings: string escaping always yields a JSON string
  token (`escape_valid`); Marshal output is a JSON text (`marshal_valid`, one side condition:
  the open finding); a value holding an object without encoder is never given a
  document (`marshal_unsupported_is_error`); the scanner automaton accepts exactly the JSON
  texts nested at most `maxNestingDepth` deep (`scanner_exact`, `scanner_sound`,
  `scanner_complete`); `compact` never panics and writes one JSON value (`compact_valid`).
  The full statement is `C17_full`; what is not proved is listed beside it.
-/
namespace UgoVerif.Props.C17
open UgoVerif UgoVerif.Go UgoVerif.Model.JsonEnc UgoVerif.Model.JsonScan UgoVerif.Spec.Json UgoVerif.Proofs.Json
open UgoVerif.Gen.JsonTables (maxNestingDepth)

/-- Every escaped string is exactly one JSON string token: for all byte strings (invalid
    UTF-8, control bytes, quotes, backslashes, `<>&`, U+2028/9) and both settings of the
    HTML option, the recogniser reads `"…"` and stops right after the closing quote. -/
theorem escape_valid (escapeHTML : Bool) (s rest : Bytes) :
    Spec.Json.string (quoteString escapeHTML s ++ rest) = some rest :=
  quoteString_string escapeHTML s rest

/-- … and is a complete JSON text on its own -/
theorem escape_valid_doc (escapeHTML : Bool) (s : Bytes) : isJson (quoteString escapeHTML s) = true :=
  (isVal_quoteString escapeHTML s).isJson

example : quoteString true [0x3C, 0xFF, 0x22, 0x08] =
    [0x22, 0x5C, 0x75, 0x30, 0x30, 0x33, 0x63, 0x5C, 0x75, 0x66, 0x66, 0x66, 0x64, 0x5C, 0x22, 0x5C, 0x62, 0x22] := by
  decide

/-- a `JsonLib` meeting the hypothesis exists (non-vacuity of `JsonLib.OK`) -/
def L0 : JsonLib := { appendFloat := fun _ _ => [0x30] }
theorem L0_text (f : F64) : floatText L0 f = [0x30] := by
  simp [floatText, L0, cleanExp]
theorem L0_ok : L0.OK :=
  ⟨fun f _ _ => by rw [L0_text]; decide,
   fun f _ _ x hx => by
    rw [L0_text] at hx; simp at hx; subst hx; decide⟩

/-- `compact` writes one JSON value for `src` whenever it succeeds (the side condition of
    `marshal_valid_partial` on raw messages, i.e. bytes returned by a `Marshaler`; it holds for
    every `src`: `compactWritesValue_all`) -/
def CompactWritesValue (src : Bytes) : Prop := CompactValidOn src

/-- **Marshal returns an error or a JSON text** — every value type, arbitrary nesting, both
    options (quoted, escapeHTML) anywhere in the value.  Side conditions:
    * `isTopErr v = false`: the whole document is not a bare error value (for which the
      implementation still returns the empty document: open finding, see `marshal_full_false`);
    * every raw message inside `v` compacts to one value (`CompactWritesValue`).
    `L.OK` is the assumption on `strconv.AppendFloat` (checked by the driver on each float). -/
theorem marshal_valid_partial (L : JsonLib) (hL : L.OK) (v : JV) (bs : Bytes)
    (hTop : isTopErr v = false) (hRaw : rawsOK CompactWritesValue v)
    (h : marshal L v = .ok bs) : isJson bs = true :=
  (enc_valid L hL CompactWritesValue (fun _ hb => hb) v false true true bs hRaw h (Or.inr hTop)).isJson

/-- without raw messages there is no side condition on `compact` -/
theorem marshal_valid_rawfree (L : JsonLib) (hL : L.OK) (v : JV) (bs : Bytes)
    (hTop : isTopErr v = false) (hRaw : rawFree v)
    (h : marshal L v = .ok bs) : isJson bs = true :=
  (enc_valid L hL (fun _ => False) (fun _ hb => hb.elim) v false true true bs hRaw h (Or.inr hTop)).isJson

/-- the same for a value in any position and under any options: what `encode` appends is
    one JSON value (used for elements and members) -/
theorem encode_valid (L : JsonLib) (hL : L.OK) (v : JV) (quoted escapeHTML : Bool) (bs : Bytes)
    (hRaw : rawFree v) (h : enc L quoted escapeHTML false v = .ok bs) : isJson bs = true :=
  (enc_valid L hL (fun _ => False) (fun _ hb => hb.elim) v quoted escapeHTML false bs hRaw h (Or.inl rfl)).isJson

-- non-vacuity: a nested value with options and both hypotheses
example : marshal L0 (.map [([0x61], .opts true false (.array [.int 5, .str [0x3C], .undefined, .bytes [0xFF]]))])
    = .ok [0x7B, 0x22, 0x61, 0x22, 0x3A, 0x5B, 0x22, 0x35, 0x22, 0x2C, 0x22, 0x5C, 0x22, 0x3C, 0x5C, 0x22, 0x22,
           0x2C, 0x6E, 0x75, 0x6C, 0x6C, 0x2C, 0x22, 0x2F, 0x77, 0x3D, 0x3D, 0x22, 0x5D, 0x7D] := by decide
example : isTopErr (.map [([0x61], .errval)]) = false ∧ rawFree (.array [.int 1, .map []]) :=
  ⟨rfl, by simp [rawFree, rawsOK, rawsOKL, rawsOKM]⟩

/-- **A value that holds an object without encoder is never given a document**: functions,
    runtime errors, iterators … (`opaque`) anywhere, and error values anywhere but as the whole
    document, make Marshal fail instead of writing `{"a":,"b":1}`. -/
theorem marshal_unsupported_is_error (L : JsonLib) (v : JV) (hU : hasUnsupported v = true)
    (hTop : isTopErr v = false) : ∀ bs, marshal L v ≠ .ok bs :=
  enc_unsupported L v false true true hU (Or.inr hTop)

/-- the witness `{a: <function>, b: 1}` is an UnsupportedTypeError -/
example : marshal L0 (.map [([0x61], .opaque "compiledFunction"), ([0x62], .int 1)])
    = .err (unsupportedType "compiledFunction") := by decide
example : hasUnsupported (.map [([0x61], .opaque "compiledFunction"), ([0x62], .int 1)]) = true := by decide

/-- Open finding `C17:marshal-empty:toplevel-error-value`: an error value as the whole
    document is "ignored" — Marshal returns the empty document and no error (asserted by
    module_test.go: `string(json.Marshal(error("test"))) == ""`). -/
theorem marshal_toplevel_error_empty (L : JsonLib) : marshal L .errval = .ok [] := rfl

/-- Marshal validity for *all* values (the statement of the property) … -/
def marshal_full : Prop :=
  ∀ (L : JsonLib), L.OK → ∀ (v : JV) (bs : Bytes), marshal L v = .ok bs → isJson bs = true

/-- … is refuted by that witness: the side condition `isTopErr v = false` cannot be dropped. -/
theorem marshal_full_false : ¬ marshal_full := by
  intro h
  have := h L0 L0_ok .errval [] rfl
  exact absurd this (by decide)

/-- **`Valid` = the RFC 8259 recogniser with the nesting budget `maxNestingDepth`**, for every
    byte string: the 31-state automaton with its parse stack (`stdlib/json/scanner.go`) and the
    recursive-descent reading of the grammar (`Spec/JsonDepth.lean`) give the same verdict.
    (`isJsonD d` = `isJson` where arrays/objects may be nested at most `d` deep.) -/
theorem scanner_exact (bs : Bytes) : valid bs = .ok (isJsonD maxNestingDepth bs) :=
  valid_eq bs

/-- soundness: what the scanner accepts is a JSON text (RFC 8259 recogniser, no depth limit) -/
theorem scanner_sound (bs : Bytes) (h : valid bs = .ok true) : isJson bs = true := by
  rw [scanner_exact] at h
  injection h with h
  exact isJsonD_isJson _ _ h

/-- completeness: a JSON text nested at most `maxNestingDepth` deep is accepted -/
theorem scanner_complete (bs : Bytes) (h : isJsonD maxNestingDepth bs = true) : valid bs = .ok true := by
  rw [scanner_exact, h]

/-- the nesting-budget recogniser is the plain one restricted by depth: it implies `isJson`,
    every JSON text has a finite depth, and a larger budget accepts more -/
theorem depth_spec :
    (∀ d bs, isJsonD d bs = true → isJson bs = true) ∧
    (∀ bs, isJson bs = true → isJsonD (bs.length + 1) bs = true) ∧
    (∀ d d' bs, d ≤ d' → isJsonD d bs = true → isJsonD d' bs = true) :=
  ⟨isJsonD_isJson, isJson_isJsonD, isJsonD_mono⟩

/-- the only JSON texts the scanner rejects are those nested deeper than the limit -/
theorem scanner_rejects_only_deep (bs : Bytes) (_hj : isJson bs = true) (h : valid bs = .ok false) :
    isJsonD maxNestingDepth bs = false := by
  rw [scanner_exact] at h
  injection h

example : valid [0x5B, 0x31, 0x2C, 0x20, 0x7B, 0x22, 0x61, 0x22, 0x3A, 0x6E, 0x75, 0x6C, 0x6C, 0x7D, 0x5D] = .ok true := by
  decide
set_option linter.unusedSimpArgs false in
example : isJsonD 1 [0x5B, 0x5B, 0x5D, 0x5D] = false ∧ isJsonD 2 [0x5B, 0x5B, 0x5D, 0x5D] = true
    ∧ isJson [0x5B, 0x5B, 0x5D, 0x5D] = true := by
  refine ⟨?_, ?_, ?_⟩ <;> simp [isJsonD, isJson, skipWs, isWs, valueD, arrTailD, value, arrTail]

/-- **`compact` (with or without HTML escaping) never panics**: no `src[start:i]` goes out of
    range and the scanner never indexes an empty parse stack. -/
theorem compact_no_panic (escape : Bool) (src : Bytes) : ∃ o, compact escape src = .ok o :=
  let ⟨o, h, _⟩ := compact_spec escape src
  ⟨o, h⟩

/-- **What `compact` writes is one JSON value**: a JSON text (nested at most `maxNestingDepth`
    deep) that starts and ends with a byte that is not white space, so that it can stand as an
    element or member value (`IsVal`).  For all inputs and both settings of `escape`. -/
theorem compact_valid (escape : Bool) (src out : Bytes) (h : compact escape src = .ok (some out)) :
    isJson out = true ∧ isJsonD maxNestingDepth out = true ∧ valid out = .ok true ∧ IsVal out := by
  obtain ⟨h1, h2⟩ := Proofs.Json.compact_valid escape src out h
  exact ⟨h1.isJson, h2, scanner_complete out h2, h1⟩

example : compact true [0x20, 0x5B, 0x22, 0x3C, 0x22, 0x20, 0x5D, 0x0A] =
    .ok (some [0x5B, 0x22, 0x5C, 0x75, 0x30, 0x30, 0x33, 0x63, 0x22, 0x5D]) := by decide

/-- **`compact` returns bytes exactly for the inputs `Valid` accepts** (for the others it returns
    the scanner's error), with or without HTML escaping -/
theorem compact_accepts_iff_valid (escape : Bool) (src : Bytes) :
    (∃ out, compact escape src = .ok (some out)) ↔ valid src = .ok true :=
  let ⟨o, h, hs, _⟩ := compact_spec escape src
  some_iff_valid src _ ⟨o, h, hs⟩

/-- the side condition of `marshal_valid_partial` on raw messages holds for every byte string -/
theorem compactWritesValue_all (src : Bytes) : CompactWritesValue src :=
  fun esc out h => (Proofs.Json.compact_valid esc src out h).1

mutual
theorem rawsOK_all (P : Bytes → Prop) (hP : ∀ b, P b) : ∀ v : JV, rawsOK P v
  | .raw b => by simp only [rawsOK]; exact hP b
  | .rawNil => by simp only [rawsOK]; exact hP _
  | .array xs => by simp only [rawsOK]; exact rawsOKL_all P hP xs
  | .map kvs => by simp only [rawsOK]; exact rawsOKM_all P hP kvs
  | .opts _ _ v => by simp only [rawsOK]; exact rawsOK_all P hP v
  | .ptr v => by simp only [rawsOK]; exact rawsOK_all P hP v
  | .undefined | .nil | .int _ | .uint _ | .float _ | .char _ | .bool _ | .str _ | .bytes _
  | .ptrNil | .errval | .opaque _ => by simp only [rawsOK]
theorem rawsOKL_all (P : Bytes → Prop) (hP : ∀ b, P b) : ∀ xs : List JV, rawsOKL P xs
  | [] => by simp only [rawsOKL]
  | x :: xs => by simp only [rawsOKL]; exact ⟨rawsOK_all P hP x, rawsOKL_all P hP xs⟩
theorem rawsOKM_all (P : Bytes → Prop) (hP : ∀ b, P b) : ∀ kvs : List (Bytes × JV), rawsOKM P kvs
  | [] => by simp only [rawsOKM]
  | (_, x) :: xs => by simp only [rawsOKM]; exact ⟨rawsOK_all P hP x, rawsOKM_all P hP xs⟩
end

/-- **Marshal returns an error or a JSON text** — every value type (raw messages / `Marshaler`
    results included: their bytes go through `compact`, see `compact_valid`), arbitrary
    nesting, both options anywhere in the value.  The only side condition is the open
    finding: the whole document is not a bare error value (`marshal_full_false`). -/
theorem marshal_valid (L : JsonLib) (hL : L.OK) (v : JV) (bs : Bytes)
    (hTop : isTopErr v = false) (h : marshal L v = .ok bs) : isJson bs = true :=
  marshal_valid_partial L hL v bs hTop (rawsOK_all _ compactWritesValue_all v) h

-- non-vacuity: a raw message with white space and an HTML-sensitive byte inside an array
example : marshal L0 (.array [.raw [0x20, 0x22, 0x3C, 0x22, 0x20], .rawNil]) =
    .ok [0x5B, 0x22, 0x5C, 0x75, 0x30, 0x30, 0x33, 0x63, 0x22, 0x2C, 0x6E, 0x75, 0x6C, 0x6C, 0x5D] := by decide

/-- `valid` (checkValid over the scanner automaton) returns a verdict for every byte string:
    neither `parseState[n-1]` in `stateBeginStringOrEmpty` nor the slice in `popParseState`
    is ever reached with an empty parse stack. -/
theorem valid_no_panic (bs : Bytes) : ∃ b, valid bs = .ok b :=
  ⟨_, scanner_exact bs⟩

/-- `indentBuffer` returns output or the scanner's error for every input, prefix and indent -/
theorem indent_no_panic (pre ind bs : Bytes) : ∃ o, indent pre ind bs = .ok o :=
  let ⟨o, h, _⟩ := indent_spec pre ind bs
  ⟨o, h⟩

example : valid [0x7B, 0x7D] = .ok true ∧ valid [0x7D] = .ok false := by decide

/-- **`indentBuffer` returns bytes exactly for the inputs `Valid` accepts** (any prefix/indent);
    hence Valid, Compact and Indent accept the same documents: those of `scanner_exact` -/
theorem indent_accepts_iff_valid (pre ind src : Bytes) :
    (∃ out, indent pre ind src = .ok (some out)) ↔ valid src = .ok true :=
  some_iff_valid src _ (indent_spec pre ind src)

/-- C17 at full strength over the model.  Proved: the Marshal half (`marshal_valid`,
    `marshal_unsupported_is_error`, `escape_valid`) up to the open finding, the scanner half
    (`scanner_exact`: second conjunct below, and its converse up to the nesting limit), the
    Compact half (`compact_valid`: third conjunct; `compact_no_panic`).  Not proved (tested by
    the `json` stream on every generated byte string, against the implementation and against
    encoding/json): that Indent maps JSON texts to JSON texts (only `indent_no_panic` and
    `indent_accepts_iff_valid`), that Compact/Indent keep the document's value, and the round
    trip through Unmarshal (the decoder is not modelled). -/
def C17_full : Prop :=
  marshal_full
  ∧ (∀ bs, valid bs = .ok true → isJson bs = true)                                   -- scanner_sound
  ∧ (∀ bs out esc, compact esc bs = .ok (some out) → isJson out = true)                -- compact
  ∧ (∀ bs out p i, (∀ x ∈ p, isWs x = true) → (∀ x ∈ i, isWs x = true) →              -- indent
      isJson bs = true → indent p i bs = .ok (some out) → isJson out = true)

/-- the restriction to white-space prefix/indent strings in the last conjunct is necessary: like
    encoding/json.Indent, `indent` copies `prefix` and `indent` verbatim -/
theorem indent_needs_ws_prefix :
    ¬ (∀ bs out p i, isJson bs = true → indent p i bs = .ok (some out) → isJson out = true) := by
  intro h
  have h1 : isJson [0x5B, 0x31, 0x5D] = true := by
    simp [isJson, skipWs, isWs, value, arrTail, number, optMinus, intPart, isDigit, skipDigits, fracPart, expPart]
  have h2 : indent [0x78] [] [0x5B, 0x31, 0x5D] = .ok (some [0x5B, 0x0A, 0x78, 0x31, 0x0A, 0x78, 0x5D]) := by decide
  have h3 := h _ _ _ _ h1 h2
  simp [isJson, skipWs, isWs, value, isDigit] at h3

/-- the second and third conjunct of `C17_full` hold -/
theorem C17_scanner_compact :
    (∀ bs, valid bs = .ok true → isJson bs = true) ∧
    (∀ bs out esc, compact esc bs = .ok (some out) → isJson out = true) :=
  ⟨scanner_sound, fun bs out esc h => (compact_valid esc bs out h).1⟩

theorem C17_full_false : ¬ C17_full := fun h => marshal_full_false h.1

end UgoVerif.Props.C17

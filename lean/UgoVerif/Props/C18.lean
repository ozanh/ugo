import UgoVerif.Proofs.EncSafe
import UgoVerif.Proofs.EncAlloc
import UgoVerif.Gen.EncDispatch
/-
  C18 — decoding malformed bytecode returns an error, never a panic, and does not
  allocate out of proportion to the input.

  The theorems are about the hand model `Model/Enc.lean` of the repaired decoder
  (encoder/encoder.go, encoder/bytecode.go at fix commit 6f5a90c), whose tag and header
  constants are the regenerated `Gen/EncTags.lean`; the model is tied to the
  implementation by the `dec` (and `enc`) correspondence streams.  In the model every Go
  operation of the decoder that can panic is a `.panic` branch: `data[0]` in `toVarint`,
  every slice expression (`slice`); type assertions and `make` with a decoded length are
  error branches exactly where the repaired code returns an error.

  Parameters: gob (`Ctx.gobDec`, assumed not to panic — it is a function into `Option` —
  and not to "un-read" input: `GobRest`), and the version-1 instruction converter `conv`
  (encoder/v1.go, property C11: its totality `conv_total` is proved there and enters here
  as the hypothesis `hconv`).
-/
namespace UgoVerif.Props.C18
open UgoVerif UgoVerif.Go UgoVerif.Model.Enc UgoVerif.Proofs.Enc UgoVerif.Gen.EncTags

/-- assumption on the gob parameter: decoding never leaves more unread bytes than it was given -/
def GobRest (C : Ctx) : Prop := ∀ r o r', C.gobDec r = some (o, r') → r'.length ≤ r.length

/-- assumption on the gob parameter: its allocations are linear in its input -/
def GobAlloc (C : Ctx) (a b : Nat) : Prop := ∀ r, C.gobAlloc r ≤ a * r.length + b

private theorem isPanic_of_RSat {α} {O : Prop} {P : α → Prop} {r : Res α} (h : RSat O P r) : r.isPanic = false := by
  cases r <;> simp_all [RSat, Res.isPanic]

private theorem rsat_of_noPanic {α} {r : Res α} (h : r.isPanic = false) : RSat True (fun _ => True) r := by
  cases r <;> simp_all [RSat, Res.isPanic]

private theorem ne_oof_of_RSat {α} {P : α → Prop} {r : Res α} (h : RSat False P r) : r ≠ .err oofErr := by
  intro he
  rw [he] at h
  exact h.elim id fun hne => hne rfl

private theorem gobOK_true {C : Ctx} (h : GobRest C) (L : Nat) : GobOK C (fun _ => True) L :=
  ⟨h, fun _ _ => trivial⟩

/-- `DecodeObject` never panics: for every byte string (and every fuel) the result is a
    value or an error. -/
theorem decodeObject_no_panic (C : Ctx) (hG : GobRest C) (fuel : Nat) (bs : Bytes) :
    (decodeObjectF C fuel bs).res.isPanic = false :=
  isPanic_of_RSat ((decSpec True C (fun _ => True) bs.length (fun _ _ => trivial) (gobOK_true hG _) fuel).1 bs
    (Nat.le_refl _) (Or.inl trivial)).1

/-- `DecodeBytecodeFrom` (header check, version dispatch, field loop, v1 conversion,
    `fixObjects`) never panics, for both header versions and every other byte string. -/
theorem decode_no_panic (C : Ctx) (conv : BC → Res BC) (mods : Mods) (hG : GobRest C)
    (hconv : ∀ bc, (conv bc).isPanic = false) (fuel : Nat) (bs : Bytes) :
    (decodeBytecodeF C conv mods fuel bs).res.isPanic = false :=
  isPanic_of_RSat (decodeBytecodeF_sat (O := True) conv mods fuel bs (fun _ _ => trivial) (gobOK_true hG _)
    (fun bc => rsat_of_noPanic (hconv bc)) (Or.inl trivial)).1

/-- the same for the fuel the driver uses (`decodeBytecode`, `decodeObject`) -/
theorem decode_no_panic' (C : Ctx) (conv : BC → Res BC) (mods : Mods) (hG : GobRest C)
    (hconv : ∀ bc, (conv bc).isPanic = false) (bs : Bytes) :
    (decodeBytecode C conv mods bs).res.isPanic = false ∧ (decodeObject C bs).res.isPanic = false :=
  ⟨decode_no_panic C conv mods hG hconv _ bs, decodeObject_no_panic C hG _ bs⟩

/-- Fuel is not an escape hatch: with fuel ≥ 2·|bs|+2 (in particular with the driver's
    3·|bs|+16) the model never answers with its artificial out-of-fuel error, so every `err`
    of `decodeBytecode`/`decodeObject` stands for an error the Go code returns.  (`conv`, the
    C11 converter, is assumed not to produce that error either.) -/
theorem decode_never_out_of_fuel (C : Ctx) (conv : BC → Res BC) (mods : Mods) (hG : GobRest C)
    (hconv : ∀ bc, (conv bc).isPanic = false ∧ conv bc ≠ .err oofErr) (fuel : Nat) (bs : Bytes)
    (hf : 2 * bs.length + 2 ≤ fuel) :
    (decodeBytecodeF C conv mods fuel bs).res ≠ .err oofErr ∧
    (decodeObjectF C fuel bs).res ≠ .err oofErr := by
  have hc : ∀ bc, RSat False (fun _ => True) (conv bc) := by
    intro bc
    obtain ⟨h1, h2⟩ := hconv bc
    cases h : conv bc with
    | ok a => trivial
    | err e => exact Or.inr (fun he => h2 (by rw [h, he]))
    | panic m => rw [h] at h1; simp [Res.isPanic] at h1
  exact ⟨ne_oof_of_RSat (decodeBytecodeF_sat (O := False) conv mods fuel bs (fun _ _ => trivial) (gobOK_true hG _) hc
      (Or.inr hf)).1,
    ne_oof_of_RSat ((decSpec False C (fun _ => True) bs.length (fun _ _ => trivial) (gobOK_true hG _) fuel).1 bs
      (Nat.le_refl _) (Or.inr (by omega))).1⟩

/-- lifting the per-function converter of C11 to bytecode preserves "never panics / never
    out of fuel": with `convCF` := C11's converter, `hcf` is its theorem `conv_total` -/
theorem liftConv_total (convCF : CF → Res CF) (O : Prop) (hcf : ∀ f, RSat O (fun _ => True) (convCF f)) (bc : BC) :
    RSat O (fun _ => True) (liftConv convCF bc) := by
  have hcs : ∀ cs, RSat O (fun _ => True) (convConsts convCF cs) := by
    intro cs
    induction cs with
    | nil => simp [convConsts]
    | cons o rest ih =>
      cases o with
      | compiledFunction f =>
        unfold convConsts
        exact RSat_bind (hcf f) (fun _ _ => RSat_bind ih (fun _ _ => by simp))
      | _ => unfold convConsts; exact RSat_bind ih (fun _ _ => by simp)
  unfold liftConv
  refine RSat_bind (P := fun _ => True) ?_ (fun _ _ => RSat_bind (P := fun _ => True) ?_ (fun _ _ => by simp))
  · cases bc.main with
    | none => simp
    | some f => exact RSat_bind (hcf f) (fun _ _ => by simp)
  · cases bc.constants with
    | none => simp
    | some cs => exact RSat_bind (hcs cs) (fun _ _ => by simp)

/-- `decode_no_panic` with the v1 converter given per function (the form C11 proves) -/
theorem decode_no_panic_lifted (C : Ctx) (convCF : CF → Res CF) (mods : Mods) (hG : GobRest C)
    (hcf : ∀ f, (convCF f).isPanic = false) (fuel : Nat) (bs : Bytes) :
    (decodeBytecodeF C (liftConv convCF) mods fuel bs).res.isPanic = false :=
  decode_no_panic C _ mods hG
    (fun bc => isPanic_of_RSat (liftConv_total convCF True (fun f => rsat_of_noPanic (hcf f)) bc)) fuel bs

/-- explicit instances for the two supported header versions -/
theorem decode_no_panic_versions (C : Ctx) (conv : BC → Res BC) (mods : Mods) (hG : GobRest C)
    (hconv : ∀ bc, (conv bc).isPanic = false) (fuel : Nat) (body : Bytes) :
    (decodeBytecodeF C conv mods fuel (header BytecodeVersion1 ++ body)).res.isPanic = false ∧
    (decodeBytecodeF C conv mods fuel (header BytecodeVersion2 ++ body)).res.isPanic = false :=
  ⟨decode_no_panic C conv mods hG hconv fuel _, decode_no_panic C conv mods hG hconv fuel _⟩

/-- The shape of the version dispatch the model relies on, as regenerated from the source:
    version 2 decodes with `decodeBytecodeV2`; version 1 is `decodeBytecodeV2` followed by the
    converter (so the v1 path of `decodeBytecodeF` is `bcLoopF` then `conv`); `unmarshal` is
    `UnmarshalBinary` followed by `fixObjects`. -/
theorem dispatch_shape :
    UgoVerif.Gen.EncDispatch.versionDispatch =
      [("BytecodeVersion2", "decodeBytecodeV2"), ("BytecodeVersion1", "decodeBytecodeV1")] ∧
    UgoVerif.Gen.EncDispatch.decodeV1Calls = ["decodeBytecodeV2", "convBytecodeV1ToV2"] ∧
    UgoVerif.Gen.EncDispatch.unmarshalCalls = ["bc.UnmarshalBinary", "ugo.NewModuleMap", "bc.fixObjects"] := by
  decide

private theorem dominates_lin (a b L : Nat) (ha : 24 ≤ a) (hb : 268 ≤ b) :
    Dominates (fun n => n ≤ a * L + b) L := by
  intro n hn
  have : 24 * L ≤ a * L := Nat.mul_le_mul_right L ha
  show n ≤ a * L + b
  omega

private theorem gobOK_lin {C : Ctx} (hG : GobRest C) (a b L : Nat) (hA : GobAlloc C a b) :
    GobOK C (fun n => n ≤ a * L + b) L :=
  ⟨hG, fun r hr => by
    have h1 := hA r
    have : a * r.length ≤ a * L := Nat.mul_le_mul_left a hr
    show C.gobAlloc r ≤ a * L + b
    omega⟩

/-- No single allocation is out of proportion to the input: every buffer, slice or map the
    decoder allocates with an input-dependent size (`make`, buffer growth) is at most
    `a·|bs| + b` bytes (a ≥ 24, b ≥ 268; with gob's own allocations bounded likewise) — on
    every path, including those that end in an error. -/
theorem decode_alloc (C : Ctx) (conv : BC → Res BC) (mods : Mods) (a b : Nat) (ha : 24 ≤ a) (hb : 268 ≤ b)
    (hG : GobRest C) (hA : GobAlloc C a b) (hconv : ∀ bc, (conv bc).isPanic = false)
    (fuel : Nat) (bs : Bytes) :
    ∀ n ∈ (decodeBytecodeF C conv mods fuel bs).allocs, n ≤ a * bs.length + b :=
  (decodeBytecodeF_sat (O := True) conv mods fuel bs (dominates_lin a b _ ha hb) (gobOK_lin hG a b _ hA)
    (fun bc => rsat_of_noPanic (hconv bc)) (Or.inl trivial)).2

theorem decodeObject_alloc (C : Ctx) (a b : Nat) (ha : 24 ≤ a) (hb : 268 ≤ b)
    (hG : GobRest C) (hA : GobAlloc C a b) (fuel : Nat) (bs : Bytes) :
    ∀ n ∈ (decodeObjectF C fuel bs).allocs, n ≤ a * bs.length + b :=
  ((decSpec True C _ bs.length (dominates_lin a b _ ha hb) (gobOK_lin hG a b _ hA) fuel).1 bs (Nat.le_refl _)
    (Or.inl trivial)).2

/-- Full-strength allocation statement, with the constants the `dec` stream's oracle uses:
    the *sum* of all allocations of one decode is at most 64·|bs| + 64 KiB.
    FALSE for the implementation as it stands (`C18_alloc_full_false`): `DecodeObject` copies
    the payload of every size-prefixed object into a fresh buffer before decoding it, so a
    container nested d levels deep is copied d times (total ≈ |bs|·d/2).  `decode_alloc` is
    the proved part (`decode_alloc_partial`): no *single* allocation exceeds a·|bs|+b.
    Known finding C18:alloc-nesting (open: the repair — decode in place, or a depth limit —
    is a design decision). -/
def C18_alloc_full : Prop :=
  ∀ (C : Ctx) (conv : BC → Res BC) (mods : Mods), GobRest C → GobAlloc C 64 65536 →
    (∀ bc, (conv bc).isPanic = false) →
    ∀ fuel bs, (decodeBytecodeF C conv mods fuel bs).total ≤ 64 * bs.length + 65536

/-- the proved part of `C18_alloc_full` -/
theorem decode_alloc_partial (C : Ctx) (conv : BC → Res BC) (mods : Mods) (a b : Nat) (ha : 24 ≤ a) (hb : 268 ≤ b)
    (hG : GobRest C) (hA : GobAlloc C a b) (hconv : ∀ bc, (conv bc).isPanic = false)
    (fuel : Nat) (bs : Bytes) :
    ∀ n ∈ (decodeBytecodeF C conv mods fuel bs).allocs, n ≤ a * bs.length + b :=
  decode_alloc C conv mods a b ha hb hG hA hconv fuel bs

/-- a context satisfying the gob assumptions (gob rejects everything) -/
def ctx0 : Ctx := { gobDec := fun _ => none, gobAlloc := fun _ => 0, gobEnc := fun _ _ => [], isBuiltinFn := fun _ => false }

theorem ctx0_gobRest : GobRest ctx0 := by intro r o r' h; cases h
theorem ctx0_gobAlloc : GobAlloc ctx0 64 65536 := by intro r; exact Nat.zero_le _

/-- Refutation of `C18_alloc_full` by a concrete witness: the valid encoding of a bytecode
    whose single constant is an array nested 2001 levels deep (≤ 48 033 bytes) makes the
    decoder model allocate ≥ 10 009 002 bytes in total — more than 64·48 033 + 65 536 =
    3 139 648.  (The `dec` stream measures the same on the implementation: 12.6 KB of
    4000-deep arrays allocate 39 MB.) -/
theorem C18_alloc_full_false : ¬ C18_alloc_full := by
  intro h
  have hle := h ctx0 (fun bc => .ok bc) (fun _ => none) ctx0_gobRest ctx0_gobAlloc (fun _ => rfl) 6006
    (encodeBytecode ctx0 (nestBC 2000))
  have hlow := nestBC_total ctx0 (fun bc => .ok bc) (fun _ => none) 2000 6006 (by decide) (by decide)
  have hlen := nestBC_len ctx0 2000 (by decide)
  have hsum := nestSum_closed (2000 + 1)
  omega

example : GobRest ctx0 := ctx0_gobRest
example : GobAlloc ctx0 24 268 := by intro r; exact Nat.zero_le _
example : ∀ bc : BC, ((fun bc => .ok bc : BC → Res BC) bc).isPanic = false := fun _ => rfl
/-- a gob that consumes one byte also satisfies `GobRest` -/
example : GobRest { ctx0 with gobDec := fun r => some (.undefined, r.drop 1) } := by
  intro r o r' h; simp at h; rw [← h.2]; simp
/-- the model does decode: `[binIntV1, 1, 2]` is the integer 1, and a lone tag byte is an error -/
example : (match (decodeObjectF ctx0 3 [3, 1, 2]).res with
    | .ok (.int v, []) => v == 1#64
    | _ => false) = true := by decide
example : (decodeObjectF ctx0 3 [3]).res.isOk = false := by decide

end UgoVerif.Props.C18

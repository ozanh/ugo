import UgoVerif.Proofs.Builtins
/-
  C19 — builtin and standard-library functions are total over their arguments.

  * `adapters_safe`, `dispatch_complete` are about the REGENERATED tables of
    `Gen/Adapters.lean` (translated from zfuncs.go, stdlib/zfuncs.go,
    stdlib/time/zfuncs.go, stdlib/time/time.go, builtins.go, the module maps and
    objects.go on every run).
  * the `*_no_panic` theorems are about the hand models of `Model/Builtins.lean`
    (tied by the `builtins` correspondence stream): every Go panic site of the body is a
    `.panic` branch of the model, library callees panic outside their documented
    domains, and the theorem shows that the guards of the body keep every call inside.

  Assumptions that appear as hypotheses (never as axioms):
    `hL`  the runtime accepts allocations of up to 2^32 elements without *panicking*
          (`make`, `Builder.Grow`; on 64-bit Go the limit is 2^48 bytes).  Whether the
          machine has that much memory is outside every model: an out-of-memory
          condition is a fatal error of the Go runtime, not a panic.
    `hS`  strings that exist are shorter than `B`, with `2*(B+1) + 2^32 ≤ makeLimit`;
    `hM`  `makeLimit ≤ MaxInt64`.
-/
namespace UgoVerif.Props.C19
open UgoVerif UgoVerif.Go UgoVerif.Gen.Adapters UgoVerif.Model.Builtins UgoVerif.Proofs.Builtins

/-- the structural fact, by evaluation of the complete regenerated table: every index an
    adapter (or time method closure) reads is below the argument count it checked first -/
theorem adapters_table_safe : adapters.all adapterSafe = true := by decide +kernel

/-- No generated adapter and no `CallName` method of a time value indexes past the
    argument list, for every argument list (any split between args and vargs). -/
theorem adapters_safe (a : Adapter) (ha : a ∈ adapters) (c : Call) :
    (argPhase a c).isPanic = false :=
  argPhase_no_panic a (List.all_eq_true.mp adapters_table_safe a ha) c

-- non-vacuity: the table is not empty and the guard is what makes the reads safe — an
-- adapter that reads index 1 after checking one argument does panic on one argument
set_option maxRecDepth 100000 in
example : adapters.length > 90 := by decide +kernel
example : (argPhase ⟨"mutant", "", true, some 1, [0, 1], []⟩ { args := [.undefined], vargs := [] }).isPanic = true := by
  decide

/-- hand-written bodies (taking the whole `Call` / argument slice) that have a model in
    `Model/Builtins.lean` -/
def modelledHand : List String :=
  ["builtinAppendFunc", "builtinBytesFunc", "builtinGlobalsFunc", "builtinIsErrorFunc",
   "builtinPrintfFunc", "builtinPrintlnFunc", "builtinSprintfFunc", "Error.New", "RuntimeError.New",
   "pad", "replaceFunc", "newSplitFunc", "toValidUTF8Func",
   "fieldsFuncInv", "mapFuncInv", "newIndexFuncInv", "newTrimFuncInv",
   "newPrint", "newSprint", "newPrintf", "newSprintf",
   "dateFunc", "dateFuncEx", "unixFunc", "unixFuncEx"]

/-- hand-written bodies covered by the direct oracle only (scan targets, time parsing, sleeping) -/
def oracleOnlyHand : List String :=
  ["newSscan", "newSscanf", "newScanArgFunc", "parseFunc", "parseFuncEx", "sleepFunc"]

/-- typed bodies behind an adapter in which size arithmetic happens: modelled -/
def modelledTyped : List String := ["builtinMakeArrayFunc", "builtinRepeatFunc", "repeatFunc"]

/-- typed bodies behind an adapter that only wrap a Go library call or a type switch
    (they never see the argument list; their library callees are trusted on their
    documented domains and exercised by the oracle) -/
def wrapperTyped : List String :=
  ["<closure>", "inline", "ugo.Bool", "ugo.Int",
   "builtinBoolFunc", "builtinCapFunc", "builtinCharFunc", "builtinCharsFunc", "builtinContainsFunc",
   "builtinCopyFunc", "builtinDeleteFunc", "builtinErrorFunc", "builtinFloatFunc", "builtinIntFunc",
   "builtinIsArrayFunc", "builtinIsBoolFunc", "builtinIsBytesFunc", "builtinIsCallableFunc",
   "builtinIsCharFunc", "builtinIsFloatFunc", "builtinIsFunctionFunc", "builtinIsIntFunc",
   "builtinIsIterableFunc", "builtinIsMapFunc", "builtinIsStringFunc", "builtinIsSyncMapFunc",
   "builtinIsUintFunc", "builtinIsUndefinedFunc", "builtinLenFunc", "builtinSortFunc",
   "builtinSortReverseFunc", "builtinStringFunc", "builtinTypeNameFunc", "builtinUintFunc",
   "compactFunc", "containsAnyFunc", "containsCharFunc", "containsFunc", "countFunc",
   "durationHoursFunc", "durationMicrosecondsFunc", "durationMillisecondsFunc", "durationMinutesFunc",
   "durationNanosecondsFunc", "durationRoundFunc", "durationSecondsFunc", "durationStringFunc",
   "durationTruncateFunc", "equalFoldFunc", "fieldsFunc", "fixedZoneFunc", "hasPrefixFunc",
   "hasSuffixFunc", "indentFunc", "indexAnyFunc", "indexByteFunc", "indexCharFunc", "indexFunc",
   "isLocationFunc", "isTimeFunc", "joinFunc", "lastIndexAnyFunc", "lastIndexByteFunc", "lastIndexFunc",
   "loadLocationFunc", "localFunc", "marshalFunc", "marshalIndentFunc", "monthStringFunc", "noEscapeFunc",
   "noQuoteFunc", "nowFunc", "parseDurationFunc", "quoteFunc", "rawMessageFunc", "sinceFunc",
   "timeAdd", "timeAddDate", "timeAfter", "timeAppendFormat", "timeBefore", "timeEqual", "timeFormat",
   "timeIn", "timeRound", "timeSub", "timeTruncate", "titleFunc", "toLowerFunc", "toTitleFunc",
   "toUpperFunc", "trimFunc", "trimLeftFunc", "trimPrefixFunc", "trimRightFunc", "trimSpaceFunc",
   "trimSuffixFunc", "unmarshalFunc", "untilFunc", "utcFunc", "validFunc", "weekdayStringFunc",
   "zerotimeFunc"]

def adapterNamed (slotEx : Bool) (n : String) : Bool :=
  adapters.any fun a => a.name == n && a.ex == slotEx && adapterSafe a

/-- one slot (`Value` or `ValueEx`) of a dispatch entry is accounted for -/
def implOk (slotEx : Bool) : Impl → Bool
  | .adapter n body => adapterNamed slotEx n && (modelledTyped.contains body || wrapperTyped.contains body)
  | .hand b => modelledHand.contains b || oracleOnlyHand.contains b
  | .value => !slotEx
  | .absent => true

def entryOk (e : Entry) : Bool :=
  implOk false e.value && implOk true e.valueEx && !(e.value == .absent && e.valueEx == .absent)

/-- Every entry of `BuiltinObjects`, of the fmt / json / strings / time module maps, of the
    time method table and the `New` callables of error objects is implemented by a safe
    generated adapter of the right kind around a classified body, or by a classified
    hand-written body.  A new callable, a new body or an adapter without its guard breaks
    this obligation. -/
theorem dispatch_complete : dispatch.all entryOk = true := by decide +kernel

set_option maxRecDepth 100000 in
example : dispatch.length > 200 := by decide +kernel

/-- `:makeArray` -/
theorem makeArray_no_panic (E : Env) (hL : 4294967296 ≤ E.makeLimit) (n : Int) (arg : Val) :
    (makeArray E n arg).isPanic = false := by
  have hm : maxAllocLen = 2147483647 := rfl
  fun_cases makeArray E n arg
  any_goals rfl
  -- `arr[:n]` under `n ≤ len(arr)`; `make(Array, n)` and `ret[0]` with `0 < n ≤ maxAllocLen`
  · exact absurd ‹sliceTo _ _ = _› (sliceTo_ne_panic (by omega) (by omega))
  · exact absurd ‹goMake _ _ = _› (goMake_ne_panic (by omega) (by omega))
  · omega
  · exact absurd ‹goMake _ _ = _› (goMake_ne_panic (by omega) (by omega))

example : makeArray ⟨fun _ => none, by simp, fun _ => [], 281474976710656, fun _ => false, fun _ => false, fun _ => false, fun _ _ => .undefined⟩ 3 (.array [.bool true])
    = .ok (.array [.bool true, .undefined, .undefined]) := by rfl

theorem guard_bound {n : Nat} {count : Int}
    (hg : ¬ (n > 0 ∧ count > maxAllocLen / (n : Int))) : (n : Int) * count ≤ 2147483647 := by
  by_cases hn : n > 0
  · have : count ≤ maxAllocLen / (n : Int) := by
      have := fun h => hg ⟨hn, h⟩
      omega
    have := mul_le_of_le_div (M := maxAllocLen) hn this
    unfold maxAllocLen at this; exact this
  · have : n = 0 := by omega
    subst this; simp

theorem repeat_bound {arg : Val} {n : Nat} {count : Int} (hl : lengthOf arg = some n) (h0 : ¬ count < 0)
    (hg : ¬ repeatTooLarge arg count = true) : 0 ≤ (n : Int) * count ∧ (n : Int) * count ≤ 2147483647 := by
  refine ⟨Int.mul_nonneg (by omega) (by omega), guard_bound fun ⟨h1, h2⟩ => hg ?_⟩
  simp [repeatTooLarge, hl, h1, h2]

/-- `repeat`: the preconditions of `make`, `strings.Repeat` and `bytes.Repeat` (non-negative
    count, no overflow of `len*count`, an allocatable size) are all guarded in the body. -/
theorem repeat_no_panic (E : Env) (hL : 4294967296 ≤ E.makeLimit) (arg : Val) (count : Int) :
    (repeatB E arg count).isPanic = false := by
  fun_cases repeatB E arg count
  any_goals rfl
  -- `make(Array, 0, len*count)`, `strings.Repeat`, `bytes.Repeat`: `len*count` is below the guard
  next h0 v _ hx hg =>
    obtain ⟨b0, b1⟩ := repeat_bound (arg := .array v) rfl h0 hg
    rw [wrap64_id (by unfold minInt; omega) (by unfold maxInt; omega)] at hx
    exact absurd hx (goMake_ne_panic b0 (by omega))
  next h0 s _ hx hg =>
    exact absurd hx (libRepeat_ne_panic hL (by omega) (by have := repeat_bound (arg := .str s) rfl h0 hg; omega))
  next h0 s _ hx hg =>
    exact absurd hx (libRepeat_ne_panic hL (by omega) (by have := repeat_bound (arg := .bytes s) rfl h0 hg; omega))

/-- The same body without the size guard (the tree before commit c895260) is refuted:
    the precondition of `strings.Repeat` is not guarded — `repeat("ab", 1<<62)` panics. -/
theorem repeat_unguarded_refuted :
    ∃ (E : Env) (arg : Val) (count : Int), 4294967296 ≤ E.makeLimit ∧ (repeatB_unrepaired E arg count).isPanic = true :=
  ⟨⟨fun _ => none, by simp, fun _ => [], 281474976710656, fun _ => false, fun _ => false, fun _ => false, fun _ _ => .undefined⟩,
   .str [97, 98], 4611686018427387904, by decide, by decide⟩

theorem stringsRepeat_no_panic (E : Env) (hL : 4294967296 ≤ E.makeLimit) (s : Bytes) (count : Int) :
    (stringsRepeat E s count).isPanic = false := by
  fun_cases stringsRepeat E s count
  any_goals rfl
  next hc hg _ hx =>
    exact absurd hx (libRepeat_ne_panic hL (by omega) (by have := guard_bound hg; omega))

/-- `append`: `shift` tests the argument list before anything is indexed. -/
theorem append_no_panic (c : Call) : (appendB c).isPanic = false := by
  fun_cases appendB c
  any_goals rfl
  · exact absurd ‹appendBytes _ _ _ = _› (ne_panic (appendBytes_no_panic _ _ _))

/-- `bytes`: `c.Get(0)` is reached only when `c.Len() == 1`. -/
theorem bytes_no_panic (c : Call) : (bytesB c).isPanic = false := by
  have loops : ∀ r : Res Val, (r = match bytesLoop [] 0 c.args with
      | .ok acc => (match bytesLoop acc 0 c.vargs with
         | .ok r => .ok (.bytes r)
         | .err e => .err e
         | .panic m => .panic m)
      | .err e => .err e
      | .panic m => .panic m) → r.isPanic = false := by
    rintro _ rfl
    split
    · split
      · rfl
      · rfl
      · exact absurd ‹_› (ne_panic (bytesLoop_no_panic _ _ _))
    · rfl
    · exact absurd ‹_› (ne_panic (bytesLoop_no_panic _ _ _))
  fun_cases bytesB c
  any_goals rfl
  · exact loops _ rfl
  · exact absurd ‹_› (get_ne_panic (by omega))
  · exact loops _ rfl

/-- `sprintf` / `printf`: after `shift` the loop reads `size-1` arguments of a list of `size-1`. -/
theorem sprintf_no_panic (E : Env) (c : Call) : (sprintfB E c).isPanic = false := by
  fun_cases sprintfB E c
  any_goals rfl
  -- `Get(0)` when `size = 1`; `shift` of a non-empty list; the loop over the `size - 1` arguments left
  next hx => exact absurd hx (get_ne_panic (by omega))
  next hs => have := shift_none hs; omega
  next hs _ hx => exact absurd hx (getRange_ne_panic (by have := shift_len hs; omega))

theorem println_no_panic (c : Call) : (printlnB c).isPanic = false := by
  fun_cases printlnB c
  any_goals rfl
  next hx => exact absurd hx (get_ne_panic (by omega))
  next hx => exact absurd hx (getRange_ne_panic (by omega))

theorem isError_no_panic (E : Env) (c : Call) : (isErrorB E c).isPanic = false := by
  fun_cases isErrorB E c
  any_goals rfl
  -- each `Get` is below the length tested before it
  next hx => exact absurd hx (get_ne_panic (by omega))
  next hx => exact absurd hx (get_ne_panic (by omega))
  next hx => exact absurd hx (get_ne_panic (by omega))

/-- `globals`, the repaired body -/
theorem globals_no_panic (E : Env) (c : Call) : (globalsB E c).isPanic = false := by
  unfold globalsB; split <;> rfl

/-- `New` of error objects: `args[0]` is read only when `len(args) >= 1`. -/
theorem errorNew_no_panic (E : Env) (args : List Val) : (errorNewB E args).isPanic = false := by
  unfold errorNewB
  match args with
  | [] => rfl
  | [_] => rfl
  | _ :: _ :: _ => rfl

/-- strings `PadLeft` / `PadRight`: the argument indices, the division by `len(padWith)`,
    `Builder.Grow(padLen)`, `strings.Repeat(padWith, r)` and the slice `[:diff]` are all
    inside their domains — `padLen ≤ len(s)` is tested before `padLen - len(s)` is formed, so the
    subtraction cannot wrap, and `padLen` is bounded by the size limit. -/
theorem pad_no_panic (E : Env) (B : Nat) (hS : ∀ v, (E.toStr v).length ≤ B)
    (hL : 2 * (B + 1) + 4294967296 ≤ E.makeLimit) (hM : (E.makeLimit : Int) ≤ maxInt)
    (c : Call) (left : Bool) : (pad E c left).isPanic = false := by
  fun_cases pad E c left
  any_goals rfl
  -- the three `Get`s are below the tested size
  next hx => exact absurd hx (get_ne_panic (by omega))
  next hx => exact absurd hx (get_ne_panic (by omega))
  next hx => exact absurd hx (get_ne_panic (by omega))
  -- the tail, with the third argument or a blank as pad string
  · exact padCont_guarded E (B + 1) hL hM _ _ left _ ‹_› ‹_› (by omega) (Nat.le_succ_of_le (hS _))
  · exact padCont_guarded E (B + 1) hL hM _ _ left [32] ‹_› ‹_› Nat.zero_lt_one (Nat.le_add_left 1 B)

-- non-vacuity of the hypotheses of `pad_no_panic`: strings up to 2^40 bytes, Go's 2^48 limit
example : ∃ (E : Env) (B : Nat), (∀ v, (E.toStr v).length ≤ B) ∧ 2 * (B + 1) + 4294967296 ≤ E.makeLimit ∧ (E.makeLimit : Int) ≤ maxInt :=
  ⟨⟨fun _ => none, by simp, fun _ => [97], 281474976710656, fun _ => false, fun _ => false, fun _ => false, fun _ _ => .undefined⟩,
   1099511627776, by simp, by decide, by decide⟩

/-- strings `Replace`, `Split`, `SplitAfter` -/
theorem optIntTail_no_panic (E : Env) (c : Call) (lo : Nat) (n p : String) :
    (optIntTail E c lo n p).isPanic = false := by
  fun_cases optIntTail E c lo n p
  any_goals rfl
  next hx => exact absurd hx (getRange_ne_panic (by omega))
  next hx => exact absurd hx (get_ne_panic (by omega))

theorem replace_no_panic (E : Env) (c : Call) : (replaceB E c).isPanic = false := optIntTail_no_panic ..
theorem split_no_panic (E : Env) (c : Call) : (splitB E c).isPanic = false := optIntTail_no_panic ..

/-- strings `ToValidUTF8` -/
theorem toValidUTF8_no_panic (E : Env) (c : Call) : (toValidUTF8B E c).isPanic = false := by
  fun_cases toValidUTF8B E c
  any_goals rfl
  next hx => exact absurd hx (get_ne_panic (by omega))
  next hx => exact absurd hx (get_ne_panic (by omega))

/-- strings `*Func` (FieldsFunc, IndexFunc, LastIndexFunc, Map, Trim*Func): `stringInvoke`
    with (sidx, cidx) = (0, 1) or (1, 0) -/
theorem stringInvoke_no_panic (E : Env) (c : Call) (sidx cidx : Nat) (hs : sidx < 2) (hc : cidx < 2) :
    (stringInvoke E c sidx cidx).isPanic = false := by
  fun_cases stringInvoke E c sidx cidx
  any_goals rfl
  next hx => exact absurd hx (get_ne_panic (by omega))
  next hx => exact absurd hx (get_ne_panic (by omega))

/-- fmt `Print`, `Println`, `Sprint`, `Sprintln` -/
theorem fmtPrint_no_panic (E : Env) (c : Call) : (fmtPrint E c).isPanic = false := by
  fun_cases fmtPrint E c
  any_goals rfl
  next hx => exact absurd hx (getRange_ne_panic (by omega))

/-- fmt `Printf`, `Sprintf` -/
theorem fmtPrintf_no_panic (E : Env) (c : Call) : (fmtPrintf E c).isPanic = false := by
  fun_cases fmtPrintf E c
  any_goals rfl
  next hx => exact absurd hx (getRange_ne_panic (by omega))
  next hx => exact absurd hx (get_ne_panic (by omega))

/-- time `Unix` -/
theorem unix_no_panic (E : Env) (c : Call) : (unixB E c).isPanic = false := by
  fun_cases unixB E c
  any_goals rfl
  next hx => exact absurd hx (get_ne_panic (by omega))
  next hx => exact absurd hx (get_ne_panic (by omega))

theorem dateLoop_no_panic (E : Env) (c : Call) (isLoc : Val → Bool) (k i : Nat) :
    i + k ≤ c.len → (dateLoop E c isLoc i k).isPanic = false := by
  fun_induction dateLoop E c isLoc i k <;> intro h
  any_goals rfl
  -- `Get(i)` with `i < size`; `ymdHmsn[i]` under `i < 7`; the rest of the loop
  next hx => exact absurd hx (get_ne_panic (by omega))
  · omega
  next ih => exact ih (by omega)
  next ih => exact ih (by omega)

/-- time `Date`: the index into the `[7]int` array is guarded by `i < 7`. -/
theorem date_no_panic (E : Env) (c : Call) (isLoc : Val → Bool) : (dateB E c isLoc).isPanic = false := by
  fun_cases dateB E c isLoc
  any_goals rfl
  next hx => exact absurd hx (ne_panic (dateLoop_no_panic E c isLoc c.len 0 (by omega)))

end UgoVerif.Props.C19

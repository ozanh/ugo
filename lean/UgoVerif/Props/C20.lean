import UgoVerif.Proofs.Conv
/-
  C20 — values cross the Go boundary without change.

  All theorems are about the *regenerated* conversions `Gen.Conv.toObject`,
  `toObjectAlt`, `toInterface` (translated from the three type switches of ugo.go
  on every run, container loops included) composed with the hand model of the
  registry converters (`Model/ConvReg.lean`; which types are registered and
  whether a converter reads through a nil pointer is the regenerated table
  `Gen.ConvReg.registry`; the converter results are tied by the `conv` stream).
  They hold for every value, nested arbitrarily deep, and every `ConvOps`.

  Vocabulary (`Model/Conv.lean`): `plain` uGO values, `canon` Go values, `normObj`
  (replaces `Bytes(nil)` by `Bytes{}` — uGO cannot tell them apart — and nothing
  else), `normGo` / `≃` (identify nil and empty `[]byte`, `[]any`,
  `map[string]any` and nothing else).
-/
namespace UgoVerif.Props.C20
open UgoVerif UgoVerif.Go UgoVerif.Gen.Conv UgoVerif.Model.Conv UgoVerif.Proofs.Conv

/-- Converting a plain uGO value to Go never fails, gives a canonical Go value, and
    converting that back with `ToObject` gives the same value with the same types at every
    position (`normObj o` is `o` with `Bytes(nil)` read as the empty `Bytes{}`). -/
theorem toObject_toInterface (C : ConvOps) (o : Obj) (h : plain o = true) :
    ∃ g, toInterface o = .ok g ∧ canon g = true ∧ toObject C g = .ok (normObj o) :=
  rt_obj C o h

/-- `normObj` is the identity on values without a nil `Bytes`, in particular on everything
    `ToObject` returns for canonical Go input: the round trip is then literally `o`. -/
theorem toObject_toInterface_scalar (C : ConvOps) (o : Obj) (h : plain o = true)
    (hs : ∀ xs, o ≠ .array xs) (hm : ∀ kvs, o ≠ .map kvs) (hb : o ≠ .bytesNil) :
    ∃ g, toInterface o = .ok g ∧ toObject C g = .ok o := by
  obtain ⟨g, h1, _, h3⟩ := rt_obj C o h
  refine ⟨g, h1, ?_⟩
  cases o <;> simp_all [normObj]

/-- The same round trip through `ToObjectAlt`, for plain values without chars. -/
theorem toObjectAlt_toInterface (C : ConvOps) (o : Obj) (h : plainAlt o = true) :
    ∃ g, toInterface o = .ok g ∧ canonAlt g = true ∧ toObjectAlt C g = .ok (normObj o) :=
  rtAlt_obj C o h

/-- `ToObjectAlt` is documented to turn *every* signed integer into Int: a char comes back
    as the int with the same numeric value (not as a char). -/
theorem toObjectAlt_char (C : ConvOps) (v : BitVec 32) :
    toInterface (.char v) = .ok (.int32 v) ∧
    ∃ w, toObjectAlt C (.int32 v) = .ok (.int w) ∧ w.toInt = v.toInt :=
  ⟨by simp [toInterface], BitVec.signExtend 64 v, by simp [toObjectAlt],
    BitVec.toInt_signExtend_of_le (by decide)⟩

example : plain (.array [.int 1#64, .char 97#32, .map [([107], .bytesNil), ([], .array [])], .undefined]) = true := by
  simp [plain, plainList, plainKvs]
example : plainAlt (.map [([107], .array [.uint 2#64, .float 0#64, .str [104]])]) = true := by
  simp [plainAlt, plainAltList, plainAltKvs]

/-- Converting a canonical Go value with `ToObject` never fails, gives a plain uGO value, and
    converting that back gives a Go value `≃` the original. -/
theorem toInterface_toObject (C : ConvOps) (g : GoVal) (h : canon g = true) :
    ∃ o g', toObject C g = .ok o ∧ plain o = true ∧ toInterface o = .ok g' ∧ g' ≃ g := by
  obtain ⟨o, h1, h2, h3⟩ := (toObject_outcome C g).rt h
  exact ⟨o, normGo g, h1, h2, h3, sim_of_eq_norm rfl⟩

/-- … and the result is exactly the original with nil containers replaced by empty ones. -/
theorem toInterface_toObject_norm (C : ConvOps) (g : GoVal) (h : canon g = true) :
    ∃ o, toObject C g = .ok o ∧ toInterface o = .ok (normGo g) := by
  obtain ⟨o, h1, _, h3⟩ := (toObject_outcome C g).rt h
  exact ⟨o, h1, h3⟩

/-- The same through `ToObjectAlt`, for canonical values without rune. -/
theorem toInterface_toObjectAlt (C : ConvOps) (g : GoVal) (h : canonAlt g = true) :
    ∃ o g', toObjectAlt C g = .ok o ∧ plainAlt o = true ∧ toInterface o = .ok g' ∧ g' ≃ g := by
  obtain ⟨o, h1, h2, h3⟩ := (toObjectAlt_outcome C g).rt h
  exact ⟨o, normGo g, h1, h2, h3, sim_of_eq_norm rfl⟩

/-- `≃` is plain equality on everything that is not a `[]byte`, `[]any` or `map[string]any`. -/
theorem sim_scalar (a b : GoVal) (ha : isContainer a = false) : a ≃ b ↔ a = b := by
  refine ⟨fun h => ?_, fun h => h ▸ rfl⟩
  -- `normGo` fixes `a`, so `normGo b` and with it `b` is no container, and `normGo` fixes `b` too
  have h : a = normGo b := (normGo_of_not_container ha).symm.trans h
  have hb : isContainer b = false := by rw [← isContainer_normGo, ← h]; exact ha
  rw [h, normGo_of_not_container hb]
/-- `≃` relates the nil and the empty container of each kind. -/
theorem sim_nil_empty : GoVal.bytesNil ≃ .bytes [] ∧ GoVal.sliceNil ≃ .slice [] ∧ GoVal.mapNil ≃ .map [] := by
  simp [GoSim, normGo, normGoList, normGoKvs]
/-- `≃` does not relate a nil container to a non-empty one, nor containers of different kinds. -/
theorem sim_nil_nonempty (x : GoVal) (xs : List GoVal) : ¬ (GoVal.sliceNil ≃ .slice (x :: xs)) ∧ ¬ (GoVal.sliceNil ≃ .mapNil) := by
  simp [GoSim, normGo, normGoList]

example : canon (.slice [.int64 1#64, .int32 97#32, .sliceNil, .map [([107], .bytesNil), ([], .mapNil)], .nil]) = true := by
  simp [canon, canonList, canonKvs]
example : canonAlt (.map [([107], .slice [.uint64 2#64, .float64 0#64, .string [104], .bytesNil])]) = true := by
  simp [canonAlt, canonAltList, canonAltKvs]

/-- `ToObjectAlt` accepts every Go integer type; the result is an Int for signed and a Uint
    for unsigned types and has the same mathematical value. -/
theorem width_value (C : ConvOps) (g : GoVal) (n : Int) (s : Bool)
    (hn : goIntValue g = some n) (hs : goIntSigned g = some s) :
    ∃ v, toObjectAlt C g = .ok (if s then .int v else .uint v) ∧
         objIntValue (if s then Obj.int v else Obj.uint v) = some n := by
  cases g <;> simp [goIntValue, goIntSigned] at hn hs <;> subst hn <;> subst hs <;>
    simp [toObjectAlt, objIntValue, BitVec.toInt_signExtend_of_le, BitVec.toNat_setWidth] <;>
    (rename_i v; have := v.isLt; omega)

/-- `ToObject` converts the integer types it has a case for (`int64`, `int`, `rune`, `uint64`,
    `uint`, `uintptr`, `byte`) to the value with the same mathematical value … -/
theorem width_value_toObject (C : ConvOps) (g : GoVal) (n : Int)
    (hn : goIntValue g = some n) (hw : toObjectWidth g = true) :
    ∃ o, toObject C g = .ok o ∧ objIntValue o = some n := by
  cases g <;> simp [goIntValue, toObjectWidth] at hn hw <;> subst hn <;>
    simp [toObject, objIntValue]
  case uint8 v =>
    have := v.isLt
    simp only [Int.bmod]
    omega

/-- … and reports the other widths (`int8`, `int16`, `uint16`, `uint32`) as errors. -/
theorem width_unsupported_toObject (C : ConvOps) (g : GoVal) (n : Int)
    (hn : goIntValue g = some n) (hw : toObjectWidth g = false) :
    toObject C g = .err (.other "error" ("cannot convert to object: " ++ g.typeName)) := by
  cases g <;> simp [goIntValue, toObjectWidth] at hn hw <;>
    simp [toObject, toObjectDefault, regToObject, goRegType]

/-- `float32` becomes the Float `float64(x)` (exact by the Go specification; `C.f32to64`),
    `float64` is kept bit for bit (NaN payloads included), in both functions. -/
theorem width_value_float (C : ConvOps) (x : BitVec 32) (y : F64) :
    toObject C (.float32 x) = .ok (.float (C.f32to64 x)) ∧
    toObjectAlt C (.float32 x) = .ok (.float (C.f32to64 x)) ∧
    toObject C (.float64 y) = .ok (.float y) ∧ toObjectAlt C (.float64 y) = .ok (.float y) := by
  simp [toObject, toObjectAlt]

example : goIntValue (.int8 (BitVec.ofInt 8 (-3))) = some (-3) ∧ goIntSigned (.int8 (BitVec.ofInt 8 (-3))) = some true := by decide
example : goIntValue (.uint8 200#8) = some 200 ∧ toObjectWidth (.uint8 200#8) = true := by decide
example : goIntValue (.uint32 7#32) = some 7 ∧ toObjectWidth (.uint32 7#32) = false := by decide

/-- A Go value that mentions (at any depth of `[]any` / `map[string]any`) a type outside the
    switches and the registry is reported as an error by both functions. -/
theorem unsupported_is_error (C : ConvOps) (g : GoVal) (h : hasUnsupported g = true) :
    (∃ e, toObject C g = .err e) ∧ (∃ e, toObjectAlt C g = .err e) :=
  ⟨(h ▸ toObject_outcome C g).err_of_unsup, (h ▸ toObjectAlt_outcome C g).err_of_unsup⟩

/-- the error is `cannot convert to object: <%T>` -/
theorem unsupported_message (C : ConvOps) (tn : String) :
    toObject C (.unsupported tn) = .err (.other "error" ("cannot convert to object: " ++ tn)) ∧
    toObjectAlt C (.unsupported tn) = .err (.other "error" ("cannot convert to object: " ++ tn)) := by
  simp [toObject, toObjectAlt, toObjectDefault, regToObject, goRegType, GoVal.typeName]

example : hasUnsupported (.slice [.int64 1#64, .map [([97], .unsupported "chan int")]]) = true := by
  simp [hasUnsupported, hasUnsupportedList, hasUnsupportedKvs]

/-- Every registered converter guards each dereference of its pointer argument
    (`decide` over the regenerated table). -/
theorem registry_nil_safe : ∀ e ∈ Gen.ConvReg.registry, e.nilSafe = true := by decide

/-- Neither direction panics, for every Go value (typed nil pointers of the registry types,
    nil error pointers, nil slices/maps/functions, unsupported types included), every Object
    (nil `*Time`, `*Location`, `*RawMessage`, `*scanArg`, `*SyncMap`, the nil interface
    included) and every nesting. -/
theorem conv_no_panic (C : ConvOps) (g : GoVal) (o : Obj) :
    (toObject C g).isPanic = false ∧ (toObjectAlt C g).isPanic = false ∧ (toInterface o).isPanic = false := by
  refine ⟨(toObject_outcome C g).no_panic, (toObjectAlt_outcome C g).no_panic, ?_⟩
  obtain ⟨g', h⟩ := toInterface_total o
  simp [h, Res.isPanic]

/-- `ToInterface` always returns a value. -/
theorem toInterface_total (o : Obj) : ∃ g, toInterface o = .ok g := Proofs.Conv.toInterface_total o

/-- the repaired defect of DESIGN §6 (commit a3be376, nil pointers of registry types): a nil `*Time` converts to nil -/
example : toInterface .timeNil = .ok .nil := by
  simp [toInterface, toInterfaceDefault, regToInterface, objRegType, regFind, Gen.ConvReg.registry, anyConverter]

/-- time and json values survive the round trip through the registry converters:
    `time.Time`, a non-nil `*time.Location` and a non-nil `json.RawMessage` come back unchanged,
    `time.Duration` comes back as the `int64` with the same bits. -/
theorem registry_roundtrip (C : ConvOps) (t l : Nat) (s : Bytes) (d : BitVec 64) :
    (∃ o, toObject C (.time t) = .ok o ∧ toInterface o = .ok (.time t)) ∧
    (∃ o, toObject C (.locPtr l) = .ok o ∧ toInterface o = .ok (.locPtr l)) ∧
    (∃ o, toObject C (.raw s) = .ok o ∧ toInterface o = .ok (.raw s)) ∧
    (∃ o, toObject C (.duration d) = .ok o ∧ toInterface o = .ok (.int64 d)) := by
  simp [toObject, toObjectDefault, regToObject, goRegType, regFind, Gen.ConvReg.registry, objConverter,
    toInterface, toInterfaceDefault, regToInterface, objRegType, anyConverter]

end UgoVerif.Props.C20
